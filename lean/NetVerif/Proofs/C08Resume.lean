import NetVerif.Proofs.C08
/-!
C08, "when a window becomes available again, pending response data is eventually sent", on the model:
a DATA frame that `Consume` refuses because a window is exhausted (or negative) is handed out, in part or
whole, by the very next `Consume` after a WINDOW_UPDATE that makes `available()` positive again.
(`processWindowUpdate` ends with `scheduleFrameWrite`, which is what calls `Pop`/`Consume` again; that call
chain is covered by the liveness clause of the trace oracle.)
The limit 2147483647 is the `math.MaxInt32` the write schedulers pass to `consume` (the RFC 7540 scheduler passes its
positive `writeThrottleLimit` for a stream under an open parent; `consume_progress` holds for every positive limit).
-/
namespace NetVerif.Proofs.C08
open NetVerif.Model.SendWin NetVerif.Model.Flow NetVerif.Proofs.SendWin NetVerif.Proofs.SendWinFlow

theorem stream_wu_resumes_data (s : Send) (sid len : Nat) (a inc : Int) (hs : sid ≠ 0)
    (h7 : IsInt32 s.conn) (ha : IsInt32 a) (ea : tget s.wins sid = some a) (hlen : 0 < len)
    (hmf : 0 < s.maxFrame) (hblocked : a ≤ 0) (hconn : 0 < s.conn) (hinc : 0 < inc) (hincM : inc ≤ maxWindow)
    (hopen : 0 < a + inc) :
    s.consume sid len 2147483647 = none ∧
    (s.windowUpdate sid inc).2 = [] ∧
    ∃ n s', (s.windowUpdate sid inc).1.consume sid len 2147483647 = some (n, s') ∧ 0 < n := by
  have hsum : IsInt32 (a + inc) := by unfold IsInt32 at *; unfold maxWindow at hincM; omega
  rw [windowUpdate_stream s sid a inc hs ha ea hinc hincM hsum]
  refine ⟨(consume_none_iff s sid len 2147483647 a h7 ha ea).2 ⟨hlen, by have := avail_le s a; omega⟩, rfl, ?_⟩
  obtain ⟨n, s', h1, h2, _⟩ := consume_progress ({ s with wins := tset s.wins sid (a + inc) } : Send) sid len
    2147483647 (a + inc) h7 hsum (by simp [tget_tset, ea]) hlen ((avail_pos _ _).2 ⟨hopen, hconn⟩) (by omega) hmf
  exact ⟨n, s', h1, h2⟩

theorem conn_wu_resumes_data (s : Send) (sid len : Nat) (a inc : Int)
    (h7 : IsInt32 s.conn) (ha : IsInt32 a) (ea : tget s.wins sid = some a) (hlen : 0 < len)
    (hmf : 0 < s.maxFrame) (hblocked : s.conn ≤ 0) (hstream : 0 < a) (hinc : 0 < inc) (hincM : inc ≤ maxWindow)
    (hopen : 0 < s.conn + inc) :
    s.consume sid len 2147483647 = none ∧
    (s.windowUpdate 0 inc).2 = [] ∧
    ∃ n s', (s.windowUpdate 0 inc).1.consume sid len 2147483647 = some (n, s') ∧ 0 < n := by
  have hsum : IsInt32 (s.conn + inc) := by unfold IsInt32 at *; unfold maxWindow at hincM; omega
  rw [windowUpdate_conn s inc h7 hinc hincM hsum]
  refine ⟨(consume_none_iff s sid len 2147483647 a h7 ha ea).2 ⟨hlen, by have := avail_le s a; omega⟩, rfl, ?_⟩
  obtain ⟨n, s', h1, h2, _⟩ := consume_progress ({ s with conn := s.conn + inc } : Send) sid len
    2147483647 a hsum ha ea hlen ((avail_pos _ _).2 ⟨hstream, hopen⟩) (by omega) hmf
  exact ⟨n, s', h1, h2⟩

end NetVerif.Proofs.C08
