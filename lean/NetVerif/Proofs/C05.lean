import NetVerif.Proofs.C01
import NetVerif.Proofs.Lemmas.Fold
/-!
C05 — HPACK never indexes sensitive header fields, on the models of C01.

Encoder: a field with `Sensitive` set never gets a name+value match, so it is written as a never-indexed
literal (first byte `0001xxxx`) and the table is left alone. Decoder, for every state and every input: a
`0001xxxx` representation leaves the table untouched and is reported with `Sensitive = true`; only a
`01xxxxxx` representation can add an entry. Over histories the provenance of both tables is carried as
`Prov t t' em`, closed under `Prov.trans` (the decoder side is in `Proofs/C05Dec.lean`).
-/
namespace NetVerif.Proofs.C05
open NetVerif.Model.Hpack NetVerif.Model.HpackEnc
open NetVerif.Proofs.Lemmas.HpackEnc
open NetVerif.Proofs.Lemmas.Hpack
open NetVerif.Proofs.C01
open NetVerif.Model
open NetVerif

/-- A sensitive field never gets a name+value match (static or dynamic), hence never the
"Indexed Header Field" representation. -/
theorem sensitive_no_match (e : Encoder) (f : Field) (hs : f.sensitive = true) : (e.searchTable f).2 = false :=
  searchTable_sensitive e f hs

theorem sensitive_not_indexing (e : Encoder) (f : Field) (hs : f.sensitive = true) : e.shouldIndex f = false := by
  simp [Encoder.shouldIndex, hs]

theorem flushUpdate_dyn (e : Encoder) : e.flushUpdate.1.dyn = e.dyn := by
  unfold Encoder.flushUpdate; split <;> rfl

/-- `writeRepr_literal` for a sensitive field: the literal is the never-indexed one. -/
theorem writeRepr_sensitive (e : Encoder) (f : Field) (hs : f.sensitive = true) :
    e.writeRepr f = (e, if (e.searchTable f).1 = 0 then 16 :: (appendHpackString f.name ++ appendHpackString f.value)
      else appendVarInt 4 16 (e.searchTable f).1 ++ appendHpackString f.value) := by
  obtain ⟨it, hsens, heq⟩ := writeRepr_literal e f (sensitive_no_match e f hs)
  cases it with
  | indexedNever => exact heq
  | indexedTrue => exact Bool.noConfusion (hsens.trans hs)
  | indexedFalse => exact Bool.noConfusion (hsens.trans hs)

theorem sensitive_writeRepr_dyn (e : Encoder) (f : Field) (hs : f.sensitive = true) : (e.writeRepr f).1.dyn = e.dyn := by
  rw [writeRepr_sensitive e f hs]

theorem sensitive_encoder_table_unchanged (e : Encoder) (f : Field) (hs : f.sensitive = true) :
    (e.writeField f).1.dyn = e.dyn :=
  (sensitive_writeRepr_dyn _ f hs).trans (flushUpdate_dyn e)

/-- The representation of a sensitive field starts with `0001xxxx` (never-indexed literal): it is
neither an indexed representation (`1xxxxxxx`) nor a literal with incremental indexing (`01xxxxxx`). -/
theorem sensitive_repr_never_indexed (e : Encoder) (f : Field) (hs : f.sensitive = true) :
    ∃ hd tl, (e.writeRepr f).2 = hd :: tl ∧ hd / 16 = 1 := by
  rw [writeRepr_sensitive e f hs]
  dsimp only
  split
  · exact ⟨16, _, rfl, by decide⟩
  · obtain ⟨hd, tl, hcons, hlo, hhi⟩ := appendVarInt_cons 4 16 (e.searchTable f).1
    exact ⟨hd, tl ++ appendHpackString f.value, by rw [← List.cons_append, ← hcons], by omega⟩

/-- The bytes of `WriteField` are the pending table size updates (first bytes `001xxxxx`), then the
representation. -/
theorem writeField_bytes (e : Encoder) (f : Field) :
    (e.writeField f).2 = e.flushUpdate.2 ++ (e.flushUpdate.1.writeRepr f).2 := rfl

theorem flushUpdate_bytes (e : Encoder) :
    e.flushUpdate.2 = [] ∨ e.flushUpdate.2 = appendTableSize e.dyn.maxSize ∨
      e.flushUpdate.2 = appendTableSize e.minSize ++ appendTableSize e.dyn.maxSize := by
  unfold Encoder.flushUpdate
  split
  · split
    · right; right; rfl
    · right; left; simp
  · left; rfl

theorem appendTableSize_first (v : Nat) : ∃ hd tl, appendTableSize v = hd :: tl ∧ hd / 32 = 1 := by
  obtain ⟨hd, tl, hcons, hlo, hhi⟩ := appendVarInt_cons 5 32 v
  exact ⟨hd, tl, hcons, by omega⟩

theorem applyAction_literal_ok (d : DecCore) (it : IndexType) (tn : Option Bytes) (un uv : UString)
    (d' : DecCore) (em : Option Field) (h : applyAction d (.literal it tn un uv) = .ok d' em) :
    (it ≠ .indexedTrue → d'.dyn = d.dyn) ∧ (∀ f, em = some f → f.sensitive = it.sensitive) ∧
    (∀ x ∈ d'.dyn.ents, x ∈ d.dyn.ents ∨
      (it = .indexedTrue ∧ (d.emitEnabled = true → d.maxStrLen = 0 → ∃ f, em = some f ∧ x = (f.name, f.value)))) := by
  obtain ⟨name, value, _, _, rfl, hfe⟩ := applyLiteral_ok h
  obtain ⟨_, hem, _⟩ := finishEmit_ok hfe
  obtain ⟨dyn', hd, hs⟩ := afterLiteral_eq d it name value
  rw [hd] at hem ⊢
  refine ⟨fun hit => ?_, fun f hf => ?_, fun x hx => ?_⟩
  · rcases hs with rfl | ⟨h1, _⟩
    · rfl
    · exact absurd h1 hit
  · rw [hem] at hf
    split at hf
    · cases hf; rfl
    · cases hf
  · rcases hs with rfl | ⟨hit, rfl⟩
    · exact .inl hx
    · rcases List.mem_cons.mp ((evict_ents_prefix _).subset hx) with hx1 | hx1
      · exact .inr ⟨hit, fun hen _ => ⟨_, by rw [hem, if_pos hen], hx1⟩⟩
      · exact .inl hx1

/-- **Decoder, never-indexed literal** (`0001xxxx`), for every decoder state and every input: the
dynamic table is untouched and the field is reported with `Sensitive = true`. -/
theorem decoder_never_indexed (d : DecCore) (b : Nat) (p : Bytes) (hb : b / 16 = 1)
    (d' : DecCore) (rest : Bytes) (em : Option Field) (h : parseRepr d (b :: p) = .ok d' rest em) :
    d'.dyn = d.dyn ∧ ∀ f, em = some f → f.sensitive = true := by
  obtain ⟨_, _, hbp, _, hs⟩ := parseRepr_ok h
  cases hbp
  rw [reprOf_literal .indexedNever (by show 16 ≤ b; omega) (by show b ≤ 16 + (2 ^ 4 - 1); omega)] at hs
  cases hs with
  | indexed hr => cases hr
  | sizeUpdate hr => cases hr
  | literal it hr name value hem =>
    cases hr
    exact ⟨rfl, fun f hf => (hf ▸ hem).some ▸ rfl⟩

theorem parseAction_kind (d : DecCore) (b : Nat) (p : Bytes) (a : Action) (rest : Bytes)
    (h : parseAction d (b :: p) = .ok (a, rest)) :
    (∃ e, a = .indexed e) ∨ (∃ s, a = .sizeUpdate s) ∨
      ∃ it tn un uv, a = .literal it tn un uv ∧ (it = .indexedTrue → b / 64 = 1) := by
  obtain ⟨⟨_, _, hbp, hok⟩, _⟩ := parseAction_ok h
  cases hbp
  cases a with
  | indexed e => exact .inl ⟨e, rfl⟩
  | sizeUpdate s => exact .inr (.inl ⟨s, rfl⟩)
  | literal it tn un uv =>
    refine .inr (.inr ⟨it, tn, un, uv, rfl, ?_⟩)
    rintro rfl
    have := reprOf_eq_indexedTrue hok
    omega

/-- **Decoder, all states and inputs: only a literal with incremental indexing (`01xxxxxx`) can add
a table entry**; every other representation leaves the entries a subset of what they were. -/
theorem decoder_adds_only_incremental (d : DecCore) (b : Nat) (p : Bytes) (d' : DecCore) (rest : Bytes)
    (em : Option Field) (h : parseRepr d (b :: p) = .ok d' rest em) (hb : ¬ b / 64 = 1) :
    ∀ x ∈ d'.dyn.ents, x ∈ d.dyn.ents := by
  obtain ⟨_, _, hbp, _, hs⟩ := parseRepr_ok h
  cases hbp
  cases hs with
  | indexed => exact fun x hx => hx
  | sizeUpdate => exact fun x hx => (setMaxSize_ents_prefix _ _).subset hx
  | literal it hr name value =>
    obtain ⟨dyn', hd, rfl | ⟨rfl, _⟩⟩ := afterLiteral_eq d it name value
    · rw [hd]; exact fun x hx => hx
    · have := reprOf_eq_indexedTrue hr
      omega

theorem decoder_adds_only_incremental_err (d : DecCore) (b : Nat) (p : Bytes) (d' : DecCore) (e : PErr)
    (h : parseRepr d (b :: p) = .err e d') (hb : ¬ b / 64 = 1) : d'.dyn = d.dyn := by
  rcases (parseRepr_err h).2.2 with rfl | ⟨_, _, _, _, _, hbp, hr, _⟩
  · rfl
  · cases hbp
    have := reprOf_eq_indexedTrue hr
    omega

theorem decoder_never_indexed_err (d : DecCore) (b : Nat) (p : Bytes) (hb : b / 16 = 1)
    (d' : DecCore) (e : PErr) (h : parseRepr d (b :: p) = .err e d') : d'.dyn = d.dyn :=
  decoder_adds_only_incremental_err d b p d' e h (by omega)

/-- **A sensitive field on the joint run** (no table size update pending): the decoder reads the
representation back as exactly `f` (so `Sensitive = true`), its table is untouched, and so is the
encoder's. -/
theorem sensitive_roundtrip (A : Nat) (e : Encoder) (d : DecCore) (f : Field) (rest : Bytes)
    (hs : Sim A e d) (hu : e.tableSizeUpdate = false) (hf : FieldOK f) (hA : A ≤ uint32Max)
    (hsens : f.sensitive = true) :
    ∃ d', parseRepr d ((e.writeRepr f).2 ++ rest) = .ok d' rest (some f) ∧ d'.dyn = d.dyn ∧
      (e.writeRepr f).1.dyn = e.dyn := by
  obtain ⟨d', hp, _⟩ := writeRepr_sim A e d f rest hs hu hf hA
  obtain ⟨hd, tl, hcons, hpat⟩ := sensitive_repr_never_indexed e f hsens
  refine ⟨d', hp, ?_, ?_⟩
  · rw [hcons] at hp
    exact (decoder_never_indexed d hd (tl ++ rest) hpat d' rest (some f) hp).1
  · exact sensitive_writeRepr_dyn e f hsens

/-- The same through the public calls: `WriteField` then `Decoder.Write`. -/
theorem sensitive_writeField (A : Nat) (e : Encoder) (d : Decoder) (f : Field)
    (hs : Sim A e d.toDecCore) (hsave : d.saveBuf = []) (hA : A ≤ uint32Max)
    (hu : e.tableSizeUpdate = false) (hf : FieldOK f) (hsens : f.sensitive = true) :
    ∃ d', d.write (e.writeField f).2 = (d', [f], none) ∧ d'.dyn = d.dyn ∧ (e.writeField f).1.dyn = e.dyn := by
  have hflush : e.flushUpdate = (e, []) := by unfold Encoder.flushUpdate; simp [hu]
  obtain ⟨d2, hp, hdyn, _⟩ := sensitive_roundtrip A e d.toDecCore f [] hs hu hf hA hsens
  rw [List.append_nil] at hp
  have hb : (e.writeField f).2 = (e.writeRepr f).2 := by
    unfold Encoder.writeField; rw [hflush]; rfl
  have hne : (e.writeField f).2 ≠ [] := by
    rw [hb]
    intro h0
    rw [h0] at hp
    cases parseRepr_consumes hp
  refine ⟨{ toDecCore := Hpack.afterRepr (e.writeRepr f).2 d2, saveBuf := [] }, ?_,
    by show (Hpack.afterRepr (e.writeRepr f).2 d2).dyn = d.dyn; rw [afterRepr_dyn]; exact hdyn,
    sensitive_encoder_table_unchanged e f hsens⟩
  rw [Decoder.write, writeG_eq true d hne, hsave, List.nil_append, hb, loopG_ok [] hp, loopG_nil]
  rfl

def pairOf (f : Field) : Entry := (f.name, f.value)

/-- The (name, value) pairs of the fields written with `Sensitive = false`. -/
def nsPairs (fs : List Field) : List Entry := (fs.filter (fun f => !f.sensitive)).map pairOf

theorem mem_nsPairs (fs : List Field) (f : Field) (hf : f ∈ fs) (hs : f.sensitive = false) : pairOf f ∈ nsPairs fs := by
  unfold nsPairs
  exact List.mem_map.mpr ⟨f, List.mem_filter.mpr ⟨hf, by simp [hs]⟩, rfl⟩

theorem nsPairs_append (a b : List Field) : nsPairs (a ++ b) = nsPairs a ++ nsPairs b := by
  simp [nsPairs]

/-- New entries of `t'` w.r.t. `t` are pairs of non-sensitive fields in `em`. -/
def Prov (t t' : DynTable) (em : List Field) : Prop :=
  ∀ x ∈ t'.ents, x ∈ t.ents ∨ ∃ f ∈ em, f.sensitive = false ∧ x = pairOf f

theorem Prov.refl (t : DynTable) (em : List Field) : Prov t t em := fun _ hx => Or.inl hx

theorem Prov.trans {t1 t2 t3 : DynTable} {em1 em2 : List Field} (h12 : Prov t1 t2 em1) (h23 : Prov t2 t3 em2) :
    Prov t1 t3 (em1 ++ em2) := by
  intro x hx
  rcases h23 x hx with h | ⟨f, hf, hs, hp⟩
  · rcases h12 x h with h' | ⟨f, hf, hs, hp⟩
    · exact Or.inl h'
    · exact Or.inr ⟨f, List.mem_append_left _ hf, hs, hp⟩
  · exact Or.inr ⟨f, List.mem_append_right _ hf, hs, hp⟩

theorem Prov.mono {t t' : DynTable} {em em' : List Field} (h : Prov t t' em) (hsub : ∀ f ∈ em, f ∈ em') :
    Prov t t' em' := by
  intro x hx
  rcases h x hx with h1 | ⟨f, hf, hs, hp⟩
  · exact Or.inl h1
  · exact Or.inr ⟨f, hsub f hf, hs, hp⟩

theorem Prov.of_subset {t t' : DynTable} (h : ∀ x ∈ t'.ents, x ∈ t.ents) : Prov t t' [] := fun x hx => .inl (h x hx)

theorem Prov.nsPairs {t t' : DynTable} {em : List Field} (h : Prov t t' em) :
    ∀ x ∈ t'.ents, x ∈ t.ents ∨ x ∈ nsPairs em := fun x hx =>
  (h x hx).imp_right fun ⟨f, hf, hs, hp⟩ => hp ▸ mem_nsPairs _ f hf hs

theorem not_mem_nsPairs {fs : List Field} {x : Entry} (honly : ∀ f ∈ fs, pairOf f = x → f.sensitive = true) :
    x ∉ nsPairs fs := fun h => by
  obtain ⟨f, hf, hpf⟩ := List.mem_map.mp h
  obtain ⟨hmem, hns⟩ := List.mem_filter.mp hf
  simp [honly f hmem hpf] at hns

theorem writeRepr_prov (e : Encoder) (f : Field) : Prov e.dyn (e.writeRepr f).1.dyn [f] := by
  intro x hx
  cases hm : (e.searchTable f).2 with
  | true =>
    rw [writeRepr_indexed e f hm] at hx
    exact .inl hx
  | false =>
    obtain ⟨it, hsens, heq⟩ := writeRepr_literal e f hm
    rw [heq] at hx
    cases it with
    | indexedTrue =>
      exact (List.mem_cons.mp ((evict_ents_prefix _).subset hx)).symm.imp_right fun h =>
        ⟨f, List.mem_singleton.2 rfl, hsens.symm, h⟩
    | indexedFalse => exact .inl hx
    | indexedNever => exact .inl hx

theorem writeFields_prov : ∀ (fs : List Field) (e : Encoder), Prov e.dyn (e.writeFields fs).1.dyn fs
  | [], _ => Prov.refl _ _
  | f :: fs, e => (flushUpdate_dyn e ▸ writeRepr_prov e.flushUpdate.1 f).trans (writeFields_prov fs (e.writeField f).1)

theorem sizeOp_ents (e : Encoder) (op : SizeOp) : ∀ x ∈ (e.sizeOp op).dyn.ents, x ∈ e.dyn.ents := by
  intro x hx
  cases op with
  | setMax v => exact (setMaxSize_ents_prefix _ _).subset hx
  | setLimit v =>
    simp only [Encoder.sizeOp, Encoder.setMaxDynamicTableSizeLimit] at hx
    split at hx
    · exact (setMaxSize_ents_prefix _ _).subset hx
    · exact hx

theorem sizeOps_ents (ops : List SizeOp) (e : Encoder) :
    ∀ x ∈ (ops.foldl Encoder.sizeOp e).dyn.ents, x ∈ e.dyn.ents :=
  Lemmas.foldl_rel Encoder.sizeOp (fun a b => ∀ x ∈ b.dyn.ents, x ∈ a.dyn.ents) (fun _ _ h => h)
    (fun _ _ _ f g x hx => f x (g x hx)) sizeOp_ents ops e

/-- The encoder side of a history (`(Sys.block s b).1.enc` is `(s.enc.encodeBlock b).1` by definition). -/
def encodeHistory : Encoder → List Block → Encoder
  | e, [] => e
  | e, b :: bs => encodeHistory (e.encodeBlock b).1 bs

def allFields (h : List Block) : List Field := h.flatMap (·.fields)

theorem encodeHistory_prov : ∀ (h : List Block) (e : Encoder), Prov e.dyn (encodeHistory e h).dyn (allFields h)
  | [], _ => Prov.refl _ _
  | b :: bs, e =>
    ((Prov.of_subset (sizeOps_ents b.pre e)).trans (writeFields_prov b.fields _)).trans
      (encodeHistory_prov bs (e.encodeBlock b).1)

/-- **Every entry of the encoder's dynamic table comes from a field written with
`Sensitive = false`** — after any history of blocks and table size calls (no hypotheses). -/
theorem encoder_table_provenance : ∀ (h : List Block) (e : Encoder),
    ∀ x ∈ (encodeHistory e h).dyn.ents, x ∈ e.dyn.ents ∨ x ∈ nsPairs (allFields h) :=
  fun h e => (encodeHistory_prov h e).nsPairs

/-- **No later reference to a sensitive value**: after any history, if the encoder represents a
field `g` by an *indexed* representation, then `g` itself is not sensitive and the entry it refers to
is a static entry or the pair of an earlier field written with `Sensitive = false`. A (name, value)
that was only ever written as sensitive is in no table and can never be referenced. -/
theorem no_later_reference (h : List Block) (g : Field)
    (hm : ((encodeHistory Encoder.new h).searchTable g).2 = true) :
    g.sensitive = false ∧ (pairOf g ∈ staticTable ∨ pairOf g ∈ nsPairs (allFields h)) := by
  have hspec := (searchTable_spec _ { dyn := (encodeHistory Encoder.new h).dyn } g (List.prefix_refl _)).1 hm
  refine ⟨hspec.1, (at_some hspec.2.2).2.2.imp_right fun h1 => ?_⟩
  exact (encoder_table_provenance h Encoder.new _ h1).resolve_left (new_dyn ▸ List.not_mem_nil)

theorem sensitive_only_never_stored (h : List Block) (x : Entry)
    (honly : ∀ f ∈ allFields h, pairOf f = x → f.sensitive = true) :
    x ∉ (encodeHistory Encoder.new h).dyn.ents := fun hx =>
  not_mem_nsPairs honly ((encoder_table_provenance h Encoder.new x hx).resolve_left (new_dyn ▸ List.not_mem_nil))

def secret : Field := { name := [97], value := [98], sensitive := true }

example : ((Encoder.new.writeField secret).2) = [16, 1, 97, 1, 98] := by decide +kernel
example : (Encoder.new.writeField secret).1.dyn = Encoder.new.dyn := sensitive_encoder_table_unchanged _ _ rfl
/-- After writing `a: b` non-sensitively, the sensitive copy is still a never-indexed literal
(name taken from the table entry 62, value literal) and the table does not change. -/
example : ((Encoder.new.writeField { name := [97], value := [98] }).1.writeField secret).2 = [31, 47, 1, 98] := by
  decide +kernel

end NetVerif.Proofs.C05
