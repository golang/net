import NetVerif.Proofs.Lemmas.H2Frame
import NetVerif.Proofs.Lemmas.Fold
import NetVerif.Gen.C06
import NetVerif.Gen.C07
/-!
C07 — HTTP/2 frame reader validates arbitrary input.

For ANY byte stream and any `SetMaxReadFrameSize` / `MaxHeaderListSize`:
* a returned frame is never longer than the configured maximum, carries the header that was on the
  wire and consumed exactly 9 + length bytes (`readFrame_ok_shape`; of a MetaHeadersFrame only the
  length bound is stated, the first clause of `readMeta_guarantees`);
* frames violating the stream-ID rules are reported as errors (`parseFrame_ok`,
  `streamRule_violation_reported`);
* HEADERS/CONTINUATION contiguity: every header the reader accepts is admissible in the
  reader's state, a violating header yields `ConnectionError(PROTOCOL_ERROR)`
  (`readFrame_order`, `contiguity_violation_reported`, `readTrace_contiguous`);
* a returned MetaHeadersFrame has pseudo-headers first, known, pairwise distinct, request and
  response pseudo-headers not mixed, valid regular names and valid values, and its header list
  size is within MaxHeaderListSize; when it is not marked Truncated it is the complete decoded
  list (`readMeta_guarantees`, `readMeta_complete`).
"Never panics" is proved of a twin with checked slices and indices (`readFrame_never_panics` in `C07Panic`),
this model being total by construction, and sampled on the Go code by the D-tie.
-/
namespace NetVerif.Proofs.C07
open NetVerif NetVerif.Model.H2Frame NetVerif.Proofs.H2FrameLemmas

/-- the token table, the pseudo-header names of `checkPseudos` and the default of
`maxHeaderListSize` in the Go source are the model's. -/
theorem gen_tables_eq :
    (∀ b, b < 256 → Gen.C07.isTokenTable[b]? = some (isTokenByte b)) ∧
    Gen.C07.isTokenTable.length = 256 ∧
    Gen.C07.pseudo_isRequest = pseudoRequest ∧ Gen.C07.pseudo_isResponse = pseudoResponse ∧
    (∀ n, Gen.C07.maxHeaderListSize n = some (maxHeaderListSize n)) := by
  -- one comparison of 256 booleans; lookup and length follow from `List.range`
  have ht : Gen.C07.isTokenTable = (List.range 256).map isTokenByte := by decide +kernel
  refine ⟨fun b hb => ?_, by rw [ht, List.length_map, List.length_range], rfl, rfl, fun n => ?_⟩
  · rw [ht, List.getElem?_map, List.getElem?_range hb]
    rfl
  unfold Gen.C07.maxHeaderListSize maxHeaderListSize
  split <;> simp

theorem gen_constants_eq :
    Gen.C06.allFrameType = [("FrameData", frameData), ("FrameHeaders", frameHeaders),
      ("FramePriority", framePriority), ("FrameRSTStream", frameRSTStream),
      ("FrameSettings", frameSettings), ("FramePushPromise", framePushPromise),
      ("FramePing", framePing), ("FrameGoAway", frameGoAway),
      ("FrameWindowUpdate", frameWindowUpdate), ("FrameContinuation", frameContinuation),
      ("FramePriorityUpdate", framePriorityUpdate)] ∧
    Gen.C06.flagHeadersEndHeaders = flagEndHeaders ∧ Gen.C06.flagContinuationEndHeaders = flagEndHeaders ∧
    Gen.C06.flagHeadersPadded = flagPadded ∧ Gen.C06.flagHeadersPriority = flagPriority ∧
    Gen.C06.flagDataPadded = flagPadded ∧ Gen.C06.flagPushPromisePadded = flagPadded ∧
    Gen.C06.flagSettingsAck = flagAck ∧
    Gen.C06.errCodeProtocol = errCodeProtocol ∧ Gen.C06.errCodeFlowControl = errCodeFlowControl ∧
    Gen.C06.errCodeFrameSize = errCodeFrameSize ∧ Gen.C06.errCodeCompression = errCodeCompression ∧
    Gen.C06.frameHeaderLen = frameHeaderLen ∧ Gen.C06.maxFrameSize = maxFrameSize ∧
    Gen.C06.frameParsers = [(frameData, "parseDataFrame"), (frameHeaders, "parseHeadersFrame"),
      (framePriority, "parsePriorityFrame"), (frameRSTStream, "parseRSTStreamFrame"),
      (frameSettings, "parseSettingsFrame"), (framePushPromise, "parsePushPromise"),
      (framePing, "parsePingFrame"), (frameGoAway, "parseGoAwayFrame"),
      (frameWindowUpdate, "parseWindowUpdateFrame"), (frameContinuation, "parseContinuationFrame"),
      (framePriorityUpdate, "parsePriorityUpdateFrame")] :=
  ⟨rfl, rfl, rfl, rfl, rfl, rfl, rfl, rfl, rfl, rfl, rfl, rfl, rfl, rfl, rfl⟩

/-- The T-fact `C06.gen_reader_state_eq` (explained there), for this check: of the fields the read path
assigns only `lastHeaderStream` influences a later `ReadFrame`, and it is the model's reader state. -/
theorem gen_reader_state_eq :
    Gen.C06.readerWrittenFields =
      [("ReadFrameHeader", ["errDetail"]), ("ReadFrameForHeader", ["lastFrame"]), ("ReadFrame", []),
       ("checkFrameOrder", ["lastFrameType", "lastHeaderStream"]), ("connError", ["errDetail"]),
       ("readMetaFrame", ["errDetail"])] := rfl

theorem gen_setMaxReadFrameSize_eq (old v : Nat) :
    Gen.C06.setMaxReadFrameSize old v = some (setMaxReadFrameSize v) := by
  unfold Gen.C06.setMaxReadFrameSize setMaxReadFrameSize maxFrameSize
  split <;> rfl

/-- the stream-ID rules: stream-bound frame types need a non-zero stream id,
connection-level types stream id 0. -/
def StreamRule (fh : FrameHeader) : Prop :=
  (fh.type ∈ [frameData, frameHeaders, framePriority, frameRSTStream, framePushPromise, frameContinuation] → fh.streamID ≠ 0) ∧
  (fh.type ∈ [frameSettings, framePing, frameGoAway, framePriorityUpdate] → fh.streamID = 0)

/-- a HEADERS / CONTINUATION frame object is only produced for that type byte. -/
def KindOK (fh : FrameHeader) (f : Frame) : Prop :=
  (∀ h0 prio frag, f = .headers h0 prio frag → fh.type = frameHeaders) ∧
  (∀ h0 frag, f = .continuation h0 frag → fh.type = frameContinuation)

macro "finish_parse" h:ident : tactic => `(tactic|
  (all_goals (try cases $h:ident)
   all_goals simp_all [Frame.header, StreamRule, KindOK, frameData, frameHeaders, framePriority, frameRSTStream, framePushPromise,
      frameContinuation, frameSettings, framePing, frameGoAway, framePriorityUpdate, frameWindowUpdate]))

theorem parseFrame_ok (fh : FrameHeader) (p : List Nat) (f : Frame) (h : parseFrame fh p = .ok f) :
    f.header = fh ∧ StreamRule fh ∧ KindOK fh f := by
  revert f
  refine parseFrame_rel (R := fun _ r => ∀ f, r = .ok f → f.header = fh ∧ StreamRule fh ∧ KindOK fh f)
    fh p ?_ ?_ ?_ ?_ ?_ ?_ ?_ ?_ ?_ ?_ ?_ ?_
  all_goals intro ht f h
  -- per type: the parser's lemma names the frame; membership of the type code is evaluated
  · obtain ⟨hs, _, rfl⟩ := parseData_ok h
    exact ⟨rfl, by simp +decide [StreamRule, KindOK, ht, hs]⟩
  · obtain ⟨hs, _, _, rfl⟩ := parseHeaders_ok h
    exact ⟨rfl, by simp +decide [StreamRule, KindOK, ht, hs]⟩
  · obtain ⟨hs, _, rfl⟩ := parsePriority_ok h
    exact ⟨rfl, by simp +decide [StreamRule, KindOK, ht, hs]⟩
  · obtain ⟨hs, _, rfl⟩ := parseRSTStream_ok h
    exact ⟨rfl, by simp +decide [StreamRule, KindOK, ht, hs]⟩
  · obtain ⟨hs, _, rfl⟩ := parseSettings_ok h
    exact ⟨rfl, by simp +decide [StreamRule, KindOK, ht, hs]⟩
  · obtain ⟨hs, _, _, rfl⟩ := parsePushPromise_ok h
    exact ⟨rfl, by simp +decide [StreamRule, KindOK, ht, hs]⟩
  · obtain ⟨hs, rfl⟩ := parsePing_ok h
    exact ⟨rfl, by simp +decide [StreamRule, KindOK, ht, hs]⟩
  · obtain ⟨hs, _, _, _, rfl⟩ := parseGoAway_ok h
    exact ⟨rfl, by simp +decide [StreamRule, KindOK, ht, hs]⟩
  · obtain ⟨_, rfl⟩ := parseWindowUpdate_ok h
    exact ⟨rfl, by simp +decide [StreamRule, KindOK, ht]⟩
  · obtain ⟨hs, rfl⟩ := parseContinuation_ok h
    exact ⟨rfl, by simp +decide [StreamRule, KindOK, ht, hs]⟩
  · obtain ⟨hs, _, _, rfl⟩ := parsePriorityUpdate_ok h
    exact ⟨rfl, by simp +decide [StreamRule, KindOK, ht, hs]⟩
  · cases h
    simp only [List.mem_cons, List.not_mem_nil, or_false, not_or] at ht
    exact ⟨rfl, by simp +decide [StreamRule, KindOK, ht]⟩

theorem streamRule_violation_reported (fh : FrameHeader) (p : List Nat) (h : ¬ StreamRule fh) :
    ∃ e, parseFrame fh p = .error e := by
  cases hp : parseFrame fh p with
  | error e => exact ⟨e, rfl⟩
  | ok f => exact absurd (parseFrame_ok fh p f hp).2.1 h

theorem setMaxReadFrameSize_le (v : Nat) : setMaxReadFrameSize v ≤ maxFrameSize ∧ setMaxReadFrameSize v ≤ v := by
  unfold setMaxReadFrameSize maxFrameSize
  split <;> omega

theorem readFrame_ok_shape (fr : Framer) (bs : List Nat) (f : Frame) (h : (readFrame fr bs).res = .ok f) :
    f.header.length ≤ fr.maxReadSize ∧ (readFrame fr bs).hdr = some f.header ∧
    bs.length = 9 + f.header.length + (readFrame fr bs).rest.length ∧
    StreamRule f.header ∧ f.header.streamID < 2147483648 ∧ KindOK f.header f := by
  unfold readFrame at h ⊢
  split at h
  · cases h
  · rename_i b0 b1 b2 t fl s0 s1 s2 s3 body
    simp only at h ⊢
    split at h
    · cases h
    rename_i hmax
    split at h
    · cases h
    rename_i last' hord
    simp only [hmax, ↓reduceIte] at h ⊢
    split at h
    · cases h
    rename_i hlen
    simp only [hlen, ↓reduceIte] at h ⊢
    obtain ⟨hh, hr, hk⟩ := parseFrame_ok _ _ _ h
    rw [hh]
    refine ⟨by omega, rfl, ?_, hr, ?_, hk⟩
    · simp only [List.length_cons, List.length_drop]; omega
    · simp only [decodeHeader]; omega
  · cases h

/-- what `checkFrameOrder` admits in state `last` (the stream with an open header block, or 0). -/
def Admissible (last : Nat) (fh : FrameHeader) : Prop :=
  (last ≠ 0 → fh.type = frameContinuation ∧ fh.streamID = last) ∧
  (last = 0 → fh.type ≠ frameContinuation)

/-- `Framer.lastHeaderStream` after `checkFrameOrder` has admitted `fh` in state `last`. -/
def nextLast (last : Nat) (fh : FrameHeader) : Nat :=
  if fh.type = frameHeaders ∨ fh.type = frameContinuation then
    (if hasFlag fh.flags flagEndHeaders then 0 else fh.streamID)
  else last

theorem checkFrameOrder_ok_iff (last l' : Nat) (fh : FrameHeader) :
    checkFrameOrder last fh = .ok l' ↔ Admissible last fh ∧ l' = nextLast last fh := by
  unfold checkFrameOrder Admissible nextLast
  by_cases h0 : last = 0
  · subst h0
    by_cases h9 : fh.type = frameContinuation
    · simp [h9]
    · by_cases h1 : fh.type = frameHeaders
      · simp [h1, frameHeaders, frameContinuation]
        exact eq_comm
      · simp [h9, h1]
        exact eq_comm
  · by_cases h9 : fh.type = frameContinuation
    · by_cases hs : fh.streamID = last
      · simp [h0, h9, hs]
        exact eq_comm
      · simp [h0, h9, hs]
    · simp [h0, h9]

theorem checkFrameOrder_error (last : Nat) (fh : FrameHeader) (e : RErr) (h : checkFrameOrder last fh = .error e) :
    e = .conn errCodeProtocol ∧ ¬ Admissible last fh := by
  constructor
  · -- each of the three tests that fail carries this error; the two branches left succeed
    unfold checkFrameOrder at h
    split at h
    · cases h; rfl
    split at h
    · cases h; rfl
    split at h
    · cases h; rfl
    split at h <;> cases h
  · intro ha
    have := (checkFrameOrder_ok_iff last (nextLast last fh) fh).2 ⟨ha, rfl⟩
    rw [this] at h; cases h

theorem readFrame_order (fr : Framer) (bs : List Nat) (fh : FrameHeader) (h : (readFrame fr bs).hdr = some fh) :
    fh.length ≤ fr.maxReadSize ∧ Admissible fr.lastHeaderStream fh ∧
    (readFrame fr bs).fr = { fr with lastHeaderStream := nextLast fr.lastHeaderStream fh } := by
  unfold readFrame at h ⊢
  split at h
  · cases h
  · rename_i b0 b1 b2 t fl s0 s1 s2 s3 body
    simp only at h ⊢
    split at h
    · cases h
    rename_i hmax
    split at h
    · cases h
    rename_i last' hord
    simp only [hmax, ↓reduceIte] at h ⊢
    obtain ⟨ha, hl⟩ := (checkFrameOrder_ok_iff _ _ _).1 hord
    -- body short or parsed: header and new state are reported alike
    split at h
    all_goals
      rename_i hlen
      injection h with h
      subst h
      simp only [hlen, ↓reduceIte]
      exact ⟨by omega, ha, by rw [hl]⟩
  · cases h

theorem contiguity_violation_reported (fr : Framer) (b0 b1 b2 t fl s0 s1 s2 s3 : Nat) (body : List Nat)
    (hmax : (decodeHeader b0 b1 b2 t fl s0 s1 s2 s3).length ≤ fr.maxReadSize)
    (hbad : ¬ Admissible fr.lastHeaderStream (decodeHeader b0 b1 b2 t fl s0 s1 s2 s3)) :
    (readFrame fr (b0 :: b1 :: b2 :: t :: fl :: s0 :: s1 :: s2 :: s3 :: body)).res
      = .error (.conn errCodeProtocol) := by
  simp only [readFrame]
  have h1 : ¬ (decodeHeader b0 b1 b2 t fl s0 s1 s2 s3).length > fr.maxReadSize := by omega
  simp only [h1, ↓reduceIte]
  cases hc : checkFrameOrder fr.lastHeaderStream (decodeHeader b0 b1 b2 t fl s0 s1 s2 s3) with
  | error e => simp only [(checkFrameOrder_error _ _ _ hc).1]
  | ok l' => exact absurd ((checkFrameOrder_ok_iff _ _ _).1 hc).1 hbad

/-- the headers accepted by up to `n` successive `ReadFrame` calls, until the first terminal error
(a StreamError is not terminal: `terminalReadFrameError`). -/
def readTrace : Nat → Framer → List Nat → List FrameHeader
  | 0, _, _ => []
  | n + 1, fr, bs =>
    match (readFrame fr bs).hdr with
    | none => []
    | some fh =>
      fh :: (match (readFrame fr bs).res with
        | .error e => if e.terminal then [] else readTrace n (readFrame fr bs).fr (readFrame fr bs).rest
        | .ok _ => readTrace n (readFrame fr bs).fr (readFrame fr bs).rest)

/-- every header is admissible in the state its predecessors leave, starting from `last`. -/
inductive Contiguous : Nat → List FrameHeader → Prop
  | nil (last : Nat) : Contiguous last []
  | cons {last : Nat} {fh : FrameHeader} {rest : List FrameHeader} :
      Admissible last fh → Contiguous (nextLast last fh) rest → Contiguous last (fh :: rest)

/-- Over a whole connection: after a HEADERS/CONTINUATION without END_HEADERS on stream `s` the
next accepted frame is a CONTINUATION on `s`, and a CONTINUATION is accepted only then. -/
theorem readTrace_contiguous (n : Nat) (fr : Framer) (bs : List Nat) :
    Contiguous fr.lastHeaderStream (readTrace n fr bs) := by
  induction n generalizing fr bs with
  | zero => exact .nil _
  | succ n ih =>
    unfold readTrace
    cases hh : (readFrame fr bs).hdr with
    | none => exact .nil _
    | some fh =>
      obtain ⟨_, ha, hfr⟩ := readFrame_order fr bs fh hh
      simp only
      refine .cons ha ?_
      have hl : (readFrame fr bs).fr.lastHeaderStream = nextLast fr.lastHeaderStream fh := by rw [hfr]
      cases hres : (readFrame fr bs).res with
      | error e =>
        simp only
        split
        · exact .nil _
        · rw [← hl]; exact ih _ _
      | ok f => simp only; rw [← hl]; exact ih _ _

/-- no pseudo-header field after a regular one. -/
def PseudoFirst : List Field → Prop
  | [] => True
  | f :: rest => if f.isPseudo then PseudoFirst rest else ∀ g ∈ rest, g.isPseudo = false

/-- a field `readMetaFrame` may keep: valid value, and a valid wire name unless it is a pseudo-header. -/
def FieldOK (f : Field) : Prop :=
  validHeaderFieldValue f.value = true ∧ (f.isPseudo = false → validWireHeaderFieldName f.name = true)

/-- header list size as `readMetaFrame` accounts it (`HeaderField.Size()`, a uint32, per field). -/
def sizeSum (fs : List Field) : Nat := (fs.map Field.size).sum

/-- What `metaEmit` keeps of the callback state. `saw` ties the flag `sawRegular` to the list: while it
is unset every kept field is a pseudo-header, which is what lets one more pseudo-header keep `pf`. -/
structure Inv (limit : Nat) (st : MetaState) : Prop where
  ok : ∀ f ∈ st.fields, FieldOK f
  size : sizeSum st.fields + st.remainSize ≤ limit
  pf : PseudoFirst st.fields
  saw : st.sawRegular = false → ∀ f ∈ st.fields, f.isPseudo = true

theorem pseudoFirst_append (fs : List Field) (f : Field) (h : PseudoFirst fs)
    (hp : f.isPseudo = true → ∀ g ∈ fs, g.isPseudo = true) : PseudoFirst (fs ++ [f]) := by
  induction fs with
  | nil => simp [PseudoFirst]
  | cons a rest ih =>
    simp only [List.cons_append, PseudoFirst] at h ⊢
    by_cases ha : a.isPseudo = true
    · simp only [ha, ↓reduceIte] at h ⊢
      exact ih h (fun hf g hg => hp hf g (by simp [hg]))
    · simp only [ha] at h ⊢
      intro g hg
      simp only [List.mem_append, List.mem_singleton] at hg
      rcases hg with hg | hg
      · exact h g hg
      · subst hg
        cases hgp : g.isPseudo with
        | false => rfl
        | true => exact absurd (hp hgp a (by simp)) ha

theorem sizeSum_append (fs : List Field) (f : Field) : sizeSum (fs ++ [f]) = sizeSum fs + f.size := by
  simp [sizeSum]

theorem metaEmit_inv (limit : Nat) (st : MetaState) (f : Field) (h : Inv limit st) : Inv limit (metaEmit st f) := by
  unfold metaEmit
  cases he : st.enabled with
  | false => simpa [he] using h
  | true =>
    by_cases hi : metaInvalid st f = true
    · simp only [hi, Bool.not_true, Bool.false_eq_true, ↓reduceIte]
      exact ⟨h.ok, h.size, h.pf, fun hs => h.saw (by simp at hs; exact hs.1)⟩
    by_cases hsz : f.size > st.remainSize
    · simp only [hi, hsz, Bool.not_true, Bool.false_eq_true, ↓reduceIte]
      exact ⟨h.ok, by have := h.size; simp only; omega, h.pf, fun hs => h.saw (by simp at hs; exact hs.1)⟩
    simp only [hi, hsz, Bool.not_true, Bool.false_eq_true, ↓reduceIte]
    have hinv : metaInvalid st f = false := by simpa using hi
    unfold metaInvalid at hinv
    simp only [Bool.or_eq_false_iff, Bool.not_eq_false'] at hinv
    obtain ⟨⟨_, hval⟩, hrest⟩ := hinv
    have hname : f.isPseudo = false → validWireHeaderFieldName f.name = true := by
      intro hp; simpa [hp] using hrest
    have hsaw : f.isPseudo = true → st.sawRegular = false := by
      intro hp; simpa [hp] using hrest
    refine ⟨?_, ?_, ?_, ?_⟩
    · intro g hg
      simp only [List.mem_append, List.mem_singleton] at hg
      rcases hg with hg | hg
      · exact h.ok g hg
      · subst hg; exact ⟨hval, hname⟩
    · simp only [sizeSum_append]; have := h.size; omega
    · exact pseudoFirst_append _ _ h.pf (fun hp => h.saw (hsaw hp))
    · intro hs g hg
      simp only [Bool.or_eq_false_iff, Bool.not_eq_false'] at hs
      simp only [List.mem_append, List.mem_singleton] at hg
      rcases hg with hg | hg
      · exact h.saw hs.1 g hg
      · subst hg; exact hs.2

/-- the state at `break` is `metaEmit` folded over the fields of the first `n` decoder outcomes, the
loop taking one outcome per fragment. -/
theorem metaLoop_ok (fuel : Nat) (fr : Framer) (st : MetaState) (frag : List Nat) (ended : Bool)
    (decs : List FragDec) (bs : List Nat) (st' : MetaState) (fr' : Framer) (rest' : List Nat)
    (hr : metaLoop fuel fr st frag ended decs bs = (.ok st', fr', rest')) :
    ∃ n, 1 ≤ n ∧ st' = ((decs.take n).flatMap (·.fields)).foldl metaEmit st := by
  induction fuel generalizing fr st frag ended decs bs with
  | zero => simp [metaLoop] at hr
  | succ k ih =>
    unfold metaLoop at hr
    split at hr
    · cases hr
    split at hr
    · cases hr
    generalize hmw : metaWrite st (decs.headD {}) = w at hr
    obtain ⟨st1, werr⟩ := w
    have hst1 : st1 = ((decs.take 1).flatMap (·.fields)).foldl metaEmit st := by
      simp only [metaWrite, Prod.mk.injEq] at hmw
      rw [← hmw.1]
      cases decs <;> simp
    simp only at hr
    cases werr with
    | true => simp at hr
    | false =>
      simp only [Bool.false_eq_true, ↓reduceIte] at hr
      cases ended with
      | true =>
        simp only [↓reduceIte, Prod.mk.injEq, Except.ok.injEq] at hr
        exact ⟨1, Nat.le_refl 1, hr.1 ▸ hst1⟩
      | false =>
        simp only [Bool.false_eq_true, ↓reduceIte] at hr
        split at hr
        · simp at hr
        · obtain ⟨n, hn, hc⟩ := ih _ _ _ _ _ _ hr
          refine ⟨n + 1, by omega, ?_⟩
          have : (decs.take (n + 1)).flatMap (·.fields)
              = (decs.take 1).flatMap (·.fields) ++ (decs.tail.take n).flatMap (·.fields) := by
            cases decs <;> simp
          rw [this, List.foldl_append, ← hst1]
          exact hc
        · simp at hr

theorem metaLoop_inv (limit : Nat) (fuel : Nat) (fr : Framer) (st : MetaState) (frag : List Nat) (ended : Bool)
    (decs : List FragDec) (bs : List Nat) (st' : MetaState) (fr' : Framer) (rest' : List Nat) (h : Inv limit st)
    (hr : metaLoop fuel fr st frag ended decs bs = (.ok st', fr', rest')) : Inv limit st' := by
  obtain ⟨n, _, rfl⟩ := metaLoop_ok _ _ _ _ _ _ _ _ _ _ hr
  exact Lemmas.foldl_inv metaEmit (Inv limit) (metaEmit_inv limit) _ st h

theorem takeWhile_eq_filter (fs : List Field) (h : PseudoFirst fs) :
    fs.takeWhile Field.isPseudo = fs.filter Field.isPseudo := by
  induction fs with
  | nil => rfl
  | cons a rest ih =>
    simp only [PseudoFirst] at h
    by_cases ha : a.isPseudo = true
    · simp only [ha, ↓reduceIte] at h
      simp [List.takeWhile, List.filter, ha, ih h]
    · simp only [ha] at h
      have : rest.filter Field.isPseudo = [] := by
        rw [List.filter_eq_nil_iff]; intro g hg; simp [h g hg]
      simp [List.takeWhile, List.filter, ha, this]

theorem checkPseudosLoop_cons {hf : Field} {rest seen : List Field} {rq rs : Bool} {r : Bool × Bool}
    (h : checkPseudosLoop (hf :: rest) seen rq rs = some r) :
    (hf.name ∈ pseudoRequest ∨ hf.name ∈ pseudoResponse) ∧ hf.name ∉ seen.map (·.name) ∧
    checkPseudosLoop rest (seen ++ [hf]) (rq || pseudoRequest.contains hf.name)
      (rs || pseudoResponse.contains hf.name) = some r := by
  have hdisj : ∀ n ∈ pseudoRequest, n ∉ pseudoResponse := by decide
  have hseen : ¬ seen.any (fun h2 => h2.name == hf.name) = true → hf.name ∉ seen.map (·.name) := by
    intro hany hm
    obtain ⟨g, hg, hge⟩ := List.mem_map.1 hm
    exact hany (List.any_eq_true.2 ⟨g, hg, by simp [hge]⟩)
  unfold checkPseudosLoop at h
  split at h
  · rename_i hreq
    split at h
    · cases h
    · rename_i hany
      have hmem : hf.name ∈ pseudoRequest := by simpa using hreq
      exact ⟨.inl hmem, hseen hany, by simpa [hmem, hdisj _ hmem] using h⟩
  · rename_i hreq
    split at h
    · rename_i hresp
      split at h
      · cases h
      · rename_i hany
        have hmem : hf.name ∈ pseudoResponse := by simpa using hresp
        have hnreq : hf.name ∉ pseudoRequest := by simpa using hreq
        exact ⟨.inr hmem, hseen hany, by simpa [hmem, hnreq] using h⟩
    · cases h

theorem checkPseudosLoop_spec (pf seen : List Field) (rq rs rq' rs' : Bool)
    (h : checkPseudosLoop pf seen rq rs = some (rq', rs'))
    (hn : (seen.map (·.name)).Nodup) :
    (∀ f ∈ pf, f.name ∈ pseudoRequest ∨ f.name ∈ pseudoResponse) ∧
    ((seen ++ pf).map (·.name)).Nodup ∧
    (rq' = true ↔ rq = true ∨ ∃ f ∈ pf, f.name ∈ pseudoRequest) ∧
    (rs' = true ↔ rs = true ∨ ∃ f ∈ pf, f.name ∈ pseudoResponse) := by
  induction pf generalizing seen rq rs with
  | nil =>
    simp only [checkPseudosLoop, Option.some.injEq, Prod.mk.injEq] at h
    simp [hn, h.1, h.2]
  | cons hf rest ih =>
    obtain ⟨hk, hnot, hrec⟩ := checkPseudosLoop_cons h
    have hn' : ((seen ++ [hf]).map (·.name)).Nodup := by
      simpa [List.nodup_append, hn] using fun a ha he => hnot (List.mem_map.2 ⟨a, ha, he⟩)
    obtain ⟨k1, k2, k3, k4⟩ := ih _ _ _ hrec hn'
    refine ⟨?_, by simpa [List.append_assoc] using k2, ?_, ?_⟩
    · simpa [hk] using k1
    · simpa [or_assoc] using k3
    · simpa [or_assoc] using k4

theorem readMeta_metaHeaders {fr : Framer} {mhls : Nat} {orc : HpackOracle} {bs : List Nat}
    {h : FrameHeader} {prio : PriorityParam} {fields : List Field} {trunc : Bool}
    (hres : (readMeta fr mhls orc bs).res = .ok (.metaHeaders h prio fields trunc)) :
    ∃ frag st fr' rest', (readFrame fr bs).res = .ok (.headers h prio frag) ∧
      metaLoop ((readFrame fr bs).rest.length + 1) (readFrame fr bs).fr
        { remainSize := maxHeaderListSize mhls } frag (hasFlag h.flags flagEndHeaders) orc.decs
        (readFrame fr bs).rest = (.ok st, fr', rest') ∧
      st.invalid = false ∧ checkPseudos st.fields = true ∧ fields = st.fields ∧ trunc = st.truncated := by
  unfold readMeta at hres
  simp only at hres
  split at hres
  · cases hres
  · rename_i h0 prio0 frag hrd
    split at hres
    · cases hres
    · rename_i st fr' rest' hloop
      split at hres
      · cases hres
      split at hres
      · cases hres
      rename_i hinv
      split at hres
      · cases hres
      rename_i hcp
      simp only [Except.ok.injEq, MFrame.metaHeaders.injEq] at hres
      obtain ⟨rfl, rfl, rfl, rfl⟩ := hres
      exact ⟨frag, st, fr', rest', hrd, hloop, by simpa using hinv, by simpa using hcp, rfl, rfl⟩
  · cases hres

/-- C07's MetaHeadersFrame clause, for any byte stream, any limits and any behaviour `orc` of the HPACK
decoder on the fragments. -/
theorem readMeta_guarantees (fr : Framer) (mhls : Nat) (orc : HpackOracle) (bs : List Nat)
    (h : FrameHeader) (prio : PriorityParam) (fields : List Field) (trunc : Bool)
    (hres : (readMeta fr mhls orc bs).res = .ok (.metaHeaders h prio fields trunc)) :
    h.length ≤ fr.maxReadSize ∧ h.streamID ≠ 0 ∧
    PseudoFirst fields ∧
    (∀ f ∈ fields, f.isPseudo = true → f.name ∈ pseudoRequest ∨ f.name ∈ pseudoResponse) ∧
    ((fields.filter Field.isPseudo).map (·.name)).Nodup ∧
    ¬ ((∃ f ∈ fields, f.isPseudo = true ∧ f.name ∈ pseudoRequest) ∧
       (∃ f ∈ fields, f.isPseudo = true ∧ f.name ∈ pseudoResponse)) ∧
    (∀ f ∈ fields, FieldOK f) ∧
    sizeSum fields ≤ maxHeaderListSize mhls := by
  obtain ⟨frag, st, fr', rest', hrd, hloop, _, hcp, rfl, _⟩ := readMeta_metaHeaders hres
  obtain ⟨hlen, _, _, hrule, _, hk⟩ := readFrame_ok_shape fr bs _ hrd
  have hty : h.type = frameHeaders := hk.1 _ _ _ rfl
  have hsid : h.streamID ≠ 0 := hrule.1 (by simp [hty, Frame.header, frameHeaders, frameData])
  have hinv0 : Inv (maxHeaderListSize mhls) { remainSize := maxHeaderListSize mhls } :=
    ⟨by simp, by simp [sizeSum], by simp [PseudoFirst], by simp⟩
  have hinv := metaLoop_inv _ _ _ _ _ _ _ _ _ _ _ hinv0 hloop
  unfold checkPseudos at hcp
  split at hcp
  · cases hcp
  rename_i rq rs hl
  obtain ⟨k1, k2, k3, k4⟩ := checkPseudosLoop_spec _ [] false false rq rs hl (by simp)
  have htw := takeWhile_eq_filter _ hinv.pf
  unfold pseudoFields at k1 k2 k3 k4
  rw [htw] at k1 k2 k3 k4
  refine ⟨hlen, hsid, hinv.pf, ?_, by simpa using k2, ?_, hinv.ok, by have := hinv.size; omega⟩
  · intro f hf hp
    exact k1 f (by simp [List.mem_filter, hf, hp])
  · rintro ⟨⟨f, hf, hp, hfr⟩, ⟨g, hg, hgp, hgr⟩⟩
    have h1 : rq = true := k3.2 (Or.inr ⟨f, by simp [List.mem_filter, hf, hp], hfr⟩)
    have h2 : rs = true := k4.2 (Or.inr ⟨g, by simp [List.mem_filter, hg, hgp], hgr⟩)
    simp [h1, h2] at hcp

/-- with field sizes below 2^32 (always the case for strings that fit in memory on the wire path:
`HeaderField.Size()` is computed in uint32) the accounted size is the true RFC 7541 size. -/
theorem sizeSum_true (fs : List Field) (h : ∀ f ∈ fs, f.name.length + f.value.length + 32 < 4294967296) :
    sizeSum fs = (fs.map (fun f => f.name.length + f.value.length + 32)).sum := by
  induction fs with
  | nil => rfl
  | cons a rest ih =>
    have ha := h a (by simp)
    have := ih (fun f hf => h f (by simp [hf]))
    simp only [sizeSum, List.map_cons, List.sum_cons] at this ⊢
    rw [this]; simp only [Field.size]; omega

/-- So `readFrame_ok_shape`, the stream-ID rules and contiguity apply unchanged in ReadMetaHeaders mode. -/
theorem readMeta_plain (fr : Framer) (mhls : Nat) (orc : HpackOracle) (bs : List Nat) (f : Frame)
    (hres : (readMeta fr mhls orc bs).res = .ok (.plain f)) :
    (readFrame fr bs).res = .ok f ∧ (∀ h p fr, f ≠ .headers h p fr) ∧
    (readMeta fr mhls orc bs).fr = (readFrame fr bs).fr ∧ (readMeta fr mhls orc bs).rest = (readFrame fr bs).rest := by
  unfold readMeta at hres ⊢
  simp only at hres ⊢
  split at hres
  · cases hres
  · -- a HEADERS frame ends in an error or a MetaHeadersFrame
    repeat' split at hres
    all_goals cases hres
  · rename_i f0 hnh hrd
    simp only [Except.ok.injEq, MFrame.plain.injEq] at hres
    subst hres
    simp only [hrd]
    exact ⟨trivial, hnh, trivial, trivial⟩

theorem readMeta_error_of_plain_error (fr : Framer) (mhls : Nat) (orc : HpackOracle) (bs : List Nat) (e : RErr)
    (h : (readFrame fr bs).res = .error e) : (readMeta fr mhls orc bs).res = .error e := by
  unfold readMeta
  simp only [h]

/-- The fuel of `metaLoop` is only a termination device: any two values above the number of
remaining bytes give the same result (each CONTINUATION consumes at least 9 bytes); `readMeta` starts
with `rest.length + 1`. -/
theorem metaLoop_fuel (f1 f2 : Nat) (fr : Framer) (st : MetaState) (frag : List Nat) (ended : Bool)
    (decs : List FragDec) (bs : List Nat) (h1 : bs.length < f1) (h2 : bs.length < f2) :
    metaLoop f1 fr st frag ended decs bs = metaLoop f2 fr st frag ended decs bs := by
  induction f1 generalizing f2 fr st frag ended decs bs with
  | zero => omega
  | succ n ih =>
    cases f2 with
    | zero => omega
    | succ m =>
      -- the two sides differ only in the recursive call, taken after a frame was read
      cases hres : (readFrame fr bs).res with
      | error e => simp only [metaLoop, hres]
      | ok f =>
        have hs := (readFrame_ok_shape fr bs _ hres).2.2.1
        have key : ∀ st' frag' e d, metaLoop n (readFrame fr bs).fr st' frag' e d (readFrame fr bs).rest
            = metaLoop m (readFrame fr bs).fr st' frag' e d (readFrame fr bs).rest :=
          fun _ _ _ _ => ih _ _ _ _ _ _ _ (by omega) (by omega)
        simp only [metaLoop, key]

/-- as long as neither `invalid` nor `Truncated` is set, emission is enabled and `Fields` is
everything the decoder has emitted so far (`E`). -/
def Complete (E : List Field) (st : MetaState) : Prop :=
  st.truncated = false → st.invalid = false → st.enabled = true ∧ st.fields = E

theorem metaEmit_complete (E : List Field) (st : MetaState) (f : Field) (h : Complete E st) :
    Complete (E ++ [f]) (metaEmit st f) := by
  unfold metaEmit
  cases he : st.enabled with
  | false =>
    simp only [Bool.not_false, ↓reduceIte]
    intro ht hi
    have := (h ht hi).1
    rw [he] at this; cases this
  | true =>
    by_cases hi : metaInvalid st f = true
    · simp only [hi, Bool.not_true, Bool.false_eq_true, ↓reduceIte]
      intro _ hinv; simp at hinv
    by_cases hsz : f.size > st.remainSize
    · simp only [hi, hsz, Bool.not_true, Bool.false_eq_true, ↓reduceIte]
      intro ht; simp at ht
    simp only [hi, hsz, Bool.not_true, Bool.false_eq_true, ↓reduceIte]
    intro ht hinv
    simp only at ht hinv
    exact ⟨rfl, by rw [(h ht hinv).2]⟩

theorem foldl_complete (fs E : List Field) (st : MetaState) (h : Complete E st) :
    Complete (E ++ fs) (fs.foldl metaEmit st) := by
  induction fs generalizing E st with
  | nil => simpa using h
  | cons f rest ih =>
    have := ih (E ++ [f]) (metaEmit st f) (metaEmit_complete E st f h)
    simpa [List.append_assoc] using this

theorem metaLoop_complete (fuel : Nat) (fr : Framer) (st : MetaState) (frag : List Nat) (ended : Bool)
    (decs : List FragDec) (bs : List Nat) (st' : MetaState) (fr' : Framer) (rest' : List Nat) (E : List Field)
    (h : Complete E st)
    (hr : metaLoop fuel fr st frag ended decs bs = (.ok st', fr', rest')) :
    ∃ n, 1 ≤ n ∧ Complete (E ++ (decs.take n).flatMap (·.fields)) st' := by
  obtain ⟨n, hn, rfl⟩ := metaLoop_ok _ _ _ _ _ _ _ _ _ _ hr
  exact ⟨n, hn, foldl_complete _ E st h⟩

/-- `n` is the number of frames of the block; the statement says only that there is one. Together with
`readMeta_guarantees` this is C07's "within MaxHeaderListSize unless marked Truncated". -/
theorem readMeta_complete (fr : Framer) (mhls : Nat) (orc : HpackOracle) (bs : List Nat)
    (h : FrameHeader) (prio : PriorityParam) (fields : List Field)
    (hres : (readMeta fr mhls orc bs).res = .ok (.metaHeaders h prio fields false)) :
    ∃ n, 1 ≤ n ∧ fields = (orc.decs.take n).flatMap (·.fields) := by
  obtain ⟨frag, st, fr', rest', _, hloop, hinv, _, rfl, htr⟩ := readMeta_metaHeaders hres
  have h0 : Complete [] { remainSize := maxHeaderListSize mhls } := fun _ _ => ⟨rfl, rfl⟩
  obtain ⟨n, hn, hc⟩ := metaLoop_complete _ _ _ _ _ _ _ _ _ _ [] h0 hloop
  exact ⟨n, hn, by simpa using (hc htr.symm hinv).2⟩

/-- The Go code ranges over runes: a rune ≥ 0x80 — or RuneError for invalid UTF-8 — fails `IsTokenRune`,
and every byte of a multi-byte sequence is ≥ 0x80. So, over bytes, no name containing a multi-byte UTF-8
sequence passes, whatever the low byte of the rune is. -/
theorem validWireHeaderFieldName_iff (v : List Nat) :
    validWireHeaderFieldName v = true ↔
      v ≠ [] ∧ ∀ b ∈ v, b < 128 ∧ isTokenByte b = true ∧ ¬ (65 ≤ b ∧ b ≤ 90) := by
  unfold validWireHeaderFieldName
  cases v with
  | nil => simp
  | cons a rest =>
    simp only [List.isEmpty_cons, Bool.not_false, Bool.true_and, List.all_eq_true, ne_eq, reduceCtorEq,
      not_false_eq_true, true_and]
    refine forall₂_congr fun b _ => ?_
    simp only [Bool.and_eq_true, decide_eq_true_eq, Bool.not_eq_true', Bool.and_eq_false_iff,
      decide_eq_false_iff_not, and_assoc, Decidable.not_and_iff_or_not]

/-- `bš` (U+0161 = C5 A1, low byte 'a'), `ab①` (U+2461), `𐁡` (U+10061): rejected by the model. -/
example : validWireHeaderFieldName [98, 197, 161] = false ∧ validWireHeaderFieldName [97, 98, 226, 145, 161] = false ∧
    validWireHeaderFieldName [240, 144, 129, 161] = false ∧ validWireHeaderFieldName [98, 97] = true := by decide

/-- a HEADERS frame (stream 1, END_HEADERS) whose block decodes to `:method: GET`, `a: b`. -/
example : (readMeta newFramer 0
      { decs := [{ fields := [⟨[58, 109, 101, 116, 104, 111, 100], [71, 69, 84]⟩, ⟨[97], [98]⟩] }] }
      [0, 0, 1, 1, 4, 0, 0, 0, 1, 130]).res
    = .ok (.metaHeaders ⟨1, 1, 4, 1⟩ {} [⟨[58, 109, 101, 116, 104, 111, 100], [71, 69, 84]⟩, ⟨[97], [98]⟩] false) := by
  rfl
/-- the same block with MaxHeaderListSize 42, the size of the first field (7 + 3 + 32): the second
field is dropped and Truncated set. -/
example : (readMeta newFramer 42
      { decs := [{ fields := [⟨[58, 109, 101, 116, 104, 111, 100], [71, 69, 84]⟩, ⟨[97], [98]⟩] }] }
      [0, 0, 1, 1, 4, 0, 0, 0, 1, 130]).res
    = .ok (.metaHeaders ⟨1, 1, 4, 1⟩ {} [⟨[58, 109, 101, 116, 104, 111, 100], [71, 69, 84]⟩] true) := by
  rfl
/-- a pseudo-header after a regular field is a stream error. -/
example : (readMeta newFramer 0
      { decs := [{ fields := [⟨[97], [98]⟩, ⟨[58, 109, 101, 116, 104, 111, 100], [71, 69, 84]⟩] }] }
      [0, 0, 1, 1, 4, 0, 0, 0, 1, 130]).res = .error (.stream 1 errCodeProtocol) := by
  rfl
/-- CONTINUATION on another stream while a header block is open is not admissible. -/
example : ¬ Admissible 3 ⟨0, frameContinuation, 4, 5⟩ := by simp [Admissible]
example : Admissible 3 ⟨0, frameContinuation, 4, 3⟩ := by simp [Admissible]
example : ¬ StreamRule ⟨0, frameData, 0, 0⟩ := by simp [StreamRule, frameData]

end NetVerif.Proofs.C07
