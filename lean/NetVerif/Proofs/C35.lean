import NetVerif.Model.H3Conn
import NetVerif.Gen.C35
import NetVerif.Proofs.Lemmas.H3Safe
import NetVerif.Proofs.Lemmas.H3BodySpec
/-!
C35 — HTTP/3 stream framing never leaks bytes across frame boundaries.
Model: `Model/H3Stream.lean` (stream.go, settings.go) and `Model/H3Conn.lean` (body.go, conn.go,
control-stream loop of server.go).
-/
namespace NetVerif.Proofs.C35
open NetVerif NetVerif.Model.H3Stream NetVerif.Model.H3Conn NetVerif.Model.Qpack

theorem gen_constants_eq :
    Gen.C35.errH3FrameError = cFrameError ∧ Gen.C35.errH3FrameUnexpected = cFrameUnexpected ∧
    Gen.C35.errH3MissingSettings = cMissingSettings ∧ Gen.C35.errH3SettingsError = cSettingsError ∧
    Gen.C35.errH3ClosedCriticalStream = cClosedCriticalStream ∧ Gen.C35.errH3StreamCreationError = cStreamCreationError ∧
    Gen.C35.errH3InternalError = cInternalError ∧ Gen.C35.errH3IDError = cIDError ∧ Gen.C35.errH3NoError = cNoError ∧
    Gen.C35.errH3MessageError = cMessageError ∧ Gen.C35.errQPACKDecompressionFailed = cQpackDecompressionFailed ∧
    Gen.C35.frameTypeData = 0 ∧ Gen.C35.frameTypeHeaders = 1 ∧ Gen.C35.frameTypeCancelPush = 3 ∧
    Gen.C35.frameTypeSettings = 4 ∧ Gen.C35.frameTypeGoaway = 7 ∧
    Gen.C35.streamTypeControl = 0 ∧ Gen.C35.streamTypePush = 1 := by decide

/-- The case list of `discardUnknownFrame` regenerated from stream.go is the model's. -/
theorem gen_knownFrameTypes_eq (ft : Nat) : knownFrameType ft = Gen.C35.knownFrameTypes.contains ft := by
  unfold knownFrameType Gen.C35.knownFrameTypes
  simp only [List.contains_cons, List.contains_nil, Bool.or_false, Bool.or_assoc]
  rfl

/-- The reserved-setting list of `readSettings` regenerated from settings.go is the model's. -/
theorem gen_reservedSettings_eq (t : Nat) : reservedSetting t = Gen.C35.reservedSettings.contains t := by
  unfold reservedSetting Gen.C35.reservedSettings
  simp only [List.contains_cons, List.contains_nil, Bool.or_false, Bool.or_assoc]
  rfl

/-- C35, `recordBytesRead` exact: the failure is a connection error H3_FRAME_ERROR and parks the limit at
the end of the frame, so that every further read in the frame fails the same way. A negative `lim`
(no frame open) is not counted down. -/
theorem recordBytesRead_spec (s : St) (n : Nat) :
    (s.lim < 0 → recordBytesRead s n = .ok () s) ∧
    (0 ≤ s.lim → (n : Int) ≤ s.lim → recordBytesRead s n = .ok () { s with lim := s.lim - n }) ∧
    (0 ≤ s.lim → s.lim < (n : Int) →
      recordBytesRead s n = .err (.conn cFrameError) { s with lim := 0 }) :=
  NetVerif.Proofs.H3Safe.recordBytesRead_cases s n

theorem endFrame_spec (s : St) :
    (s.lim = 0 → endFrame s = .ok () { s with lim := -1 }) ∧
    (s.lim ≠ 0 → endFrame s = .err (.conn cFrameError) s) := by
  unfold endFrame
  constructor
  · intro h; simp [h]
  · intro h; simp [h]

theorem readByte_overread (s : St) (h : s.lim = 0) :
    readByte s = .err (.conn cFrameError) { s with lim := 0 } := by
  unfold readByte recordBytesRead
  simp [h]

/-- C35, the stream ending inside a frame is H3_FRAME_ERROR: for `ReadByte`, for `Read` (nothing is
delivered) and for `discardFrame`. -/
theorem readByte_truncated (s : St) (hl : s.lim > 0) (hd : s.dead = false) (he : s.data = []) :
    readByte s = .err (.plain cFrameError) { s with lim := s.lim - 1 } := by
  unfold readByte recordBytesRead qsReadByte
  have a : ¬ s.lim < 0 := by omega
  have c : ¬ s.lim - 1 < 0 := by omega
  simp [a, hd, he, c]

theorem read_truncated (s : St) (k : Nat) (hl : s.lim > 0) (hd : s.dead = false) (he : s.data = []) :
    ∃ s', NetVerif.Model.H3Stream.read s k = .err (.plain cFrameError) s' ∧ s'.lim = s.lim := by
  unfold NetVerif.Model.H3Stream.read qsRead recordBytesRead
  have a : ¬ s.lim < 0 := by omega
  have c : ¬ s.lim = 0 := by omega
  simp [hd, he, a, c, hl]

theorem discardFrame_truncated (s : St) (hd : s.dead = false) (h : s.lim.toNat > s.data.length) :
    ∃ s', discardFrame s = .err (.strm cFrameError) s' :=
  (if_neg (Nat.not_le.mpr h)).mp (NetVerif.Proofs.H3Safe.discardFrame_spec s fun _ => hd)

/-- C35, an unknown frame type that is completely present is skipped entirely, and the stream is back
between frames. -/
theorem unknown_frame_skipped (s : St) (ft : Nat) (hk : knownFrameType ft = false) (hd : s.dead = false)
    (hl : 0 < s.lim) (hlen : s.lim.toNat ≤ s.data.length) :
    discardUnknownFrame s ft = .ok () { s with data := s.data.drop s.lim.toNat, primed := true, lim := -1 } := by
  unfold discardUnknownFrame
  rw [hk, if_neg Bool.false_ne_true,
    (if_pos hlen).mp (NetVerif.Proofs.H3Safe.discardFrame_spec s fun _ => hd), decide_eq_true hl]
  rfl

theorem unknown_empty_frame_skipped (s : St) (ft : Nat) (hk : knownFrameType ft = false) (hl : s.lim = 0) :
    discardUnknownFrame s ft = .ok () { s with lim := -1 } := by
  unfold discardUnknownFrame
  rw [hk, if_neg Bool.false_ne_true, (if_pos (by rw [hl]; exact Nat.zero_le _)).mp
    (NetVerif.Proofs.H3Safe.discardFrame_spec s fun h => absurd h (by omega)), hl]
  rfl

theorem known_frame_unexpected (s : St) (ft : Nat) (hk : knownFrameType ft = true) :
    discardUnknownFrame s ft = .err (.conn cFrameUnexpected) s := by
  unfold discardUnknownFrame; simp [hk]

theorem read_window (s s' : St) (k : Nat) (bs : List Nat) (eof : Bool) (h : NetVerif.Model.H3Stream.read s k = .ok (bs, eof) s') :
    bs = s.data.take bs.length ∧ bs.length ≤ k ∧ (0 ≤ s.lim → (bs.length : Int) ≤ s.lim) := by
  obtain ⟨h1, h2, -, -, -, h3⟩ := NetVerif.Proofs.H3Safe.read_inv s s' k bs eof h
  exact ⟨h1, h2, fun h0 => (h3 h0).1⟩

open NetVerif.Proofs.H3BodySpec in
/-- C35, a body only ever receives DATA payload bytes: for every byte stream, every Content-Length
state `b`, every read size `k` and any number of reads, what `bodyReader.Read` hands out on a stream
that is between frames is a prefix of the concatenated DATA payloads (`H3BodySpec.dataBytes`). No byte
of a frame header, of an unknown frame, of a HEADERS frame or of anything after the end of the body
reaches the body. -/
theorem body_bytes_within_data (H : Huff) (tbl : List (List Nat × List Nat)) (k fuel : Nat) (b : Body)
    (data : List Nat) (hb : Bytes data) :
    (bodyDrain H tbl k fuel b (St.fresh data) []).1 <+: dataBytes data := by
  obtain ⟨out, ho, hp⟩ := bodyDrain_window H tbl k fuel b (St.fresh data) [] rfl hb
  rw [ho]
  exact hp

open NetVerif.Proofs.H3BodySpec in
/-- The same from any live stream state, e.g. in the middle of a DATA frame (`window`). -/
theorem body_bytes_within_window (H : Huff) (tbl : List (List Nat × List Nat)) (k fuel : Nat) (b : Body)
    (s : St) (hd : s.dead = false) (hb : Bytes s.data) :
    (bodyDrain H tbl k fuel b s []).1 <+: window s := by
  obtain ⟨out, ho, hp⟩ := bodyDrain_window H tbl k fuel b s [] hd hb
  rw [ho]
  exact hp

open NetVerif.Proofs.H3BodySpec in
/-- Non-vacuity of the specification: an unknown frame (type 0x21) is skipped, two DATA frames
contribute their payloads. -/
example : dataBytes [0x21, 1, 9, 0, 2, 5, 6, 0, 1, 7] = [5, 6, 7] := by
  rw [dataBytes_some _ [9, 0, 2, 5, 6, 0, 1, 7] 0x21 1 (by decide)]
  simp [NetVerif.Model.H3Stream.knownFrameType]
  rw [dataBytes_some _ [5, 6, 0, 1, 7] 0 2 (by decide)]
  simp
  rw [dataBytes_some _ [7] 0 1 (by decide)]
  simp
  rw [dataBytes]
  split
  · rfl
  · rename_i h; simp [frameHeader, NetVerif.Model.VarintQuic.consumeVarint] at h

/-- The identity in place of the Huffman codec, for the concrete inputs below. -/
def Hid : Huff := { encLen := fun s => s.length, enc := fun s => s, dec := fun s => some s }

/-- The stream ending right after the frame type (first byte of the length missing) is
H3_FRAME_ERROR, not a clean end of stream (read as a clean `io.EOF`: fix 3c0e6c9 in /repo). -/
theorem frameHeader_eof_only_at_boundary (s s1 s2 : St) (ft : Nat) (hl : s.lim < 0)
    (h1 : readVarint s = .ok ft s1) (h2 : readVarint s1 = .err .eof s2) :
    readFrameHeader s = .err (.plain cFrameError) s2 := by
  unfold readFrameHeader
  have : ¬ s.lim ≥ 0 := by omega
  simp [this, h1, h2, Out.bind]

example : readFrameHeader (St.fresh [0]) =
    .err (.plain cFrameError) { St.fresh [] with primed := true } := by rfl

/-- Two concrete control streams. After an empty SETTINGS frame, an unknown frame of declared length
100 with four bytes present, and the first byte of a two-byte frame type with nothing after it: each
is a connection error H3_FRAME_ERROR (a reset of the receive-only stream alone: fix 2a88bca in /repo). -/
theorem control_truncated_frame_aborts :
    handleUni (St.fresh [0, 4, 0, 0x21, 0x40, 0x64, 1, 2, 3, 0]) = .abort cFrameError ∧
    handleUni (St.fresh [0, 4, 0, 0x40]) = .abort cFrameError := ⟨by rfl, by rfl⟩

/-- `parseHeader`'s frame loop skips an unknown frame in front of the HEADERS frame (rejecting it: fix
324f1d2 in /repo): one turn of the loop, with the results of its two calls given. -/
theorem parseHeader_skips_unknown (H : Huff) (tbl : List (List Nat × List Nat)) (fuel : Nat) (s s1 s2 : St) (ft : Nat)
    (h1 : readFrameHeader s = .ok ft s1) (hft : ft ≠ 1) (h2 : discardUnknownFrame s1 ft = .ok () s2) :
    parseHeaderFrames H tbl (fuel + 1) s = parseHeaderFrames H tbl fuel s2 := by
  conv => lhs; unfold parseHeaderFrames
  simp [h1, hft, h2]

/-- "A truncated or over-read frame is reported as an H3_FRAME_ERROR-class failure", at the level
of what the peer is told (RESET_STREAM / CONNECTION_CLOSE code). False: known finding
`frame-error-reset-as-internal-error` (a bare `errH3FrameError` is sent as H3_INTERNAL_ERROR). -/
def FrameErrorCodeStatement : Prop :=
  ∀ (H : Huff) (tbl : List (List Nat × List Nat)) (k : Nat) (data : List Nat) (s : St),
    (requestHandler H tbl k (St.fresh data)).2 = .err (.plain cFrameError) s →
    (handleRequest H tbl k (St.fresh data)).2 = .reset cFrameError ∨
    (handleRequest H tbl k (St.fresh data)).2 = .abort cFrameError

theorem frameErrorCode_full_false : ¬ FrameErrorCodeStatement := by
  intro h
  have := h Hid [] 4 [1, 5, 0, 0] _ (by rfl)
  rcases this with h | h <;> exact absurd h (by decide)

/-- Errors that arrive wrapped (`.conn`, `.strm`) keep their code; `frameErrorCode_full_false` is
about the bare `.plain`. -/
theorem frameErrorCode_partial (s : St) (c : Nat) :
    handleStreamError s (some (.conn c)) = .abort c ∧
    (s.dead = false → handleStreamError s (some (.strm c)) = .reset c) := by
  unfold handleStreamError
  exact ⟨rfl, fun h => by simp [h]⟩

/-! With `recordBytesRead` setting `st.stream = nil` on an overrun, `handleStreamError` dereferences nil:
4 bytes (`01 01 ff 00`) on a request stream crash the process and the statement below fails (finding
`overrun-nil-stream-panic`, fix 61c449a in /repo). -/

/-- "For any bytes on a request, control or other unidirectional stream the implementation never panics."
On a request stream the code run is `handleRequest`, conn.go's wrapper, around the harness's handler
`requestHandler` (HEADERS frame, field section, body to its end); the server's own `parseHeaderFrames` is
not covered. -/
def NoPanicStatement : Prop :=
  ∀ (H : Huff) (tbl : List (List Nat × List Nat)) (k : Nat) (data : List Nat),
    (handleRequest H tbl k (St.fresh data)).2 ≠ .panic ∧ handleUni (St.fresh data) ≠ .panic

open NetVerif.Proofs.H3Safe in
theorem noPanic_holds : NoPanicStatement := by
  intro H tbl k data
  refine ⟨?_, handleUni_no_panic data⟩
  unfold handleRequest
  exact finish_no_panic _ (safe_requestHandler H tbl k _ (good_fresh data))

/-- The witness of `overrun-nil-stream-panic`, `01 01 ff 00` (a HEADERS frame of declared length 1 whose QPACK prefix integer needs a second byte)
ends in a stream reset. -/
example : (handleRequest Hid [] 4 (St.fresh [1, 1, 255, 0])).2 = .reset cInternalError := by rfl

/-- After any byte sequence the request handler leaves the QUIC stream in place, so that
`handleStreamError` can close or reset it. -/
theorem requestHandler_stream_kept (H : Huff) (tbl : List (List Nat × List Nat)) (k : Nat) (data : List Nat) :
    ∀ e s, (requestHandler H tbl k (St.fresh data)).2 = .err e s → s.dead = false := by
  intro e s h
  have := NetVerif.Proofs.H3Safe.safe_requestHandler H tbl k _ (NetVerif.Proofs.H3Safe.good_fresh data)
  rw [h] at this
  exact this.1

/-- Exactly when `handleStreamError` would panic: a nil stream and an error that is not a
`*connectionError` (unreachable by `requestHandler_stream_kept`). -/
theorem handleStreamError_panic_iff (s : St) (e : Option Err) :
    handleStreamError s e = .panic ↔ (s.dead = true ∧ ∀ c, e ≠ some (.conn c)) := by
  unfold handleStreamError
  cases e with
  | none => cases s.dead <;> simp
  | some e => cases e <;> cases s.dead <;> simp

end NetVerif.Proofs.C35
