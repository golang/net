import NetVerif.Model.Bpf
import NetVerif.Proofs.Lemmas.Bpf
import NetVerif.Proofs.Lemmas.BpfRoundTrip
import NetVerif.Gen.C48
/-!
C48 — BPF assembly and disassembly are inverse (`asm` = every `Instruction.Assemble`, `disasm` =
`RawInstruction.Disassemble`), for all values of the Go field types.

raw → typed → raw holds in full: `Disassemble` returns what its decoder (`disasmCore`) makes of `r` exactly
when `canonRaw r` (true also of every `r` the decoder does not know), and `r` itself as a `RawInstruction`
otherwise. typed → raw → typed is false as written: `Assemble` accepts values that `Disassemble` normalises
(a conditional jump written with the other polarity, an `ALUOp` outside the enumerated operators,
`LoadAbsolute` in the extension window); it holds exactly on the decidable set `canonTyped`. The statements carry the `WF` hypotheses of the property text; only `asm_wf`,
`disasm_decodes_iff` and `disasm_wf` (in Lemmas/BpfRoundTrip) need them.
-/
namespace NetVerif.Proofs.C48
open NetVerif NetVerif.Model.Bpf NetVerif.Proofs.Lemmas.Bpf NetVerif.Proofs.Lemmas.BpfRoundTrip

/-- `Gen.C48` is regenerated from bpf/constants.go and the switch tables of bpf/instructions.go: every opcode
constant and mask equals the model's. -/
theorem gen_constants_eq :
    Gen.C48.RegA = regA ∧ Gen.C48.RegX = regX ∧
    Gen.C48.ALUOpAdd = aluOpAdd ∧ Gen.C48.ALUOpSub = aluOpSub ∧ Gen.C48.ALUOpMul = aluOpMul ∧
    Gen.C48.ALUOpDiv = aluOpDiv ∧ Gen.C48.ALUOpOr = aluOpOr ∧ Gen.C48.ALUOpAnd = aluOpAnd ∧
    Gen.C48.ALUOpShiftLeft = aluOpShiftLeft ∧ Gen.C48.ALUOpShiftRight = aluOpShiftRight ∧
    Gen.C48.aluOpNeg = aluOpNeg ∧ Gen.C48.ALUOpMod = aluOpMod ∧ Gen.C48.ALUOpXor = aluOpXor ∧
    Gen.C48.JumpEqual = jumpEqual ∧ Gen.C48.JumpNotEqual = jumpNotEqual ∧
    Gen.C48.JumpGreaterThan = jumpGreaterThan ∧ Gen.C48.JumpLessThan = jumpLessThan ∧
    Gen.C48.JumpGreaterOrEqual = jumpGreaterOrEqual ∧ Gen.C48.JumpLessOrEqual = jumpLessOrEqual ∧
    Gen.C48.JumpBitsSet = jumpBitsSet ∧ Gen.C48.JumpBitsNotSet = jumpBitsNotSet ∧
    Gen.C48.extOffset = extOffset ∧ Gen.C48.ExtLen = extLen ∧
    Gen.C48.opMaskCls = opMaskCls ∧ Gen.C48.opMaskLoadDest = opMaskLoadDest ∧
    Gen.C48.opMaskLoadWidth = opMaskLoadWidth ∧ Gen.C48.opMaskLoadMode = opMaskLoadMode ∧
    Gen.C48.opMaskOperand = opMaskOperand ∧ Gen.C48.opMaskOperator = opMaskOperator ∧
    Gen.C48.opClsLoadA = opClsLoadA ∧ Gen.C48.opClsLoadX = opClsLoadX ∧ Gen.C48.opClsStoreA = opClsStoreA ∧
    Gen.C48.opClsStoreX = opClsStoreX ∧ Gen.C48.opClsALU = opClsALU ∧ Gen.C48.opClsJump = opClsJump ∧
    Gen.C48.opClsReturn = opClsReturn ∧ Gen.C48.opClsMisc = opClsMisc ∧
    Gen.C48.opAddrModeImmediate = opAddrModeImmediate ∧ Gen.C48.opAddrModeAbsolute = opAddrModeAbsolute ∧
    Gen.C48.opAddrModeIndirect = opAddrModeIndirect ∧ Gen.C48.opAddrModeScratch = opAddrModeScratch ∧
    Gen.C48.opAddrModePacketLen = opAddrModePacketLen ∧ Gen.C48.opAddrModeMemShift = opAddrModeMemShift ∧
    Gen.C48.opLoadWidth4 = opLoadWidth4 ∧ Gen.C48.opLoadWidth2 = opLoadWidth2 ∧ Gen.C48.opLoadWidth1 = opLoadWidth1 ∧
    Gen.C48.opOperandConstant = opOperandConstant ∧ Gen.C48.opOperandX = opOperandX ∧
    Gen.C48.opJumpAlways = opJumpAlways ∧ Gen.C48.opJumpEqual = opJumpEqual ∧ Gen.C48.opJumpGT = opJumpGT ∧
    Gen.C48.opJumpGE = opJumpGE ∧ Gen.C48.opJumpSet = opJumpSet ∧
    Gen.C48.opRetSrcConstant = opRetSrcConstant ∧ Gen.C48.opRetSrcA = opRetSrcA ∧
    Gen.C48.opMiscTAX = opMiscTAX ∧ Gen.C48.opMiscTXA = opMiscTXA ∧
    Gen.C48.extThreshold = extThreshold := by
  decide

/-- The `switch test` of `jumpToRaw`, regenerated as a table, is the model's `jumpTestToOp`. -/
theorem gen_jumpToRaw_eq (t : Nat) : jumpTestToOp t = Gen.C48.jumpToRawTable.lookup t := by
  match t with
  | 0 | 1 | 2 | 3 | 4 | 5 | 6 | 7 => rfl
  | n + 8 => simp [jumpTestToOp, Gen.C48.jumpToRawTable, List.lookup]

theorem lookup_cons_ite {α : Type} (k a : Nat) (b : α) (l : List (Nat × α)) :
    ((a, b) :: l).lookup k = if k = a then some b else l.lookup k := by
  simp only [List.lookup]
  split <;> simp_all

/-- Both `switch op` tables of `jumpOpToTest`, regenerated, are the model's `jumpOpToTest`. -/
theorem gen_jumpOpToTest_eq (op jt jf : Nat) :
    jumpOpToTest op jt jf =
      if jt = 0 then ((Gen.C48.jumpOpToTestZero.lookup op).getD 0, jf, 0)
      else ((Gen.C48.jumpOpToTestNonZero.lookup op).getD 0, jt, jf) := by
  simp only [jumpOpToTest, Gen.C48.jumpOpToTestZero, Gen.C48.jumpOpToTestNonZero, lookup_cons_ite, List.lookup_nil,
    apply_ite (Option.getD · 0), Option.getD_some, Option.getD_none]

/-- The operator lists in `Disassemble`'s ALU and jump cases. -/
theorem gen_disasm_lists_eq (op : Nat) :
    isALUBinary op = Gen.C48.disasmALUBinary.contains op ∧
    ((op = opJumpEqual ∨ op = opJumpGT ∨ op = opJumpGE ∨ op = opJumpSet) ↔ op ∈ Gen.C48.disasmJumpConds) := by
  constructor
  · simp only [isALUBinary, Gen.C48.disasmALUBinary, List.contains_cons, List.contains_nil, Bool.or_false,
      Bool.or_assoc]
  · simp [Gen.C48.disasmJumpConds]

theorem asm_wf (i : Instr) (r : Raw) (hi : i.WF) (h : asm i = some r) : r.WF := (asm_iff.1 h).wf hi

theorem disasm_asm_iff (i : Instr) (r : Raw) (hi : i.WF) (h : asm i = some r) :
    disasm r = i ↔ canonTyped i = true := Lemmas.BpfRoundTrip.disasm_asm_iff i r h

/-- The first half of C48 as stated: every accepted non-raw instruction value survives. A `def`, so that
its negation can be stated (`typed_full_false`); likewise the two `Statement`s below. -/
def RoundTripTypedStatement : Prop :=
  ∀ (i : Instr) (r : Raw), i.WF → isRaw i = false → asm i = some r → disasm r = i

/-- The first half of C48 on `canonTyped`; off it the half is false (`typed_full_false`). -/
theorem disasm_asm_partial (i : Instr) (r : Raw) (hi : i.WF) (hc : canonTyped i = true) (h : asm i = some r) :
    disasm r = i := (disasm_asm_iff i r hi h).mpr hc

/-- Witness 1 (jump polarity): `JumpIf{Cond: JumpEqual, Val: 42, SkipTrue: 0, SkipFalse: 3}` assembles to
`{0x15,0,3,42}`, which disassembles to `JumpIf{Cond: JumpNotEqual, Val: 42, SkipTrue: 3}`. -/
theorem witness_typed_jump :
    asm (.jumpIf jumpEqual 42 0 3) = some ⟨0x15, 0, 3, 42⟩ ∧
    disasm ⟨0x15, 0, 3, 42⟩ = .jumpIf jumpNotEqual 42 3 0 := by decide

/-- Witness 2 (unchecked `ALUOp`, cannot be rejected without breaking the package's own
TestVMALUOpUnknown): `ALUOpConstant{Op: 0x80, Val: 5}` assembles to the `neg` opcode with K=5, which is not a
canonical encoding and comes back as the RawInstruction; likewise `ALUOpConstant{Op: 8}`. -/
theorem witness_typed_alu :
    asm (.aluOpConstant 0x80 5) = some ⟨0x84, 0, 0, 5⟩ ∧ disasm ⟨0x84, 0, 0, 5⟩ = .raw ⟨0x84, 0, 0, 5⟩ ∧
    asm (.aluOpConstant 8 5) = some ⟨0x0c, 0, 0, 5⟩ ∧ disasm ⟨0x0c, 0, 0, 5⟩ = .raw ⟨0x0c, 0, 0, 5⟩ := by decide

/-- Witness 3 (extension window, a supported alias: `LoadAbsolute{Off: 0xfffff038, Size: 4}.String()` is
"ld #rand"): `LoadAbsolute{Off: 0xfffff004, Size: 4}` comes back as `LoadExtension{Num: ExtType}`. -/
theorem witness_typed_ext :
    asm (.loadAbsolute 0xfffff004 4) = some ⟨0x20, 0, 0, 0xfffff004⟩ ∧
    disasm ⟨0x20, 0, 0, 0xfffff004⟩ = .loadExtension 4 := by decide

theorem typed_full_false : ¬ RoundTripTypedStatement := fun h =>
  absurd (witness_typed_jump.2.symm.trans (h _ _ (by decide) (by decide) witness_typed_jump.1)) (by decide)

/-- `LoadExtension.Assemble` rejects an `Extension` outside [0, 0xfff]: `uint32(extOffset+Num)` would wrap
into an absolute load (`LoadExtension{Num: 4096}` ↦ `LoadAbsolute{Off: 0, Size: 4}`). -/
theorem asm_loadExtension_range (num : Int) (r : Raw) (h : asm (.loadExtension num) = some r) :
    0 ≤ num ∧ num < 4096 := by
  cases asm_iff.1 h <;> omega
example : asm (.loadExtension 4096) = none ∧ asm (.loadExtension (-1)) = none := by decide

/-- The second half of C48 as stated: every raw instruction that decodes to a known type reassembles to itself. -/
def RoundTripRawStatement : Prop :=
  ∀ r : Raw, r.WF → isRaw (disasm r) = false → asm (disasm r) = some r

/-- For every raw instruction, decoded or passed through; `hr` is that of the property text and is not used. -/
theorem asm_disasm (r : Raw) (hr : r.WF) : asm (disasm r) = some r := Lemmas.BpfRoundTrip.asm_disasm r

theorem raw_holds : RoundTripRawStatement := fun r hr _ => asm_disasm r hr

/-- `Disassemble` returns the decoder's output, not `r` as a `RawInstruction`, exactly when `canonRaw r`;
where the decoder itself gives up the two coincide and `canonRaw r` holds. So the encoding of every
canonical typed value is decoded (`canonical_correspondence`). -/
theorem disasm_decodes_iff (r : Raw) (hr : r.WF) : disasm r = disasmCore r ↔ canonRaw r = true :=
  disasm_eq_core_iff r hr

/-- The three witnesses of DESIGN §7 C48 and `{0x20, K: 0xfffff001}` (a non-canonical spelling of
`LoadExtension{ExtLen}`) are passed through; their canonical neighbours `{0x16}` and
`{0x20, K: 0xfffff004}` are decoded. -/
example :
    disasm ⟨0x0100, 0, 0, 7⟩ = .raw ⟨0x0100, 0, 0, 7⟩ ∧ disasm ⟨0x16, 0, 0, 9⟩ = .raw ⟨0x16, 0, 0, 9⟩ ∧
    disasm ⟨0x28, 0, 0, 0xfffff004⟩ = .raw ⟨0x28, 0, 0, 0xfffff004⟩ ∧
    disasm ⟨0x20, 0, 0, 0xfffff001⟩ = .raw ⟨0x20, 0, 0, 0xfffff001⟩ ∧
    disasm ⟨0x16, 0, 0, 0⟩ = .retA ∧ disasm ⟨0x20, 0, 0, 0xfffff004⟩ = .loadExtension 4 := by decide

/-- C48 as stated. -/
def Statement : Prop := RoundTripTypedStatement ∧ RoundTripRawStatement

theorem full_false : ¬ Statement := fun h => typed_full_false h.1

/-- C48: the raw half in full, the typed half restricted to the canonical values (decidable `canonTyped`). -/
theorem holds_partial :
    (∀ (i : Instr) (r : Raw), i.WF → canonTyped i = true → asm i = some r → disasm r = i) ∧
    RoundTripRawStatement :=
  ⟨fun i r hi hc h => disasm_asm_partial i r hi hc h, raw_holds⟩

theorem canonical_correspondence :
    (∀ (i : Instr) (r : Raw), i.WF → isRaw i = false → canonTyped i = true → asm i = some r → canonRaw r = true) ∧
    (∀ r : Raw, r.WF → canonTyped (disasm r) = true) :=
  ⟨fun i r _ => canonRaw_asm i r, fun r _ => canonTyped_disasm r⟩

/-- Program level: `Assemble` / `Disassemble` of asm.go. -/
theorem disasmProg_asmProg (p : List Instr) (rs : List Raw)
    (hp : ∀ i ∈ p, i.WF ∧ canonTyped i = true) (h : asmProg p = some rs) : (disasmProg rs).1 = p :=
  map_of_asmProg (fun i hi r hr => disasm_asm_partial i r (hp i hi).1 (hp i hi).2 hr) h

theorem asmProg_disasmProg (rs : List Raw) (hp : ∀ r ∈ rs, r.WF) : asmProg (disasmProg rs).1 = some rs :=
  asmProg_map Lemmas.BpfRoundTrip.asm_disasm rs

/-- Every instruction of the package's own `allInstructions` test program is canonical. -/
example : ([.loadConstant 0 42, .loadConstant 1 42, .loadScratch 0 3, .loadScratch 1 3, .loadAbsolute 42 1,
    .loadAbsolute 42 2, .loadAbsolute 42 4, .loadIndirect 42 1, .loadIndirect 42 2, .loadIndirect 42 4,
    .loadMemShift 42, .loadExtension 1, .loadExtension 0, .loadExtension 4, .loadExtension 56,
    .storeScratch 0 3, .storeScratch 1 3, .aluOpConstant aluOpAdd 42, .aluOpConstant aluOpXor 42, .aluOpX aluOpMod,
    .negateA, .jump 17, .jumpIf jumpEqual 42 15 16, .jumpIf jumpNotEqual 42 15 0, .jumpIf jumpLessThan 42 14 0,
    .jumpIf jumpLessOrEqual 42 13 0, .jumpIf jumpGreaterThan 42 11 12, .jumpIf jumpBitsSet 42 9 10,
    .jumpIfX jumpEqual 8 9, .jumpIfX jumpNotEqual 8 0, .tax, .txa, .retA, .retConstant 42] : List Instr).all
    (fun i => decide i.WF && canonTyped i && (asm i).isSome) = true := by decide

/-- Canonical raw instructions exist in every class, and so do decodable non-canonical ones. -/
example : ([⟨0x00, 0, 0, 7⟩, ⟨0x61, 0, 0, 15⟩, ⟨0x28, 0, 0, 14⟩, ⟨0x50, 0, 0, 0⟩, ⟨0x80, 0, 0, 0⟩, ⟨0xb1, 0, 0, 14⟩,
    ⟨0x02, 0, 0, 3⟩, ⟨0x54, 0, 0, 255⟩, ⟨0x9c, 0, 0, 0⟩, ⟨0x84, 0, 0, 0⟩, ⟨0x05, 0, 0, 9⟩, ⟨0x15, 1, 2, 0x800⟩,
    ⟨0x3d, 0, 4, 0⟩, ⟨0x06, 0, 0, 0xffff⟩, ⟨0x16, 0, 0, 0⟩, ⟨0x07, 0, 0, 0⟩, ⟨0x87, 0, 0, 0⟩] : List Raw).all
    (fun r => decide r.WF && canonRaw r && !isRaw (disasm r)) = true := by decide
example : ([⟨0x0100, 0, 0, 7⟩, ⟨0x16, 0, 0, 9⟩, ⟨0x28, 0, 0, 0xfffff004⟩, ⟨0x20, 0, 0, 0xfffff001⟩, ⟨0x41, 0, 0, 0⟩,
    ⟨0xa0, 0, 0, 0⟩, ⟨0x0d, 0, 0, 0⟩, ⟨0x07, 1, 0, 0⟩] : List Raw).all
    (fun r => decide r.WF && !canonRaw r && isRaw (disasm r) && !isRaw (disasmCore r)) = true := by decide

end NetVerif.Proofs.C48
