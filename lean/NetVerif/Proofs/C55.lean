import NetVerif.Model.Httpguts
import NetVerif.Gen.C55
import NetVerif.Proofs.Lemmas.Split
/-!
C55 — httpguts header validity checks match the RFC grammar.

Specification side (this file): `tchar` (RFC 9110 §5.6.2), `FieldValueByte` (no CTL but HTAB),
`elements` (the comma-separated elements: `splitOn 44` by `elements_eq`, characterised by
`elements_join`/`elements_no_comma`/`elements_unique`),
`IsTrim` (declarative OWS trimming), `FoldEq` (ASCII case-insensitive equality of ASCII strings).
Model side: `NetVerif.Model.Httpguts`; regenerated side: `NetVerif.Gen.C55`.
-/
namespace NetVerif.Proofs.C55
open NetVerif NetVerif.Model.Httpguts Lemmas.Split

/-- RFC 9110 §5.6.2: tchar = "!" / "#" / "$" / "%" / "&" / "'" / "*" / "+" / "-" / "." /
    "^" / "_" / "`" / "|" / "~" / DIGIT / ALPHA -/
def tchar (b : Nat) : Prop :=
  b ∈ [33, 35, 36, 37, 38, 39, 42, 43, 45, 46, 94, 95, 96, 124, 126] ∨
  (48 ≤ b ∧ b ≤ 57) ∨ (65 ≤ b ∧ b ≤ 90) ∨ (97 ≤ b ∧ b ≤ 122)

instance : DecidablePred tchar := fun b => by unfold tchar; infer_instance

/-- A byte allowed in a field value: not a control byte (0–31, 127), except horizontal tab. -/
def FieldValueByte (b : Nat) : Prop := ¬ ((b < 32 ∨ b = 127) ∧ b ≠ 9)

def OWS (b : Nat) : Prop := b = 32 ∨ b = 9

def asciiLower (b : Nat) : Nat := if 65 ≤ b ∧ b ≤ 90 then b + 32 else b

/-- ASCII case-insensitive equality where the left string is pure ASCII. -/
def FoldEq (t u : List Nat) : Prop :=
  t.length = u.length ∧ (∀ b ∈ t, b < 128) ∧ t.map asciiLower = u.map asciiLower

def elements : List Nat → List (List Nat)
  | [] => [[]]
  | b :: rest =>
    if b = 44 then [] :: elements rest
    else (b :: (elements rest).headD []) :: (elements rest).tail

def joinComma : List (List Nat) → List Nat
  | [] => []
  | [e] => e
  | e :: es => e ++ 44 :: joinComma es

/-- `t` is `e` with all leading and trailing SP / HTAB removed. -/
def IsTrim (e t : List Nat) : Prop :=
  ∃ l r, e = l ++ t ++ r ∧ (∀ b ∈ l, OWS b) ∧ (∀ b ∈ r, OWS b) ∧
    (∀ h, t.head? = some h → ¬ OWS h) ∧ (∀ h, t.getLast? = some h → ¬ OWS h)

/-! T-tie: the regenerated tables and byte predicates (`Gen.C55`) equal the model's. -/

private theorem elem_eq_any_beq (l : List Nat) (b : Nat) : l.elem b = l.any (Nat.beq b) := by
  induction l with
  | nil => rfl
  | cons a l ih =>
    rw [List.elem_cons, List.any_cons, ← ih]
    cases h : Nat.beq b a
    · rw [show (b == a) = false from beq_eq_false_iff_ne.2 (Nat.ne_of_beq_eq_false h)]; rfl
    · rw [show (b == a) = true from beq_iff_eq.2 (Nat.eq_of_beq_eq_true h)]; rfl

/-- The 256 membership tests are evaluated with `Nat.beq`, which the kernel computes directly on
literals; through `==` and `DecidableEq Nat` the same evaluation costs twice as much. -/
theorem gen_validHostByte_eq : Gen.C55.validHostByte = validHostByte := by
  have : Gen.C55.validHostByte = (List.range 256).map fun b => hostKeys.any (Nat.beq b) := by
    decide +kernel
  rw [this, validHostByte]
  congr
  funext b
  rw [elem_eq_any_beq]

theorem gen_isOWS_eq : Gen.C55.isOWS = isOWS := rfl
theorem gen_isLWS_eq : Gen.C55.isLWS = isLWS := rfl
theorem gen_isCTL_eq : Gen.C55.isCTL = isCTL := rfl
theorem gen_lowerASCII_eq : Gen.C55.lowerASCII = lowerASCII := rfl

theorem tchar_ascii (b : Nat) (h : tchar b) : b < 128 := by
  rcases h with h | h | h | h
  · revert b; decide
  all_goals omega

/-- `tokenKeys` are the keys of the Go composite literal `isTokenTable`; each direction is a bounded check (a tchar
is below 128). -/
theorem mem_tokenKeys (b : Nat) : b ∈ tokenKeys ↔ tchar b :=
  ⟨(by decide +kernel : ∀ k ∈ tokenKeys, tchar k) b,
   fun h => (by decide +kernel : ∀ k < 128, tchar k → k ∈ tokenKeys) b (tchar_ascii b h) h⟩

private theorem getD_map_range (f : Nat → Bool) (n b : Nat) :
    ((List.range n).map f).getD b false = (decide (b < n) && f b) := by
  rw [List.getD_eq_getElem?_getD, List.getElem?_map]
  by_cases h : b < n
  · rw [List.getElem?_range h, decide_eq_true h]; rfl
  · rw [List.getElem?_eq_none (by rw [List.length_range]; omega), decide_eq_false h]; rfl

theorem table_eq_tchar (b : Nat) : isTokenByte b = true ↔ tchar b := by
  rw [isTokenByte, isTokenTable, getD_map_range, Bool.and_eq_true, decide_eq_true_iff, List.elem_eq_mem,
    decide_eq_true_iff, mem_tokenKeys]
  exact and_iff_right_of_imp fun h => Nat.lt_trans (tchar_ascii b h) (by decide)

/-- The regenerated table is the table of the tchar predicate, hence the model's. -/
theorem gen_isTokenTable_eq : Gen.C55.isTokenTable = isTokenTable := by
  have : Gen.C55.isTokenTable = (List.range 256).map fun b => decide (tchar b) := by decide +kernel
  rw [this, isTokenTable]
  congr
  funext b
  rw [List.elem_eq_mem, decide_eq_decide, mem_tokenKeys]

theorem gen_isTokenRune_eq : Gen.C55.isTokenRune = isTokenRune := by
  funext r; unfold Gen.C55.isTokenRune isTokenRune; rw [gen_isTokenTable_eq]; rfl

theorem table_length : Gen.C55.isTokenTable.length = 256 := by decide +kernel

theorem gen_table_eq_tchar (b : Nat) : Gen.C55.isTokenTable.getD b false = true ↔ tchar b := by
  rw [gen_isTokenTable_eq]; exact table_eq_tchar b

private theorem nameLoop_iff (v : List Nat) : nameLoop v = true ↔ ∀ b ∈ v, tchar b := by
  induction v with
  | nil => simp [nameLoop]
  | cons b rest ih =>
    rw [nameLoop, List.forall_mem_cons, ← ih, ← table_eq_tchar]
    cases isTokenByte b <;> simp

theorem validHeaderFieldName_iff (v : List Nat) :
    validHeaderFieldName v = true ↔ v ≠ [] ∧ ∀ b ∈ v, tchar b := by
  unfold validHeaderFieldName
  cases v with
  | nil => simp
  | cons b rest => simp [nameLoop_iff]

/-- `h0`: every rune of a string is non-negative; for the rest see `isTokenRune_negative_wrap_witness`. -/
theorem isTokenRune_iff (r : Int) (h0 : 0 ≤ r) :
    isTokenRune r = true ↔ r < 128 ∧ tchar r.toNat := by
  rw [isTokenRune, Bool.and_eq_true, decide_eq_true_iff, ← table_eq_tchar]
  refine and_congr_right fun h => ?_
  rw [Int.emod_eq_of_lt h0 (Int.lt_trans h (by decide))]
  rfl

theorem isTokenRune_nonascii (r : Int) (h : 128 ≤ r) : isTokenRune r = false := by
  rw [isTokenRune, show decide (r < (runeSelf : Int)) = false from decide_eq_false (Int.not_lt.2 h)]
  rfl

/-- Outside the rune domain: `byte(r)` wraps, so a NEGATIVE int32 such as `'!' - 256` is
    reported as a token rune. No string yields a negative rune; recorded as an observation. -/
theorem isTokenRune_negative_wrap_witness : isTokenRune (-223) = true := by decide

private theorem isCTL_not_isLWS (b : Nat) : (isCTL b && !isLWS b) = false ↔ FieldValueByte b := by
  simp [isCTL, isLWS, FieldValueByte]
  omega

theorem validHeaderFieldValue_iff (v : List Nat) :
    validHeaderFieldValue v = true ↔ ∀ b ∈ v, FieldValueByte b := by
  induction v with
  | nil => simp [validHeaderFieldValue]
  | cons b rest ih =>
    rw [validHeaderFieldValue, List.forall_mem_cons, ← ih, ← isCTL_not_isLWS]
    cases (isCTL b && !isLWS b) <;> simp

theorem validHeaderFieldValue_rejects_crlfnul (v : List Nat) (h : validHeaderFieldValue v = true) :
    13 ∉ v ∧ 10 ∉ v ∧ 0 ∉ v ∧ 127 ∉ v := by
  rw [validHeaderFieldValue_iff] at h
  have key : ∀ b, (b < 32 ∨ b = 127) ∧ b ≠ 9 → b ∉ v := fun b hb hm => h b hm hb
  exact ⟨key 13 (by omega), key 10 (by omega), key 0 (by omega), key 127 (by omega)⟩

theorem validHeaderFieldValue_accepts (v : List Nat)
    (h : ∀ b ∈ v, b = 9 ∨ (32 ≤ b ∧ b ≠ 127)) : validHeaderFieldValue v = true := by
  rw [validHeaderFieldValue_iff]
  intro b hb; have := h b hb; unfold FieldValueByte; omega

private theorem isOWS_iff (b : Nat) : isOWS b = true ↔ OWS b := by
  unfold isOWS OWS; simp

private theorem trimLeft_eq (x : List Nat) : trimLeft x = x.dropWhile isOWS := by
  induction x with
  | nil => rfl
  | cons b r ih => rw [trimLeft, List.dropWhile_cons, ih]

private theorem trimLeft_append_ows (l x : List Nat) (h : ∀ b ∈ l, OWS b) :
    trimLeft (l ++ x) = trimLeft x := by
  rw [trimLeft_eq, trimLeft_eq, List.dropWhile_append_of_pos fun b hb => (isOWS_iff b).2 (h b hb)]

private theorem trimLeft_head_not_ows (x : List Nat) (h : ∀ a, x.head? = some a → ¬ OWS a) :
    trimLeft x = x := by
  cases x with
  | nil => rfl
  | cons b r => rw [trimLeft_eq, List.dropWhile_cons_of_neg fun hb => h b rfl ((isOWS_iff b).1 hb)]

private theorem trimLeft_decomp (x : List Nat) :
    ∃ l, x = l ++ trimLeft x ∧ (∀ b ∈ l, OWS b) ∧ (∀ a, (trimLeft x).head? = some a → ¬ OWS a) := by
  refine ⟨x.takeWhile isOWS, ?_, fun b hb => (isOWS_iff b).1 (List.all_eq_true.1 List.all_takeWhile b hb), fun a ha ho => ?_⟩
  · rw [trimLeft_eq, List.takeWhile_append_dropWhile]
  · have := List.head?_dropWhile_not isOWS x
    rw [← trimLeft_eq, ha] at this
    exact Bool.false_ne_true (this.symm.trans ((isOWS_iff a).2 ho))

theorem trimOWS_isTrim (e : List Nat) : IsTrim e (trimOWS e) := by
  obtain ⟨l, h1, h2, h3⟩ := trimLeft_decomp e
  obtain ⟨r, g1, g2, g3⟩ := trimLeft_decomp (trimLeft e).reverse
  have hy : trimLeft e = trimOWS e ++ r.reverse := by
    rw [trimOWS, trimRight, ← List.reverse_append, ← g1, List.reverse_reverse]
  refine ⟨l, r.reverse, ?_, h2, fun b hb => g2 b (List.mem_reverse.1 hb), fun a ha => h3 a ?_,
    fun a ha => g3 a ?_⟩
  · rw [List.append_assoc, ← hy]; exact h1
  · rw [hy, List.head?_append, ha]; rfl
  · rwa [trimOWS, trimRight, List.getLast?_reverse] at ha

theorem isTrim_unique (e t : List Nat) (h : IsTrim e t) : trimOWS e = t := by
  obtain ⟨l, r, rfl, hl, hr, hh, hlast⟩ := h
  rw [trimOWS, trimRight, List.append_assoc, trimLeft_append_ows l _ hl]
  cases t with
  | nil => rw [List.nil_append, ← List.append_nil r, trimLeft_append_ows r [] hr]; rfl
  | cons c cs =>
    rw [trimLeft_head_not_ows (c :: cs ++ r) fun a ha => hh a ha, List.reverse_append,
      trimLeft_append_ows _ _ fun b hb => hr b (List.mem_reverse.1 hb),
      trimLeft_head_not_ows (c :: cs).reverse fun a ha => hlast a (by rwa [List.head?_reverse] at ha),
      List.reverse_reverse]

/-- The `% 256` of the Go byte arithmetic never fires: `b + 32 ≤ 122`. -/
private theorem lowerASCII_eq (b : Nat) : lowerASCII b = asciiLower b := by
  unfold lowerASCII asciiLower
  simp only [Bool.and_eq_true, decide_eq_true_iff]
  split
  · exact Nat.mod_eq_of_lt (by omega)
  · rfl

private theorem asciiLower_lt (b : Nat) : asciiLower b < 128 ↔ b < 128 := by
  unfold asciiLower; split <;> omega

private theorem tokenEqualLoop_iff (t u : List Nat) (hlen : t.length = u.length) :
    tokenEqualLoop t u = true ↔ (∀ b ∈ t, b < 128) ∧ t.map asciiLower = u.map asciiLower := by
  induction t generalizing u with
  | nil => cases u with
    | nil => simp [tokenEqualLoop]
    | cons _ _ => simp at hlen
  | cons b r ih => cases u with
    | nil => simp at hlen
    | cons c r2 =>
      rw [tokenEqualLoop, lowerASCII_eq, lowerASCII_eq]
      by_cases hb : b ≥ runeSelf
      · rw [if_pos hb]
        exact ⟨nofun, fun h => absurd (h.1 b List.mem_cons_self) (Nat.not_lt.2 hb)⟩
      · have hb' : b < 128 := Nat.lt_of_not_le hb
        by_cases he : asciiLower b = asciiLower c <;> simp [hb, he, hb', ih r2 (Nat.succ.inj hlen)]

theorem tokenEqual_iff (t u : List Nat) : tokenEqual t u = true ↔ FoldEq t u := by
  unfold tokenEqual FoldEq
  by_cases h : t.length = u.length
  · simp [h, tokenEqualLoop_iff t u h]
  · simp [h]

theorem elements_eq (v : List Nat) : elements v = splitOn 44 v := by
  induction v with
  | nil => rfl
  | cons b r ih => rw [elements, splitOn, ih]; cases splitOn 44 r <;> rfl

private theorem joinComma_eq (es : List (List Nat)) : joinComma es = joinOn 44 es := by
  induction es with
  | nil => rfl
  | cons e es ih => cases es with
    | nil => rfl
    | cons _ _ => exact congrArg (e ++ 44 :: ·) ih

theorem elements_ne_nil (v : List Nat) : elements v ≠ [] := elements_eq v ▸ splitOn_ne_nil 44 v

theorem elements_join (v : List Nat) : joinComma (elements v) = v := by
  rw [elements_eq, joinComma_eq, joinOn_splitOn]

theorem elements_no_comma (v : List Nat) : ∀ e ∈ elements v, 44 ∉ e :=
  elements_eq v ▸ splitOn_no_sep 44 v

theorem elements_unique (es : List (List Nat)) (hne : es ≠ [])
    (hc : ∀ e ∈ es, 44 ∉ e) : elements (joinComma es) = es := by
  rw [elements_eq, joinComma_eq, splitOn_joinOn 44 es hne hc]

private theorem hvctLoop_iff (tok : List Nat) (rest acc : List Nat) (h : 44 ∉ acc) :
    hvctLoop tok acc rest = true ↔
      ∃ e ∈ splitOn 44 (acc.reverse ++ rest), tokenEqual (trimOWS e) tok = true := by
  have h' : 44 ∉ acc.reverse := fun hm => h (List.mem_reverse.1 hm)
  induction rest generalizing acc with
  | nil =>
    rw [List.append_nil, splitOn_single 44 _ h']
    simp [hvctLoop]
  | cons b rest ih =>
    rw [hvctLoop]
    by_cases hb : b = 44
    · subst hb
      have := ih [] List.not_mem_nil List.not_mem_nil
      rw [splitOn_append, splitOn_single 44 _ h']
      by_cases ht : tokenEqual (trimOWS acc.reverse) tok = true <;> simp [ht, this]
    · have := ih (b :: acc) (by simp [h, Ne.symm hb]) (by simp [h', Ne.symm hb])
      simpa [hb] using this

theorem headerValueContainsToken_iff (v tok : List Nat) :
    headerValueContainsToken v tok = true ↔ ∃ e ∈ elements v, FoldEq (trimOWS e) tok := by
  unfold headerValueContainsToken
  rw [hvctLoop_iff tok v [] (by simp), elements_eq]
  simp [tokenEqual_iff]

private theorem headerValuesContainsToken_any (vs : List (List Nat)) (tok : List Nat) :
    headerValuesContainsToken vs tok = true ↔ ∃ v ∈ vs, ∃ e ∈ elements v, FoldEq (trimOWS e) tok := by
  induction vs with
  | nil => simp [headerValuesContainsToken]
  | cons v vs ih =>
    simp only [List.mem_cons, or_and_right, exists_or, exists_eq_left]
    rw [headerValuesContainsToken, ← headerValueContainsToken_iff, ← ih]
    cases headerValueContainsToken v tok <;> simp

/-- The `HeaderValuesContainsToken` clause of C55.  `FoldEq` asks the trimmed element to be ASCII: see the literal
reading below. -/
theorem headerValuesContainsToken_iff (vs : List (List Nat)) (tok : List Nat) :
    headerValuesContainsToken vs tok = true ↔
      ∃ v ∈ vs, ∃ e ∈ elements v, ∃ t, IsTrim e t ∧ FoldEq t tok := by
  rw [headerValuesContainsToken_any]
  exact exists_congr fun v => and_congr_right fun _ => exists_congr fun e => and_congr_right fun _ =>
    ⟨fun hf => ⟨_, trimOWS_isTrim e, hf⟩, fun ⟨t, ht, hf⟩ => isTrim_unique e t ht ▸ hf⟩

/-- The property read literally: equality after ASCII case folding, for ANY byte strings. -/
def ContainsTokenLiteralStatement : Prop :=
  ∀ (vs : List (List Nat)) (tok : List Nat),
    headerValuesContainsToken vs tok = true ↔
      ∃ v ∈ vs, ∃ e ∈ elements v, (trimOWS e).map asciiLower = tok.map asciiLower

/-- …is false for non-ASCII "tokens": `tokenEqual` never matches a string with a byte ≥ 0x80
    ("No UTF-8 or non-ASCII allowed in tokens"), e.g. token "é" in value "é". RFC tokens are ASCII,
    so this lies outside what the property calls a token; it is documented, not a defect. -/
theorem containsToken_literal_false : ¬ ContainsTokenLiteralStatement := by
  intro h
  have := (h [[195, 169]] [195, 169]).2 ⟨[195, 169], by simp, [195, 169], by decide, by decide⟩
  revert this; decide

/-- Against an ASCII string, the length and ASCII conditions of `FoldEq` follow from the last. -/
private theorem foldEq_ascii (t u : List Nat) (hu : ∀ b ∈ u, b < 128) :
    FoldEq t u ↔ t.map asciiLower = u.map asciiLower := by
  refine ⟨fun h => h.2.2, fun h => ⟨by simpa using congrArg List.length h, fun b hb => ?_, h⟩⟩
  obtain ⟨c, hc, e⟩ := List.mem_map.1 (h ▸ List.mem_map_of_mem hb)
  exact (asciiLower_lt b).1 (e ▸ (asciiLower_lt c).2 (hu c hc))

/-- The literal statement holds whenever the token is pure ASCII (every RFC 9110 token is:
`tchar_ascii`). -/
theorem containsToken_literal_holds_partial (vs : List (List Nat)) (tok : List Nat)
    (hascii : ∀ b ∈ tok, b < 128) :
    headerValuesContainsToken vs tok = true ↔
      ∃ v ∈ vs, ∃ e ∈ elements v, (trimOWS e).map asciiLower = tok.map asciiLower := by
  simp only [headerValuesContainsToken_any, foldEq_ascii _ _ hascii]

example : validHeaderFieldName [67, 111, 110, 116, 101, 110, 116, 45, 84, 121, 112, 101] = true := by decide +kernel
example : validHeaderFieldName [97, 32, 98] = false := by decide +kernel
example : validHeaderFieldValue [97, 9, 32, 200, 98] = true := by decide +kernel
example : validHeaderFieldValue [97, 13, 10, 98] = false := by decide +kernel
example : isTokenRune 97 = true ∧ isTokenRune 0x41 = true ∧ isTokenRune 40 = false ∧ isTokenRune 0xe9 = false := by decide +kernel
-- "gzip, Chunked ,x" contains "chunked"
example : headerValuesContainsToken [[103, 122, 105, 112, 44, 32, 67, 104, 117, 110, 107, 101, 100, 32, 44, 120]]
    [99, 104, 117, 110, 107, 101, 100] = true := by decide +kernel
example : elements [97, 44, 44, 98] = [[97], [], [98]] := by decide +kernel
example : FoldEq [65, 98] [97, 66] := by unfold FoldEq; decide

end NetVerif.Proofs.C55
