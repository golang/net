import NetVerif.Model.PacketNumber
import NetVerif.Gen.C23
/-!
C23 — QUIC packet numbers decode to the number that was sent (quic/packet_number.go as it is).
The literal statement ("the chosen length ALWAYS leaves pn − A below half the
window", and hence decoding for every receiver with A ≤ L < pn) is false for
gaps `pn − A ≥ 2^31`, because `packetNumberLength` returns 4 in its `default`
branch: `full_false`. Everything else is proved: `holds_partial`.
-/
namespace NetVerif.Proofs.C23
open NetVerif NetVerif.Model.PacketNumber

/-- `A = −1`: nothing acknowledged yet. -/
def InSpace (A pn : Int) : Prop := -1 ≤ A ∧ A < pn ∧ pn ≤ maxPacketNumber

/-- C23 at one triple: the window clause and exact decoding. -/
def HoldsAt (A L pn : Int) : Prop :=
  2 * (pn - A) < win (pnLen pn A) ∧
  decodePN L (pn % win (pnLen pn A)) (pnLen pn A) = pn

/-- C23 at full (literal) strength. -/
def FullStatement : Prop :=
  ∀ A L pn : Int, InSpace A pn → A ≤ L → L < pn → HoldsAt A L pn

/-- Where the literal statement fails: `2^31` is half the 4-byte window, the longest `packetNumberLength` chooses. -/
def HugeGap (A pn : Int) : Prop := pn - A ≥ 2147483648

instance (A pn : Int) : Decidable (HugeGap A pn) := by unfold HugeGap; infer_instance
instance (A pn : Int) : Decidable (InSpace A pn) := by unfold InSpace; infer_instance
instance (A L pn : Int) : Decidable (HoldsAt A L pn) := by unfold HoldsAt; infer_instance

theorem pnLen_cases (pn A : Int) :
    (pn - A < 128 ∧ pnLen pn A = 1) ∨ (128 ≤ pn - A ∧ pn - A < 32768 ∧ pnLen pn A = 2) ∨
    (32768 ≤ pn - A ∧ pn - A < 8388608 ∧ pnLen pn A = 3) ∨ (8388608 ≤ pn - A ∧ pnLen pn A = 4) := by
  unfold pnLen
  simp only []
  repeat' split
  all_goals omega

theorem win_vals : win 1 = 256 ∧ win 2 = 65536 ∧ win 3 = 16777216 ∧ win 4 = 4294967296 := by decide

theorem len_range (pn A : Int) : pnLen pn A = 1 ∨ pnLen pn A = 2 ∨ pnLen pn A = 3 ∨ pnLen pn A = 4 := by
  rcases pnLen_cases pn A with h | h | h | h <;> simp [h]

/-- C23 (a), the window clause. -/
theorem len_window (pn A : Int) (h : ¬ HugeGap A pn) : 2 * (pn - A) < win (pnLen pn A) := by
  unfold HugeGap at h
  obtain ⟨w1, w2, w3, w4⟩ := win_vals
  rcases pnLen_cases pn A with ⟨_, e⟩ | ⟨_, _, e⟩ | ⟨_, _, e⟩ | ⟨_, e⟩ <;> rw [e] <;> omega

theorem len_minimal (pn A n : Int) (hn : 1 ≤ n) (hlt : n < pnLen pn A) : win n ≤ 2 * (pn - A) := by
  obtain ⟨w1, w2, w3, w4⟩ := win_vals
  have hn3 : n = 1 ∨ n = 2 ∨ n = 3 := by
    rcases len_range pn A with e | e | e | e <;> omega
  rcases pnLen_cases pn A with ⟨_, e⟩ | ⟨_, _, e⟩ | ⟨_, _, e⟩ | ⟨_, e⟩ <;> rcases hn3 with rfl | rfl | rfl <;> omega

theorem len_window_fails (pn A : Int) (h : HugeGap A pn) : ¬ 2 * (pn - A) < win (pnLen pn A) := by
  unfold HugeGap at h
  have w4 := win_vals.2.2.2
  rcases pnLen_cases pn A with ⟨_, e⟩ | ⟨_, _, e⟩ | ⟨_, _, e⟩ | ⟨_, e⟩ <;> rw [e] <;> omega

theorem win_pos (n : Int) (hn : n = 1 ∨ n = 2 ∨ n = 3 ∨ n = 4) : 0 < win n := by
  rcases hn with rfl | rfl | rfl | rfl <;> decide

/-- C23 (b) in the general form of RFC 9000 A.3: the receiver's expected number `L + 1` is within
half a window of `pn`. -/
theorem decode_exact (L pn n : Int) (hpn0 : 0 ≤ pn) (hpn : pn ≤ maxPacketNumber)
    (hn : n = 1 ∨ n = 2 ∨ n = 3 ∨ n = 4)
    (hlo : (L + 1) - win n / 2 < pn) (hhi : pn ≤ (L + 1) + win n / 2) :
    decodePN L (pn % win n) n = pn := by
  unfold maxPacketNumber at hpn
  unfold decodePN
  simp only []
  have hw := win_pos n hn
  generalize win n = w at *
  -- `L + 1` and `pn` are less than a window apart, so their window-aligned parts differ by at most one window
  have ha := Int.mul_ediv_add_emod (L + 1) w
  have hb := Int.mul_ediv_add_emod pn w
  have r1 := Int.emod_nonneg (L + 1) (Int.ne_of_gt hw)
  have r1' := Int.emod_lt_of_pos (L + 1) hw
  have r2 := Int.emod_nonneg pn (Int.ne_of_gt hw)
  have r2' := Int.emod_lt_of_pos pn hw
  have hk1 : (L + 1) / w - pn / w < 2 :=
    Int.lt_of_mul_lt_mul_left (a := w) (by rw [Int.mul_sub]; omega) (Int.le_of_lt hw)
  have hk2 : -2 < (L + 1) / w - pn / w :=
    Int.lt_of_mul_lt_mul_left (a := w) (by rw [Int.mul_sub]; omega) (Int.le_of_lt hw)
  have hk : (L + 1) / w = pn / w ∨ (L + 1) / w = pn / w + 1 ∨ (L + 1) / w + 1 = pn / w := by omega
  rcases hk with hk | hk | hk
  · rw [hk] at ha
    split
    · omega
    · split <;> omega
  · rw [hk, Int.mul_add, Int.mul_one] at ha
    split
    · omega
    · split <;> omega
  · rw [← hk, Int.mul_add, Int.mul_one] at hb
    split
    · omega
    · split <;> omega

/-- C23 (b) as the property states it. -/
theorem decode_sender_receiver (A L pn : Int) (hs : InSpace A pn) (hAL : A ≤ L) (hLpn : L < pn)
    (hg : ¬ HugeGap A pn) :
    decodePN L (pn % win (pnLen pn A)) (pnLen pn A) = pn := by
  obtain ⟨hA, hApn, hmax⟩ := hs
  have hw := len_window pn A hg
  -- `A ≤ L < pn` and `2 * (pn − A) < win` put `pn` within half a window of `L + 1`, whatever the window
  apply decode_exact L pn _ (by omega) hmax (len_range pn A) <;> omega

theorem cand_mod (e t w : Int) (ht0 : 0 ≤ t) (ht : t < w) : (e - e % w + t) % w = t := by
  have : e - e % w = w * (e / w) := by have := Int.mul_ediv_add_emod e w; omega
  rw [this, Int.add_comm, Int.add_mul_emod_self_left, Int.emod_eq_of_lt ht0 ht]

theorem decode_congr (L t n : Int) (hL : -1 ≤ L) (hn : n = 1 ∨ n = 2 ∨ n = 3 ∨ n = 4)
    (ht0 : 0 ≤ t) (ht : t < win n) :
    decodePN L t n % win n = t ∧ 0 ≤ decodePN L t n := by
  unfold decodePN
  simp only []
  -- true of any window `w > 0`: moving the candidate by `w` keeps it congruent to `t`
  have hw := win_pos n hn
  generalize win n = w at *
  have hc := cand_mod (L + 1) t w ht0 ht
  have hm : 0 ≤ L + 1 - (L + 1) % w := by
    have := Int.mul_ediv_add_emod (L + 1) w
    have := Int.mul_nonneg (Int.le_of_lt hw) (Int.ediv_nonneg (by omega : 0 ≤ L + 1) (Int.le_of_lt hw))
    omega
  split
  · exact ⟨by rw [Int.add_emod_right]; exact hc, by omega⟩
  · split
    · exact ⟨by rw [Int.sub_emod_right]; exact hc, by omega⟩
    · exact ⟨hc, by omega⟩

/-- What the guard `candidate < 2^62 − win` of `decodePacketNumber` is for; `hL2`: the receiver can
still receive a larger number. -/
theorem decode_in_space (L t n : Int) (hL : -1 ≤ L) (hL2 : L < maxPacketNumber)
    (hn : n = 1 ∨ n = 2 ∨ n = 3 ∨ n = 4) (ht0 : 0 ≤ t) (ht : t < win n) :
    decodePN L t n ≤ maxPacketNumber := by
  unfold maxPacketNumber at *
  unfold decodePN
  simp only []
  have hw := win_pos n hn
  have hdiv : 4611686018427387904 % win n = 0 := by rcases hn with rfl | rfl | rfl | rfl <;> decide
  generalize win n = w at *
  -- the window divides 2^62, so the window-aligned part of `L + 1 < 2^62` leaves room for a whole window
  have ha := Int.mul_ediv_add_emod (L + 1) w
  have hQ := Int.mul_ediv_add_emod 4611686018427387904 w
  have r1 := Int.emod_nonneg (L + 1) (Int.ne_of_gt hw)
  have hq : (L + 1) / w < 4611686018427387904 / w :=
    Int.lt_of_mul_lt_mul_left (a := w) (by omega) (Int.le_of_lt hw)
  have hroom := Int.mul_le_mul_of_nonneg_left (Int.add_one_le_of_lt hq) (Int.le_of_lt hw)
  rw [Int.mul_add, Int.mul_one] at hroom
  split
  · omega
  · split <;> omega

theorem append_length (pn A : Int) : ((appendPN pn A).length : Int) = pnLen pn A := by
  unfold appendPN; simp only []
  rcases len_range pn A with h | h | h | h <;> simp [h]

theorem append_value (pn A : Int) :
    beValue (appendPN pn A) = pn % win (pnLen pn A) := by
  unfold appendPN; simp only []
  rcases len_range pn A with h | h | h | h <;> simp [h, beValue, win] <;> omega

theorem append_bytes (pn A : Int) : ∀ b ∈ appendPN pn A, 0 ≤ b ∧ b < 256 := by
  unfold appendPN; simp only []
  rcases len_range pn A with h | h | h | h <;> simp [h] <;> omega

/-- C23 (b) on the bytes of `appendPacketNumber`. -/
theorem wire_roundtrip (A L pn : Int) (hs : InSpace A pn) (hAL : A ≤ L) (hLpn : L < pn)
    (hg : ¬ HugeGap A pn) :
    decodePN L (beValue (appendPN pn A)) ((appendPN pn A).length : Int) = pn := by
  rw [append_length, append_value pn A]
  exact decode_sender_receiver A L pn hs hAL hLpn hg

/-- C23 outside the huge-gap region. Missing w.r.t. `FullStatement`: gaps `pn − A ≥ 2^31`. -/
theorem holds_partial (A L pn : Int) (hs : InSpace A pn) (hAL : A ≤ L) (hLpn : L < pn)
    (hg : ¬ HugeGap A pn) : HoldsAt A L pn :=
  ⟨len_window pn A hg, decode_sender_receiver A L pn hs hAL hLpn hg⟩

/-- The literal statement is false on the code as it is: `A = L = 2^32`, `pn = 2^32 + 2^31 + 2`
selects 4 bytes, the gap is not below half the window, and the decoder returns `2^31 + 2`. -/
theorem full_false : ¬ FullStatement := by
  intro h
  have := h 4294967296 4294967296 6442450946 (by unfold InSpace maxPacketNumber; omega) (by omega) (by omega)
  revert this
  decide

/-- The DESIGN witness `A = 0, pn = 2^31` violates the window clause (decoding still succeeds there). -/
theorem window_false_witness : ¬ (2 * ((2147483648 : Int) - 0) < win (pnLen 2147483648 0)) := by decide

theorem decode_false_witness :
    decodePN 4294967296 (6442450946 % win (pnLen 6442450946 4294967296)) (pnLen 6442450946 4294967296)
      = 2147483650 := by decide

theorem gen_packetNumberLength_eq (pn A : Int) :
    Gen.C23.packetNumberLength pn A = some (pnLen pn A) := by
  unfold Gen.C23.packetNumberLength pnLen
  simp only []; repeat' split
  all_goals rfl

theorem gen_appendPacketNumber_eq (pn A : Int) :
    Gen.C23.appendPacketNumber [] pn A = some (appendPN pn A) := by
  unfold Gen.C23.appendPacketNumber Gen.C23.packetNumberLengthD appendPN
  simp only [gen_packetNumberLength_eq, Option.getD_some]
  repeat' split
  all_goals simp [show ∀ a b : Int, Int.emod a b = a % b from fun _ _ => rfl]

theorem gen_maxPacketNumber_eq : Gen.C23.maxPacketNumber = maxPacketNumber := by decide

example : InSpace (-1) 0 ∧ ¬ HugeGap (-1) 0 := by decide
example : InSpace 0xabe8b3 0xac5c02 ∧ ¬ HugeGap 0xabe8b3 0xac5c02 ∧ pnLen 0xac5c02 0xabe8b3 = 2 := by decide
example : decodePN 0xa82f30ea 0x9b32 2 = 0xa82f9b32 := by decide  -- RFC 9000 A.3 example
example : appendPN 0xac5c02 0xabe8b3 = [0x5c, 0x02] := by decide
example : InSpace 4294967296 6442450946 ∧ HugeGap 4294967296 6442450946 := by decide

end NetVerif.Proofs.C23
