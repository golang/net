import NetVerif.Model.ChanSem
import NetVerif.Proofs.Lemmas.GateInv
import NetVerif.Gen.C29
import NetVerif.Proofs.Lemmas.QueueGlobal
import NetVerif.Proofs.Lemmas.MonitorSound
/-!
C29 — QUIC gates and queues provide exclusion without lost wakeups.

All theorems quantify over every configuration reachable in the small-step semantics
`Model.ChanSem` from a fresh or locked gate with ANY number of goroutines, each a most general client
that respects the usage protocol, under ANY interleaving, with contexts cancelled at any point.
-/
namespace NetVerif.Proofs.C29
open NetVerif.Model.ChanSem NetVerif.Proofs.GateInv

/-- T-tie: the DSL term regenerated from `quic/gate.go` is the modelled one (capacities, every select arm,
its order, defaults, return values). -/
theorem gen_quic_gate : NetVerif.Gen.C29.quicGate = gate := by decide

/-- `internal/gate/gate.go` has the same methods (only the constructor argument differs). -/
theorem gen_internal_gate : NetVerif.Gen.C29.internalGate = gateInternal := by decide

/-- `quic/queue.go`. -/
theorem gen_quic_queue : NetVerif.Gen.C29.quicQueue = queue := by decide

/-- The semantics only looks at the method bodies and capacities, which coincide: every
theorem below about `gate` is a theorem about `internal/gate` as well. -/
theorem internal_gate_same_semantics :
    GConfig.step gateInternal = GConfig.step gate ∧ GConfig.init gateInternal = GConfig.init gate ∧
    GConfig.initLocked gateInternal = GConfig.initLocked gate := ⟨rfl, rfl, rfl⟩

structure GInv (c : GConfig) : Prop where
  swf : SWf c.σ
  wf : ∀ g ∈ c.gs, GG.wf g
  tok : tokens c.σ + holders c.gs = 1
  /-- while nobody holds the gate, the token is in `set` iff the last unlock set the condition -/
  cond : holders c.gs = 0 → ((c.σ .set).len = 1 ↔ c.cond = true)

theorem ginv_init (b : Bool) (n : Nat) : GInv (GConfig.init gate b n) := by
  constructor
  · simp [SWf, GConfig.init, gateStore, gate]
  · intro g hg
    rw [(List.mem_replicate.mp hg).2]
    exact Or.inl ⟨rfl, rfl⟩
  · simp only [GConfig.init, holders_replicate]; cases b <;> rfl
  · intro _; cases b <;> simp [GConfig.init, gateStore]

theorem ginv_initLocked (n : Nat) : GInv (GConfig.initLocked gate n) := by
  constructor
  · simp [SWf, GConfig.initLocked, gateStore, gate]
  · intro g hg
    rcases List.mem_cons.mp hg with rfl | hg
    · exact Or.inl ⟨rfl, rfl⟩
    · rw [(List.mem_replicate.mp hg).2]
      exact Or.inl ⟨rfl, rfl⟩
  · show _ + (1 + holders (List.replicate n {})) = 1
    rw [holders_replicate]; rfl
  · intro h
    have : 1 + holders (List.replicate n {}) = 0 := h
    omega

theorem gstep_cases {c c' : GConfig} {i : Nat} {a : GAct} (h : c.step gate i a = some c') :
    ∃ g σ' g', c.gs[i]? = some g ∧ g.step gate c.σ a = some (σ', g') ∧
      c' = { σ := σ', gs := c.gs.set i g',
             cond := if g.meth.isUnlock && !g.cont.isEmpty && g'.cont.isEmpty then g.arg else c.cond } := by
  simp only [GConfig.step] at h
  split at h
  · cases h
  · rename_i hg
    split at h
    · cases h
    · rename_i hs
      cases h
      exact ⟨_, _, _, hg, hs, rfl⟩

theorem ginv_step {c c' : GConfig} {i : Nat} {a : GAct} (hI : GInv c)
    (h : c.step gate i a = some c') : GInv c' := by
  obtain ⟨g, σ', g', hg, hs, rfl⟩ := gstep_cases h
  have F := step_local hI.swf (hI.wf g (List.mem_of_getElem? hg)) hs
  have key := tok_cond_step hg hI.tok hI.cond F.cons
    (cond' := if g.meth.isUnlock && !g.cont.isEmpty && g'.cont.isEmpty then g.arg else c.cond)
    (fun hh hh' => ⟨F.frame (hh'.trans hh.symm),
      if_neg fun hu => by rw [(F.completes_unlock.mp hu).1] at hh; cases hh⟩)
    (fun hh hh' => by
      rw [if_pos (F.completes_unlock.mpr ⟨hh, hh'⟩)]; exact (F.release hh hh').2.2.2.2.1)
  refine ⟨F.swf, fun x hx => ?_, key.1, key.2⟩
  rcases List.mem_or_eq_of_mem_set hx with hx | rfl
  · exact hI.wf x hx
  · exact F.wf

theorem gate_invariant {c : GConfig} (h : GReachable gate c) : GInv c := by
  induction h with
  | init b n => exact ginv_init b n
  | initLocked n => exact ginv_initLocked n
  | step _ hs ih => exact ginv_step ih hs

theorem gate_token_conservation {c : GConfig} (h : GReachable gate c) :
    (c.σ .set).len + (c.σ .unset).len + holders c.gs = 1 := (gate_invariant h).tok

theorem gate_mutual_exclusion {c : GConfig} (h : GReachable gate c) : holders c.gs ≤ 1 := by
  have := (gate_invariant h).tok; omega

theorem gate_mutual_exclusion_idx {c : GConfig} (h : GReachable gate c) {i j : Nat} {g1 g2 : GG}
    (h1 : c.gs[i]? = some g1) (h2 : c.gs[j]? = some g2)
    (hh1 : g1.holding = true) (hh2 : g2.holding = true) : i = j :=
  holders_unique (gate_mutual_exclusion h) h1 h2 hh1 hh2

/-- Results are truthful: between calls a goroutine believes it owns the gate (its last call
was `lock`, a `lockIfSet` that returned true, or a `waitAndLock` that returned nil, and it has
not unlocked since) iff it actually holds the token. -/
theorem gate_owner_iff_holder {c : GConfig} (h : GReachable gate c) {i : Nat} {g : GG}
    (hg : c.gs[i]? = some g) (hidle : g.cont = []) : g.owns = g.holding :=
  wf_idle ((gate_invariant h).wf g (List.mem_of_getElem? hg)) hidle

theorem gate_owners_exclusive {c : GConfig} (h : GReachable gate c) {i j : Nat} {g1 g2 : GG}
    (h1 : c.gs[i]? = some g1) (h2 : c.gs[j]? = some g2)
    (hi1 : g1.cont = []) (hi2 : g2.cont = [])
    (ho1 : g1.owns = true) (ho2 : g2.owns = true) : i = j :=
  gate_mutual_exclusion_idx h h1 h2 (by rw [← gate_owner_iff_holder h h1 hi1]; exact ho1)
    (by rw [← gate_owner_iff_holder h h2 hi2]; exact ho2)

theorem token_in {c : GConfig} (hr : GReachable gate c) :
    (0 < (c.σ .set).len → holders c.gs = 0 ∧ c.cond = true) ∧
    (0 < (c.σ .unset).len → holders c.gs = 0 ∧ c.cond = false) := by
  have hI := gate_invariant hr
  have htok := gate_token_conservation hr
  refine ⟨fun h => ?_, fun h => ?_⟩
  · have h0 : holders c.gs = 0 := by omega
    exact ⟨h0, (hI.cond h0).mp (by omega)⟩
  · have h0 : holders c.gs = 0 := by omega
    refine ⟨h0, Bool.eq_false_iff.mpr fun hc => ?_⟩
    have := (hI.cond h0).mpr hc
    omega

theorem gstep_facts {c c' : GConfig} {i : Nat} {a : GAct} (hr : GReachable gate c)
    (h : c.step gate i a = some c') :
    ∃ g g', c.gs[i]? = some g ∧ c'.gs[i]? = some g' ∧ StepFacts c.σ g c'.σ g' ∧
      c'.gs = c.gs.set i g' ∧
      c'.cond = (if g.meth.isUnlock && !g.cont.isEmpty && g'.cont.isEmpty then g.arg else c.cond) := by
  obtain ⟨g, σ', g', hg, hs, rfl⟩ := gstep_cases h
  have hI := gate_invariant hr
  have F := step_local hI.swf (hI.wf g (List.mem_of_getElem? hg)) hs
  exact ⟨g, g', hg, by simp [(List.getElem?_eq_some_iff.mp hg).1], F, rfl, rfl⟩

theorem gstep_at {c c' : GConfig} {i : Nat} {a : GAct} (hr : GReachable gate c)
    (h : c.step gate i a = some c') {g g' : GG} (hg : c.gs[i]? = some g) (hg' : c'.gs[i]? = some g') :
    StepFacts c.σ g c'.σ g' ∧ c'.gs = c.gs.set i g' ∧
      c'.cond = (if g.meth.isUnlock && !g.cont.isEmpty && g'.cont.isEmpty then g.arg else c.cond) := by
  obtain ⟨g0, g0', hg0, hg0', F⟩ := gstep_facts hr h
  cases hg.symm.trans hg0
  cases hg'.symm.trans hg0'
  exact F

/-- **`waitAndLock` returns only once the condition is set, or its context is done**: nil means it
received the token from `set`, which is there only if nobody held the gate and the last unlock had set the
condition; an error means the context had been cancelled and the gate was not acquired. -/
theorem waitAndLock_returns_only_when_set_or_ctx_done {c c' : GConfig} {i : Nat} {a : GAct}
    (hr : GReachable gate c) (h : c.step gate i a = some c') {g g' : GG}
    (hg : c.gs[i]? = some g) (hg' : c'.gs[i]? = some g')
    (hm : g.meth = .waitAndLock) (hrun : g.cont ≠ []) (hdone : g'.cont = []) :
    (g'.last = some .nil ∧ g'.holding = true ∧ g'.owns = true ∧ g'.took = some .set ∧
       holders c.gs = 0 ∧ c.cond = true) ∨
    (g'.last = some .err ∧ g.ctx = true ∧ g'.holding = false ∧ g'.owns = false ∧ c'.σ = c.σ) := by
  have F := (gstep_at hr h hg hg').1
  have hown := wf_idle F.wf hdone
  rcases F.wait hm hrun hdone with ⟨h1, h2, h3, h4⟩ | ⟨h1, h2, h3, h4⟩
  · exact Or.inl ⟨h1, h2, by rw [hown, h2], h3, (token_in hr).1 h4⟩
  · exact Or.inr ⟨h1, h2, h3, by rw [hown, h3], h4⟩

theorem lock_reports_condition {c c' : GConfig} {i : Nat} {a : GAct}
    (hr : GReachable gate c) (h : c.step gate i a = some c') {g g' : GG}
    (hg : c.gs[i]? = some g) (hg' : c'.gs[i]? = some g')
    (hm : g.meth = .lock) (hrun : g.cont ≠ []) (hdone : g'.cont = []) :
    g'.holding = true ∧ holders c.gs = 0 ∧ g'.last = some (if c.cond then .tt else .ff) := by
  have F := (gstep_at hr h hg hg').1
  obtain ⟨hnh, hh'⟩ := F.lockDone hm hrun hdone
  obtain ⟨_, _, _, ⟨_, hl, hl2⟩ | ⟨_, hl, _, hl2⟩⟩ := F.acquire hnh hh'
  · obtain ⟨h0, hc⟩ := (token_in hr).1 hl
    exact ⟨hh', h0, by rw [hc, hl2 hm]; rfl⟩
  · obtain ⟨h0, hc⟩ := (token_in hr).2 hl
    exact ⟨hh', h0, by rw [hc, hl2]; rfl⟩

theorem lockIfSet_acquires_iff_set {c c' : GConfig} {i : Nat} {a : GAct}
    (hr : GReachable gate c) (h : c.step gate i a = some c') {g g' : GG}
    (hg : c.gs[i]? = some g) (hg' : c'.gs[i]? = some g')
    (hm : g.meth = .lockIfSet) (hrun : g.cont ≠ []) (hdone : g'.cont = []) :
    (g'.last = some .tt ∧ g'.holding = true ∧ holders c.gs = 0 ∧ c.cond = true) ∨
    (g'.last = some .ff ∧ g'.holding = false ∧ (c.σ .set).len = 0 ∧ c'.σ = c.σ) := by
  have F := (gstep_at hr h hg hg').1
  rcases F.lockIfSet hm hrun hdone with ⟨h1, h2, _, h4⟩ | ⟨h1, h2, h3, h4⟩
  · exact Or.inl ⟨h1, h2, (token_in hr).1 h4⟩
  · exact Or.inr ⟨h1, h3, h2, h4⟩

theorem free_and_set_iff_token {c : GConfig} (hr : GReachable gate c) :
    (holders c.gs = 0 ∧ c.cond = true) ↔ (c.σ .set).len = 1 := by
  constructor
  · rintro ⟨h0, hc⟩; exact ((gate_invariant hr).cond h0).mpr hc
  · intro h1; exact (token_in hr).1 (by omega)

theorem gstep_of {c : GConfig} {i : Nat} {g g' : GG} {a : GAct} {σ' : Store GCh}
    (hg : c.gs[i]? = some g) (hs : g.step gate c.σ a = some (σ', g')) :
    ∃ c', c.step gate i a = some c' ∧ c'.gs[i]? = some g' := by
  simp only [GConfig.step, hg, hs]
  exact ⟨_, rfl, by simp [(List.getElem?_eq_some_iff.mp hg).1]⟩

/-- **No lost wakeup**, liveness as enabledness: wherever in `waitAndLock` a goroutine is blocked
(before or after the first select), its receive from `set` can fire and returns nil with the gate acquired. -/
theorem no_lost_wakeup {c : GConfig} (hr : GReachable gate c)
    (hfree : holders c.gs = 0) (hset : c.cond = true)
    {i : Nat} {g : GG} (hg : c.gs[i]? = some g) (hm : g.meth = .waitAndLock) (hrun : g.cont ≠ []) :
    ∃ c' g', c.step gate i (.run (.arm 0)) = some c' ∧ c'.gs[i]? = some g' ∧
      g'.cont = [] ∧ g'.last = some .nil ∧ g'.holding = true ∧ g'.owns = true := by
  have hI := gate_invariant hr
  have h1 := (free_and_set_iff_token hr).mp ⟨hfree, hset⟩
  obtain ⟨c', h2, h3⟩ := gstep_of hg (recv_enabled hI.swf (hI.wf g (List.mem_of_getElem? hg)) hrun
    (ch := .set) (by rw [hm]; rfl) (by omega))
  exact ⟨c', _, h2, h3, rfl, rfl, rfl, rfl⟩

/-- The same for a blocked `lock`. -/
theorem lock_enabled_when_free {c : GConfig} (hr : GReachable gate c) (hfree : holders c.gs = 0)
    {i : Nat} {g : GG} (hg : c.gs[i]? = some g) (hm : g.meth = .lock) (hrun : g.cont ≠ []) :
    ∃ k c' g', c.step gate i (.run (.arm k)) = some c' ∧ c'.gs[i]? = some g' ∧
      g'.cont = [] ∧ g'.holding = true ∧ g'.owns = true := by
  have hI := gate_invariant hr
  have htok := hI.tok
  simp only [tokens, hfree] at htok
  -- one of the two channels holds the token, and `lock` receives from either
  obtain ⟨ch, v, hv, hpos⟩ : ∃ ch v, lockRes .lock ch = some v ∧ 0 < (c.σ ch).len := by
    by_cases h1 : 0 < (c.σ .set).len
    · exact ⟨.set, _, rfl, h1⟩
    · exact ⟨.unset, _, rfl, by omega⟩
  obtain ⟨c', h2, h3⟩ := gstep_of hg
    (recv_enabled hI.swf (hI.wf g (List.mem_of_getElem? hg)) hrun (hm ▸ hv) hpos)
  exact ⟨_, c', _, h2, h3, rfl, rfl, rfl⟩

/-- The other half of no lost wakeup: the token leaves `set` only by waking someone. -/
theorem set_token_stable {c c' : GConfig} {i : Nat} {a : GAct}
    (hr : GReachable gate c) (h : c.step gate i a = some c') (h1 : (c.σ .set).len = 1) :
    ((c'.σ .set).len = 1 ∧ c'.cond = c.cond) ∨
    (∃ g', c'.gs[i]? = some g' ∧ g'.holding = true ∧ g'.owns = true ∧ g'.took = some .set) := by
  obtain ⟨g, g', hg, hg', F, _, hcond⟩ := gstep_facts hr h
  have hI := gate_invariant hr
  have htok := gate_token_conservation hr
  have h0 : holders c.gs = 0 := by omega
  have hnh : g.holding = false := holders_zero h0 g (List.mem_of_getElem? hg)
  cases hh' : g'.holding
  · left
    rw [F.frame (hh'.trans hnh.symm), hcond,
      if_neg (fun hu => by rw [(F.completes_unlock.mp hu).1] at hnh; cases hnh)]
    exact ⟨h1, rfl⟩
  · right
    obtain ⟨_, _, ho, hk⟩ := F.acquire hnh hh'
    refine ⟨g', hg', hh', ho, ?_⟩
    rcases hk with ⟨ht, _⟩ | ⟨_, hl, _⟩
    · exact ht
    · omega

theorem unlock_never_blocks {c : GConfig} (hr : GReachable gate c)
    {i : Nat} {g : GG} (hg : c.gs[i]? = some g) (hm : g.meth = .unlock) (hrun : g.cont ≠ []) :
    ∃ c', c.step gate i (.run (.arm 0)) = some c' := by
  have hI := gate_invariant hr
  have htok := gate_token_conservation hr
  obtain ⟨hh, hc⟩ := (wf_running (hI.wf g (List.mem_of_getElem? hg)) hrun).1 hm
  -- the caller holds the token, so both channels are empty and the send is enabled
  have := holders_pos hg hh
  have hz : (c.σ (if g.arg then GCh.set else .unset)).len = 0 := by
    cases g.arg
    · show (c.σ .unset).len = 0
      omega
    · show (c.σ .set).len = 0
      omega
  obtain ⟨c', h1, -⟩ := gstep_of hg
    ((run_send hI.swf g (hc.trans (unlock_cont g.arg)) (k := 0) rfl).trans (if_pos hz))
  exact ⟨c', h1⟩

theorem unlock_sets_condition {c c' : GConfig} {i : Nat} {a : GAct}
    (hr : GReachable gate c) (h : c.step gate i a = some c') {g g' : GG}
    (hg : c.gs[i]? = some g) (hg' : c'.gs[i]? = some g')
    (hm : g.meth = .unlock) (hrun : g.cont ≠ []) (hdone : g'.cont = []) :
    holders c'.gs = 0 ∧ c'.cond = g.arg ∧ ((c'.σ .set).len = 1 ↔ g.arg = true) ∧ g'.owns = false := by
  obtain ⟨F, hgs, hcond⟩ := gstep_at hr h hg hg'
  have hI := gate_invariant hr
  have hI' := gate_invariant (GReachable.step hr h)
  obtain ⟨hh, hh'⟩ := F.unl hm hrun hdone
  obtain ⟨_, _, _, ho, _, _⟩ := F.release hh hh'
  have hset := holders_set c.gs i g g' hg
  have := holders_pos hg hh
  have htok := hI.tok
  have h0 : holders c'.gs = 0 := by
    rw [hgs]; simp [hh, hh', b2n] at hset; omega
  have hc : c'.cond = g.arg := by rw [hcond, if_pos (F.completes_unlock.mpr ⟨hh, hh'⟩)]
  refine ⟨h0, hc, ?_, ho⟩
  rw [← hc]; exact hI'.cond h0

/-!
Configurations of the queue: the gate's channels, the shared fields `err`/`q`, ghost histories
`accepted`/`delivered`, and any number of goroutines each calling `put` / `get` / `close` in any
order (`QReachable queue gate`).  Goroutines interleave at every channel operation and between
any two statements. -/

open NetVerif.Proofs.QueueInv

theorem queue_invariant_all {c : QConfig} (h : QReachable queue gate c) : QInv c := queue_invariant h

theorem queue_mutual_exclusion {c : QConfig} (h : QReachable queue gate c) : qholders c.gs ≤ 1 := by
  have := (queue_invariant h).tok; omega

/-- The shared fields are only ever touched by the goroutine that holds the gate: the queue methods
are free of data races, which is what makes treating each data statement as one step sound. -/
theorem queue_data_access_exclusive {c c' : QConfig} {i : Nat} {a : QAct}
    (h : QReachable queue gate c) (hs : c.step queue gate i a = some c') (hne : c'.sh ≠ c.sh) :
    ∃ qg, c.gs[i]? = some qg ∧ qg.g.holding = true ∧ qg.g.cont = [] ∧ qholders c.gs = 1 := by
  have hI := queue_invariant_know h
  obtain ⟨qg, σ', sh', qg', hg, rfl, S⟩ := qstep_at hI hs
  obtain ⟨hh, hc, _, _⟩ := S.facts.excl hne
  refine ⟨qg, hg, hh, hc, ?_⟩
  have h1 := holders_pos (gs := c.gs.map (·.g)) (i := i) (g := qg.g) (by simp [hg]) hh
  have := hI.inv.tok
  simp only [qholders] at *
  omega

/-- The ledger equation of the ghost histories.  By itself it says only that `delivered` is a prefix of
`accepted`; exactly once and in order need the shape of a step as well (`queue_items_before_close`, 2). -/
theorem queue_fifo {c : QConfig} (h : QReachable queue gate c) :
    c.sh.accepted = c.sh.delivered ++ c.sh.q := (queue_invariant h).fifo

theorem queue_delivered_is_prefix_of_accepted {c : QConfig} (h : QReachable queue gate c) :
    c.sh.delivered <+: c.sh.accepted := ⟨c.sh.q, (queue_fifo h).symm⟩

/-- `queue.unlock` is `q.gate.unlock(q.err != nil || len(q.q) > 0)`. -/
theorem queue_condition_recomputed {c : QConfig} (h : QReachable queue gate c)
    (hfree : qholders c.gs = 0) :
    (c.σ .set).len = 1 ↔ (c.sh.err = true ∨ c.sh.q ≠ []) := by
  rw [(queue_invariant h).cond hfree]
  simp [condVal]

/-- **A blocked get returns as soon as an item or close arrives; close wakes every blocked
getter** (enabledness, as `no_lost_wakeup`).  Every: after `close`, `err` stays set
(`queue_close_permanent`), so each woken getter unlocks with the condition set again and the
token returns to `set` for the next one. -/
theorem queue_blocked_get_wakes {c : QConfig} (h : QReachable queue gate c)
    (hfree : qholders c.gs = 0) (hcond : c.sh.err = true ∨ c.sh.q ≠ [])
    {i : Nat} {qg : QG} (hg : c.gs[i]? = some qg) (hm : qg.g.meth = .waitAndLock)
    (hrun : qg.g.cont ≠ []) :
    ∃ c' qg', c.step queue gate i (.gate (.run (.arm 0))) = some c' ∧ c'.gs[i]? = some qg' ∧
      qg'.g.cont = [] ∧ qg'.g.last = some .nil ∧ qg'.g.holding = true := by
  have hI := queue_invariant h
  have h1 := (queue_condition_recomputed h hfree).mpr hcond
  obtain ⟨σ', g', hst, hc, hl, hh⟩ : ∃ σ' g', qg.g.step gate c.σ (.run (.arm 0)) = some (σ', g') ∧
      g'.cont = [] ∧ g'.last = some .nil ∧ g'.holding = true :=
    ⟨_, _, recv_enabled hI.swf (hI.wf qg (List.mem_of_getElem? hg)).1 hrun (ch := .set)
      (by rw [hm]; rfl) (by omega), rfl, rfl, rfl⟩
  have hlt : i < c.gs.length := (List.getElem?_eq_some_iff.mp hg).1
  refine ⟨{ σ := σ', sh := c.sh, gs := c.gs.set i { qg with g := g' } }, { qg with g := g' }, ?_, ?_, hc, hl, hh⟩
  · simp [QConfig.step, hg, QG.step, hst]
  · simp [hlt]

theorem queue_close_permanent {c c' : QConfig} {i : Nat} {a : QAct}
    (h : QReachable queue gate c) (hs : c.step queue gate i a = some c') (hcl : c.sh.err = true) :
    c'.sh.err = true := by
  rw [(qinvk_step (queue_invariant_know h) hs).2.1 hcl]; exact hcl

def queue_get_never_panics_Statement : Prop :=
  ∀ c, QReachable queue gate c → ∀ qg ∈ c.gs, qg.panicked = false

/-- **`get` never pops an empty queue**: whenever the dequeue statement runs, `len(q.q) > 0`.  The proof
is the field `nopanic` of `QK` (Lemmas/QueueInv), which every goroutine carries: as owner it knows that
`err`/`q` satisfy the precondition `wp` of its continuation up to the next gate call.  That knowledge
starts when `waitAndLock` acquires from `set`, where the token is only if the queue is closed or non-empty
(`QInv.cond`), lasts because only the holder changes the fields (`QFacts.excl`), and `get` has checked
`q.err == nil` before it pops. -/
theorem queue_get_never_panics : queue_get_never_panics_Statement := by
  intro c h qg hqg
  exact ((queue_invariant_know h).know qg hqg).nopanic

def queue_put_after_close_rejected_Statement : Prop :=
  ∀ c c' i a, QReachable queue gate c → c.step queue gate i a = some c' → c.sh.err = true →
    c'.sh.accepted = c.sh.accepted

theorem queue_put_after_close_rejected : queue_put_after_close_rejected_Statement := by
  intro c c' i a h hs he
  rw [(qinvk_step (queue_invariant_know h) hs).2.1 he]

/-- **What holds for "every item put before it was closed is delivered exactly once, in FIFO
order"** (C29, queue clause), at every point of every interleaving:
1. accepted = delivered ++ queued;
2. a step changes the shared fields in exactly one of three ways: it sets `err`; or — only while
   the queue is OPEN — it appends one item at the back (recording it as accepted) or removes the
   FRONT item (recording it as delivered).  So the k-th delivered item is the k-th accepted one:
   exactly once, in FIFO order, nothing skipped, as long as close does not intervene;
3. once the queue is closed NOTHING changes any more: no item is accepted and none is
   delivered, i.e. the queued remainder `accepted − delivered` is discarded, as documented on
   `queue.close` ("causing pending and future pop operations to return immediately with err"). -/
theorem queue_items_before_close {c : QConfig} (h : QReachable queue gate c) :
    c.sh.accepted = c.sh.delivered ++ c.sh.q ∧
    (∀ c' i a, c.step queue gate i a = some c' →
      c'.sh = c.sh ∨ c'.sh = { c.sh with err := true } ∨
      (c.sh.err = false ∧ ∃ x, c'.sh = { c.sh with q := c.sh.q ++ [x], accepted := c.sh.accepted ++ [x] }) ∨
      (c.sh.err = false ∧ ∃ x r, c.sh.q = x :: r ∧
        c'.sh = { c.sh with q := r, delivered := c.sh.delivered ++ [x] })) ∧
    (c.sh.err = true → ∀ c' i a, c.step queue gate i a = some c' → c'.sh = c.sh) := by
  refine ⟨queue_fifo h, ?_, ?_⟩
  · intro c' i a hs
    obtain ⟨_, hfrozen, hkind⟩ := qinvk_step (queue_invariant_know h) hs
    cases he : c.sh.err
    · exact hkind.imp id (Or.imp id (Or.imp (fun h1 => ⟨rfl, h1⟩) (fun h1 => ⟨rfl, h1⟩)))
    · exact Or.inl (hfrozen he)
  · intro he c' i a hs
    exact (qinvk_step (queue_invariant_know h) hs).2.1 he

/-- The literal strongest reading — nothing is left in the queue once it is closed, i.e. every
accepted item is delivered even if `close` intervenes — is what the code deliberately does NOT
do. -/
def queue_items_survive_close_Statement : Prop :=
  ∀ c, QReachable queue gate c → c.sh.err = true → c.sh.q = []

open NetVerif.Model.ChanSemMonitor NetVerif.Proofs.MonitorSound in
theorem gate_monitor_sound (b : Bool) (es : List GEv) (m' : GMon)
    (h : ({ holder := none, cond := b } : GMon).run es = .ok m') :
    ∀ pre suf, es = pre ++ suf → (inside [] pre).length ≤ 1 := by
  intro pre suf he
  subst he
  obtain ⟨m1, h1, -⟩ := run_prefix gmon_run_cons gmon_step_inside (pre0 := []) pre rfl h
  rw [List.nil_append] at h1
  rw [h1]
  cases m1.holder <;> simp

open NetVerif.Model.ChanSemMonitor NetVerif.Proofs.MonitorSound in
theorem queue_monitor_no_duplicates (es : List QEv) (m' : QMon)
    (h : ({} : QMon).run es = .ok m') : (deliveredOf es).Nodup := by
  rw [← List.append_nil es] at h
  obtain ⟨_, ⟨-, h1⟩, -⟩ :=
    run_prefix qmon_run_cons qmon_step_nodup (pre0 := []) es ⟨qrep_init, List.nodup_nil⟩ h
  exact h1

def runQ (c : QConfig) : List (Nat × QAct) → Option QConfig
  | [] => some c
  | (i, a) :: r => match c.step queue gate i a with
    | some c' => runQ c' r
    | none => none

theorem reachable_runQ {c c' : QConfig} (steps : List (Nat × QAct)) (h : QReachable queue gate c)
    (hr : runQ c steps = some c') : QReachable queue gate c' := by
  induction steps generalizing c with
  | nil => simp [runQ] at hr; subst hr; exact h
  | cons s r ih =>
    obtain ⟨i, a⟩ := s
    simp only [runQ] at hr
    split at hr
    · rename_i c1 hs; exact ih (QReachable.step h hs) hr
    · simp at hr

/-- Goroutine 1 calls `get` and blocks in `waitAndLock` (default arm taken: the queue is empty);
goroutine 0 runs a whole `put 7` (lock from `unset`, defer, check, append, return, deferred unlock
with the recomputed condition = true).  Afterwards the gate is free, the token is in `set`, the
item is queued, and the blocked getter is exactly in the situation of `queue_blocked_get_wakes`. -/
def demoQ : List (Nat × QAct) :=
  [(1, .call .get 0), (1, .stmt), (1, .gate (.run .dflt)),
   (0, .call .put 7), (0, .stmt), (0, .gate (.run (.arm 1))), (0, .stmt), (0, .stmt), (0, .stmt),
   (0, .stmt), (0, .stmt), (0, .gate (.run (.arm 0))), (0, .stmt)]

example : ∃ c, QReachable queue gate c ∧ qholders c.gs = 0 ∧ c.sh.q = [7] ∧ c.sh.accepted = [7] ∧
    (c.σ .set).len = 1 ∧
    ∃ qg, c.gs[1]? = some qg ∧ qg.g.meth = .waitAndLock ∧ qg.g.cont ≠ [] := by
  have hs : (runQ (QConfig.init gate 2) demoQ).isSome = true := by rfl
  refine ⟨(runQ (QConfig.init gate 2) demoQ).get hs, ?_, by rfl, by rfl, by rfl, by rfl, ?_⟩
  · exact reachable_runQ demoQ (QReachable.init 2) (Option.some_get hs).symm
  · exact ⟨_, rfl, rfl, by decide⟩

/-- One goroutine runs `put 7` to completion and then `close` to completion. -/
def demoClose : List (Nat × QAct) :=
  [(0, .call .put 7), (0, .stmt), (0, .gate (.run (.arm 1))), (0, .stmt), (0, .stmt), (0, .stmt),
   (0, .stmt), (0, .stmt), (0, .gate (.run (.arm 0))), (0, .stmt),
   (0, .call .close 0), (0, .stmt), (0, .gate (.run (.arm 0))), (0, .stmt), (0, .stmt), (0, .stmt),
   (0, .stmt), (0, .gate (.run (.arm 0))), (0, .stmt)]

/-- Witness that the literal reading is false: after `put 7; close` the queue is closed and the
item 7 is still queued; by `queue_items_before_close` (3) it will never be delivered. -/
theorem queue_items_survive_close_full_false : ¬ queue_items_survive_close_Statement := by
  intro hS
  have hs : (runQ (QConfig.init gate 1) demoClose).isSome = true := by rfl
  have hr := reachable_runQ demoClose (QReachable.init 1) (Option.some_get hs).symm
  have := hS _ hr (by rfl)
  have hq : ((runQ (QConfig.init gate 1) demoClose).get hs).sh.q = [7] := by rfl
  rw [hq] at this
  cases this

end NetVerif.Proofs.C29
