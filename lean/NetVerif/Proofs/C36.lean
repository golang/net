import NetVerif.Proofs.Lemmas.DnsBuilder
/-!
C36 — DNS messages round-trip through Pack/Unpack and the Builder: message level.
For every well-formed message `m` (`WFMessage`: canonical names, integer fields within their Go types,
4/16-byte addresses, unknown bodies under types without a decoder; every record type of the package),
with and without compression (`Message.Pack`, Builder with and without `EnableCompression`):
`Unpack (pack m) = m` up to two fields of each record header (`normMessage`): `Type` comes back as the
body's type, and `Length` as some number, one per record; that it is the packed body's length is not stated.
With compression this rests on `Name.pack` asking `compressionDepth` before it emits a pointer (repair
`b15f534` of finding `ptr-depth`); `deepMessage` is an input on which it failed before that.
-/
namespace NetVerif.Proofs.C36
open NetVerif NetVerif.Model.Dns NetVerif.Proofs.Dns NetVerif.Proofs.DnsMsg NetVerif.Proofs.DnsBuilder

/-- C36 at message level, with compression (`Message.Pack`, Builder + `EnableCompression`: `some []`)
and without (`none`). -/
def MessageStatement : Prop :=
  ∀ (m : Message) (comp : Option CompMap) (bytes : Bytes), (comp = none ∨ comp = some []) →
    WFMessage m → packMessageWith m comp = .ok bytes →
    ∃ l1 l2 l3, l1.length = m.answers.length ∧ l2.length = m.authorities.length ∧
      l3.length = m.additionals.length ∧ unpackMessage bytes = .ok (normMessage m l1 l2 l3)

theorem message_holds : MessageStatement :=
  fun m comp bytes hcomp hwf hp => packMessage_spec m comp bytes hcomp hwf hp

/-- `MessageStatement` for `Message.Pack`: `Unpack (Pack m) = m`, up to `Type` and `Length` as above. -/
theorem message_roundtrip (m : Message) (bytes : Bytes) (hwf : WFMessage m)
    (hp : packMessage m = .ok bytes) :
    ∃ l1 l2 l3, l1.length = m.answers.length ∧ l2.length = m.authorities.length ∧
      l3.length = m.additionals.length ∧ unpackMessage bytes = .ok (normMessage m l1 l2 l3) :=
  packMessage_spec m (some []) bytes (Or.inr rfl) hwf hp

/-- `MessageStatement` for the packer of the Builder without `EnableCompression`. -/
theorem message_roundtrip_nocomp (m : Message) (bytes : Bytes) (hwf : WFMessage m)
    (hp : packMessageWith m none = .ok bytes) :
    ∃ l1 l2 l3, l1.length = m.answers.length ∧ l2.length = m.authorities.length ∧
      l3.length = m.additionals.length ∧ unpackMessage bytes = .ok (normMessage m l1 l2 l3) :=
  packMessage_spec m none bytes (Or.inl rfl) hwf hp

/-- `message_roundtrip_nocomp` and `message_roundtrip` side by side, without their facts on the lengths of
the lists (the `Length` header fields count packed bytes and may differ between the two). -/
theorem builder_compression_same_message (m : Message) (b0 b1 : Bytes) (hwf : WFMessage m)
    (h0 : packMessageWith m none = .ok b0) (h1 : packMessageWith m (some []) = .ok b1) :
    ∃ l1 l2 l3 k1 k2 k3, unpackMessage b0 = .ok (normMessage m l1 l2 l3) ∧
      unpackMessage b1 = .ok (normMessage m k1 k2 k3) := by
  rcases message_roundtrip_nocomp m b0 hwf h0 with ⟨l1, l2, l3, _, _, _, hu0⟩
  rcases message_roundtrip m b1 hwf h1 with ⟨k1, k2, k3, _, _, _, hu1⟩
  exact ⟨l1, l2, l3, k1, k2, k3, hu0, hu1⟩

/-- `deepNames` (finding `ptr-depth`) as the twelve questions of a message. -/
def deepMessage : Message :=
  { hdr := { id := 0, response := false, opCode := 0, authoritative := false, truncated := false,
             recursionDesired := false, recursionAvailable := false, authenticData := false,
             checkingDisabled := false, rCode := 0 },
    questions := deepNames.map (fun p => { name := p.2, typ := 1, cls := 1 }),
    answers := [], authorities := [], additionals := [] }

theorem deepMessage_wf : WFMessage deepMessage := by
  refine ⟨by decide, by decide, by decide, ?_,
    by simp [deepMessage], by simp [deepMessage], by simp [deepMessage]⟩
  intro q hq
  simp only [deepMessage, List.mem_map] at hq
  rcases hq with ⟨p, hp, rfl⟩
  exact ⟨deepNames_canonical p hp, by simp, by simp⟩

theorem normMessage_noRecords {m : Message} (l1 l2 l3 : List Nat) (h1 : m.answers = []) (h2 : m.authorities = [])
    (h3 : m.additionals = []) : normMessage m l1 l2 l3 = m := by
  cases m
  simp only at h1 h2 h3
  simp [normMessage, h1, h2, h3]

/-- Only that packing succeeds is evaluated; that the bytes unpack to the message is `message_holds`. -/
theorem deepMessage_packs (comp : Option CompMap) (hc : comp = none ∨ comp = some [])
    (hp : (packMessageWith deepMessage comp).toBool = true) :
    ∃ bytes, packMessageWith deepMessage comp = .ok bytes ∧ unpackMessage bytes = .ok deepMessage := by
  cases h : packMessageWith deepMessage comp with
  | error e => rw [h] at hp; cases hp
  | ok bytes =>
    rcases message_holds deepMessage comp bytes hc deepMessage_wf h with ⟨l1, l2, l3, _, _, _, hu⟩
    exact ⟨bytes, rfl, by rw [hu, normMessage_noRecords l1 l2 l3 rfl rfl rfl]⟩

theorem deepMessage_ok :
    ∃ bytes, packMessage deepMessage = .ok bytes ∧ unpackMessage bytes = .ok deepMessage :=
  deepMessage_packs (some []) (.inr rfl) (by decide +kernel)

theorem deepMessage_nocomp_ok :
    ∃ bytes, packMessageWith deepMessage none = .ok bytes ∧ unpackMessage bytes = .ok deepMessage :=
  deepMessage_packs none (.inl rfl) (by decide +kernel)

example : ∃ bytes, packMessage deepMessage = .ok bytes := ⟨_, deepMessage_ok.choose_spec.1⟩

theorem u16_mod (x : Nat) : u16 (x % 65536) = u16 x := by
  simp only [u16]
  rw [show (65536 : Nat) = 256 * 256 from rfl, Nat.mod_mul_right_div_self, Nat.mod_mod, Nat.mod_mul_right_mod]

/-- "Building the same message with a Builder": for every accepted call sequence (every call
returned nil; `EnableCompression`, if at all, before any other call: it is part of `startBuilder`
and banned from `ops`; records well formed) the bytes `Finish` returns are exactly the bytes
`Message.Pack` (with compression) resp. `AppendPack` without the map (without) produces for the
message the calls describe. -/
theorem builder_bytes_eq_pack (h : Header) (compress : Bool) (ops : List BOp)
    (hops : ∀ op ∈ ops, op ≠ .enableCompression ∧ WFOp op)
    (hacc : ∀ e ∈ ((startBuilder h compress).run ops).2, e = none) :
    packMessageWith (describe h ops) (startComp compress) =
      .ok ((startBuilder h compress).run ops).1.bytes := by
  have hfin := run_start_inv h compress ops hops hacc
  obtain ⟨hid, hbits, ⟨-, hnq, hna, hnu, hnr, cnt⟩, -, wf, B, hmsg, hpk⟩ := hfin
  generalize describe h ops = m at *
  generalize ((startBuilder h compress).run ops).1 = b at *
  have hH : (packHeader m.hdr m.questions.length m.answers.length m.authorities.length
      m.additionals.length).length = 12 := by simp [packHeader, u16]
  have hs : SameFrom 12 zeros12 (packHeader m.hdr m.questions.length m.answers.length m.authorities.length
      m.additionals.length) := by
    refine ⟨by simp [zeros12, hH], ?_⟩
    rw [List.drop_eq_nil_of_le (by simp [zeros12]), List.drop_eq_nil_of_le (by omega)]
  have hci : CompInvOpt 12 zeros12 (startComp compress) := by
    cases compress
    · trivial
    · exact compInv_nil 12 _
  have hcong := packRecs_congr (recs m) (startComp compress) hs (by simp [zeros12]) wf hci
  rw [hpk] at hcong
  rw [packMessageWith_recs m _ (by omega) (by omega) (by omega) (by omega), ← hcong]
  simp only [Builder.bytes, packHeader, hid, hbits, hnq, hna, hnu, hnr, hmsg, u16_mod]
  have : (zeros12 ++ B).drop 12 = B := by
    have : zeros12.length = 12 := by simp [zeros12]
    rw [← this, List.drop_left]
  rw [this]

/-- The bytes an accepted call sequence leaves (`builder_bytes_eq_pack`) unpack to the message the calls
describe, with and without compression, up to `Type` and `Length` as in `MessageStatement`. The statement
leaves out that `l1 l2 l3` are as long as their sections (`message_holds` gives it; `normMessage` zips). -/
theorem builder_roundtrip (h : Header) (compress : Bool) (ops : List BOp)
    (hh : h.id < 65536 ∧ h.opCode < 16 ∧ h.rCode < 16)
    (hops : ∀ op ∈ ops, op ≠ .enableCompression ∧ WFOp op)
    (hacc : ∀ e ∈ ((startBuilder h compress).run ops).2, e = none) :
    ∃ l1 l2 l3, unpackMessage ((startBuilder h compress).run ops).1.bytes =
      .ok (normMessage (describe h ops) l1 l2 l3) := by
  have hhdr : (describe h ops).hdr = h := describeAux_hdr ops 1 _
  have hwf := (run_start_inv h compress ops hops hacc).wf
  have hm : WFMessage (describe h ops) := by
    refine ⟨by rw [hhdr]; exact hh.1, by rw [hhdr]; exact hh.2.1, by rw [hhdr]; exact hh.2.2, ?_, ?_, ?_, ?_⟩
    · intro q hq; exact hwf (.q q) (by simp [recs, hq])
    · intro r hr; exact hwf (.r r) (by simp [recs, hr])
    · intro r hr; exact hwf (.r r) (by simp [recs, hr])
    · intro r hr; exact hwf (.r r) (by simp [recs, hr])
  have hcomp : startComp compress = none ∨ startComp compress = some [] := by
    cases compress <;> simp [startComp]
  rcases message_holds (describe h ops) (startComp compress) _ hcomp hm
    (builder_bytes_eq_pack h compress ops hops hacc) with ⟨l1, l2, l3, _, _, _, hu⟩
  exact ⟨l1, l2, l3, hu⟩

/-- A failed call changes nothing but (possibly) the compression map. -/
theorem builder_failed_call (b : Builder) (op : BOp) (h : (b.step op).2 ≠ none) :
    (b.step op).1.msg = b.msg ∧ (b.step op).1.sec = b.sec ∧ (b.step op).1.id = b.id ∧
    (b.step op).1.bits = b.bits ∧ (b.step op).1.nq = b.nq ∧ (b.step op).1.na = b.na ∧
    (b.step op).1.nu = b.nu ∧ (b.step op).1.nr = b.nr := by
  rcases step_ok_or_comp b op with h' | ⟨c, hc⟩
  · exact absurd h' h
  · rw [hc]
    exact ⟨rfl, rfl, rfl, rfl, rfl, rfl, rfl, rfl⟩

def zeroHeader : Header :=
  { id := 7, response := false, opCode := 0, authoritative := false, truncated := false,
    recursionDesired := false, recursionAvailable := false, authenticData := false,
    checkingDisabled := false, rCode := 0 }

def staleOps : List BOp :=
  [.start 3,
   .resource { hdr := { name := [102,111,111,46,101,120,97,109,112,108,101,46], typ := 0, cls := 1, ttl := 0, length := 0 },
               body := .txt [List.replicate 256 65] },
   .resource { hdr := { name := [98,97,114,46,101,120,97,109,112,108,101,46], typ := 0, cls := 1, ttl := 60, length := 0 },
               body := .a [1, 2, 3, 4] },
   .finish]

/-- Known finding `builder-stale-map`: `Name.pack` has already entered the suffixes of the header name
of the failed record ("foo.example." at 12, "example." at 16) into the map when the body fails
(a 256-byte TXT string); the bytes are discarded, the entries are not. The next record
"bar.example." is then compressed against offset 16 - which now holds that record's own pointer:
the Builder returns, without any error, a message that does not unpack. -/
theorem stale_map_quirk :
    ((startBuilder zeroHeader true).run staleOps).2 = [none, some .stringTooLong, none, none] ∧
    unpackMessage ((startBuilder zeroHeader true).run staleOps).1.bytes = .error .tooManyPtr := by
  constructor <;> decide +kernel

/-- Known finding `header-4bit-overflow` (literal): without the hypothesis `rCode < 16` the header
round trip fails - RCode 16 (BADVERS) comes back as RCode 0 with CheckingDisabled set. -/
theorem header_overflow_false :
    headerOfBits zeroHeader.id ({ zeroHeader with rCode := 16 } : Header).bits ≠ { zeroHeader with rCode := 16 } := by
  decide

end NetVerif.Proofs.C36
