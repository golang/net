import NetVerif.Model.PublicSuffix
import NetVerif.Gen.C51
import NetVerif.Proofs.Lemmas.PublicSuffix
/-!
C51 — public-suffix lookups follow the PSL algorithm (longest match, wildcards, exceptions, default `*`), ICANN flag
included: `psl_holds` on the trie gen.go builds from any well-formed rule list (`WF`, `nodeAt`); `flat_eq_trie` carries it
to the packed `nodes`/`children` tables when they denote that trie along the non-empty prefixes of the domain, which the
driver checks per query on the dumped tables. `gen_layout_eq` is the T-tie of the bit layout; `etld1_*` is
`EffectiveTLDPlusOne`.
-/
namespace NetVerif.Proofs.C51
open NetVerif NetVerif.Model.PublicSuffix NetVerif.Proofs.Lemmas.PublicSuffix

theorem gen_layout_eq :
    2 ^ (Gen.C51.nodesBitsTextOffset + Gen.C51.nodesBitsTextLength) = 4194304 ∧
    2 ^ (Gen.C51.nodesBitsTextOffset + Gen.C51.nodesBitsTextLength + Gen.C51.nodesBitsICANN) = 8388608 ∧
    2 ^ Gen.C51.nodesBitsICANN = 2 ∧ 2 ^ Gen.C51.nodesBitsChildren = 1024 ∧
    2 ^ Gen.C51.childrenBitsLo = 16384 ∧ 2 ^ Gen.C51.childrenBitsHi = 16384 ∧
    2 ^ (Gen.C51.childrenBitsLo + Gen.C51.childrenBitsHi) = 268435456 ∧
    2 ^ Gen.C51.childrenBitsNodeType = 4 ∧
    2 ^ (Gen.C51.childrenBitsLo + Gen.C51.childrenBitsHi + Gen.C51.childrenBitsNodeType) = 1073741824 ∧
    2 ^ Gen.C51.childrenBitsWildcard = 2 ∧ Gen.C51.nodesBits = 40 ∧
    Gen.C51.nodeTypeNormal = 0 ∧ Gen.C51.nodeTypeException = 1 ∧ Gen.C51.nodeTypeParentOnly = 2 := by
  decide

/-- Well-formed rule list: no label sequence is both a normal and an exception rule; there is no wildcard rule with an
empty parent (the default rule `*` is implicit, not a list entry); `FlagConsistent`. -/
def WF (rules : List Rule) : Prop :=
  NoConflict rules ∧ hasWild rules [] = false ∧ FlagConsistent rules

/-- C51 with the ICANN flag: `PublicSuffix` on the trie built from the rules returns the PSL public suffix and the flag
of the prevailing rule. -/
theorem psl_holds (rules : List Rule) (hwf : WF rules) (d : List Nat) :
    walkResult (nodeAt rules) d = (specLen (listIndex rules) d, specFlag rules d) := by
  unfold walkResult specLen specFlag
  rw [walk_eq_spec rules hwf.1 hwf.2.2 d [] initSt hwf.2.1.symm nofun]
  rfl

theorem suffix_eq_spec (rules : List Rule) (hwf : WF rules) (d : List Nat) :
    (walkResult (nodeAt rules) d).1 = specLen (listIndex rules) d :=
  congrArg Prod.fst (psl_holds rules hwf d)

theorem flag_eq_spec (rules : List Rule) (hwf : WF rules) (d : List Nat) :
    (walkResult (nodeAt rules) d).2 = specFlag rules d :=
  congrArg Prod.snd (psl_holds rules hwf d)

theorem flat_eq_look (f : Flat) (look : List Nat → Option NodeInfo) (d : List Nat)
    (hrep : ∀ p, p ≠ [] → p <+: d → f.look p = look p) : flatResult f d = walkResult look d := by
  have := flatWalk_eq_walk f look d [] 0 f.numTLD initSt
    { icann := false, ntype := 2, wildcard := false } hrep rfl
  unfold flatResult walkResult
  rw [← this]
  rfl

theorem flat_eq_walk (f : Flat) (d : List Nat) : flatResult f d = walkResult f.look d :=
  flat_eq_look f f.look d fun _ _ _ => rfl

/-- The hypothesis is what the driver checks for every query. -/
theorem flat_eq_trie (f : Flat) (rules : List Rule) (d : List Nat)
    (hrep : ∀ p, p ≠ [] → p <+: d → f.look p = nodeAt rules p) : flatResult f d = walkResult (nodeAt rules) d :=
  flat_eq_look f _ d hrep

theorem flat_suffix_eq_spec (f : Flat) (rules : List Rule) (hwf : WF rules) (d : List Nat)
    (hrep : ∀ p, p <+: d → f.look p = nodeAt rules p) :
    (flatResult f d).1 = specLen (listIndex rules) d := by
  rw [flat_eq_trie f rules d fun p _ => hrep p, suffix_eq_spec rules hwf d]

theorem find_sound (lab : Nat → Nat) (x fuel lo hi i : Nat) (h : find lab x fuel lo hi = some i) :
    lo ≤ i ∧ i < hi ∧ lab i = x :=
  Lemmas.PublicSuffix.find_sound lab x fuel lo hi i h

/-- `hi - lo + 1` is the fuel `Flat.child` gives `find`. -/
theorem find_complete (lab : Nat → Nat) (x lo hi i : Nat)
    (hs : ∀ a b, lo ≤ a → a < b → b < hi → lab a < lab b) (h1 : lo ≤ i) (h2 : i < hi) (hx : lab i = x) :
    find lab x (hi - lo + 1) lo hi = some i :=
  Lemmas.PublicSuffix.find_complete lab x _ lo hi i hs h1 h2 hx (by omega)

theorem flat_psl_holds (f : Flat) (rules : List Rule) (hwf : WF rules) (d : List Nat)
    (hrep : ∀ p, p <+: d → f.look p = nodeAt rules p) :
    flatResult f d = (specLen (listIndex rules) d, specFlag rules d) := by
  rw [flat_eq_trie f rules d fun p _ => hrep p, psl_holds rules hwf d]

/-- Rules `{b.a}` (private), domain `x.a`: no rule matches, default rule, not ICANN; list.go returned `true` before its
repair `e690e828cc` (DESIGN.md §15). -/
example : walkResult (nodeAt [{ kind := .normal, labels := [1, 2], icann := false }]) [1, 3] = (1, false) := by
  decide

/-- The same defect in the shape found in the embedded list (`x.dualstack.us-east-1.amazonaws.com`): rules
`{a (private), c.b.a}`, domain `x.b.a`: suffix `a`, private. -/
example :
    let rules : List Rule := [{ kind := .normal, labels := [1], icann := false },
                              { kind := .normal, labels := [1, 2, 3], icann := false }]
    walkResult (nodeAt rules) [1, 2, 9] = (1, false) ∧ specFlag rules [1, 2, 9] = false := by
  decide

theorem etld1_some (e : Bool) (n k r : Nat) (h : etld1 e n (some k) = some r) :
    e = false ∧ r = k + 1 ∧ r ≤ n := by
  cases e with
  | true => cases h
  | false =>
    rw [etld1, if_neg Bool.false_ne_true] at h
    by_cases hk : n ≤ k
    · rw [if_pos hk] at h
      cases h
    · rw [if_neg hk] at h
      cases h
      exact ⟨rfl, rfl, by omega⟩

theorem etld1_none_iff (e : Bool) (n k : Nat) :
    etld1 e n (some k) = none ↔ (e = true ∨ n ≤ k) := by
  unfold etld1
  cases e <;> simp

/-- `ck`-style rules: `1`, `*.2.1`, `!7.2.1`. -/
def sampleRules : List Rule :=
  [{ kind := .normal, labels := [1], icann := true },
   { kind := .wildcard, labels := [1, 2], icann := true },
   { kind := .exception, labels := [1, 2, 7], icann := true }]

example : walkResult (nodeAt sampleRules) [1, 2, 5, 6] = (3, true) := by decide
example : walkResult (nodeAt sampleRules) [1, 2, 7, 6] = (2, true) := by decide
example : walkResult (nodeAt sampleRules) [9, 2] = (1, false) := by decide
example : specLen (listIndex sampleRules) [1, 2, 5, 6] = 3 := by decide
example : find (fun i => 2 * i) 6 9 0 8 = some 3 := by decide

end NetVerif.Proofs.C51
