import NetVerif.Model.DavLock
/-!
C43 — WebDAV in-memory locks (`webdav/lock.go`, `memLS`) are mutually exclusive and expire correctly:
the clauses of the property, for all histories (any ops, any clock values, monotone or not), on the
specification state machine `Spec` of `Model/DavLock.lean`.  That the implementation model `MemLS`
answers as `Spec` does is `C43Impl`; both are compared output-for-output with the real `memLS` by `./check C43`.
-/
namespace NetVerif.Proofs.C43
open NetVerif.Model.DavPath NetVerif.Model.DavLock

def Compatible (a b : Lock) : Prop := a.conflicts b.root b.zeroDepth = false

structure Inv (s : Spec) : Prop where
  tok_lt : ∀ l ∈ s.locks, l.token < s.gen
  tok_nodup : (s.locks.map (·.token)).Nodup
  excl : s.locks.Pairwise Compatible

def SameShape (f : Lock → Lock) : Prop :=
  ∀ x, (f x).token = x.token ∧ (f x).root = x.root ∧ (f x).zeroDepth = x.zeroDepth

theorem isPrefixOf_iff (a b : Name) : a.isPrefixOf b = true ↔ a <+: b := by
  simp

theorem compatible_symm (a b : Lock) (h : Compatible a b) : Compatible b a := by
  unfold Compatible Lock.conflicts at h ⊢
  simp only [Bool.or_eq_false_iff, Bool.and_eq_false_iff] at h ⊢
  obtain ⟨⟨h1, h2⟩, h3⟩ := h
  refine ⟨⟨?_, ?_⟩, ?_⟩
  · simp at h1 ⊢; exact fun e => h1 e.symm
  · exact h3
  · exact h2

theorem pairwise_mem {α} {R : α → α → Prop} (hs : ∀ a b, R a b → R b a) {l : List α}
    (hp : l.Pairwise R) {a b : α} (ha : a ∈ l) (hb : b ∈ l) (hne : a ≠ b) : R a b := by
  induction l with
  | nil => simp at ha
  | cons x xs ih =>
    rw [List.pairwise_cons] at hp
    simp at ha hb
    rcases ha with rfl | ha
    · rcases hb with rfl | hb
      · exact absurd rfl hne
      · exact hp.1 _ hb
    · rcases hb with rfl | hb
      · exact hs _ _ (hp.1 _ ha)
      · exact ih hp.2 ha hb

theorem inv_init : Inv Spec.init := by
  constructor <;> simp [Spec.init]

theorem inv_sublist (s : Spec) (ls : List Lock) (hs' : List (Option (List (Nat × Name))))
    (h : Inv s) (hsub : ls.Sublist s.locks) :
    Inv { locks := ls, gen := s.gen, holds := hs' } := by
  constructor
  · intro l hl; exact h.tok_lt l (hsub.subset hl)
  · exact h.tok_nodup.sublist (hsub.map _)
  · exact h.excl.sublist hsub

theorem inv_map (s : Spec) (f : Lock → Lock) (hs' : List (Option (List (Nat × Name))))
    (hf : SameShape f) (h : Inv s) :
    Inv { locks := s.locks.map f, gen := s.gen, holds := hs' } := by
  constructor
  · intro l hl
    simp at hl
    obtain ⟨x, hx, rfl⟩ := hl
    rw [(hf x).1]; exact h.tok_lt x hx
  · have : (s.locks.map f).map (·.token) = s.locks.map (·.token) := by
      simp [List.map_map, Function.comp_def, fun x => (hf x).1]
    simp only [this]; exact h.tok_nodup
  · simp only
    rw [List.pairwise_map]
    refine h.excl.imp ?_
    intro a b hab
    unfold Compatible Lock.conflicts at hab ⊢
    rw [(hf a).2.1, (hf a).2.2, (hf b).2.1, (hf b).2.2]; exact hab

theorem mem_collect {s : Spec} {now : Int} {l : Lock} :
    l ∈ (s.collect now).locks ↔ l ∈ s.locks ∧ l.expired now = false := by
  simp [Spec.collect]

theorem inv_collect (s : Spec) (now : Int) (h : Inv s) : Inv (s.collect now) :=
  inv_sublist s _ _ h List.filter_sublist

theorem inv_createCore (s : Spec) (now : Int) (root : Name) (zd : Bool) (dur : Int) (h : Inv s) :
    Inv (s.createCore now root zd dur).1 := by
  unfold Spec.createCore
  split
  · exact h
  · rename_i hc
    simp only [Bool.not_eq_true, List.any_eq_false] at hc
    constructor
    · intro l hl
      simp at hl
      rcases hl with hl | rfl
      · exact Nat.lt_succ_of_lt (h.tok_lt l hl)
      · simp
    · simp only [List.map_append, List.map_cons, List.map_nil]
      rw [List.nodup_append]
      refine ⟨h.tok_nodup, by simp, ?_⟩
      intro a ha b hb
      simp at hb; subst hb
      simp at ha
      obtain ⟨l, hl, rfl⟩ := ha
      exact Nat.ne_of_lt (h.tok_lt l hl)
    · simp only
      rw [List.pairwise_append]
      refine ⟨h.excl, by simp, ?_⟩
      intro a ha b hb
      simp at hb; subst hb
      unfold Compatible; simp only
      have := hc a ha
      simpa using this

theorem inv_refreshCore (s : Spec) (now : Int) (tok : Option Nat) (dur : Int) (h : Inv s) :
    Inv (s.refreshCore now tok dur).1 := by
  unfold Spec.refreshCore
  split
  · exact h
  · split
    · exact h
    · apply inv_map s _ _ _ h
      intro x; dsimp only; split <;> simp

theorem inv_unlockCore (s : Spec) (tok : Option Nat) (h : Inv s) : Inv (s.unlockCore tok).1 := by
  unfold Spec.unlockCore
  split
  · exact h
  · split
    · exact h
    · exact inv_sublist s _ _ h List.filter_sublist

theorem sameShape_setHeld (toks : List Nat) (v : Bool) :
    SameShape (fun x : Lock => if toks.contains x.token then { x with held := v } else x) := by
  intro x; dsimp only; split <;> simp

theorem inv_confirmCore (s : Spec) (n0 n1 : Bytes) (toks : List (Option Nat)) (h : Inv s) :
    Inv (s.confirmCore n0 n1 toks).1 := by
  unfold Spec.confirmCore
  split
  · exact h
  · split
    · exact h
    · exact inv_map s _ _ (sameShape_setHeld _ _) h

theorem inv_release (s : Spec) (k : Nat) (h : Inv s) : Inv (s.release k).1 := by
  unfold Spec.release
  split
  · exact inv_map s _ _ (sameShape_setHeld _ _) h
  · exact h

theorem inv_step (s : Spec) (op : Op) (h : Inv s) : Inv (s.step op).1 := by
  cases op with
  | create now root zd dur => exact inv_createCore _ _ _ _ _ (inv_collect s now h)
  | refresh now tok dur => exact inv_refreshCore _ _ _ _ (inv_collect s now h)
  | unlock now tok => exact inv_unlockCore _ _ (inv_collect s now h)
  | confirm now n0 n1 toks => exact inv_confirmCore _ _ _ _ (inv_collect s now h)
  | release k => exact inv_release _ _ h

theorem inv_run (s : Spec) (ops : List Op) (h : Inv s) : Inv (s.run ops).1 := by
  induction ops generalizing s with
  | nil => exact h
  | cons op ops ih =>
    simp only [Spec.run]
    exact ih _ (inv_step s op h)

theorem inv_reachable (ops : List Op) : Inv (Spec.init.run ops).1 :=
  inv_run _ _ inv_init

/-! ### clause 1 — no two locks of a reachable state cover the same resource -/

theorem covers_iff (a : Lock) (x : Name) :
    a.covers x = true ↔ a.root = x ∨ (a.zeroDepth = false ∧ a.root <+: x) := by
  unfold Lock.covers; simp

theorem conflicts_iff (a : Lock) (root : Name) (zd : Bool) :
    a.conflicts root zd = true ↔
      a.root = root ∨ (zd = false ∧ root <+: a.root) ∨ (a.zeroDepth = false ∧ a.root <+: root) := by
  unfold Lock.conflicts; simp [or_assoc]

theorem covers_conflict (a b : Lock) (x : Name) (ha : a.covers x = true) (hb : b.covers x = true) :
    a.conflicts b.root b.zeroDepth = true := by
  rw [covers_iff] at ha hb
  rw [conflicts_iff]
  rcases ha with ha | ⟨ha1, ha2⟩ <;> rcases hb with hb | ⟨hb1, hb2⟩
  · left; rw [ha, hb]
  · right; left; exact ⟨hb1, ha ▸ hb2⟩
  · right; right; exact ⟨ha1, hb ▸ ha2⟩
  · rcases List.prefix_or_prefix_of_prefix ha2 hb2 with h | h
    · right; right; exact ⟨ha1, h⟩
    · right; left; exact ⟨hb1, h⟩

/-- Counts locks that have expired but are not collected yet, so it is stronger than the property
(no two live locks conflict) asks. -/
theorem mutual_exclusion (s : Spec) (h : Inv s) (a b : Lock) (ha : a ∈ s.locks) (hb : b ∈ s.locks)
    (x : Name) (hax : a.covers x = true) (hbx : b.covers x = true) : a = b := by
  by_cases hne : a = b
  · exact hne
  · have hc : Compatible a b := pairwise_mem compatible_symm h.excl ha hb hne
    unfold Compatible at hc
    rw [covers_conflict a b x hax hbx] at hc
    exact absurd hc (by simp)

theorem mutual_exclusion_reachable (ops : List Op) (a b : Lock)
    (ha : a ∈ (Spec.init.run ops).1.locks) (hb : b ∈ (Spec.init.run ops).1.locks)
    (x : Name) (hax : a.covers x = true) (hbx : b.covers x = true) : a = b :=
  mutual_exclusion _ (inv_reachable ops) a b ha hb x hax hbx

/-! ### clause 2 — Create succeeds exactly when no live lock conflicts -/

theorem live_iff (l : Lock) (now : Int) :
    l.expired now = false ↔ l.held = true ∨ l.duration < 0 ∨ now < l.expiry := by
  unfold Lock.expired
  simp only [Bool.and_eq_false_iff, Bool.not_eq_false', decide_eq_false_iff_not, Int.not_le, or_assoc]

theorem create_result (s : Spec) (now : Int) (raw : Bytes) (zd : Bool) (dur : Int) :
    (s.create now raw zd dur).2 = .errLocked ∨ (s.create now raw zd dur).2 = .created s.gen := by
  unfold Spec.create Spec.createCore
  split
  · left; rfl
  · right; rfl

theorem create_succeeds_iff (s : Spec) (now : Int) (raw : Bytes) (zd : Bool) (dur : Int) :
    (s.create now raw zd dur).2 = .created s.gen ↔
      ∀ l ∈ s.locks, l.expired now = false → l.conflicts (slashCleanComps raw) zd = false := by
  unfold Spec.create Spec.createCore
  split
  · rename_i hc
    simp only [List.any_eq_true] at hc
    obtain ⟨l, hl, hcf⟩ := hc
    rw [mem_collect] at hl
    constructor
    · intro h; simp at h
    · intro h; rw [h l hl.1 hl.2] at hcf; simp at hcf
  · rename_i hc
    simp only [Bool.not_eq_true, List.any_eq_false] at hc
    constructor
    · intro _ l hl hlive
      simpa using hc l (mem_collect.2 ⟨hl, hlive⟩)
    · intro _; rfl

theorem create_adds (s : Spec) (now : Int) (raw : Bytes) (zd : Bool) (dur : Int)
    (h : (s.create now raw zd dur).2 = .created s.gen) :
    { token := s.gen, root := slashCleanComps raw, zeroDepth := zd, duration := dur,
      expiry := newExpiry now dur 0, held := false } ∈ (s.create now raw zd dur).1.locks := by
  unfold Spec.create Spec.createCore at h ⊢
  split
  · rename_i hc; rw [if_pos hc] at h; simp at h
  · simp [Spec.collect]

/-! ### clause 3 — expired unheld locks are inert -/

theorem collect_idem (s : Spec) (now : Int) : (s.collect now).collect now = s.collect now := by
  simp [Spec.collect, List.filter_filter]

def opClock : Op → Option Int
  | .create now _ _ _ => some now
  | .refresh now _ _ => some now
  | .unlock now _ => some now
  | .confirm now _ _ _ => some now
  | .release _ => none

/-- The clause in one statement: locks expired at `now` neither answer nor block an op with that clock. -/
theorem step_ignores_expired (s : Spec) (op : Op) (now : Int) (h : opClock op = some now) :
    s.step op = (s.collect now).step op := by
  cases op <;> simp only [opClock, Option.some.injEq, reduceCtorEq] at h
  all_goals
    subst h
    simp [Spec.step, Spec.create, Spec.refresh, Spec.unlock, Spec.confirm, collect_idem]

theorem key_inj {α β : Type} [DecidableEq α] {k : α → β} {ls : List α} (hn : (ls.map k).Nodup) {a b : α}
    (ha : a ∈ ls) (hb : b ∈ ls) (hab : k a = k b) : a = b :=
  Decidable.byContradiction fun hne =>
    pairwise_mem (R := fun x y => k x ≠ k y) (fun _ _ h => h.symm) (List.pairwise_map.1 hn) ha hb hne hab

theorem find?_key {α β : Type} [BEq β] [LawfulBEq β] (k : α → β) {ls : List α} {l : α}
    (hinj : ∀ x ∈ ls, k x = k l → x = l) (hl : l ∈ ls) : ls.find? (fun x => k x == k l) = some l := by
  cases hf : ls.find? (fun x => k x == k l) with
  | none => simpa using List.find?_eq_none.1 hf l hl
  | some x => rw [hinj x (List.mem_of_find?_eq_some hf) (by simpa using List.find?_some hf)]

theorem findTok_some (s : Spec) (h : Inv s) (l : Lock) (hl : l ∈ s.locks) :
    s.findTok (some l.token) = some l :=
  find?_key Lock.token (fun _ hx => key_inj h.tok_nodup hx hl) hl

theorem findTok_mem (s : Spec) (t : Option Nat) (l : Lock) (hf : s.findTok t = some l) :
    l ∈ s.locks ∧ t = some l.token := by
  unfold Spec.findTok at hf
  split at hf
  · simp at hf
  · have hx := List.mem_of_find?_eq_some hf
    have ht := List.find?_some hf
    simp at ht
    exact ⟨hx, by rw [ht]⟩

theorem findTok_none_of_expired (s : Spec) (h : Inv s) (l : Lock) (hl : l ∈ s.locks)
    (now : Int) (he : l.expired now = true) : (s.collect now).findTok (some l.token) = none := by
  cases hf : (s.collect now).findTok (some l.token) with
  | none => rfl
  | some x =>
    obtain ⟨hx, ht⟩ := findTok_mem _ _ _ hf
    rw [mem_collect] at hx
    have : x = l := key_inj h.tok_nodup hx.1 hl (by simpa using ht.symm)
    subst this
    rw [he] at hx; cases hx.2

theorem expired_refresh (s : Spec) (h : Inv s) (l : Lock) (hl : l ∈ s.locks) (now dur : Int)
    (he : l.expired now = true) : (s.refresh now (some l.token) dur).2 = .errNoSuchLock := by
  unfold Spec.refresh Spec.refreshCore
  rw [findTok_none_of_expired s h l hl now he]

theorem expired_unlock (s : Spec) (h : Inv s) (l : Lock) (hl : l ∈ s.locks) (now : Int)
    (he : l.expired now = true) : (s.unlock now (some l.token)).2 = .errNoSuchLock := by
  unfold Spec.unlock Spec.unlockCore
  rw [findTok_none_of_expired s h l hl now he]

theorem lookup_sound (s : Spec) (name : Name) (toks : List (Option Nat)) (l : Lock)
    (h : s.lookup name toks = some l) :
    l ∈ s.locks ∧ l.held = false ∧ l.covers name = true ∧ some l.token ∈ toks := by
  induction toks with
  | nil => simp [Spec.lookup] at h
  | cons t ts ih =>
    unfold Spec.lookup at h
    split at h
    · rename_i x hx
      split at h
      · rename_i hc
        simp at h; subst h
        simp at hc
        obtain ⟨hm, ht⟩ := findTok_mem _ _ _ hx
        exact ⟨hm, hc.1, hc.2, by simp [ht]⟩
      · obtain ⟨a, b, c, d⟩ := ih h
        exact ⟨a, b, c, by simp [d]⟩
    · obtain ⟨a, b, c, d⟩ := ih h
      exact ⟨a, b, c, by simp [d]⟩

theorem lookupName_nonempty {s : Spec} {raw : Bytes} {toks : List (Option Nat)} {x : Option Lock}
    (hne : raw ≠ []) (h : s.lookupName raw toks = some x) :
    ∃ l, x = some l ∧ s.lookup (slashCleanComps raw) toks = some l := by
  unfold Spec.lookupName at h
  rw [if_neg hne] at h
  split at h
  · cases h; exact ⟨_, rfl, by assumption⟩
  · cases h

theorem lookup_complete (s : Spec) (h : Inv s) (name : Name) (toks : List (Option Nat)) (l : Lock)
    (hl : l ∈ s.locks) (hh : l.held = false) (hc : l.covers name = true) (ht : some l.token ∈ toks) :
    ∃ l', s.lookup name toks = some l' := by
  induction toks with
  | nil => simp at ht
  | cons t ts ih =>
    unfold Spec.lookup
    by_cases hte : t = some l.token
    · subst hte
      rw [findTok_some s h l hl]
      simp [hh, hc]
    · have ht' : some l.token ∈ ts := by
        simp at ht
        rcases ht with ht | ht
        · exact absurd ht.symm hte
        · exact ht
      split
      · split
        · exact ⟨_, rfl⟩
        · exact ih ht'
      · exact ih ht'

theorem lookup_isSome_iff (s : Spec) (h : Inv s) (name : Name) (toks : List (Option Nat)) :
    (s.lookup name toks).isSome ↔
      ∃ l ∈ s.locks, l.held = false ∧ l.covers name = true ∧ some l.token ∈ toks := by
  constructor
  · intro hs
    obtain ⟨l, hl⟩ := Option.isSome_iff_exists.1 hs
    exact ⟨l, lookup_sound s name toks l hl⟩
  · rintro ⟨l, hl, hh, hc, ht⟩
    obtain ⟨l', hl'⟩ := lookup_complete s h name toks l hl hh hc ht
    rw [hl']; rfl

theorem lookupName_isSome_iff (s : Spec) (h : Inv s) (n : Bytes) (toks : List (Option Nat)) :
    (s.lookupName n toks).isSome ↔ (n ≠ [] →
      ∃ l ∈ s.locks, l.held = false ∧ l.covers (slashCleanComps n) = true ∧ some l.token ∈ toks) := by
  rw [← lookup_isSome_iff s h]
  unfold Spec.lookupName
  by_cases hn : n = []
  · simp [hn]
  · cases s.lookup (slashCleanComps n) toks <;> simp [hn]

theorem confirm_fails (s : Spec) (now : Int) (n0 n1 : Bytes) (toks : List (Option Nat))
    (hn : n0 ≠ [] ∨ n1 ≠ []) (hnone : ∀ name, (s.collect now).lookup name toks = none) :
    s.confirm now n0 n1 toks = (s.collect now, .errConfirmationFailed) := by
  unfold Spec.confirm Spec.confirmCore Spec.lookupName
  by_cases h0 : n0 = []
  · have h1 : n1 ≠ [] := hn.resolve_left fun h => h h0
    simp [h0, h1, hnone]
  · simp [h0, hnone]

/-- The expired lock's token as the only condition; for any condition list see `confirm_succeeds_iff`. -/
theorem expired_confirm (s : Spec) (h : Inv s) (l : Lock) (hl : l ∈ s.locks) (now : Int)
    (he : l.expired now = true) (n0 n1 : Bytes) (hn : n0 ≠ [] ∨ n1 ≠ []) :
    (s.confirm now n0 n1 [some l.token]).2 = .errConfirmationFailed := by
  rw [confirm_fails s now n0 n1 _ hn fun name => by
    simp [Spec.lookup, findTok_none_of_expired s h l hl now he]]

theorem setHeld_mem (ls : List Lock) (toks : List Nat) (v : Bool) (l : Lock)
    (hl : l ∈ setHeld ls toks v) :
    ∃ x ∈ ls, l.token = x.token ∧ l.root = x.root ∧ l.zeroDepth = x.zeroDepth := by
  simp only [setHeld, List.mem_map] at hl
  obtain ⟨x, hx, rfl⟩ := hl
  exact ⟨x, hx, sameShape_setHeld toks v x⟩

/-- Tokens only ever enter the state through Create, which uses the fresh counter value:
a token below the counter that is not in the state never comes back. -/
theorem token_gone_step (s : Spec) (op : Op) (t : Nat) (hlt : t < s.gen)
    (hgone : ∀ l ∈ s.locks, l.token ≠ t) :
    t < (s.step op).1.gen ∧ ∀ l ∈ (s.step op).1.locks, l.token ≠ t := by
  have hcol : ∀ now, ∀ l ∈ (s.collect now).locks, l.token ≠ t :=
    fun now l hl => hgone l (mem_collect.1 hl).1
  cases op with
  | create now raw zd dur =>
    simp only [Spec.step, Spec.create, Spec.createCore]
    split
    · exact ⟨hlt, hcol now⟩
    · refine ⟨Nat.lt_succ_of_lt hlt, ?_⟩
      intro l hl
      simp at hl
      rcases hl with hl | rfl
      · exact hcol now l hl
      · simp [Spec.collect]; omega
  | refresh now tok dur =>
    simp only [Spec.step, Spec.refresh, Spec.refreshCore]
    split
    · exact ⟨hlt, hcol now⟩
    · split
      · exact ⟨hlt, hcol now⟩
      · refine ⟨hlt, ?_⟩
        intro l hl
        simp at hl
        obtain ⟨x, hx, rfl⟩ := hl
        have := hcol now x hx
        split <;> simpa using this
  | unlock now tok =>
    simp only [Spec.step, Spec.unlock, Spec.unlockCore]
    split
    · exact ⟨hlt, hcol now⟩
    · split
      · exact ⟨hlt, hcol now⟩
      · refine ⟨hlt, ?_⟩
        intro l hl
        simp only [List.mem_filter] at hl
        exact hcol now l hl.1
  | confirm now n0 n1 toks =>
    simp only [Spec.step, Spec.confirm, Spec.confirmCore]
    split
    · exact ⟨hlt, hcol now⟩
    · split
      · exact ⟨hlt, hcol now⟩
      · refine ⟨hlt, ?_⟩
        intro l hl
        obtain ⟨x, hx, ht, _⟩ := setHeld_mem _ _ _ _ hl
        rw [ht]; exact hcol now x hx
  | release k =>
    simp only [Spec.step, Spec.release]
    split
    · refine ⟨hlt, ?_⟩
      intro l hl
      obtain ⟨x, hx, ht, _⟩ := setHeld_mem _ _ _ _ hl
      rw [ht]; exact hgone x hx
    · exact ⟨hlt, hgone⟩

theorem token_gone_forever (s : Spec) (ops : List Op) (t : Nat) (hlt : t < s.gen)
    (hgone : ∀ l ∈ s.locks, l.token ≠ t) : ∀ l ∈ (s.run ops).1.locks, l.token ≠ t := by
  induction ops generalizing s with
  | nil => exact hgone
  | cons op ops ih =>
    simp only [Spec.run]
    obtain ⟨h1, h2⟩ := token_gone_step s op t hlt hgone
    exact ih _ h1 h2

/-- Whatever the later clock values are (they may go backwards): the op at `now` has collected the lock, and
its token cannot come back (`token_gone_forever`). -/
theorem expired_gone_forever (s : Spec) (h : Inv s) (l : Lock) (hl : l ∈ s.locks) (op : Op) (now : Int)
    (hc : opClock op = some now) (he : l.expired now = true) (ops : List Op) :
    ∀ x ∈ ((s.step op).1.run ops).1.locks, x.token ≠ l.token := by
  rw [step_ignores_expired s op now hc]
  have hcol : ∀ x ∈ (s.collect now).locks, x.token ≠ l.token := by
    intro x hx heq
    rw [mem_collect] at hx
    have : x = l := key_inj h.tok_nodup hx.1 hl heq
    subst this
    rw [he] at hx; cases hx.2
  obtain ⟨h1, h2⟩ := token_gone_step (s.collect now) op l.token (h.tok_lt l hl) hcol
  exact token_gone_forever _ ops l.token h1 h2

/-! ### clause 4 — a confirmed (held) lock rejects Confirm / Refresh / Unlock until released -/

theorem held_not_expired (l : Lock) (now : Int) (hh : l.held = true) : l.expired now = false := by
  simp [Lock.expired, hh]

theorem held_mem_collect (s : Spec) (l : Lock) (hl : l ∈ s.locks) (hh : l.held = true)
    (now : Int) : l ∈ (s.collect now).locks :=
  mem_collect.2 ⟨hl, held_not_expired l now hh⟩

theorem held_refresh (s : Spec) (h : Inv s) (l : Lock) (hl : l ∈ s.locks) (hh : l.held = true)
    (now dur : Int) : s.refresh now (some l.token) dur = (s.collect now, .errLocked) := by
  unfold Spec.refresh Spec.refreshCore
  rw [findTok_some _ (inv_collect s now h) l (held_mem_collect s l hl hh now)]
  simp [hh]

theorem held_unlock (s : Spec) (h : Inv s) (l : Lock) (hl : l ∈ s.locks) (hh : l.held = true)
    (now : Int) : s.unlock now (some l.token) = (s.collect now, .errLocked) := by
  unfold Spec.unlock Spec.unlockCore
  rw [findTok_some _ (inv_collect s now h) l (held_mem_collect s l hl hh now)]
  simp [hh]

/-- The held lock's token as the only condition; for any condition list see `confirm_succeeds_iff`. -/
theorem held_confirm (s : Spec) (h : Inv s) (l : Lock) (hl : l ∈ s.locks) (hh : l.held = true)
    (now : Int) (n0 n1 : Bytes) (hn : n0 ≠ [] ∨ n1 ≠ []) :
    s.confirm now n0 n1 [some l.token] = (s.collect now, .errConfirmationFailed) := by
  exact confirm_fails s now n0 n1 _ hn fun name => by
    simp [Spec.lookup, findTok_some _ (inv_collect s now h) l (held_mem_collect s l hl hh now), hh]

theorem confirmCore_confirmed (s : Spec) (n0 n1 : Bytes) (toks : List (Option Nat)) :
    (s.confirmCore n0 n1 toks).2 = .confirmed s.holds.length ↔
      (s.lookupName n0 toks).isSome ∧ (s.lookupName n1 toks).isSome := by
  unfold Spec.confirmCore
  cases s.lookupName n0 toks <;> cases s.lookupName n1 toks <;> simp

theorem confirm_succeeds_iff (s : Spec) (h : Inv s) (now : Int) (n0 n1 : Bytes) (toks : List (Option Nat)) :
    (s.confirm now n0 n1 toks).2 = .confirmed s.holds.length ↔
      ∀ n, (n = n0 ∨ n = n1) → n ≠ [] →
        ∃ l ∈ s.locks, l.expired now = false ∧ l.held = false ∧
          l.covers (slashCleanComps n) = true ∧ some l.token ∈ toks := by
  have hc := inv_collect s now h
  rw [show s.holds = (s.collect now).holds from rfl]
  unfold Spec.confirm
  rw [confirmCore_confirmed, lookupName_isSome_iff _ hc, lookupName_isSome_iff _ hc]
  simp only [mem_collect, and_assoc, forall_eq_or_imp, forall_eq]

/-- Confirm holds what it found for its two names, a lock (for `memLS`: a node) found for both only
once. A member of that list is one of the two found. -/
theorem heldPair_mem {α β : Type} [DecidableEq β] (g : α → β) (x0 x1 : Option α) (l : α)
    (h : l ∈ (if x1.map g = x0.map g then none else x1).toList ++ x0.toList) :
    x0 = some l ∨ x1 = some l := by
  rcases List.mem_append.1 h with h | h
  · split at h
    · simp at h
    · exact .inr (by simpa using h)
  · exact .inl (by simpa using h)

/-- Each of the two found has its key in the list: if the second is dropped, the first has the same key. -/
theorem heldPair_key {α β : Type} [DecidableEq β] (g : α → β) (x0 x1 : Option α) (l : α)
    (h : x0 = some l ∨ x1 = some l) :
    g l ∈ ((if x1.map g = x0.map g then none else x1).toList ++ x0.toList).map g := by
  rcases h with rfl | rfl
  · simp
  · split
    · rename_i e
      cases x0 with
      | none => simp at e
      | some a => simp at e; simp [e]
    · simp

theorem confirm_holds (s : Spec) (h : Inv s) (now : Int) (n0 n1 : Bytes) (toks : List (Option Nat)) (k : Nat)
    (hres : (s.confirm now n0 n1 toks).2 = .confirmed k) (n : Bytes) (hn : n = n0 ∨ n = n1) (hne : n ≠ []) :
    ∃ l ∈ (s.confirm now n0 n1 toks).1.locks,
      l.held = true ∧ l.covers (slashCleanComps n) = true ∧ some l.token ∈ toks := by
  unfold Spec.confirm Spec.confirmCore at hres ⊢
  cases hx0 : (s.collect now).lookupName n0 toks with
  | none => rw [hx0] at hres; simp at hres
  | some x0 =>
    cases hx1 : (s.collect now).lookupName n1 toks with
    | none => rw [hx0, hx1] at hres; simp at hres
    | some x1 =>
      have hfound : ∃ l, (s.collect now).lookup (slashCleanComps n) toks = some l ∧
          (x0 = some l ∨ x1 = some l) := by
        rcases hn with rfl | rfl
        · obtain ⟨l, rfl, hl⟩ := lookupName_nonempty hne hx0
          exact ⟨l, hl, .inl rfl⟩
        · obtain ⟨l, rfl, hl⟩ := lookupName_nonempty hne hx1
          exact ⟨l, hl, .inr rfl⟩
      obtain ⟨l, hlk, hor⟩ := hfound
      obtain ⟨hmem, _, hcov, htok⟩ := lookup_sound _ _ _ _ hlk
      refine ⟨{ l with held := true }, ?_, rfl, hcov, htok⟩
      simp only [setHeld, List.mem_map]
      refine ⟨l, hmem, ?_⟩
      rw [if_pos (by simpa [List.contains_iff_mem, List.map_map] using heldPair_key (fun x : Lock => x.token) x0 x1 l hor)]

theorem setHeld_fn_held (toks : List Nat) (l : Lock) (hh : l.held = true) :
    (if toks.contains l.token then { l with held := true } else l).held = true := by
  split
  · rfl
  · exact hh

theorem held_persists (s : Spec) (h : Inv s) (l : Lock) (hl : l ∈ s.locks) (hh : l.held = true)
    (op : Op)
    (hrel : ∀ k hs, op = .release k → s.holds[k]? = some (some hs) → l.token ∉ hs.map (·.1)) :
    ∃ l' ∈ (s.step op).1.locks, l'.token = l.token ∧ l'.root = l.root ∧
      l'.zeroDepth = l.zeroDepth ∧ l'.held = true := by
  cases op with
  | create now raw zd dur =>
    have hm := held_mem_collect s l hl hh now
    refine ⟨l, ?_, rfl, rfl, rfl, hh⟩
    simp only [Spec.step, Spec.create, Spec.createCore]
    split
    · exact hm
    · simp [hm]
  | refresh now tok dur =>
    have hm := held_mem_collect s l hl hh now
    simp only [Spec.step, Spec.refresh, Spec.refreshCore]
    split
    · exact ⟨l, hm, rfl, rfl, rfl, hh⟩
    · split
      · exact ⟨l, hm, rfl, rfl, rfl, hh⟩
      · rename_i l0 _ _
        refine ⟨_, List.mem_map_of_mem (a := l) hm, ?_⟩
        split <;> simp [hh]
  | unlock now tok =>
    have hm := held_mem_collect s l hl hh now
    simp only [Spec.step, Spec.unlock, Spec.unlockCore]
    split
    · exact ⟨l, hm, rfl, rfl, rfl, hh⟩
    · split
      · exact ⟨l, hm, rfl, rfl, rfl, hh⟩
      · rename_i l0 hf hunheld
        refine ⟨l, ?_, rfl, rfl, rfl, hh⟩
        simp only [List.mem_filter, hm, true_and]
        obtain ⟨hm0, _⟩ := findTok_mem _ _ _ hf
        simp only [Bool.not_eq_eq_eq_not, Bool.not_true, beq_eq_false_iff_ne, ne_eq]
        intro heq
        have : l = l0 := key_inj (inv_collect s now h).tok_nodup hm hm0 heq
        subst this
        exact hunheld hh
  | confirm now n0 n1 toks =>
    have hm := held_mem_collect s l hl hh now
    simp only [Spec.step, Spec.confirm, Spec.confirmCore]
    split
    · exact ⟨l, hm, rfl, rfl, rfl, hh⟩
    · split
      · exact ⟨l, hm, rfl, rfl, rfl, hh⟩
      · exact ⟨_, List.mem_map_of_mem (a := l) hm, (sameShape_setHeld _ true l).1,
          (sameShape_setHeld _ true l).2.1, (sameShape_setHeld _ true l).2.2, setHeld_fn_held _ l hh⟩
  | release k =>
    simp only [Spec.step, Spec.release]
    split
    · rename_i hs hk
      refine ⟨_, List.mem_map_of_mem (a := l) hl, ?_⟩
      have hnot := hrel k hs rfl hk
      have : (hs.map (·.1)).contains l.token = false := by
        simpa [List.contains_iff_mem] using hnot
      rw [if_neg (by rw [this]; simp)]
      exact ⟨rfl, rfl, rfl, hh⟩
    · exact ⟨l, hl, rfl, rfl, rfl, hh⟩

theorem release_unholds (s : Spec) (k : Nat) (hs : List (Nat × Name))
    (hk : s.holds[k]? = some (some hs)) :
    (s.release k).2 = .ok ∧ (s.release k).1.holds[k]? = some none ∧
    ∀ l ∈ (s.release k).1.locks, l.token ∈ hs.map (·.1) → l.held = false := by
  have hlt : k < s.holds.length := (List.getElem?_eq_some_iff.1 hk).1
  unfold Spec.release
  rw [hk]
  refine ⟨rfl, by simp [hlt], ?_⟩
  intro l hl ht
  simp only [setHeld, List.mem_map] at hl
  obtain ⟨x, _, rfl⟩ := hl
  by_cases hc : (hs.map (·.1)).contains x.token = true
  · rw [if_pos hc]
  · rw [if_neg hc] at ht ⊢
    simp at hc
    simp at ht
    obtain ⟨r, hr⟩ := ht
    exact absurd hr (hc r)

/-! ### clause 5 — every token is unique -/

def createdToks : List Res → List Nat
  | [] => []
  | .created t :: rs => t :: createdToks rs
  | _ :: rs => createdToks rs

theorem step_gen (s : Spec) (op : Op) :
    ((s.step op).2 = .created s.gen ∧ (s.step op).1.gen = s.gen + 1) ∨
    ((∀ t, (s.step op).2 ≠ .created t) ∧ (s.step op).1.gen = s.gen) := by
  cases op with
  | create now raw zd dur =>
    simp only [Spec.step, Spec.create, Spec.createCore]
    split
    · right; simp [Spec.collect]
    · left; simp [Spec.collect]
  | refresh now tok dur =>
    right
    simp only [Spec.step, Spec.refresh, Spec.refreshCore]
    split
    · simp [Spec.collect]
    · split <;> simp [Spec.collect]
  | unlock now tok =>
    right
    simp only [Spec.step, Spec.unlock, Spec.unlockCore]
    split
    · simp [Spec.collect]
    · split <;> simp [Spec.collect]
  | confirm now n0 n1 toks =>
    right
    simp only [Spec.step, Spec.confirm, Spec.confirmCore]
    split
    · simp [Spec.collect]
    · split <;> simp [Spec.collect]
  | release k =>
    right
    simp only [Spec.step, Spec.release]
    split <;> simp

/-- The tokens handed out by a history are the consecutive counter values. -/
theorem run_created (s : Spec) (ops : List Op) :
    s.gen ≤ (s.run ops).1.gen ∧
    createdToks (s.run ops).2 = List.range' s.gen ((s.run ops).1.gen - s.gen) := by
  induction ops generalizing s with
  | nil => simp [Spec.run, createdToks]
  | cons op ops ih =>
    simp only [Spec.run]
    obtain ⟨ih1, ih2⟩ := ih (s.step op).1
    rcases step_gen s op with ⟨hr, hg⟩ | ⟨hr, hg⟩
    · rw [hg] at ih1 ih2
      refine ⟨by omega, ?_⟩
      rw [hr]
      simp only [createdToks]
      rw [ih2]
      have : ((s.step op).1.run ops).1.gen - s.gen = ((s.step op).1.run ops).1.gen - (s.gen + 1) + 1 := by
        omega
      rw [this, List.range'_succ]
    · rw [hg] at ih1 ih2
      refine ⟨ih1, ?_⟩
      rw [← ih2]
      cases hres : (s.step op).2 with
      | created t => exact absurd hres (hr t)
      | _ => simp [createdToks]

theorem tokens_unique (ops : List Op) : (createdToks (Spec.init.run ops).2).Nodup := by
  rw [(run_created Spec.init ops).2]
  exact List.nodup_range'

end NetVerif.Proofs.C43
