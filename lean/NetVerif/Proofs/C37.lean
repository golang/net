import NetVerif.Proofs.C36
import NetVerif.Proofs.Lemmas.DnsAccept
import NetVerif.Proofs.Lemmas.DnsTotal
import NetVerif.Proofs.Lemmas.DnsChecked
/-!
C37 — DNS parsing is safe and self-consistent on any input: for ALL byte strings and offsets, termination
within the pointer budget, the shape of decoded names, offsets inside the message, skip and parse paths
ending at the same offset, and an accepted message (well formed in the sense of C36) re-packing and
re-unpacking to an equal message - equal up to the `Length` header fields, as in the package's own
FuzzUnpackPack - with `Message.Pack`'s compression and without.
The `Parser` methods and `Message.Unpack` share one model (`Unpack` is defined through the
Parser in Go, and the typed `XResource` methods call the same `unpackX` functions); their
agreement on the real code is checked by the Go-side oracle.
-/
namespace NetVerif.Proofs.C37
open NetVerif NetVerif.Model.Dns NetVerif.Proofs.Dns

theorem gen_limits_eq :
    Gen.C36.nonEncodedNameMax = nameMax ∧ Gen.C36.ptrLimit = ptrLimit ∧
    Gen.C36.svcbRejectsCompressedTarget = true := by decide

/-- Pointer chains terminate: with the model's fuel the loop of `Name.unpack` never runs out
of fuel, for every input (at most 127 labels, 10 pointers and one final step are possible). -/
theorem unpackName_terminates (msg : Bytes) (off : Nat) : unpackName msg off ≠ .error .fuel :=
  (unpackName_genuine msg off).1

/-- Any fuel above the model's gives the answer of `unpackName`: the fuel is not a hidden limit. -/
theorem unpackName_fuel_irrelevant (msg : Bytes) (off k : Nat) :
    unpackLoop msg (unpackFuel + k) off 0 [] off = unpackName msg off :=
  unpackLoop_fuel_mono msg unpackFuel off 0 [] off (unpackName_terminates msg off) k

/-- Decoded names are at most `nonEncodedNameMax` bytes; the root "." or labels of 1..63 bytes
that contain no '.', each followed by '.'. -/
theorem unpackName_shape (msg : Bytes) (off : Nat) (n : Bytes) (o : Nat)
    (h : unpackName msg off = .ok (n, o)) :
    n.length ≤ Gen.C36.nonEncodedNameMax ∧ NameShape n :=
  DnsAccept.unpackName_canonical h

/-- Accepted names re-pack and re-unpack to themselves. -/
theorem name_repack_stable (msg : Bytes) (off : Nat) (n : Bytes) (o : Nat)
    (h : unpackName msg off = .ok (n, o)) :
    ∃ bs, packName n [] none = .ok (bs, none) ∧ unpackName bs 0 = .ok (n, bs.length) := by
  rcases C36.name_roundtrip_nocomp n [] (DnsAccept.unpackName_canonical h) with ⟨bs, hp, hu⟩
  refine ⟨bs, hp, ?_⟩
  simpa using hu [] []

theorem unpackName_offset (msg : Bytes) (off : Nat) (n : Bytes) (o : Nat)
    (h : unpackName msg off = .ok (n, o)) : off < o ∧ o ≤ msg.length :=
  unpackLoop_offset msg _ _ _ _ _ _ h

/-! Where parsing succeeds, every other way through the record succeeds and ends at the same offset.
Skipping validates less than parsing, so the implication goes from parse to skip; that two paths
"advance equally whenever both succeed" follows, since the skip path has only one answer. -/

theorem unpackLoop_skipLoop (msg : Bytes) : ∀ (f2 f1 cur : Nat) (name : Bytes) (newOff : Nat) (n : Bytes) (o : Nat),
    unpackLoop msg f2 cur 0 name newOff = .ok (n, o) → msg.length - cur < f1 →
    skipLoop msg f1 cur = .ok o := by
  intro f2
  induction f2 with
  | zero => intro f1 cur name newOff n o h; simp [unpackLoop] at h
  | succ f2 ih =>
    intro f1 cur name newOff n o h hf
    cases f1 with
    | zero => omega
    | succ f1 =>
      rcases unpackLoop_cases msg cur 0 name newOff with ⟨_, _, _, he⟩ | ⟨_, hd, he⟩ |
        ⟨c, rest, hd, h0, h64, hc, _, _, he⟩ | ⟨c, c1, rest, hd, h3, _, he⟩ <;> rw [he] at h
      · cases h
      · simp only [if_true, Except.ok.injEq, Prod.mk.injEq] at h
        simp only [skipLoop, hd, Nat.zero_div, if_true, h.2]
      · have := drop_cons_length hd
        simp only [skipLoop, hd, Nat.div_eq_of_lt h64, Nat.ne_of_gt h0, Nat.not_lt.mpr hc, if_true, if_false]
        exact ih _ _ _ _ _ _ h (by omega)
      · have := unpackLoop_newOff msg _ _ _ _ _ _ _ (Nat.succ_ne_zero _) h
        simp only [if_true] at this
        simp only [skipLoop, hd, h3, Nat.reduceEqDiff, if_true, if_false, this]

theorem unpackName_skipName (msg : Bytes) (off : Nat) (n : Bytes) (o : Nat)
    (h : unpackName msg off = .ok (n, o)) : skipName msg off = .ok o :=
  unpackLoop_skipLoop msg _ _ _ _ _ _ _ h (by omega)

theorem skipName_unpackName_agree (msg : Bytes) (off o1 : Nat) (n : Bytes) (o2 : Nat)
    (h1 : skipName msg off = .ok o1) (h2 : unpackName msg off = .ok (n, o2)) : o1 = o2 :=
  Except.ok.inj (h1.symm.trans (unpackName_skipName msg off n o2 h2))

theorem u16At_skip16 {msg : Bytes} {off v o : Nat} (h : u16At msg off = .ok (v, o)) :
    skip16 msg off = .ok o :=
  skip16_ok.mpr (u16At_bound h)

theorem u32At_skip32 {msg : Bytes} {off v o : Nat} (h : u32At msg off = .ok (v, o)) :
    skip32 msg off = .ok o :=
  skip32_ok.mpr (u32At_bound h)

theorem unpackQuestion_skip {msg : Bytes} {off : Nat} {q : Question} {o : Nat}
    (h : unpackQuestion msg off = .ok (q, o)) : skipQuestion msg off = .ok o := by
  obtain ⟨o1, h1, h2, h3, -⟩ := unpackQuestion_ok h
  simp only [skipQuestion, unpackName_skipName msg off _ o1 h1, u16At_skip16 h2, u16At_skip16 h3]

/-- A record header that `ResourceHeader.unpack` accepts is one `skipResource` gets past: the skip
path reads the same Length field, adds it to the same offset and makes the same bound check. -/
theorem unpackRHeader_skip {msg : Bytes} {off : Nat} {hd : RHeader} {o : Nat}
    (h : unpackRHeader msg off = .ok (hd, o)) :
    skipResource msg off = .ok (o + hd.length) ∧ o + hd.length ≤ msg.length := by
  obtain ⟨o1, h1, h2, h3, h4, h5, -, hin⟩ := unpackRHeader_ok h
  refine ⟨?_, hin⟩
  simp only [skipResource, unpackName_skipName msg off _ o1 h1, u16At_skip16 h2, u16At_skip16 h3,
    u32At_skip32 h4, h5, Nat.not_lt.mpr hin, if_false]

/-- Where `Parser.resource` (and the typed `XResource` methods after `XHeader`) succeeds,
`SkipX` succeeds and advances to the same position, inside the message - the clause "Skip
methods advance to the same position as the corresponding parse methods" in the direction
parse ⇒ skip. It rests on `Parser.resourceHeader` checking RDLENGTH against the message (repair
`e098054`); the converse fails by design - skipping validates neither names nor bodies. -/
theorem parse_implies_skip (msg : Bytes) (off : Nat) (r : Resource) (o : Nat)
    (h : unpackResource msg off = .ok (r, o)) : skipResource msg off = .ok o ∧ o ≤ msg.length := by
  obtain ⟨o1, h1, -, rfl⟩ := unpackResource_ok h
  exact unpackRHeader_skip h1

theorem skipQuestion_unpackQuestion_agree (msg : Bytes) (off o1 : Nat) (q : Question) (o2 : Nat)
    (h1 : skipQuestion msg off = .ok o1) (h2 : unpackQuestion msg off = .ok (q, o2)) : o1 = o2 :=
  Except.ok.inj (h1.symm.trans (unpackQuestion_skip h2))

theorem skipResource_unpackResource_agree (msg : Bytes) (off o1 : Nat) (r : Resource) (o2 : Nat)
    (h1 : skipResource msg off = .ok o1) (h2 : unpackResource msg off = .ok (r, o2)) : o1 = o2 :=
  Except.ok.inj (h1.symm.trans (parse_implies_skip msg off r o2 h2).1)

theorem unpackQuestions_skip (msg : Bytes) : ∀ (k off : Nat) (qs : List Question) (o : Nat),
    unpackQuestions msg k off = .ok (qs, o) → skipQuestions msg k off = .ok o := by
  intro k
  induction k with
  | zero =>
    intro off qs o h
    simp only [unpackQuestions, Except.ok.injEq, Prod.mk.injEq] at h
    rw [skipQuestions, h.2]
  | succ k ih =>
    intro off qs o h
    obtain ⟨q, o1, qs', h1, h2, -⟩ := unpackQuestions_ok h
    simp only [skipQuestions, unpackQuestion_skip h1]
    exact ih _ _ _ h2

theorem unpackResources_skip (msg : Bytes) : ∀ (k off : Nat) (rs : List Resource) (o : Nat),
    unpackResources msg k off = .ok (rs, o) → skipResources msg k off = .ok o := by
  intro k
  induction k with
  | zero =>
    intro off rs o h
    simp only [unpackResources, Except.ok.injEq, Prod.mk.injEq] at h
    rw [skipResources, h.2]
  | succ k ih =>
    intro off rs o h
    obtain ⟨r, o1, rs', h1, h2, -⟩ := unpackResources_ok h
    simp only [skipResources, (parse_implies_skip msg off r o1 h1).1]
    exact ih _ _ _ h2

theorem unpackMessageOff_skip {msg : Bytes} {m : Message} {o : Nat}
    (h : unpackMessageOff msg = .ok (m, o)) : skipMessage msg = .ok o := by
  obtain ⟨w, o1, o2, o3, hw, -, h1, h2, h3, h4⟩ := unpackMessageOff_ok h
  simp only [skipMessage, hw, unpackQuestions_skip msg _ _ _ _ h1, unpackResources_skip msg _ _ _ _ h2,
    unpackResources_skip msg _ _ _ _ h3, unpackResources_skip msg _ _ _ _ h4]

/-- Skipping every record (`SkipAllQuestions` … `SkipAllAdditionals`) and
parsing every record (`Message.Unpack`) end at the same offset whenever both succeed. -/
theorem skipMessage_unpackMessage_agree (msg : Bytes) (o1 : Nat) (m : Message) (o2 : Nat)
    (h1 : skipMessage msg = .ok o1) (h2 : unpackMessageOff msg = .ok (m, o2)) : o1 = o2 :=
  Except.ok.inj (h1.symm.trans (unpackMessageOff_skip h2))

theorem walkQuestion_of_parse {msg : Bytes} {off : Nat} {q : Question} {o : Nat}
    (h : unpackQuestion msg off = .ok (q, o)) (s : Step) : ∃ it, walkQuestion msg off s = .ok (it, o) := by
  cases s with
  | parse | headerBody =>
    simp only [walkQuestion, h]
    exact ⟨_, rfl⟩
  | skip | headerSkip =>
    simp only [walkQuestion, unpackQuestion_skip h]
    exact ⟨_, rfl⟩

theorem walkResource_of_parse {msg : Bytes} {off : Nat} {r : Resource} {o : Nat}
    (h : unpackResource msg off = .ok (r, o)) (s : Step) : ∃ it, walkResource msg off s = .ok (it, o) := by
  obtain ⟨o1, h1, h2, rfl⟩ := unpackResource_ok h
  have hin := (unpackRHeader_skip h1).2
  cases s with
  | parse =>
    simp only [walkResource, h]
    exact ⟨_, rfl⟩
  | skip =>
    simp only [walkResource, (parse_implies_skip msg off r _ h).1]
    exact ⟨_, rfl⟩
  | headerBody =>
    simp only [walkResource, h1, h2]
    exact ⟨_, rfl⟩
  | headerSkip =>
    simp only [walkResource, h1, skipAfterHeader, Nat.not_lt.mpr hin, if_false]
    exact ⟨_, rfl⟩

theorem walkQuestions_of_parse (msg : Bytes) : ∀ (n off : Nat) (qs : List Question) (o : Nat),
    unpackQuestions msg n off = .ok (qs, o) →
    ∀ sc, ∃ its sc', walkSection walkQuestion msg n off sc = .ok (its, o, sc') := by
  intro n
  induction n with
  | zero =>
    intro off qs o h sc
    simp only [unpackQuestions, Except.ok.injEq, Prod.mk.injEq] at h
    exact ⟨[], sc, by rw [walkSection, h.2]⟩
  | succ n ih =>
    intro off qs o h sc
    obtain ⟨q, o1, qs', h1, h2, -⟩ := unpackQuestions_ok h
    obtain ⟨it, hw⟩ := walkQuestion_of_parse h1 (nextStep sc).1
    obtain ⟨its, sc', hs⟩ := ih _ _ _ h2 (nextStep sc).2
    exact ⟨it :: its, sc', by simp only [walkSection, hw, hs]⟩

theorem walkResources_of_parse (msg : Bytes) : ∀ (n off : Nat) (rs : List Resource) (o : Nat),
    unpackResources msg n off = .ok (rs, o) →
    ∀ sc, ∃ its sc', walkSection walkResource msg n off sc = .ok (its, o, sc') := by
  intro n
  induction n with
  | zero =>
    intro off rs o h sc
    simp only [unpackResources, Except.ok.injEq, Prod.mk.injEq] at h
    exact ⟨[], sc, by rw [walkSection, h.2]⟩
  | succ n ih =>
    intro off rs o h sc
    obtain ⟨r, o1, rs', h1, h2, -⟩ := unpackResources_ok h
    obtain ⟨it, hw⟩ := walkResource_of_parse h1 (nextStep sc).1
    obtain ⟨its, sc', hs⟩ := ih _ _ _ h2 (nextStep sc).2
    exact ⟨it :: its, sc', by simp only [walkSection, hw, hs]⟩

/-- Where `Message.Unpack` succeeds, so does the record-level API under every script, and it
ends at the same offset. -/
theorem walkMessage_of_parse {msg : Bytes} {m : Message} {o : Nat}
    (h : unpackMessageOff msg = .ok (m, o)) (sc : List Step) : ∃ its, walkMessage msg sc = .ok (its, o) := by
  obtain ⟨w, o1, o2, o3, hw, -, h1, h2, h3, h4⟩ := unpackMessageOff_ok h
  obtain ⟨i1, s1, e1⟩ := walkQuestions_of_parse msg _ _ _ _ h1 sc
  obtain ⟨i2, s2, e2⟩ := walkResources_of_parse msg _ _ _ _ h2 s1
  obtain ⟨i3, s3, e3⟩ := walkResources_of_parse msg _ _ _ _ h3 s2
  obtain ⟨i4, s4, e4⟩ := walkResources_of_parse msg _ _ _ _ h4 s3
  exact ⟨i1 ++ i2 ++ i3 ++ i4, by simp only [walkMessage, hw, e1, e2, e3, e4]⟩

/-- Any mixture of parsing, skipping, header+typed-body and header+skip over the records of a
message ends at the same offset as `Message.Unpack`, whenever both succeed. -/
theorem walkMessage_unpackMessage_agree (msg : Bytes) (sc : List Step) (its : List Item) (o1 : Nat)
    (m : Message) (o2 : Nat)
    (h1 : walkMessage msg sc = .ok (its, o1)) (h2 : unpackMessageOff msg = .ok (m, o2)) : o1 = o2 := by
  obtain ⟨its', h⟩ := walkMessage_of_parse h2 sc
  exact (Prod.mk.inj (Except.ok.inj (h1.symm.trans h))).2

/-- The all-parse script (`sc = []`) as an instance: it ends at the offset of `Message.Unpack`. -/
theorem walkMessage_parse_offset (msg : Bytes) (m : Message) (o : Nat)
    (h : unpackMessageOff msg = .ok (m, o)) (its : List Item) (o' : Nat)
    (hw : walkMessage msg [] = .ok (its, o')) : o' = o :=
  walkMessage_unpackMessage_agree msg [] its o' m o hw h

/-- A successful skip stays inside the message (both skip paths check RDLENGTH against the
bytes that remain). -/
theorem skipResource_in_bounds (msg : Bytes) (off o : Nat) (h : skipResource msg off = .ok o) :
    o ≤ msg.length := by
  revert h
  fun_cases skipResource msg off
  case case7 hin => rintro ⟨⟩; omega
  all_goals nofun

/-- `XHeader()` followed by `SkipX()` may succeed only if the plain `SkipX()` succeeds on the
same record, and then both end at the same offset, inside the message. -/
theorem headerSkip_implies_skip (msg : Bytes) (off : Nat) (it : Item) (o : Nat)
    (h : walkResource msg off .headerSkip = .ok (it, o)) :
    skipResource msg off = .ok o ∧ o ≤ msg.length := by
  simp only [walkResource] at h
  split at h
  · cases h
  · rename_i hd oh hh
    have := unpackRHeader_skip hh
    simp only [skipAfterHeader, Nat.not_lt.mpr this.2, if_false, Except.ok.injEq, Prod.mk.injEq] at h
    rw [← h.2]
    exact this

/-- `Message.Unpack` terminates on every input: none of the fuelled loops of the model
(names, TXT strings, OPT options, SVCB parameters - given fuel `len(msg)+1`, `Length+1`) can run
out of fuel. -/
theorem unpackMessage_terminates (msg : Bytes) : unpackMessage msg ≠ .error .fuel :=
  (DnsTotal.unpackMessage_genuine msg).1

/-- A single record at any offset (`Parser.resource`, typed `XResource` methods) never runs out of fuel either. -/
theorem unpackResource_terminates (msg : Bytes) (off : Nat) : unpackResource msg off ≠ .error .fuel :=
  (DnsTotal.unpackResource_genuine msg off).1

open NetVerif.Proofs.DnsAccept NetVerif.Proofs.DnsMsg

/-- What `Message.Unpack` accepts is well formed (every name canonical, every field within
its Go type, `Type` fields consistent with the bodies). -/
theorem unpack_accepts_wellformed (b : Bytes) (m : Message) (hb : BytesWF b)
    (hu : unpackMessage b = .ok m) : WFMessage m ∧ TypesConsistent m :=
  unpackMessage_wf hb hu

/-- C37, re-pack clause (for `Message.Pack`). -/
def RepackStatement : Prop :=
  ∀ (b : Bytes) (m : Message) (b' : Bytes), BytesWF b → unpackMessage b = .ok m →
    packMessage m = .ok b' → ∃ m', unpackMessage b' = .ok m' ∧ eraseLens m' = eraseLens m

/-- The re-pack clause for either packer (`none`: without compression, `some []`: `Message.Pack`). -/
theorem repack_with (comp : Option CompMap) (hcomp : comp = none ∨ comp = some []) (b : Bytes) (m : Message)
    (b' : Bytes) (hb : BytesWF b) (hu : unpackMessage b = .ok m) (hp : packMessageWith m comp = .ok b') :
    ∃ m', unpackMessage b' = .ok m' ∧ eraseLens m' = eraseLens m := by
  rcases unpackMessage_wf hb hu with ⟨hwf, ht⟩
  rcases C36.message_holds m comp b' hcomp hwf hp with ⟨l1, l2, l3, h1, h2, h3, h⟩
  exact ⟨_, h, eraseLens_norm m l1 l2 l3 ht h1 h2 h3⟩

/-- An accepted message that `Pack` packs unpacks again to an equal message. When `Pack` packs is not
proved: it refuses a body or section beyond the wire limits, and the model's own `Err.fuel` answer in
`packResource` is not shown unreachable, so that case sits behind the hypothesis too. -/
theorem repack_holds : RepackStatement :=
  fun b m b' => repack_with (some []) (.inr rfl) b m b'

/-- `RepackStatement` for a re-pack without compression. -/
theorem repack_nocomp (b : Bytes) (m : Message) (b' : Bytes) (hb : BytesWF b)
    (hu : unpackMessage b = .ok m) (hp : packMessageWith m none = .ok b') :
    ∃ m', unpackMessage b' = .ok m' ∧ eraseLens m' = eraseLens m :=
  repack_with none (.inl rfl) b m b' hb hu hp

/-- `C36.deepMessage` packed without compression: `Unpack` accepts it, and `Pack` of the result built a
pointer chain that `Unpack` refused before repair `b15f534` (finding `ptr-depth`). -/
def deepBytes : Bytes := (packMessageWith C36.deepMessage none).toOption.getD []

theorem deepBytes_wf : BytesWF deepBytes := by unfold BytesWF; decide +kernel

theorem deepBytes_accepted : unpackMessage deepBytes = .ok C36.deepMessage := by
  rcases C36.deepMessage_nocomp_ok with ⟨b, hp, hu⟩
  rwa [deepBytes, hp]

example : ∃ b' m', packMessage C36.deepMessage = .ok b' ∧ unpackMessage b' = .ok m' ∧
    eraseLens m' = eraseLens C36.deepMessage := by
  rcases C36.deepMessage_ok with ⟨b', hp, _⟩
  rcases repack_holds deepBytes C36.deepMessage b' deepBytes_wf deepBytes_accepted hp with ⟨m', h1, h2⟩
  exact ⟨b', m', hp, h1, h2⟩

/-- An accepted TXT body fills its record exactly: the strings that `unpackTXTResource` returns,
each with its length octet (what `packText` writes for it), add up to `Length` (a string may not run
past RDLENGTH, not even by the length octet). -/
theorem txtLoop_exact (msg : Bytes) (length : Nat) : ∀ (fuel off n : Nat) (ss : List Bytes),
    txtLoop msg length fuel off n = .ok ss → n ≤ length →
    n + (ss.map (fun s => s.length + 1)).sum = length := by
  intro fuel off n
  fun_induction txtLoop msg length fuel off n with
  | case4 fuel off n hlt t off' ht hchk ts hrec ih =>
    rintro _ ⟨⟩ _
    have := ih _ hrec (by omega)
    simp only [List.map_cons, List.sum_cons]
    omega
  | case6 => rintro _ ⟨⟩ _; simp; omega -- the end of the record: no string
  | _ => nofun

/-- OPT options stay inside their record (repair `db61754` of finding `repack-ResTooLong`): an accepted
OPT body re-packs to at most the record's declared Length. -/
theorem optLoop_within (msg : Bytes) (e : Nat) : ∀ (fuel off : Nat) (os : List (Nat × Bytes)),
    optLoop msg e fuel off = .ok os → off ≤ e → off + (packOpts os).length ≤ e := by
  intro fuel off
  fun_induction optLoop msg e fuel off with
  | case6 fuel off _ code off1 h1 l off2 h2 hin hlen os' hrec ih =>
    rintro _ ⟨⟩ _
    have b1 := (u16At_bound h1).1
    have b2 := (u16At_bound h2).1
    have := ih _ hrec (by omega)
    have hl : ((msg.drop off2).take l).length = l := by
      rw [List.length_take, List.length_drop]; omega
    simp [packOpts, u16, hl] at this ⊢
    omega
  | case8 => rintro _ ⟨⟩ _; simp [packOpts]; omega -- the end of the record: no option
  | _ => nofun

/-! Go panic freedom. `Model/DnsChecked.lean` is the reader once more with every Go index / slice / sub-slice expression
behind a CHECKED primitive (`getC` = `msg[i]`, `sliceC` = `msg[a:b]`, outcome `Err.panic` when out of
range) and exactly the guards of the Go code in front of them. For ALL byte strings, offsets and
scripts: the twin never yields `Err.panic`, and it is equal to the model. -/

open NetVerif.Proofs.DnsChecked NetVerif.Proofs.DnsTotal in
/-- `Message.Unpack` never panics (checked twin; also for a single record / question / name at
any offset: what the typed Parser methods run). -/
theorem unpack_never_panics (msg : Bytes) (off typ len : Nat) :
    unpackMessageC msg ≠ .error .panic ∧ unpackResourceC msg off ≠ .error .panic ∧
    unpackQuestionC msg off ≠ .error .panic ∧ unpackRHeaderC msg off ≠ .error .panic ∧
    unpackBodyC msg off typ len ≠ .error .panic ∧ unpackNameC msg off ≠ .error .panic := by
  rw [unpackMessageC_eq, unpackResourceC_eq, unpackQuestionC_eq, unpackRHeaderC_eq, unpackBodyC_eq, unpackNameC_eq]
  exact ⟨(unpackMessage_genuine msg).2, (unpackResource_genuine msg off).2, (unpackQuestion_genuine msg off).2,
    (unpackRHeader_genuine msg off).2, (unpackBody_genuine msg off typ len).2, (unpackName_genuine msg off).2⟩

open NetVerif.Proofs.DnsChecked NetVerif.Proofs.DnsTotal in
/-- The Skip paths never panic: `SkipAll*` over a whole message, `SkipQuestion`, `skipResource`,
`skipName` at any offset. -/
theorem skip_never_panics (msg : Bytes) (off : Nat) :
    skipMessageC msg ≠ .error .panic ∧ skipResourceC msg off ≠ .error .panic ∧
    skipQuestionC msg off ≠ .error .panic ∧ skipNameC msg off ≠ .error .panic := by
  rw [skipMessageC_eq, skipResourceC_eq, skipQuestionC_eq, skipNameC_eq]
  exact ⟨(skipMessage_genuine msg).2, (skipResource_genuine msg off).2, (skipQuestion_genuine msg off).2,
    (skipName_genuine msg off).2⟩

open NetVerif.Proofs.DnsChecked NetVerif.Proofs.DnsTotal in
/-- The record-level Parser API never panics, whatever mixture of `X()`, `SkipX()`,
`XHeader()`+typed `XResource()` and `XHeader()`+`SkipX()` is applied to the records, and each of
these on a single record at ANY offset (which covers calls made in any parser state: a call in
the wrong section returns ErrNotStarted / ErrSectionDone before it touches the message). -/
theorem parser_never_panics (msg : Bytes) (sc : List Step) (off : Nat) (s : Step) :
    walkMessageC msg sc ≠ .error .panic ∧ walkResourceC msg off s ≠ .error .panic ∧
    walkQuestionC msg off s ≠ .error .panic := by
  rw [walkMessageC_eq, walkResourceC_eq, walkQuestionC_eq]
  exact ⟨(walkMessage_genuine msg sc).2, (walkResource_genuine msg off s).2, (walkQuestion_genuine msg off s).2⟩

open NetVerif.Proofs.DnsChecked in
theorem checked_twin_eq (msg : Bytes) (sc : List Step) (off : Nat) :
    unpackMessageC msg = unpackMessage msg ∧ skipMessageC msg = skipMessage msg ∧
    walkMessageC msg sc = walkMessage msg sc ∧ unpackNameC msg off = unpackName msg off ∧
    skipNameC msg off = skipName msg off :=
  ⟨unpackMessageC_eq msg, skipMessageC_eq msg, walkMessageC_eq msg sc, unpackNameC_eq msg off, skipNameC_eq msg off⟩

open NetVerif.Proofs.DnsChecked in
/-- `unpackName_shape`'s bound on the checked twin: decoded names are at most 254 bytes. -/
theorem name_len_le_255 (msg : Bytes) (off : Nat) (n : Bytes) (o : Nat)
    (h : unpackNameC msg off = .ok (n, o)) : n.length ≤ 254 ∧ n.length < 255 := by
  rw [unpackNameC_eq] at h
  have := (unpackName_shape msg off n o h).1
  have e : Gen.C36.nonEncodedNameMax = 254 := rfl
  omega

open NetVerif.Proofs.DnsChecked in
/-- `unpackName_terminates` on the checked twin: the loop never runs out of fuel, whatever the pointers
point at (loops, the last byte, beyond the end). -/
theorem ptr_chain_terminates (msg : Bytes) (off : Nat) : unpackNameC msg off ≠ .error .fuel := by
  rw [unpackNameC_eq]; exact unpackName_terminates msg off

end NetVerif.Proofs.C37
