import NetVerif.Proofs.C14
import NetVerif.Model.H2Norm
/-!
C14 — the request direction: `clientFrames` (what the Transport writes for a submitted
request: `encodeAndWriteHeaders` + `writeRequestBody`) against the receive state machine.

The Transport puts END_STREAM on HEADERS whenever the request has no body
(`endStream := !res.HasBody`), also when trailers are announced: `witnessReq` below is such a
request (regression input in `corpus/C14/`). After that, the receiver's header-list size accounting
(`sizeLoop`) in closed form: what the Transport agrees to send is never truncated by it.
-/
namespace NetVerif.Proofs.C14
open NetVerif NetVerif.Model.H2Frame NetVerif.Model.H2Msg NetVerif.Model.H2Norm

/-- the full statement: whatever the plan (SETTINGS, schedule) and lawful codec, the frames the
Transport writes for a request are accepted by the receiver as exactly the normalised request. -/
def RequestDeliveredStatement : Prop :=
  ∀ (C : Codec) (sync : C.S → C.D → Prop), Lawful C sync → ∀ (s : C.S) (d : C.D), sync s d →
    ∀ (p : Plan), 0 < p.maxHdr → 0 < p.maxData → ∀ (r : Req),
      ∃ d', decodeFrames C.dec d p.sid (clientFrames C s p r).1 = some (clientNorm r, d')

theorem reqFields_ne_nil (r : Req) : reqFields r ≠ [] := by
  intro h
  unfold reqFields at h
  cases h

theorem request_delivered (C : Codec) (sync : C.S → C.D → Prop) (hC : Lawful C sync) (s : C.S) (d : C.D)
    (hs : sync s d) (p : Plan) (hh : 0 < p.maxHdr) (hd : 0 < p.maxData) (r : Req) :
    ∃ d', decodeFrames C.dec d p.sid (clientFrames C s p r).1 = some (clientNorm r, d') ∧
      sync (clientFrames C s p r).2 d' := by
  unfold clientFrames
  exact decode_encode C sync hC s d hs { p with earlyEnd := r.earlyEnd } hh hd (clientNorm r)
    (reqFields_ne_nil r)

theorem holds : RequestDeliveredStatement := by
  intro C sync hC s d hs p hh hd r
  obtain ⟨d', h, _⟩ := request_delivered C sync hC s d hs p hh hd r
  exact ⟨d', h⟩

theorem chunks_nil (max : Nat) (cuts : List Nat) : chunks max cuts [] = [] := by
  cases cuts <;> simp [chunks, splitBlock, splitLoop]

theorem bodyless_ends_on_headers (C : Codec) (s : C.S) (p : Plan) (r : Req) (h : r.hasBody = false) :
    (clientFrames C s p r).1 = writeHeaderBlock p.sid true p.maxHdr (C.enc s (reqFields r)).1 := by
  simp [clientFrames, encodeFrames, clientNorm, Req.earlyEnd, h, chunks_nil]

/-- the receiver's size accounting (`readMetaFrame`) in closed form. -/
theorem sizeLoop_eq (fs : List Field) (limit : Nat) :
    sizeLoop limit fs = if headerListSize fs ≤ limit then some (limit - headerListSize fs) else none := by
  fun_induction sizeLoop limit fs with
  | case1 => exact (if_pos (Nat.zero_le _)).symm
  | case2 limit f fs h =>
    rw [headerListSize, if_neg (by omega)]
  | case3 limit f fs h ih =>
    rw [ih, headerListSize]
    generalize f.name.length + f.value.length + 32 = sz at *
    by_cases h2 : headerListSize fs ≤ limit - sz
    · rw [if_pos h2, if_pos (by omega)]
      congr 1
      omega
    · rw [if_neg h2, if_neg (by omega)]

/-- In particular a list of exactly the advertised limit is delivered. -/
theorem sizeLoop_isSome_iff : ∀ (fs : List Field) (limit : Nat),
    (sizeLoop limit fs).isSome = true ↔ headerListSize fs ≤ limit := by
  intro fs limit
  rw [sizeLoop_eq]
  split <;> simp [*]

theorem sizeLoop_at_limit (fs : List Field) : sizeLoop (headerListSize fs) fs = some 0 := by
  rw [sizeLoop_eq, if_pos (Nat.le_refl _), Nat.sub_self]

/-- whatever the Transport does send (`clientRefuses = false`) fits the server's accounting. -/
theorem sent_request_not_truncated (r : Req) (limit : Nat) (hl : 0 < limit)
    (h : clientRefuses r limit = false) : (sizeLoop limit (clientNorm r).headers).isSome = true := by
  rw [sizeLoop_isSome_iff]
  simp [clientRefuses, hl] at h
  simpa [clientNorm] using h

/-- a POST without body announcing one trailer. -/
def witnessReq : Req :=
  { method := str "POST", scheme := str "https", host := [], uhost := str "example.com", path := str "/",
    contentLength := 0, nilBody := true, body := [], header := [], trailer := [(str "X-T", [str "v"])],
    gzip := false }

/-- its frames are accepted as `clientNorm witnessReq` … -/
example : ∃ d', decodeFrames simpleCodec.dec () 1
      (clientFrames simpleCodec () { sid := 1, maxHdr := 16384, maxData := 16384 } witnessReq).1
    = some (clientNorm witnessReq, d') :=
  holds simpleCodec (fun _ _ => True) simpleCodec_lawful () () trivial
    { sid := 1, maxHdr := 16384, maxData := 16384 } (by decide) (by decide) witnessReq

/-- … which still announces the trailer in the header block but carries no trailers, and whose
single HEADERS frame has END_STREAM. -/
example : (clientNorm witnessReq).trailers = [] ∧
    (⟨str "trailer", str "X-T"⟩ : Field) ∈ (clientNorm witnessReq).headers ∧
    witnessReq.earlyEnd = true := by decide +kernel

end NetVerif.Proofs.C14
