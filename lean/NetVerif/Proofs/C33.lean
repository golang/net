import NetVerif.Model.Qpack
import NetVerif.Model.QpackHuffman
import NetVerif.Proofs.C04
import NetVerif.Gen.C33
import NetVerif.Proofs.Lemmas.QpackRT
import NetVerif.Proofs.Lemmas.H3Safe
/-!
C33 — QPACK field sections round-trip and the decoder rejects bad input safely.
The Huffman code is a parameter (`Huff`) of the model.  Only `C33RT.decode_encode`
(`Lemmas/QpackRT.lean`) assumes `HuffOK` of it; `roundtrip` here has no such hypothesis, `huffOK`
discharges it for the HPACK Huffman model of C04.
Preconditions of the round trip that the property text leaves implicit but its second sentence
implies (the decoder must reject them): no empty field name, pseudo-headers first.
-/
namespace NetVerif.Proofs.C33
open NetVerif NetVerif.Model.H3Stream NetVerif.Model.Qpack NetVerif.Proofs.QpackBasic NetVerif.Proofs.C33RT

theorem gen_staticTable_eq : Gen.C33.staticTable = Model.QpackStatic.staticTable := rfl

theorem gen_staticTable_length : Gen.C33.staticTable.length = 99 := by decide +kernel

/-- The Huffman table extracted for C33 from http2/hpack/tables.go is the table the C04 Huffman
model and proofs are about (both regenerated on every run). -/
theorem gen_huffman_eq :
    Gen.C33.huffmanCodes = Gen.Huffman.codes ∧ Gen.C33.huffmanCodeLen = Gen.Huffman.lens := ⟨rfl, rfl⟩

theorem gen_error_codes_eq :
    Gen.C33.errQPACKDecompressionFailed = cQpackDecompressionFailed ∧
    Gen.C33.errH3MessageError = cMessageError ∧
    Gen.C33.errH3FrameError = cFrameError ∧
    Gen.C33.mayIndex = 0 ∧ Gen.C33.neverIndex = 255 := by decide

theorem huffOK : HuffOK Model.QpackHuffman.huff := by
  constructor
  · intro s hs
    show Model.QpackHuffman.dec (Model.Huffman.appendHuffman s) = some s
    unfold Model.QpackHuffman.dec
    rw [NetVerif.Proofs.C04.decode_appendHuffman s hs]
  · exact NetVerif.Proofs.C04.appendHuffman_length

/-- The encoder's choice "Huffman only when shorter" on the concrete codec: the literal carries
the Huffman form exactly when `HuffmanEncodeLength(s) < len(s)`, and its H bit says which. -/
theorem string_choice (first p : Nat) (s : List Nat) :
    appendPrefixedString Model.QpackHuffman.huff first p s =
      if Model.Huffman.encodeLength s < s.length then
        appendPrefixedInt (first + 2 ^ p) p (Model.Huffman.encodeLength s) ++ Model.Huffman.appendHuffman s
      else appendPrefixedInt first p s.length ++ s := rfl

/-- C33 round trip, with the HPACK Huffman model of C04 and the regenerated static table: for every
list of fields over byte strings whose lower-cased form the decoder is specified to accept,
`decode (encode fs)` returns the lower-cased printable-ASCII-named fields, in order, never-index flags
and values kept, and consumes exactly the encoded section. -/
theorem roundtrip (fs : List Field)
    (hsize : ∀ f ∈ fs, f.name.length < 2 ^ 62 ∧ f.value.length < 2 ^ 62 ∧ Bytes f.value)
    (hwf : PseudoFirst false (expected fs))
    (rest : List Nat) (s : St) (hdead : s.dead = false)
    (hdata : s.data = encode Model.QpackHuffman.huff Gen.C33.staticTable fs ++ rest)
    (hlim : s.lim = ((encode Model.QpackHuffman.huff Gen.C33.staticTable fs).length : Int)) :
    ∃ s', decode Model.QpackHuffman.huff Gen.C33.staticTable s = ⟨expected fs, .ok () s'⟩ ∧
      s'.lim = 0 ∧ s'.data = rest ∧ s'.dead = false :=
  decode_encode Model.QpackHuffman.huff huffOK Gen.C33.staticTable (by rw [gen_staticTable_length]; decide)
    fs hsize hwf rest s hdead hdata hlim

/-- Non-vacuity: a field list with a pseudo-header, an upper-case name, a never-indexed field and a
name that is dropped satisfies the hypotheses. -/
example : PseudoFirst false (expected [⟨false, [58, 112], [47]⟩, ⟨true, [65, 98], [1, 2]⟩, ⟨false, [200], []⟩]) :=
  ⟨rfl, trivial⟩

theorem expected_names_lower (fs : List Field) : ∀ f ∈ expected fs, ∃ g ∈ fs, lowerHeader g.name = some f.name ∧
    f.never = g.never ∧ f.value = g.value := by
  intro f hf
  simp only [expected, List.mem_filterMap] at hf
  obtain ⟨g, hg, h⟩ := hf
  cases hn : lowerHeader g.name with
  | none => simp [hn] at h
  | some n => simp [hn] at h; subst h; exact ⟨g, hg, hn, rfl, rfl⟩

/-- C33, prefixed integers round-trip; `b` is the first byte, already read. -/
theorem prefixedInt_roundtrip (first p v : Nat) (hp : p ≤ 8) (hf : first % 2 ^ p = 0) (hv : v < 2 ^ 62)
    (b : Nat) (tl : List Nat) (henc : appendPrefixedInt first p v = b :: tl)
    (s : St) (t : List Nat) (hd : s.dead = false) (hpr : s.primed = true)
    (hdata : s.data = tl ++ t) (hlim : (tl.length : Int) ≤ s.lim) :
    ∃ s', readPrefixedIntWithByte s b p = .ok v s' ∧ s'.data = t ∧ s'.lim = s.lim - tl.length := by
  obtain ⟨k, hk⟩ := Int.le.dest hlim
  obtain ⟨s', h, h'⟩ := readPrefixedIntWithByte_append first p v hf hv b tl henc s [] t k
    ⟨hd, hpr, by rw [hdata, List.append_nil], by rw [List.append_nil, Int.natCast_add, hk]⟩
  exact ⟨s', h, h'.data, by rw [h'.lim, List.length_nil]; omega⟩

theorem prefixedInt_bounded (s s' : St) (first p v : Nat) (hp : p ≤ 8)
    (h : readPrefixedIntWithByte s first p = .ok v s') : v ≤ maxInt64 := by
  have hM2 : 2 ^ p ≤ 2 ^ 8 := Nat.pow_le_pow_right (by decide) hp
  have hM1 := Nat.two_pow_pos p
  have := Nat.mod_lt first hM1
  unfold readPrefixedIntWithByte at h
  generalize 2 ^ p = M at *
  dsimp only at h
  unfold maxInt64 at *
  split at h
  · cases h; omega
  · split at h
    · split at h
      · cases h
      · cases h; omega
    all_goals cases h

theorem rejects_nonzero_ric (H : Huff) (tbl : List (List Nat × List Nat)) (s s1 : St) (b ric : Nat)
    (h : readPrefixedInt s 8 = .ok (b, ric) s1) (hric : ric ≠ 0) :
    decode H tbl s = ⟨[], .err (.plain cQpackDecompressionFailed) s1⟩ := by
  unfold decode; rw [h]; simp [hric, qpackErr]

/-- References to the dynamic table are never accepted: indexed with T=0, name reference with T=0,
post-base index (first byte 16..31) and post-base name reference with N=1 (8..15). The latter with
N=0 is `unassigned_first_byte_empty_name`. -/
theorem rejects_dynamic (H : Huff) (tbl : List (List Nat × List Nat)) (s : St) (b : Nat)
    (hb : (128 ≤ b ∧ b < 192) ∨ (64 ≤ b ∧ b < 128 ∧ b / 16 % 2 = 0) ∨ (8 ≤ b ∧ b < 32)) :
    ∀ f s', decodeFieldLine H tbl s b ≠ .ok f s' := by
  intro f s' h
  unfold decodeFieldLine at h
  rcases hb with ⟨h1, h2⟩ | ⟨h1, h2, h3⟩ | ⟨h1, h2⟩
  · rw [if_pos h1] at h
    unfold decodeIndexedFieldLine Out.bind at h
    split at h
    · dsimp only at h
      rw [Nat.div_eq_of_lt_le (k := 2) h1 h2, if_neg (by decide)] at h
      cases h
    all_goals cases h
  · rw [if_neg (by omega), if_pos h1] at h
    unfold decodeLiteralNameRef Out.bind at h
    split at h
    · dsimp only at h
      rw [h3, if_neg (by decide)] at h
      cases h
    all_goals cases h
  · rw [if_neg (by omega), if_neg (by omega), if_neg (by omega), if_pos h1] at h
    cases h

theorem rejects_bad_static_index (s s1 : St) (b idx : Nat) (hb : b ≥ 128)
    (h : readPrefixedIntWithByte s b 6 = .ok idx s1) (hidx : idx ≥ 99) :
    ∀ H : Huff, ∃ e, decodeFieldLine H Gen.C33.staticTable s b = .err e s1 := by
  intro H
  have hnone : Gen.C33.staticTable[idx]? = none := by
    apply List.getElem?_eq_none; rw [gen_staticTable_length]; exact hidx
  unfold decodeFieldLine
  simp only [hb, if_true, decodeIndexedFieldLine, Out.bind, h, staticTableEntry, hnone]
  split
  · exact ⟨_, rfl⟩
  · exact ⟨_, rfl⟩

/-- One path through the body of `readPrefixedStringWithByte`: each hypothesis gives the result of
one of its steps, the last that the Huffman decoder refuses the bytes read. -/
theorem rejects_bad_huffman (H : Huff) (s s1 s3 : St) (first p size : Nat) (data : List Nat)
    (h1 : readPrefixedIntWithByte s first p = .ok size s1)
    (hlim : ¬ (s1.lim ≥ 0 ∧ (size : Int) > s1.lim))
    (h3 : readFull { s1 with allocs := (2 * min size s1.data.length + 512, s1.data.length) :: s1.allocs } size = .ok data s3)
    (hbit : first / 2 ^ p % 2 = 1) (hbad : H.dec data = none) :
    readPrefixedStringWithByte H s first p = .err (.plain cQpackDecompressionFailed) s3 := by
  unfold readPrefixedStringWithByte
  rw [h1]
  dsimp only
  rw [if_neg hlim, h3]
  dsimp only
  rw [if_pos hbit, hbad]
  rfl

theorem decodeLoop_fields_ok (H : Huff) (tbl : List (List Nat × List Nat)) :
    ∀ (fuel : Nat) (s : St) (saw : Bool) (acc : List Field),
    ∃ out, (decodeLoop H tbl fuel s saw acc).fields = acc ++ out ∧ PseudoFirst saw out := by
  intro fuel
  induction fuel with
  | zero => intro s saw acc; exact ⟨[], (List.append_nil _).symm, trivial⟩
  | succ k ih =>
    intro s saw acc
    have stop : ∀ o : Out Unit, ∃ out, (DecResult.mk acc o).fields = acc ++ out ∧ PseudoFirst saw out :=
      fun _ => ⟨[], (List.append_nil _).symm, trivial⟩
    unfold decodeLoop
    split
    · split
      · split
        · rename_i f s2 _
          split
          · exact stop _
          · rename_i c cs hname
            split
            · rename_i hc
              split
              · exact stop _
              · rename_i hs
                obtain ⟨out, ho, hp⟩ := ih s2 saw (acc ++ [f])
                refine ⟨f :: out, by rw [ho, List.append_assoc]; rfl, ?_⟩
                unfold PseudoFirst
                rw [hname]
                dsimp only
                rw [if_pos hc]
                exact ⟨Bool.eq_false_iff.mpr hs, hp⟩
            · rename_i hc
              obtain ⟨out, ho, hp⟩ := ih s2 true (acc ++ [f])
              refine ⟨f :: out, by rw [ho, List.append_assoc]; rfl, ?_⟩
              unfold PseudoFirst
              rw [hname]
              dsimp only
              rw [if_neg hc]
              exact hp
        all_goals exact stop _
      all_goals exact stop _
    · exact stop _

/-- C33, for arbitrary bytes and however the decode ends: no empty name and no pseudo-header after a
regular field reaches the callback. -/
theorem decode_fields_ok (H : Huff) (tbl : List (List Nat × List Nat)) (s : St) :
    PseudoFirst false (decode H tbl s).fields := by
  unfold decode
  split
  · split
    · exact trivial
    · split
      · obtain ⟨out, ho, hp⟩ := decodeLoop_fields_ok H tbl _ _ false []
        rw [ho]
        exact hp
      all_goals exact trivial
  all_goals exact trivial

/-- Empty names and misplaced pseudo-headers end the decode with H3_MESSAGE_ERROR: one turn of the
loop, with the results of its two calls given. -/
theorem rejects_empty_name_or_late_pseudo (H : Huff) (tbl : List (List Nat × List Nat)) (fuel : Nat)
    (s s1 s2 : St) (saw : Bool) (acc : List Field) (b : Nat) (f : Field)
    (hlim : s.lim > 0) (hb : readByte s = .ok b s1) (hf : decodeFieldLine H tbl s1 b = .ok f s2)
    (hbad : f.name = [] ∨ (∃ cs, f.name = 58 :: cs ∧ saw = true)) :
    decodeLoop H tbl (fuel + 1) s saw acc = ⟨acc, .err (.plain cMessageError) s2⟩ := by
  unfold decodeLoop
  simp only [hlim, if_true, hb, hf]
  rcases hbad with h | ⟨cs, h, hs⟩
  · simp [h]
  · simp [h, hs]

/-- First bytes below 8 (RFC 9204 literal field line with post-base name reference, N=0) match no case
of the switch on `bits.LeadingZeros8` in qpack_decode.go, which has cases 0 to 4 only: the name stays
empty and the caller rejects it. -/
theorem unassigned_first_byte_empty_name (H : Huff) (tbl : List (List Nat × List Nat)) (s : St) (b : Nat) (hb : b < 8) :
    decodeFieldLine H tbl s b = .ok ⟨false, [], []⟩ s := by
  unfold decodeFieldLine
  rw [if_neg (by omega), if_neg (by omega), if_neg (by omega), if_neg (by omega)]

/-! `readPrefixedStringWithByte` lets its buffer grow as the bytes arrive (`io.ReadAll` over a
`LimitReader`), and the model records the capacity bound `2 * (bytes obtained) + 512`. With
`make([]byte, size)` in its place the statement below fails, 2^42 bytes being allocated for a 9-byte
section: the finding `alloc-exceeds-received`, fix 49110ac140 in /repo. -/

/-- The state an outcome leaves, if it returned. -/
def finalSt {α : Type} : Out α → Option St
  | .ok _ s => some s
  | .err _ s => some s
  | .panic => none
  | .hang => none

open NetVerif.Proofs.H3Safe in
/-- "Allocations are bounded by the bytes actually received", for every decode on a live stream,
whatever the bytes, the declared frame length and the way the decode ends. The capacity recorded at
the one allocation on this path, `2 * min size avail + 512`, is what the model assumes of how
`io.ReadAll` grows its buffer (`Model.Qpack.readPrefixedStringWithByte`) and meets the bound by
itself; what `alloc_holds` adds is that nothing else on the decode path records an allocation and
that no decode panics. The frame-limit guard is `alloc_guard`. -/
def AllocStatement : Prop :=
  ∀ (H : Huff) (tbl : List (List Nat × List Nat)) (s : St), s.dead = false → AllocsBounded s →
    (decode H tbl s).final ≠ .panic ∧
    ∀ st', finalSt (decode H tbl s).final = some st' → AllocsBounded st'

open NetVerif.Proofs.H3Safe in
theorem alloc_holds : AllocStatement := by
  intro H tbl s hd hb
  have h := safe_decode H tbl s ⟨hd, hb⟩
  revert h
  cases (decode H tbl s).final with
  | ok a s' => intro h; exact ⟨by simp, by intro st' hs; simp [finalSt] at hs; subst hs; exact h.2⟩
  | err e s' => intro h; exact ⟨by simp, by intro st' hs; simp [finalSt] at hs; subst hs; exact h.2⟩
  | panic => intro h; exact False.elim h
  | hang => intro _; exact ⟨by simp, by intro st' hs; simp [finalSt] at hs⟩

/-- The identity in place of the Huffman codec, for the concrete inputs below. -/
def Hid : Huff := { encLen := fun s => s.length, enc := fun s => s, dec := fun s => some s }

/-- The witness of `alloc-exceeds-received` (DESIGN §10): a literal of length 2^42 in a frame of declared
length 2^62 - 1. -/
def allocWitnessBig : St :=
  { St.fresh [0, 0, 0x27, 0xf9, 0xff, 0xff, 0xff, 0xff, 0x7f] with lim := 4611686018427387903 }

/-- It is rejected after a 512-byte allocation. -/
example : (decode Hid [] allocWitnessBig).final =
    .err (.plain cQpackDecompressionFailed)
      { data := [], primed := true, dead := false, lim := 4611686018427387894, allocs := [(512, 0)] } := by rfl

example : NetVerif.Proofs.H3Safe.AllocsBounded
    { data := [], primed := true, dead := false, lim := 4611686018427387894, allocs := [(512, 0)] } := by
  intro a ha; simp at ha; subst ha; simp

/-- The frame-limit guard: a declared literal length beyond the remaining declared frame length is
rejected before anything is read. -/
theorem alloc_guard (H : Huff) (s s1 : St) (first p size : Nat)
    (h1 : readPrefixedIntWithByte s first p = .ok size s1) (hl : s1.lim ≥ 0) (hbig : (size : Int) > s1.lim) :
    readPrefixedStringWithByte H s first p = .err (.plain cQpackDecompressionFailed) s1 := by
  unfold readPrefixedStringWithByte
  rw [h1]
  dsimp only
  rw [if_pos ⟨hl, hbig⟩]
  rfl

end NetVerif.Proofs.C33
