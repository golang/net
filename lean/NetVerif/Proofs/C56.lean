import NetVerif.Model.Httpsfv
import NetVerif.Gen.C56
import NetVerif.Proofs.Lemmas.IfCases
/-!
C56 — structured-field parsing follows RFC 9651: the bare items and the key (`C56Rfc` has the containers).

The grammar is the ABNF of RFC 9651 §3.3 as predicates on byte lists (`Sf*`; `KeyText` is the key of
§3.1.2). Each `consume*` of the Go source is characterised once, with arbitrary text after the item, as
`Cuts c L`: `c s = some (t, r)` exactly when `s = t ++ r`, `t` is a text of the grammar and `r` begins
with something at which the longest match stops. A `Parse*` function wants the rest empty (`Cuts.whole`);
that gives the `parse*_iff` statements, which carry the property for bare items.

Display strings: the Go code checks UTF-8 one decoded octet at a time (`isPartOfValidRune`, model
`feedByte`), the specification is the RFC 3629 grammar `ValidUTF8`. `Pending` says what the buffer holds
between two calls (`Need`: how many bytes the sequence begun still wants and where the next one lies);
`feedByte_spec` says that one call keeps it so and decides what the grammar decides, the grammar being
read by its first byte as `leadInfo` reads it (`valid_lead`, `valid_nolead`).
-/
namespace NetVerif.Proofs.C56
open NetVerif NetVerif.Model.Httpsfv

/-! T-tie: the byte classes regenerated from the Go source are the model's; the inline byte sets and the
numeric limits are compared with literals, which the model's definitions spell inline as well. -/

theorem gen_isLCAlpha_eq : Gen.C56.isLCAlpha = isLCAlpha := rfl
theorem gen_isAlpha_eq : Gen.C56.isAlpha = isAlpha := rfl
theorem gen_isDigit_eq : Gen.C56.isDigit = isDigit := rfl
theorem gen_isVChar_eq : Gen.C56.isVChar = isVChar := rfl
theorem gen_isSP_eq : Gen.C56.isSP = isSP := rfl
theorem gen_isTChar_eq : Gen.C56.isTChar = isTChar := rfl
/-- The byte sets of the `slices.Contains` calls, which the model's `isKeyChar` / `isTokenChar` /
`isB64Char` repeat as literals of their own (the statement does not mention them). -/
theorem gen_sets_eq : Gen.C56.keySets = [[95, 45, 46, 42]] ∧ Gen.C56.tokenSets = [[58, 47]] ∧
    Gen.C56.byteSeqSets = [[43, 47, 61]] := by decide
/-- The limits 12 / 15 / 16 / 3 of `consumeIntegerOrDecimal`, which `numTail` repeats as literals. -/
theorem gen_numberLimits_eq : Gen.C56.numberLimits = [12, 15, 16, 3] := by decide

def Digit (b : Nat) : Prop := 48 ≤ b ∧ b ≤ 57
def Alpha (b : Nat) : Prop := (65 ≤ b ∧ b ≤ 90) ∨ (97 ≤ b ∧ b ≤ 122)
def LcAlpha (b : Nat) : Prop := 97 ≤ b ∧ b ≤ 122
/-- RFC 9110 tchar -/
def TChar (b : Nat) : Prop :=
  Alpha b ∨ Digit b ∨ b ∈ [33, 35, 36, 37, 38, 39, 42, 43, 45, 46, 94, 95, 96, 124, 126]

def IsSign (sign : List Nat) (neg : Bool) : Prop := (sign = [] ∧ neg = false) ∨ (sign = [45] ∧ neg = true)

/-- The model's own `digitsValue` (a left fold of `acc * 10 + (d - 48)`): the value in `SfInteger`,
`SfDecimal` and `SfDate` is specified by the function that computes it. -/
def decVal : List Nat → Nat := digitsValue

/-- sf-integer = ["-"] 1*15DIGIT, with its value -/
def SfInteger (s : List Nat) (v : Int) : Prop :=
  ∃ sign neg ds, s = sign ++ ds ∧ IsSign sign neg ∧ (∀ d ∈ ds, Digit d) ∧ 1 ≤ ds.length ∧ ds.length ≤ 15 ∧
    v = if neg then -(decVal ds : Int) else (decVal ds : Int)

/-- sf-decimal = ["-"] 1*12DIGIT "." 1*3DIGIT, with its value as (negative?, thousandths) -/
def SfDecimal (s : List Nat) (neg : Bool) (thousandths : Nat) : Prop :=
  ∃ sign ip fr, s = sign ++ ip ++ 46 :: fr ∧ IsSign sign neg ∧ (∀ d ∈ ip, Digit d) ∧ (∀ d ∈ fr, Digit d) ∧
    1 ≤ ip.length ∧ ip.length ≤ 12 ∧ 1 ≤ fr.length ∧ fr.length ≤ 3 ∧
    thousandths = decVal ip * 1000 + decVal fr * 10 ^ (3 - fr.length)

/-- sf-token = ( ALPHA / "*" ) *( tchar / ":" / "/" ) -/
def SfToken (s : List Nat) : Prop :=
  ∃ c r, s = c :: r ∧ (Alpha c ∨ c = 42) ∧ ∀ b ∈ r, TChar b ∨ b = 58 ∨ b = 47

/-- sf-boolean = "?" ( "0" / "1" ) -/
def SfBoolean (s : List Nat) (v : Bool) : Prop := (s = [63, 49] ∧ v = true) ∨ (s = [63, 48] ∧ v = false)

/-- sf-date = "@" sf-integer -/
def SfDate (s : List Nat) (v : Int) : Prop := ∃ t, s = 64 :: t ∧ SfInteger t v

def StartsNot (p : Nat → Bool) (r : List Nat) : Prop := ∀ c r', r = c :: r' → p c = false

theorem startsNot_nil (p : Nat → Bool) : StartsNot p [] := by intro c r' h; cases h

theorem span_append (p : Nat → Bool) (a r : List Nat) (ha : ∀ x ∈ a, p x = true)
    (hr : StartsNot p r) : (a ++ r).takeWhile p = a ∧ (a ++ r).dropWhile p = r := by
  rw [List.takeWhile_append_of_pos ha, List.dropWhile_append_of_pos ha]
  cases r with
  | nil => simp
  | cons c r' =>
    have := hr c r' rfl
    simp [this]

theorem span_all (p : Nat → Bool) (l : List Nat) :
    (∀ x ∈ l.takeWhile p, p x = true) ∧ StartsNot p (l.dropWhile p) := by
  induction l with
  | nil => exact ⟨by simp, startsNot_nil p⟩
  | cons b l ih =>
    by_cases hb : p b = true
    · simp only [List.takeWhile_cons, List.dropWhile_cons, hb, if_true]
      refine ⟨?_, ih.2⟩
      intro x hx
      simp at hx
      rcases hx with rfl | hx
      · exact hb
      · exact ih.1 x hx
    · simp only [List.takeWhile_cons, List.dropWhile_cons, hb]
      refine ⟨by simp, ?_⟩
      intro c r' h
      simp at h
      rw [← h.1]; simpa using hb

theorem span_iff (p : Nat → Bool) (l a r : List Nat) :
    l.takeWhile p = a ∧ l.dropWhile p = r ↔ l = a ++ r ∧ (∀ x ∈ a, p x = true) ∧ StartsNot p r := by
  constructor
  · rintro ⟨rfl, rfl⟩
    exact ⟨List.takeWhile_append_dropWhile.symm, span_all p l⟩
  · rintro ⟨rfl, ha, hr⟩
    exact span_append p a r ha hr

/-- `c` cuts a text of `L` off its input: `L t r` says that `t` is a text of the grammar and that it
    ends where `r` begins (the condition on `r` is what makes the longest match stop there). -/
def Cuts (c : List Nat → Option (List Nat × List Nat)) (L : List Nat → List Nat → Prop) : Prop :=
  ∀ s t r, c s = some (t, r) ↔ s = t ++ r ∧ L t r

/-- The `Parse*` functions of bare items all have this shape: the consumer has to use up the input. -/
theorem Cuts.whole {c L} (h : Cuts c L) {β : Type} (s : List Nat) (g : Option β) (v : β) :
    (match c s with | some (_, []) => g | _ => none) = some v ↔ L s [] ∧ g = some v := by
  have hs : L s [] → c s = some (s, []) := fun hl => (h s s []).2 ⟨(List.append_nil s).symm, hl⟩
  cases hc : c s with
  | none => exact ⟨nofun, fun ⟨hl, _⟩ => by rw [hs hl] at hc; cases hc⟩
  | some p =>
    obtain ⟨t, r⟩ := p
    obtain ⟨e, hl⟩ := (h s t r).1 hc
    cases r with
    | nil => rw [List.append_nil] at e; subst e; exact ⟨fun e => ⟨hl, e⟩, fun e => e.2⟩
    | cons x r => exact ⟨nofun, fun ⟨hl', _⟩ => by rw [hs hl'] at hc; cases hc⟩

/-- What the fuel bounds of the container loops need of a consumer: it takes a non-empty prefix. -/
theorem Cuts.split {c L} (h : Cuts c L) (hne : ∀ t r, L t r → t ≠ []) {s t r : List Nat}
    (hc : c s = some (t, r)) : s = t ++ r ∧ t ≠ [] :=
  let ⟨e, hl⟩ := (h s t r).1 hc
  ⟨e, hne t r hl⟩

theorem isDigit_iff (b : Nat) : isDigit b = true ↔ Digit b := by
  unfold isDigit Digit; simp
theorem isAlpha_iff (b : Nat) : isAlpha b = true ↔ Alpha b := by
  unfold isAlpha isLCAlpha Alpha; simp; omega
theorem isLCAlpha_iff (b : Nat) : isLCAlpha b = true ↔ LcAlpha b := by
  unfold isLCAlpha LcAlpha; simp
/-- The test on the first character of a token and of a key: a byte class or "*". -/
theorem firstChar_iff {p : Nat → Bool} {P : Nat → Prop} (hp : ∀ c, p c = true ↔ P c) (c : Nat) :
    (!p c && c != 42) = false ↔ (P c ∨ c = 42) := by
  rw [← hp]; cases p c <;> simp

private theorem isTChar_iff (b : Nat) : isTChar b = true ↔ TChar b := by
  unfold isTChar TChar
  by_cases h : (isAlpha b || isDigit b) = true
  · have h' := h
    simp only [Bool.or_eq_true, isAlpha_iff, isDigit_iff] at h'
    simp only [h, if_true, true_iff]
    rcases h' with h' | h'
    · exact Or.inl h'
    · exact Or.inr (Or.inl h')
  · have h' := h
    simp only [Bool.or_eq_true, isAlpha_iff, isDigit_iff, not_or] at h'
    simp [h, h'.1, h'.2]

private theorem vchar_sp_ok (c : Nat) : (!isVChar c && !isSP c) = false ↔ (c = 32 ∨ (33 ≤ c ∧ c ≤ 126)) := by
  unfold isVChar isSP; simp; omega

private theorem takeWhile_digits (t : List Nat) : ∀ d ∈ t.takeWhile isDigit, Digit d :=
  fun d h => (isDigit_iff d).1 ((span_all isDigit t).1 d h)

private theorem digits_span (ds r : List Nat) (hd : ∀ d ∈ ds, Digit d) (hr : StartsNot isDigit r) :
    (ds ++ r).takeWhile isDigit = ds ∧ (ds ++ r).dropWhile isDigit = r :=
  span_append isDigit ds r (fun d h => (isDigit_iff d).2 (hd d h)) hr

private theorem startsNot_dot (r : List Nat) : StartsNot isDigit (46 :: r) := by
  intro c r' h; cases h; decide

/-- The length checks of `consumeIntegerOrDecimal` on a decimal (at most 12 integer digits, at most 16
    characters in all, 1 to 3 fraction digits) amount to the ABNF bounds. -/
private theorem decimal_limits {α : Type} (a f : Nat) (x : α) :
    (if a > 12 then none else if a + 1 + f > 16 then none else if (f == 0) = true then none
      else if f > 3 then none else some x) = if a ≤ 12 ∧ 1 ≤ f ∧ f ≤ 3 then some x else none := by
  by_cases h : a ≤ 12 ∧ 1 ≤ f ∧ f ≤ 3
  · rw [if_pos h, if_neg (by omega), if_neg (by omega), if_neg (by simp; omega), if_neg (by omega)]
  · rw [if_neg h]
    by_cases h1 : a > 12
    · rw [if_pos h1]
    by_cases h2 : a + 1 + f > 16
    · rw [if_neg h1, if_pos h2]
    by_cases h3 : f = 0
    · rw [if_neg h1, if_neg h2, if_pos (by simp [h3])]
    · rw [if_neg h1, if_neg h2, if_neg (by simp [h3]), if_pos (by omega)]

private theorem numTail_dot (t r2 : List Nat) (h : t.dropWhile isDigit = 46 :: r2) :
    numTail t = if (t.takeWhile isDigit).length ≤ 12 ∧ 1 ≤ (r2.takeWhile isDigit).length ∧
        (r2.takeWhile isDigit).length ≤ 3
      then some (t.takeWhile isDigit ++ 46 :: r2.takeWhile isDigit, r2.dropWhile isDigit) else none := by
  unfold numTail
  rw [h]
  exact decimal_limits _ _ _

private theorem numTail_nodot (t : List Nat) (h : ∀ r2, t.dropWhile isDigit ≠ 46 :: r2) :
    numTail t = if (t.takeWhile isDigit).length ≤ 15 then some (t.takeWhile isDigit, t.dropWhile isDigit)
      else none := by
  unfold numTail
  split
  · exact absurd ‹_› (h _)
  · by_cases hl : (t.takeWhile isDigit).length ≤ 15
    · rw [if_pos hl, if_neg (by omega)]
    · rw [if_neg hl, if_pos (by omega)]

private theorem numBody_digits (ds r : List Nat) (hd : ∀ d ∈ ds, Digit d) (hne : 1 ≤ ds.length) :
    numBody (ds ++ r) = numTail (ds ++ r) := by
  cases ds with
  | nil => cases hne
  | cons c ds' => simp [numBody, (isDigit_iff c).2 (hd c (by simp))]

theorem numBody_integer (ds r : List Nat) (hd : ∀ d ∈ ds, Digit d) (hne : 1 ≤ ds.length)
    (hr : StartsNot (fun c => isDigit c || c == 46) r) :
    numBody (ds ++ r) = if ds.length ≤ 15 then some (ds, r) else none := by
  have hr1 : StartsNot isDigit r := fun c r' h => (Bool.or_eq_false_iff.1 (hr c r' h)).1
  obtain ⟨h1, h2⟩ := digits_span ds r hd hr1
  rw [numBody_digits ds r hd hne, numTail_nodot, h1, h2]
  intro r2 e
  rw [h2] at e
  exact absurd (hr 46 r2 e) (by decide)

theorem numBody_decimal (ip fr r : List Nat) (hi : ∀ d ∈ ip, Digit d) (hf : ∀ d ∈ fr, Digit d)
    (hne : 1 ≤ ip.length) (hr : StartsNot isDigit r) :
    numBody (ip ++ 46 :: fr ++ r) =
      if ip.length ≤ 12 ∧ 1 ≤ fr.length ∧ fr.length ≤ 3 then some (ip ++ 46 :: fr, r) else none := by
  obtain ⟨h1, h2⟩ := digits_span ip (46 :: (fr ++ r)) hi (startsNot_dot _)
  obtain ⟨h3, h4⟩ := digits_span fr r hf hr
  rw [List.append_assoc, List.cons_append, numBody_digits ip _ hi hne, numTail_dot _ _ h2, h1, h3, h4]

/-- `c` is an unsigned integer or an unsigned decimal within the limits, and `r` may follow it: an
    integer stops before anything but DIGIT and ".", a decimal before anything but DIGIT. -/
inductive NumBody : List Nat → List Nat → Prop
  | int {c r : List Nat} : (∀ d ∈ c, Digit d) → 1 ≤ c.length → c.length ≤ 15 →
      StartsNot (fun c => isDigit c || c == 46) r → NumBody c r
  | dec {ip fr r : List Nat} : (∀ d ∈ ip, Digit d) → (∀ d ∈ fr, Digit d) → 1 ≤ ip.length → ip.length ≤ 12 →
      1 ≤ fr.length → fr.length ≤ 3 → StartsNot isDigit r → NumBody (ip ++ 46 :: fr) r

theorem numBody_sound (t c r : List Nat) (h : numBody t = some (c, r)) : t = c ++ r ∧ NumBody c r := by
  have hsplit := @List.takeWhile_append_dropWhile _ isDigit t
  have hlen : 1 ≤ (t.takeWhile isDigit).length ∧ numTail t = some (c, r) := by
    cases t with
    | nil => cases h
    | cons c0 t' =>
      by_cases hc : isDigit c0 = true
      · simpa [numBody, hc, List.takeWhile_cons] using h
      · simp [numBody, hc] at h
  obtain ⟨hlen, h⟩ := hlen
  by_cases hdot : ∃ r2, t.dropWhile isDigit = 46 :: r2
  · obtain ⟨r2, hdot⟩ := hdot
    rw [numTail_dot t r2 hdot, Option.ite_none_right_eq_some] at h
    obtain ⟨⟨b1, b2, b3⟩, h⟩ := h
    cases h
    refine ⟨?_, .dec (takeWhile_digits t) (takeWhile_digits r2) hlen b1 b2 b3 (span_all isDigit r2).2⟩
    rw [List.append_assoc, List.cons_append, List.takeWhile_append_dropWhile, ← hdot, hsplit]
  · have hno : ∀ r2, t.dropWhile isDigit ≠ 46 :: r2 := fun r2 e => hdot ⟨r2, e⟩
    rw [numTail_nodot t hno, Option.ite_none_right_eq_some] at h
    obtain ⟨b, h⟩ := h
    cases h
    refine ⟨hsplit.symm, .int (takeWhile_digits t) hlen b ?_⟩
    intro c' r' hr'
    by_cases h46 : c' = 46
    · exact absurd (h46 ▸ hr') (hno r')
    · simp [(span_all isDigit t).2 c' r' hr', h46]

theorem numBody_cuts : Cuts numBody NumBody := by
  intro t c r
  refine ⟨numBody_sound t c r, ?_⟩
  rintro ⟨rfl, ⟨hd, h1, h2, hr⟩ | ⟨hi, hf, a1, a2, a3, a4, hr⟩⟩
  · rw [numBody_integer c r hd h1 hr, if_pos h2]
  · rw [numBody_decimal _ _ r hi hf a1 hr, if_pos ⟨a2, a3, a4⟩]

theorem ciod_nonneg (s : List Nat) (h : ∀ t, s ≠ 45 :: t) :
    consumeIntegerOrDecimal s = numBody s := by
  unfold consumeIntegerOrDecimal
  split
  · rename_i t; exact absurd rfl (h t)
  · rfl

private theorem ciod_neg (t : List Nat) :
    consumeIntegerOrDecimal (45 :: t) =
      (match numBody t with | none => none | some (c, r) => some (45 :: c, r)) := rfl

private theorem digits_no_minus (ds : List Nat) (hd : ∀ d ∈ ds, Digit d) (h1 : 1 ≤ ds.length) (x : List Nat) :
    ∀ w, ds ++ x ≠ 45 :: w := by
  intro w e
  cases ds with
  | nil => cases h1
  | cons d ds => cases e; exact absurd (hd 45 (List.mem_cons_self ..)) (by unfold Digit; omega)

theorem numBody_first {c r : List Nat} (h : NumBody c r) : c ≠ [] ∧ ∀ w, c ++ r ≠ 45 :: w := by
  cases h with
  | int hd h1 => exact ⟨List.ne_nil_of_length_pos h1, digits_no_minus c hd h1 r⟩
  | @dec ip _ _ hi _ a1 =>
    exact ⟨by cases ip <;> nofun, fun w => by rw [List.append_assoc]; exact digits_no_minus ip hi a1 _ w⟩

theorem ciod_cuts : Cuts consumeIntegerOrDecimal fun t r =>
    ∃ sign neg c, IsSign sign neg ∧ t = sign ++ c ∧ NumBody c r := by
  intro s t r
  constructor
  · intro h
    unfold consumeIntegerOrDecimal at h
    split at h
    · rename_i u
      split at h
      · cases h
      · rename_i c r' hb
        cases h
        obtain ⟨e, hc⟩ := numBody_sound u c r hb
        exact ⟨by rw [e]; rfl, [45], true, c, .inr ⟨rfl, rfl⟩, rfl, hc⟩
    · obtain ⟨e, hc⟩ := numBody_sound s t r h
      exact ⟨e, [], false, t, .inl ⟨rfl, rfl⟩, rfl, hc⟩
  · rintro ⟨rfl, sign, neg, c, hs, rfl, hc⟩
    have hb := (numBody_cuts (c ++ r) c r).2 ⟨rfl, hc⟩
    rcases hs with ⟨rfl, _⟩ | ⟨rfl, _⟩
    · rw [List.nil_append, ciod_nonneg _ (numBody_first hc).2, hb]
    · rw [show ([45] ++ c) ++ r = 45 :: (c ++ r) from rfl, ciod_neg, hb]; rfl

private theorem digits_no_dot (ds : List Nat) (hd : ∀ d ∈ ds, Digit d) : List.elem 46 ds = false := by
  cases hh : List.elem 46 ds
  · rfl
  · have : 46 ∈ ds := by simpa using hh
    have := hd 46 this
    unfold Digit at this; omega

private theorem elem_dot_sign {sign : List Nat} {neg : Bool} (hs : IsSign sign neg) (t : List Nat) :
    List.elem 46 (sign ++ t) = List.elem 46 t := by
  rcases hs with ⟨rfl, _⟩ | ⟨rfl, _⟩ <;> rfl

/-- `strconv.ParseInt` on a signed digit string. -/
private theorem intValue_sign {sign : List Nat} {neg : Bool} (hs : IsSign sign neg) (ds : List Nat)
    (hd : ∀ d ∈ ds, Digit d) :
    intValue (sign ++ ds) = some (if neg then -(decVal ds : Int) else (decVal ds : Int)) := by
  unfold intValue
  rw [elem_dot_sign hs, digits_no_dot ds hd]
  rcases hs with ⟨rfl, rfl⟩ | ⟨rfl, rfl⟩
  · simp only [List.nil_append, Bool.false_eq_true, if_false]
    split
    · exact absurd (hd 45 (by simp)) (by unfold Digit; omega)
    · rfl
  · rfl

theorem parseInteger_iff (s : List Nat) (v : Int) : parseInteger s = some v ↔ SfInteger s v := by
  refine (ciod_cuts.whole s (intValue s) v).trans ⟨?_, ?_⟩
  · rintro ⟨⟨sign, neg, c, hs, rfl, ⟨hd, h1, h2, _⟩ | _⟩, hv⟩
    · rw [intValue_sign hs c hd] at hv
      exact ⟨sign, neg, c, rfl, hs, hd, h1, h2, (Option.some.inj hv).symm⟩
    · simp [intValue] at hv
  · rintro ⟨sign, neg, ds, rfl, hs, hd, h1, h2, rfl⟩
    exact ⟨⟨sign, neg, ds, hs, rfl, .int hd h1 h2 (startsNot_nil _)⟩, intValue_sign hs ds hd⟩

private theorem parseDecimal_sign {sign : List Nat} {neg : Bool} (hs : IsSign sign neg) (ip fr c : List Nat)
    (hi : ∀ d ∈ ip, Digit d) (h1 : 1 ≤ ip.length)
    (hc : consumeIntegerOrDecimal (sign ++ (ip ++ 46 :: fr)) = some (c, [])) :
    parseDecimal (sign ++ (ip ++ 46 :: fr)) =
      some (neg, decVal ip * 1000 + decVal fr * 10 ^ (3 - fr.length)) := by
  obtain ⟨p1, p2⟩ := digits_span ip (46 :: fr) hi (startsNot_dot fr)
  -- `simp` needs this to decide the two matches on a leading "-"
  have hnn := digits_no_minus ip hi h1 (46 :: fr)
  have hdot : List.elem 46 (sign ++ (ip ++ 46 :: fr)) = true := by rw [elem_dot_sign hs]; simp
  unfold parseDecimal
  rw [hc]
  simp only [hdot, Bool.not_true, Bool.false_eq_true, if_false]
  rcases hs with ⟨rfl, rfl⟩ | ⟨rfl, rfl⟩
  · simp only [List.nil_append]
    rw [p1, p2]; rfl
  · simp only [List.cons_append, List.nil_append]
    rw [p1, p2]; rfl

/-- The value is `±thousandths/1000`; the Go function returns the float64 nearest to it (not modelled;
    checked by the harness oracle). -/
theorem parseDecimal_iff (s : List Nat) (neg : Bool) (th : Nat) :
    parseDecimal s = some (neg, th) ↔ SfDecimal s neg th := by
  have value : ∀ {sign neg' ip fr}, IsSign sign neg' → (∀ d ∈ ip, Digit d) → (∀ d ∈ fr, Digit d) →
      1 ≤ ip.length → ip.length ≤ 12 → 1 ≤ fr.length → fr.length ≤ 3 →
      parseDecimal (sign ++ (ip ++ 46 :: fr)) =
        some (neg', decVal ip * 1000 + decVal fr * 10 ^ (3 - fr.length)) :=
    fun hs hi hf a1 a2 a3 a4 => parseDecimal_sign hs _ _ _ hi a1 ((ciod_cuts _ _ []).2
      ⟨(List.append_nil _).symm, _, _, _, hs, rfl, .dec hi hf a1 a2 a3 a4 (startsNot_nil _)⟩)
  constructor
  · intro h
    obtain ⟨⟨sign, neg', c, hs, rfl, ⟨hd, _⟩ | @⟨ip, fr, _, hi, hf, a1, a2, a3, a4, _⟩⟩, hg⟩ :=
      (ciod_cuts.whole s _ _).1 h
    · rw [Option.ite_none_left_eq_some, elem_dot_sign hs, digits_no_dot c hd] at hg
      exact absurd rfl hg.1
    · rw [value hs hi hf a1 a2 a3 a4] at h
      cases h
      exact ⟨sign, ip, fr, (List.append_assoc _ _ _).symm, hs, hi, hf, a1, a2, a3, a4, rfl⟩
  · rintro ⟨sign, ip, fr, rfl, hs, hi, hf, a1, a2, a3, a4, rfl⟩
    rw [List.append_assoc]
    exact value hs hi hf a1 a2 a3 a4

theorem consumeBoolean_cuts : Cuts consumeBoolean fun t _ => ∃ v, SfBoolean t v := by
  intro s t r
  constructor
  · intro h
    unfold consumeBoolean at h
    split at h
    · rename_i a b r'
      rw [Option.ite_none_right_eq_some] at h
      obtain ⟨hab, h⟩ := h
      cases h
      simp only [Bool.and_eq_true, beq_iff_eq, Bool.or_eq_true] at hab
      obtain ⟨rfl, rfl | rfl⟩ := hab
      · exact ⟨rfl, false, .inr ⟨rfl, rfl⟩⟩
      · exact ⟨rfl, true, .inl ⟨rfl, rfl⟩⟩
    · cases h
  · rintro ⟨rfl, v, ⟨rfl, _⟩ | ⟨rfl, _⟩⟩ <;> rfl

theorem parseBoolean_iff (s : List Nat) (v : Bool) : parseBoolean s = some v ↔ SfBoolean s v := by
  refine (consumeBoolean_cuts.whole s _ v).trans ⟨?_, fun h => ⟨⟨v, h⟩, ?_⟩⟩
  · rintro ⟨⟨_, ⟨rfl, _⟩ | ⟨rfl, _⟩⟩, hv⟩ <;> cases hv
    · exact .inl ⟨rfl, rfl⟩
    · exact .inr ⟨rfl, rfl⟩
  · rcases h with ⟨rfl, rfl⟩ | ⟨rfl, rfl⟩ <;> rfl

theorem isTokenChar_iff (b : Nat) : isTokenChar b = true ↔ (TChar b ∨ b = 58 ∨ b = 47) := by
  unfold isTokenChar; simp [isTChar_iff]

theorem tokenStart_tokenChar {c : Nat} (hc : Alpha c ∨ c = 42) : isTokenChar c = true := by
  rw [isTokenChar_iff]
  rcases hc with hc | rfl
  · exact .inl (.inl hc)
  · exact .inl (by unfold TChar; simp)

theorem consumeToken_cuts : Cuts consumeToken fun t r => SfToken t ∧ StartsNot isTokenChar r := by
  intro s t r
  cases s with
  | nil => exact ⟨nofun, by rintro ⟨e, ⟨c, u, rfl, _⟩, _⟩; cases e⟩
  | cons b s =>
    simp only [consumeToken, Option.ite_none_left_eq_some, Option.some.injEq, Prod.mk.injEq, span_iff,
      Bool.not_eq_true, firstChar_iff isAlpha_iff]
    constructor
    · rintro ⟨hb, e, ha, hr⟩
      cases t with
      | nil => exact absurd (hr b s e.symm) (by simp [tokenStart_tokenChar hb])
      | cons b' u =>
        cases e
        exact ⟨rfl, ⟨b, u, rfl, hb, fun x hx => (isTokenChar_iff x).1 (ha x (List.mem_cons_of_mem _ hx))⟩, hr⟩
    · rintro ⟨e, ⟨b', u, rfl, hb, hu⟩, hr⟩
      cases e
      refine ⟨hb, rfl, fun x hx => ?_, hr⟩
      rcases List.mem_cons.1 hx with rfl | hx
      · exact tokenStart_tokenChar hb
      · exact (isTokenChar_iff x).2 (hu x hx)

theorem parseToken_iff (s v : List Nat) : parseToken s = some v ↔ SfToken s ∧ v = s :=
  (consumeToken_cuts.whole s (some s) v).trans
    ⟨fun ⟨h, e⟩ => ⟨h.1, (Option.some.inj e).symm⟩, fun ⟨h, e⟩ => ⟨⟨h, startsNot_nil _⟩, e ▸ rfl⟩⟩

/-- sf-key text: ( lcalpha / "*" ) *( lcalpha / DIGIT / "_" / "-" / "." / "*" ). The second class is
    written with the model's `isKeyChar`; `keyText_intro` shows that it contains the ABNF's, the converse is
    read off `isKeyChar` and not proved. -/
def KeyText (k : List Nat) : Prop :=
  (∃ c r, k = c :: r ∧ (LcAlpha c ∨ c = 42)) ∧ ∀ b ∈ k, isKeyChar b = true

private theorem keyStart_keyChar {c : Nat} (hc : LcAlpha c ∨ c = 42) : isKeyChar c = true := by
  rcases hc with hc | rfl
  · simp [isKeyChar, (isLCAlpha_iff c).2 hc]
  · decide

theorem consumeKey_cuts : Cuts consumeKey fun t r => KeyText t ∧ StartsNot isKeyChar r := by
  intro s t r
  cases s with
  | nil => exact ⟨nofun, by rintro ⟨e, ⟨⟨c, u, rfl, _⟩, _⟩, _⟩; cases e⟩
  | cons b s =>
    simp only [consumeKey, Option.ite_none_left_eq_some, Option.some.injEq, Prod.mk.injEq, span_iff,
      Bool.not_eq_true, firstChar_iff isLCAlpha_iff]
    constructor
    · rintro ⟨hb, e, ha, hr⟩
      cases t with
      | nil => exact absurd (hr b s e.symm) (by simp [keyStart_keyChar hb])
      | cons b' u => cases e; exact ⟨rfl, ⟨⟨b, u, rfl, hb⟩, ha⟩, hr⟩
    · rintro ⟨e, ⟨⟨b', u, rfl, hb⟩, ha⟩, hr⟩
      cases e
      exact ⟨hb, rfl, ha, hr⟩

theorem keyText_intro (c : Nat) (r : List Nat) (hc : LcAlpha c ∨ c = 42)
    (hr : ∀ b ∈ r, LcAlpha b ∨ Digit b ∨ b = 95 ∨ b = 45 ∨ b = 46 ∨ b = 42) : KeyText (c :: r) := by
  have hk : ∀ b, (LcAlpha b ∨ Digit b ∨ b = 95 ∨ b = 45 ∨ b = 46 ∨ b = 42) → isKeyChar b = true := by
    intro b hb
    unfold isKeyChar
    rcases hb with hb | hb | rfl | rfl | rfl | rfl
    · simp [(isLCAlpha_iff b).2 hb]
    · simp [(isDigit_iff b).2 hb]
    all_goals decide
  refine ⟨⟨c, r, rfl, hc⟩, ?_⟩
  intro b hb
  simp at hb
  rcases hb with rfl | hb
  · exact keyStart_keyChar hc
  · exact hk b (hr b hb)

theorem consumeDate_cuts : Cuts consumeDate fun t r =>
    (∃ v, SfDate t v) ∧ StartsNot (fun c => isDigit c || c == 46) r := by
  intro s t r
  cases s with
  | nil => exact ⟨nofun, by rintro ⟨e, ⟨_, u, rfl, _⟩, _⟩; cases e⟩
  | cons b s =>
    simp only [consumeDate, Option.ite_none_left_eq_some, bne_iff_ne, ne_eq, Decidable.not_not]
    constructor
    · rintro ⟨rfl, h⟩
      split at h
      · cases h
      · rename_i num r' hn
        rw [Option.ite_none_left_eq_some] at h
        obtain ⟨hdot, h⟩ := h
        cases h
        obtain ⟨e, sign, neg, c, hs, rfl, ⟨hd, h1, h2, hr⟩ | _⟩ := (ciod_cuts s num r).1 hn
        · exact ⟨by rw [e]; rfl, ⟨_, _, rfl, sign, neg, c, rfl, hs, hd, h1, h2, rfl⟩, hr⟩
        · exact absurd hdot (by simp)
    · rintro ⟨e, ⟨_, u, rfl, sign, neg, ds, rfl, hs, hd, h1, h2, _⟩, hr⟩
      rw [List.cons_append, List.cons.injEq] at e
      obtain ⟨rfl, rfl⟩ := e
      refine ⟨rfl, ?_⟩
      rw [(ciod_cuts _ _ r).2 ⟨rfl, sign, neg, ds, hs, rfl, .int hd h1 h2 hr⟩]
      have : List.elem 46 (64 :: (sign ++ ds)) = false := by
        show List.elem 46 (sign ++ ds) = false
        rw [elem_dot_sign hs, digits_no_dot ds hd]
      simp only [this, Bool.false_eq_true, if_false]

theorem parseDate_iff (s : List Nat) (v : Int) : parseDate s = some v ↔ SfDate s v := by
  refine (consumeDate_cuts.whole s _ v).trans ⟨?_, ?_⟩
  · rintro ⟨⟨⟨_, t, rfl, _⟩, _⟩, h⟩
    exact ⟨t, rfl, (parseInteger_iff t v).1 h⟩
  · rintro ⟨t, rfl, h⟩
    exact ⟨⟨⟨v, t, rfl, h⟩, startsNot_nil _⟩, (parseInteger_iff t v).2 h⟩

/-- The text after the opening DQUOTE, up to and including the closing DQUOTE:
    *( unescaped / "\\" ( DQUOTE / "\\" ) ) DQUOTE, unescaped = SP / %x21 / %x23-5B / %x5D-7E. -/
inductive StrTail : List Nat → Prop
  | close : StrTail [34]
  | plain (c : Nat) (r : List Nat) : (c = 32 ∨ (33 ≤ c ∧ c ≤ 126)) → c ≠ 34 → c ≠ 92 → StrTail r → StrTail (c :: r)
  | esc (d : Nat) (r : List Nat) : (d = 34 ∨ d = 92) → StrTail r → StrTail (92 :: d :: r)

/-- sf-string = DQUOTE *( unescaped / escaped ) DQUOTE -/
def SfString (s : List Nat) : Prop := ∃ t, s = 34 :: t ∧ StrTail t

theorem stringBody_complete (a rest : List Nat) (h : StrTail a) :
    stringBody (a ++ rest) = some (a, rest) := by
  induction h with
  | close => unfold stringBody; simp
  | plain c r hc h34 h92 _ ih =>
    have hv := (vchar_sp_ok c).2 hc
    have e1 : (c == 92) = false := by simpa using h92
    have e2 : (c == 34) = false := by simpa using h34
    rw [List.cons_append]
    unfold stringBody
    simp only [e1, e2, hv, Bool.false_eq_true, if_false, ih]
  | esc d r hd _ ih =>
    have hd' : (d != 34 && d != 92) = false := by rcases hd with rfl | rfl <;> decide
    rw [List.cons_append, List.cons_append]
    unfold stringBody
    simp only [beq_self_eq_true, if_true, hd', Bool.false_eq_true, if_false, ih]

theorem stringBody_sound : ∀ (t a rest : List Nat), stringBody t = some (a, rest) → t = a ++ rest ∧ StrTail a
  | [], _, _, h => by cases h
  | c :: r, a, rest, h => by
    unfold stringBody at h
    rcases Lemmas.ite_cases h with ⟨h92, h1⟩ | ⟨h92, h1⟩
    · cases eq_of_beq h92
      cases r with
      | nil => cases h1
      | cons d r' =>
        rw [Option.ite_none_left_eq_some] at h1
        obtain ⟨hd, h1⟩ := h1
        split at h1
        · cases h1
        · rename_i a' rest' hs
          cases h1
          obtain ⟨e, st⟩ := stringBody_sound r' a' rest hs
          refine ⟨by rw [e]; rfl, .esc d a' ?_ st⟩
          revert hd
          simp only [Bool.and_eq_true, bne_iff_ne, ne_eq]
          omega
    · rcases Lemmas.ite_cases h1 with ⟨h34, h2⟩ | ⟨h34, h2⟩
      · cases eq_of_beq h34
        cases h2
        exact ⟨rfl, .close⟩
      · rw [Option.ite_none_left_eq_some] at h2
        obtain ⟨hv, h2⟩ := h2
        split at h2
        · cases h2
        · rename_i a' rest' hs
          cases h2
          obtain ⟨e, st⟩ := stringBody_sound r a' rest hs
          exact ⟨by rw [e]; rfl, .plain c a' ((vchar_sp_ok c).1 (Bool.eq_false_iff.2 hv))
            (fun e => h34 (beq_iff_eq.2 e)) (fun e => h92 (beq_iff_eq.2 e)) st⟩

theorem consumeString_cuts : Cuts consumeString fun t _ => SfString t := by
  intro s t r
  cases s with
  | nil => exact ⟨nofun, by rintro ⟨e, u, rfl, _⟩; cases e⟩
  | cons b s =>
    simp only [consumeString, Option.ite_none_left_eq_some, bne_iff_ne, ne_eq, Decidable.not_not]
    constructor
    · rintro ⟨rfl, h⟩
      split at h
      · cases h
      · rename_i a r' hb
        cases h
        obtain ⟨e, ha⟩ := stringBody_sound s a r hb
        exact ⟨by rw [e]; rfl, a, rfl, ha⟩
    · rintro ⟨e, a, rfl, ha⟩
      rw [List.cons_append, List.cons.injEq] at e
      obtain ⟨rfl, rfl⟩ := e
      exact ⟨rfl, by rw [stringBody_complete a r ha]⟩

/-- `ParseString` returns the text between the quotes verbatim: escapes are not removed (ParseString is not
    in the property's value list). -/
theorem parseString_iff (s v : List Nat) :
    parseString s = some v ↔ SfString s ∧ v = (s.drop 1).dropLast :=
  (consumeString_cuts.whole s _ v).trans (and_congr_right fun _ => by rw [Option.some.injEq, eq_comm])

def B64Char (b : Nat) : Prop := Alpha b ∨ Digit b ∨ b = 43 ∨ b = 47 ∨ b = 61

/-- RFC 9651 §4.2.7 step 7 with the tolerance of Go's `isBase64`, whose `n % 4` / `pad` table this is: the
    content is `d` followed by `p` "=" where `d` has no "=", and it is a sequence of 4-character quanta
    ended by nothing, xx, xx=, xx==, xxx or xxx= (RFC 4648 §4 has xx== and xxx=; missing padding, all or
    part of it as in xx=, may be synthesised; misplaced or excessive padding makes decoding fail). -/
def B64Decodable (body : List Nat) : Prop :=
  ∃ d p, body = d ++ List.replicate p 61 ∧ 61 ∉ d ∧
    ((d.length % 4 = 0 ∧ p = 0) ∨ (d.length % 4 = 2 ∧ p ≤ 2) ∨ (d.length % 4 = 3 ∧ p ≤ 1))

/-- sf-binary = ":" *(base64) ":" whose content is decodable base64 -/
def SfByteSeq (s : List Nat) : Prop :=
  ∃ body, s = 58 :: (body ++ [58]) ∧ (∀ b ∈ body, B64Char b) ∧ B64Decodable body

private theorem stripPad_decomp (l : List Nat) :
    l = stripPad l ++ List.replicate (l.length - (stripPad l).length) 61 := by
  unfold stripPad
  have h := @List.takeWhile_append_dropWhile _ (fun b => b == 61) l.reverse
  have htw : List.takeWhile (fun b => b == 61) l.reverse =
      List.replicate (List.takeWhile (fun b => b == 61) l.reverse).length 61 :=
    List.eq_replicate_iff.2 ⟨rfl, fun b hb' => by simpa using (span_all _ l.reverse).1 b hb'⟩
  generalize List.takeWhile (fun b => b == 61) l.reverse = tw at h htw
  generalize List.dropWhile (fun b => b == 61) l.reverse = dw at h
  have hl : l = dw.reverse ++ List.replicate tw.length 61 := by
    rw [← List.reverse_replicate, ← htw, ← List.reverse_append, h, List.reverse_reverse]
  have : l.length - dw.reverse.length = tw.length := by
    rw [hl]; simp
  rw [this]
  exact hl

private theorem stripPad_of (d : List Nat) (p : Nat) (hd : 61 ∉ d) :
    stripPad (d ++ List.replicate p 61) = d := by
  unfold stripPad
  rw [List.reverse_append, List.reverse_replicate]
  rw [List.dropWhile_append_of_pos (by intro a ha; simp [List.mem_replicate] at ha; simp [ha.2])]
  have : List.dropWhile (fun b => b == 61) d.reverse = d.reverse := by
    cases hr : d.reverse with
    | nil => rfl
    | cons x r =>
      have hx : x ∈ d := by
        have : x ∈ d.reverse := by rw [hr]; simp
        simpa using this
      have : (x == 61) = false := by
        have : x ≠ 61 := fun e => hd (e ▸ hx)
        simpa using this
      simp [this]
  rw [this]; simp

theorem isBase64_iff (body : List Nat) : isBase64 body = true ↔ B64Decodable body := by
  constructor
  · intro h
    unfold isBase64 at h
    rcases Lemmas.ite_cases h with ⟨_, h⟩ | ⟨hnm, h⟩
    · cases h
    refine ⟨stripPad body, _, stripPad_decomp body, by simpa using hnm, ?_⟩
    -- the `switch n % 4` of the Go function, case by case
    rcases Lemmas.ite_cases h with ⟨h0, h⟩ | ⟨_, h⟩
    · exact .inl ⟨by simpa using h0, by simpa using h⟩
    rcases Lemmas.ite_cases h with ⟨h2, h⟩ | ⟨_, h⟩
    · exact .inr (.inl ⟨by simpa using h2, by simpa using h⟩)
    rcases Lemmas.ite_cases h with ⟨h3, h⟩ | ⟨_, h⟩
    · exact .inr (.inr ⟨by simpa using h3, by simpa using h⟩)
    · cases h
  · rintro ⟨d, p, rfl, hd, hc⟩
    unfold isBase64
    simp only [stripPad_of d p hd]
    have he : List.elem 61 d = false := by
      cases hh : List.elem 61 d
      · rfl
      · exact absurd (by simpa using hh) hd
    have hp : (d ++ List.replicate p 61).length - d.length = p := by simp
    simp only [he, Bool.false_eq_true, if_false, hp]
    rcases hc with ⟨a, b⟩ | ⟨a, b⟩ | ⟨a, b⟩
    · simp [a, b]
    · simp [a, b]
    · simp [a, b]

private theorem isB64Char_iff (b : Nat) : isB64Char b = true ↔ B64Char b := by
  unfold isB64Char B64Char; simp [isAlpha_iff, isDigit_iff, or_assoc]

theorem byteSeqBody_complete (body rest : List Nat) (h : ∀ b ∈ body, B64Char b) :
    byteSeqBody (body ++ 58 :: rest) = some (body ++ [58], rest) := by
  induction body with
  | nil => simp [byteSeqBody]
  | cons c r ih =>
    have hc := h c (by simp)
    have h58 : (c == 58) = false := by
      have : c ≠ 58 := by
        intro e; subst e
        unfold B64Char Alpha Digit at hc; omega
      simpa using this
    have hb : isB64Char c = true := (isB64Char_iff c).2 hc
    simp only [List.cons_append, byteSeqBody, h58, hb, Bool.not_true, Bool.false_eq_true, if_false,
      ih (fun b hb => h b (by simp [hb]))]

theorem byteSeqBody_sound (t a rest : List Nat) (h : byteSeqBody t = some (a, rest)) :
    ∃ body, a = body ++ [58] ∧ t = a ++ rest ∧ ∀ b ∈ body, B64Char b := by
  induction t generalizing a rest with
  | nil => simp [byteSeqBody] at h
  | cons c r ih =>
    unfold byteSeqBody at h
    by_cases h58 : c = 58
    · subst h58
      simp at h
      exact ⟨[], by simp [h.1.symm], by simp [h.1.symm, h.2], by simp⟩
    · have e : (c == 58) = false := by simpa using h58
      simp only [e, Bool.false_eq_true, if_false] at h
      by_cases hb : isB64Char c = true
      · simp only [hb, Bool.not_true, Bool.false_eq_true, if_false] at h
        split at h; · cases h
        rename_i a' rest' hs
        simp only [Option.some.injEq, Prod.mk.injEq] at h
        obtain ⟨body, h1, h2, h3⟩ := ih a' rest' hs
        refine ⟨c :: body, by rw [← h.1, h1]; rfl, by rw [← h.1, ← h.2, h2]; rfl, ?_⟩
        intro b hb'
        simp at hb'
        rcases hb' with rfl | hb'
        · exact (isB64Char_iff _).1 hb
        · exact h3 b hb'
      · simp [hb] at h

theorem consumeByteSequence_cuts : Cuts consumeByteSequence fun t _ => SfByteSeq t := by
  intro s t r
  cases s with
  | nil => exact ⟨nofun, by rintro ⟨e, u, rfl, _⟩; cases e⟩
  | cons b s =>
    simp only [consumeByteSequence, Option.ite_none_left_eq_some, bne_iff_ne, ne_eq, Decidable.not_not]
    constructor
    · rintro ⟨rfl, h⟩
      split at h
      · cases h
      · rename_i a r' hb
        rw [Option.ite_none_left_eq_some] at h
        obtain ⟨hdec, h⟩ := h
        cases h
        obtain ⟨body, rfl, e, h3⟩ := byteSeqBody_sound s a r hb
        rw [List.dropLast_concat] at hdec
        exact ⟨by rw [e]; rfl, body, rfl, h3, (isBase64_iff body).1 (by simpa using hdec)⟩
    · rintro ⟨e, body, rfl, hb, hdec⟩
      rw [List.cons_append, List.cons.injEq, List.append_assoc] at e
      obtain ⟨rfl, rfl⟩ := e
      refine ⟨rfl, ?_⟩
      rw [show body ++ ([58] ++ r) = body ++ 58 :: r from rfl, byteSeqBody_complete body r hb]
      simp [(isBase64_iff body).2 hdec]

/-- `ParseByteSequence` returns the base64 text verbatim, not decoded (ParseByteSequence is not in the
    property's value list). -/
theorem parseByteSequence_iff (s v : List Nat) :
    parseByteSequence s = some v ↔ SfByteSeq s ∧ v = (s.drop 1).dropLast :=
  (consumeByteSequence_cuts.whole s _ v).trans (and_congr_right fun _ => by rw [Option.some.injEq, eq_comm])

def HexVal (c n : Nat) : Prop := (48 ≤ c ∧ c ≤ 57 ∧ n = c - 48) ∨ (97 ≤ c ∧ c ≤ 102 ∧ n = c - 87)
def Cont (b : Nat) : Prop := 0x80 ≤ b ∧ b ≤ 0xBF

/-- The text between `%"` and `"` with the byte string it denotes (RFC 9651 §4.2.10 steps 4.1–4.5). -/
inductive PctBody : List Nat → List Nat → Prop
  | nil : PctBody [] []
  | raw (c : Nat) (t bs : List Nat) : (c = 32 ∨ (33 ≤ c ∧ c ≤ 126)) → c ≠ 34 → c ≠ 37 →
      PctBody t bs → PctBody (c :: t) (c :: bs)
  | pct (h1 h2 n1 n2 : Nat) (t bs : List Nat) : HexVal h1 n1 → HexVal h2 n2 →
      PctBody t bs → PctBody (37 :: h1 :: h2 :: t) ((n1 * 16 + n2) :: bs)

def Lead2 (b : Nat) : Prop := 0xC2 ≤ b ∧ b ≤ 0xDF
/-- first two bytes of UTF8-3 (RFC 3629 §4) -/
def Second3 (b0 b1 : Nat) : Prop :=
  (b0 = 0xE0 ∧ 0xA0 ≤ b1 ∧ b1 ≤ 0xBF) ∨ (0xE1 ≤ b0 ∧ b0 ≤ 0xEC ∧ Cont b1) ∨
  (b0 = 0xED ∧ 0x80 ≤ b1 ∧ b1 ≤ 0x9F) ∨ (0xEE ≤ b0 ∧ b0 ≤ 0xEF ∧ Cont b1)
/-- first two bytes of UTF8-4 -/
def Second4 (b0 b1 : Nat) : Prop :=
  (b0 = 0xF0 ∧ 0x90 ≤ b1 ∧ b1 ≤ 0xBF) ∨ (0xF1 ≤ b0 ∧ b0 ≤ 0xF3 ∧ Cont b1) ∨
  (b0 = 0xF4 ∧ 0x80 ≤ b1 ∧ b1 ≤ 0x8F)

/-- RFC 3629 §4 UTF-8 byte sequences:
    UTF8-1 = %x00-7F, UTF8-2 = %xC2-DF UTF8-tail, UTF8-3 / UTF8-4 as `Second3` / `Second4` + tails. -/
inductive ValidUTF8 : List Nat → Prop
  | nil : ValidUTF8 []
  | one (b : Nat) (r : List Nat) : b < 0x80 → ValidUTF8 r → ValidUTF8 (b :: r)
  | two (b0 b1 : Nat) (r : List Nat) : Lead2 b0 → Cont b1 → ValidUTF8 r → ValidUTF8 (b0 :: b1 :: r)
  | three (b0 b1 b2 : Nat) (r : List Nat) : Second3 b0 b1 → Cont b2 → ValidUTF8 r →
      ValidUTF8 (b0 :: b1 :: b2 :: r)
  | four (b0 b1 b2 b3 : Nat) (r : List Nat) : Second4 b0 b1 → Cont b2 → Cont b3 → ValidUTF8 r →
      ValidUTF8 (b0 :: b1 :: b2 :: b3 :: r)

/-- sf-displaystring (RFC 9651 §4.2.10) with its value: `%"`, then unescaped VCHAR/SP or lower-case `%xx`
    octets, then `"`, the denoted bytes being valid UTF-8 per RFC 3629. -/
def SfDisplayString (s v : List Nat) : Prop :=
  ∃ body, s = 37 :: 34 :: (body ++ [34]) ∧ PctBody body v ∧ ValidUTF8 v

def DisplayStringStatement : Prop :=
  ∀ s v, parseDisplayString s = some v ↔ SfDisplayString s v

/-- `Tail n lo hi v`: `v` goes on with the `n` bytes a multi-byte sequence still needs, the first of them
    in `lo..hi` (what `leadInfo` says of the second byte), the others continuation bytes, and is valid
    UTF-8 after them. -/
def Tail : Nat → Nat → Nat → List Nat → Prop
  | 0, _, _, v => ValidUTF8 v
  | n + 1, lo, hi, v => ∃ b r, v = b :: r ∧ (lo ≤ b ∧ b ≤ hi) ∧ Tail n 0x80 0xBF r

private theorem tail_cons (n lo hi b : Nat) (r : List Nat) :
    Tail (n + 1) lo hi (b :: r) ↔ (lo ≤ b ∧ b ≤ hi) ∧ Tail n 0x80 0xBF r :=
  ⟨fun ⟨_, _, e, h⟩ => by cases e; exact h, fun h => ⟨b, r, rfl, h⟩⟩

private theorem tail_nil (n lo hi : Nat) : ¬ Tail (n + 1) lo hi [] := fun ⟨_, _, e, _⟩ => by cases e

/-- Inversion of the grammar on the first byte; the continuation bytes after the second are a `Tail`. -/
private theorem valid_inv (b : Nat) (v : List Nat) : ValidUTF8 (b :: v) ↔
    (b < 0x80 ∧ ValidUTF8 v) ∨
    (∃ b1 r, v = b1 :: r ∧ (Lead2 b ∧ Cont b1) ∧ Tail 0 0x80 0xBF r) ∨
    (∃ b1 r, v = b1 :: r ∧ Second3 b b1 ∧ Tail 1 0x80 0xBF r) ∨
    (∃ b1 r, v = b1 :: r ∧ Second4 b b1 ∧ Tail 2 0x80 0xBF r) := by
  constructor
  · intro hv
    cases hv with
    | one _ _ h hr => exact .inl ⟨h, hr⟩
    | two _ b1 r h hc hr => exact .inr (.inl ⟨b1, r, rfl, ⟨h, hc⟩, hr⟩)
    | three _ b1 b2 r h hc hr => exact .inr (.inr (.inl ⟨b1, _, rfl, h, b2, r, rfl, hc, hr⟩))
    | four _ b1 b2 b3 r h hc hd hr =>
      exact .inr (.inr (.inr ⟨b1, _, rfl, h, b2, _, rfl, hc, b3, r, rfl, hd, hr⟩))
  · rintro (⟨h, hr⟩ | ⟨b1, r, rfl, ⟨h, hc⟩, hr⟩ | ⟨b1, _, rfl, h, b2, r, rfl, hc, hr⟩ |
      ⟨b1, _, rfl, h, b2, _, rfl, hc, b3, r, rfl, hd, hr⟩)
    · exact .one b v h hr
    · exact .two b b1 r h hc hr
    · exact .three b b1 b2 r h hc hr
    · exact .four b b1 b2 b3 r h hc hd hr

/-- The rows of `first[]` / `acceptRanges[]` against the classes of the RFC 3629 grammar: the size and the
    range `leadInfo` gives for a lead byte are those of exactly one class. -/
private theorem leadInfo_some {b sz lo hi : Nat} (h : leadInfo b = some (sz, lo, hi)) (b1 : Nat) :
    (Lead2 b ∧ Cont b1 ↔ sz = 2 ∧ lo ≤ b1 ∧ b1 ≤ hi) ∧ (Second3 b b1 ↔ sz = 3 ∧ lo ≤ b1 ∧ b1 ≤ hi) ∧
    (Second4 b b1 ↔ sz = 4 ∧ lo ≤ b1 ∧ b1 ≤ hi) ∧ ¬ b < 0x80 ∧ (sz = 2 ∨ sz = 3 ∨ sz = 4) := by
  simp only [leadInfo, Lemmas.ite_eq_iff, beq_iff_eq, reduceCtorEq, and_false, false_or, or_false,
    Option.some.injEq, Prod.mk.injEq] at h
  unfold Lead2 Second3 Second4 Cont
  -- the eight rows, one at a time: a single `omega` over their disjunction costs twice as much
  obtain ⟨_, ⟨_, rfl, rfl, rfl⟩ | ⟨_, ⟨_, rfl, rfl, rfl⟩ | ⟨_, ⟨_, rfl, rfl, rfl⟩ | ⟨_, ⟨_, rfl, rfl, rfl⟩ |
    ⟨_, ⟨_, rfl, rfl, rfl⟩ | ⟨_, ⟨_, rfl, rfl, rfl⟩ | ⟨_, ⟨_, rfl, rfl, rfl⟩ | ⟨_, _, rfl, rfl, rfl⟩⟩⟩⟩⟩⟩⟩⟩ := h
  all_goals omega

private theorem leadInfo_none {b : Nat} (h : leadInfo b = none) : b < 0xC2 ∨ 0xF4 < b := by
  simp only [leadInfo, Lemmas.ite_eq_iff, beq_iff_eq, reduceCtorEq, and_false, false_or] at h
  omega

/-- The RFC 3629 grammar read the way `utf8.DecodeRune` reads it: the first byte decides how many bytes
    follow and where the second one lies. -/
theorem valid_lead {b sz lo hi : Nat} (h : leadInfo b = some (sz, lo, hi)) (v : List Nat) :
    ValidUTF8 (b :: v) ↔ Tail (sz - 1) lo hi v := by
  have hs := leadInfo_some h
  rw [valid_inv]
  simp only [fun b1 => (hs b1).1, fun b1 => (hs b1).2.1, fun b1 => (hs b1).2.2.1, (hs 0).2.2.2.1, false_and,
    false_or]
  rcases (hs 0).2.2.2.2 with rfl | rfl | rfl <;>
    simp only [Nat.reduceEqDiff, true_and, false_and, and_false, exists_false, or_false, false_or, Tail, Nat.reduceSub]

theorem valid_nolead {b : Nat} (h : leadInfo b = none) (v : List Nat) :
    ValidUTF8 (b :: v) ↔ b < 0x80 ∧ ValidUTF8 v := by
  have hb := leadInfo_none h
  rw [valid_inv]
  unfold Lead2 Second3 Second4
  refine ⟨?_, .inl⟩
  rintro (h | ⟨b1, _, _, ⟨h, _⟩, _⟩ | ⟨b1, _, _, h, _⟩ | ⟨b1, _, _, h, _⟩)
  · exact h
  all_goals omega

/-- `Need buf n lo hi`: `lastRune[:runeLen]` holds a proper prefix of a multi-byte sequence that wants `n + 1`
    more bytes, the next one in `lo..hi` (what `leadInfo` says of the second byte; a continuation byte later). -/
inductive Need : List Nat → Nat → Nat → Nat → Prop
  | one {b0 n lo hi : Nat} : leadInfo b0 = some (n + 2, lo, hi) → Need [b0] n lo hi
  | two {b0 b1 n lo hi : Nat} : leadInfo b0 = some (n + 3, lo, hi) → lo ≤ b1 ∧ b1 ≤ hi → Need [b0, b1] n 0x80 0xBF
  | three {b0 b1 b2 lo hi : Nat} : leadInfo b0 = some (4, lo, hi) → lo ≤ b1 ∧ b1 ≤ hi → 0x80 ≤ b2 ∧ b2 ≤ 0xBF →
      Need [b0, b1, b2] 0 0x80 0xBF

private theorem isCont_eq (b : Nat) : isCont b = !(decide (b < 0x80) || decide (0xBF < b)) := by
  simp only [isCont, Bool.not_or, ← decide_not, Nat.not_lt]

namespace Need

theorem valid {buf : List Nat} {n lo hi : Nat} (h : Need buf n lo hi) (v : List Nat) :
    ValidUTF8 (buf ++ v) ↔ Tail (n + 1) lo hi v := by
  cases h with
  | one h => exact valid_lead h v
  | two h h1 => exact (valid_lead h _).trans ((tail_cons ..).trans (and_iff_right h1))
  | three h h1 h2 =>
    exact (valid_lead h _).trans (((tail_cons ..).trans (and_iff_right h1)).trans
      ((tail_cons ..).trans (and_iff_right h2)))

theorem feed {buf : List Nat} {n lo hi : Nat} (h : Need buf n lo hi) (o : Nat) :
    feedByte buf o = if o < lo ∨ hi < o then none else some (if n = 0 then [] else buf ++ [o]) := by
  cases h with
  | one h =>
    obtain rfl | rfl | rfl : n = 0 ∨ n = 1 ∨ n = 2 := by have := (leadInfo_some h 0).2.2.2.2; omega
    all_goals by_cases ho : o < lo ∨ hi < o
    all_goals simp [feedByte, fullRune, decodeRune, h, ho, runeError]
  | @two _ b1 _ lo hi h h1 =>
    have h1' : (decide (b1 < lo) || decide (hi < b1)) = false := by simp; omega
    obtain rfl | rfl : n = 0 ∨ n = 1 := by have := (leadInfo_some h 0).2.2.2.2; omega
    all_goals by_cases ho : o < 0x80 ∨ 0xBF < o
    all_goals simp [feedByte, fullRune, decodeRune, h, h1', ho, runeError, isCont_eq]
  | @three _ b1 b2 lo hi h h1 h2 =>
    have h1' : (decide (b1 < lo) || decide (hi < b1)) = false := by simp; omega
    have h2' : (decide (b2 < 0x80) || decide (0xBF < b2)) = false := by simp; omega
    by_cases ho : o < 0x80 ∨ 0xBF < o
    all_goals simp [feedByte, fullRune, decodeRune, h, h1', h2', ho, runeError, isCont_eq]

theorem step {buf : List Nat} {n lo hi o : Nat} (h : Need buf (n + 1) lo hi) (ho : lo ≤ o ∧ o ≤ hi) :
    Need (buf ++ [o]) n 0x80 0xBF := by
  cases h with
  | one h => exact .two h ho
  | two h h1 =>
    obtain rfl : n = 0 := by have := (leadInfo_some h 0).2.2.2.2; omega
    exact .three h h1 ho

end Need

/-- What `lastRune[:runeLen]` can hold between two calls: nothing, or a proper prefix of a multi-byte sequence. -/
inductive Pending : List Nat → Prop
  | nil : Pending []
  | need {buf : List Nat} {n lo hi : Nat} : Need buf n lo hi → Pending buf

/-- What one call of `isPartOfValidRune` must achieve. -/
def FeedSpec (buf : List Nat) (o : Nat) : Option (List Nat) → Prop
  | some buf' => Pending buf' ∧ ∀ v, ValidUTF8 (buf ++ o :: v) ↔ ValidUTF8 (buf' ++ v)
  | none => ∀ v, ¬ ValidUTF8 (buf ++ o :: v)

private theorem feed_nil (o : Nat) : feedByte [] o =
    match leadInfo o with
    | none => if o < 0x80 then some [] else none
    | some _ => some [o] := by
  cases h : leadInfo o with
  | none =>
    by_cases ho : o < 0x80 <;> simp [feedByte, fullRune, decodeRune, h, ho, runeError]
    omega
  | some x =>
    obtain ⟨sz, lo, hi⟩ := x
    have : ¬ 1 ≥ sz := by have := (leadInfo_some h 0).2.2.2.2; omega
    simp [feedByte, fullRune, h, this]

/-- A pending (incomplete) sequence is not valid UTF-8 on its own: the closing quote must find `runeLen == 0`. -/
theorem pending_valid_nil (buf : List Nat) (hp : Pending buf) (hv : ValidUTF8 buf) : buf = [] := by
  cases hp with
  | nil => rfl
  | need h => exact (tail_nil _ _ _ ((h.valid []).1 (by rwa [List.append_nil]))).elim

theorem feedByte_spec (buf : List Nat) (o : Nat) (hp : Pending buf) : FeedSpec buf o (feedByte buf o) := by
  cases hp with
  | nil =>
    rw [feed_nil]
    cases h : leadInfo o with
    | none =>
      by_cases ho : o < 0x80
      · rw [if_pos ho]
        exact ⟨.nil, fun v => (valid_nolead h v).trans (and_iff_right ho)⟩
      · rw [if_neg ho]
        exact fun v hv => ho ((valid_nolead h v).1 hv).1
    | some x =>
      obtain ⟨sz, lo, hi⟩ := x
      obtain ⟨n, rfl⟩ : ∃ n, sz = n + 2 := ⟨sz - 2, by have := (leadInfo_some h 0).2.2.2.2; omega⟩
      exact ⟨.need (.one h), fun v => Iff.rfl⟩
  | @need _ n lo hi hn =>
    rw [hn.feed]
    have key : ∀ v, ValidUTF8 (buf ++ o :: v) ↔ (lo ≤ o ∧ o ≤ hi) ∧ Tail n 0x80 0xBF v := fun v =>
      (hn.valid _).trans (tail_cons ..)
    by_cases ho : o < lo ∨ hi < o
    · rw [if_pos ho]
      exact fun v hv => by have := ((key v).1 hv).1; omega
    · rw [if_neg ho]
      have ho' : lo ≤ o ∧ o ≤ hi := by omega
      cases n with
      | zero => exact ⟨.nil, fun v => (key v).trans (and_iff_right ho')⟩
      | succ n =>
        refine ⟨.need (hn.step ho'), fun v => ?_⟩
        rw [if_neg (Nat.succ_ne_zero n), List.append_assoc]
        rfl

private theorem decBase16_iff (c n : Nat) : decBase16 c = some n ↔ HexVal c n := by
  unfold decBase16 HexVal
  cases hd : isDigit c
  · have hd' : ¬(48 ≤ c ∧ c ≤ 57) := fun h => by rw [(isDigit_iff c).2 h] at hd; cases hd
    by_cases hx : 97 ≤ c ∧ c ≤ 102
    · rw [if_neg (by simp [hx.1, hx.2]), if_neg (by simp)]
      simp only [Option.some.injEq]
      omega
    · rw [if_pos (by simp; omega)]
      simp only [reduceCtorEq, false_iff]
      omega
  · have hd' := (isDigit_iff c).1 hd
    unfold Digit at hd'
    rw [if_neg (by simp), if_pos rfl]
    simp only [Option.some.injEq]
    omega

private theorem decOctetHex_iff (h1 h2 o : Nat) :
    decOctetHex h1 h2 = some o ↔ ∃ n1 n2, HexVal h1 n1 ∧ HexVal h2 n2 ∧ o = n1 * 16 + n2 := by
  unfold decOctetHex
  constructor
  · intro h
    split at h; · cases h
    rename_i n1 e1
    split at h; · cases h
    rename_i n2 e2
    simp only [Option.some.injEq] at h
    exact ⟨n1, n2, (decBase16_iff h1 n1).1 e1, (decBase16_iff h2 n2).1 e2, h.symm⟩
  · rintro ⟨n1, n2, a1, a2, rfl⟩
    rw [(decBase16_iff h1 n1).2 a1, (decBase16_iff h2 n2).2 a2]

private theorem decodeDisplay_pct (body v : List Nat) (h : PctBody body v) : decodeDisplay body = v := by
  induction h with
  | nil => rfl
  | raw c t bs _ _ h37 _ ih =>
    have e : (c == 37) = false := by simpa using h37
    unfold decodeDisplay; simp only [e, Bool.false_eq_true, if_false, ih]
  | pct h1 h2 n1 n2 t bs a1 a2 _ ih =>
    have := (decOctetHex_iff h1 h2 (n1 * 16 + n2)).2 ⟨n1, n2, a1, a2, rfl⟩
    unfold decodeDisplay; simp [this, ih]

theorem displayBody_complete (body v : List Nat) (hb : PctBody body v) :
    ∀ buf rest, Pending buf → ValidUTF8 (buf ++ v) →
      displayBody buf (body ++ 34 :: rest) = some (body ++ [34], rest) := by
  induction hb with
  | nil =>
    intro buf rest hp hv
    rw [List.append_nil] at hv
    have := pending_valid_nil buf hp hv
    subst this
    unfold displayBody; simp [isVChar, isSP]
  | raw c t bs hc h34 h37 _ ih =>
    intro buf rest hp hv
    have hs := feedByte_spec buf c hp
    have hvc := (vchar_sp_ok c).2 hc
    have e1 : (c == 34) = false := by simpa using h34
    have e2 : (c == 37) = false := by simpa using h37
    cases hf : feedByte buf c with
    | none => rw [hf] at hs; exact absurd hv (hs bs)
    | some buf' =>
      rw [hf] at hs
      obtain ⟨hp', hiff⟩ := hs
      have := ih buf' rest hp' ((hiff bs).1 hv)
      rw [List.cons_append]
      unfold displayBody
      simp only [hvc, e1, e2, Bool.false_eq_true, if_false, hf, this]
      rfl
  | pct h1 h2 n1 n2 t bs a1 a2 _ ih =>
    intro buf rest hp hv
    have hs := feedByte_spec buf (n1 * 16 + n2) hp
    have hd := (decOctetHex_iff h1 h2 (n1 * 16 + n2)).2 ⟨n1, n2, a1, a2, rfl⟩
    cases hf : feedByte buf (n1 * 16 + n2) with
    | none => rw [hf] at hs; exact absurd hv (hs bs)
    | some buf' =>
      rw [hf] at hs
      obtain ⟨hp', hiff⟩ := hs
      have := ih buf' rest hp' ((hiff bs).1 hv)
      rw [List.cons_append, List.cons_append, List.cons_append]
      unfold displayBody
      have hvc : (!isVChar 37 && !isSP 37) = false := by decide
      simp only [hvc, Bool.false_eq_true, if_false, beq_self_eq_true, if_true, hd, hf, this,
        show ((37 : Nat) == 34) = false by decide]
      rfl

theorem displayBody_sound : ∀ (t buf a rest : List Nat), Pending buf → displayBody buf t = some (a, rest) →
    ∃ body v, a = body ++ [34] ∧ t = a ++ rest ∧ PctBody body v ∧ ValidUTF8 (buf ++ v)
  | [], _, _, _, _, h => by cases h
  | ch :: r, buf, a, rest, hp, h => by
    unfold displayBody at h
    rw [Option.ite_none_left_eq_some] at h
    obtain ⟨hvc, h⟩ := h
    have hch := (vchar_sp_ok ch).1 (Bool.eq_false_iff.2 hvc)
    rcases Lemmas.ite_cases h with ⟨h34, h1⟩ | ⟨h34, h1⟩
    · cases eq_of_beq h34
      rw [Option.ite_none_left_eq_some] at h1
      obtain ⟨hb, h1⟩ := h1
      cases h1
      cases buf with
      | cons _ _ => exact absurd (Nat.succ_pos _) hb
      | nil => exact ⟨[], [], rfl, rfl, .nil, .nil⟩
    · have n34 : ch ≠ 34 := fun e => h34 (beq_iff_eq.2 e)
      rcases Lemmas.ite_cases h1 with ⟨h37, h2⟩ | ⟨h37, h2⟩
      · cases eq_of_beq h37
        cases r with
        | nil => cases h2
        | cons x1 r1 =>
          cases r1 with
          | nil => cases h2
          | cons x2 r' =>
            simp only at h2
            split at h2
            · cases h2
            rename_i o ho
            split at h2
            · cases h2
            rename_i buf' hf
            split at h2
            · cases h2
            rename_i a' rest' hs
            cases h2
            have hsp := feedByte_spec buf o hp
            rw [hf] at hsp
            obtain ⟨body, v, ea, et, hpb, hv⟩ := displayBody_sound r' buf' a' rest hsp.1 hs
            obtain ⟨n1, n2, a1, a2, rfl⟩ := (decOctetHex_iff x1 x2 o).1 ho
            exact ⟨37 :: x1 :: x2 :: body, (n1 * 16 + n2) :: v, by rw [ea]; rfl, by rw [et]; rfl,
              .pct x1 x2 n1 n2 body v a1 a2 hpb, (hsp.2 v).2 hv⟩
      · split at h2
        · cases h2
        rename_i buf' hf
        split at h2
        · cases h2
        rename_i a' rest' hs
        cases h2
        have hsp := feedByte_spec buf ch hp
        rw [hf] at hsp
        obtain ⟨body, v, ea, et, hpb, hv⟩ := displayBody_sound r buf' a' rest hsp.1 hs
        exact ⟨ch :: body, ch :: v, by rw [ea]; rfl, by rw [et]; rfl,
          .raw ch body v hch n34 (fun e => h37 (beq_iff_eq.2 e)) hpb, (hsp.2 v).2 hv⟩

theorem consumeDisplayString_cuts : Cuts consumeDisplayString fun t _ => ∃ v, SfDisplayString t v := by
  intro s t r
  constructor
  · intro h
    unfold consumeDisplayString at h
    split at h
    · rename_i x y u
      rw [Option.ite_none_right_eq_some] at h
      obtain ⟨hxy, h⟩ := h
      simp only [Bool.and_eq_true, beq_iff_eq] at hxy
      obtain ⟨rfl, rfl⟩ := hxy
      split at h
      · cases h
      · rename_i a r' hb
        cases h
        obtain ⟨body, v, rfl, e, hpb, hv⟩ := displayBody_sound u [] a r Pending.nil hb
        exact ⟨by rw [e]; rfl, v, body, rfl, hpb, hv⟩
    · cases h
  · rintro ⟨rfl, v, body, rfl, hpb, hv⟩
    have := displayBody_complete body v hpb [] r Pending.nil hv
    simp [consumeDisplayString, this]

theorem parseDisplayString_iff : DisplayStringStatement := by
  intro s v
  refine (consumeDisplayString_cuts.whole s _ v).trans ⟨?_, fun h => ⟨⟨v, h⟩, ?_⟩⟩
  · rintro ⟨⟨v', body, rfl, hpb, hv⟩, h⟩
    have : v = v' := by rw [← decodeDisplay_pct body v' hpb]; simpa using h.symm
    exact this ▸ ⟨body, rfl, hpb, hv⟩
  · obtain ⟨body, rfl, hpb, _⟩ := h
    simp [decodeDisplay_pct body v hpb]

/-- `SfDisplayString` on plain text: printable ASCII without `"` and `%` denotes itself. -/
theorem displayString_ascii_partial (body : List Nat)
    (hb : ∀ c ∈ body, (c = 32 ∨ (33 ≤ c ∧ c ≤ 126)) ∧ c ≠ 34 ∧ c ≠ 37) :
    parseDisplayString (37 :: 34 :: (body ++ [34])) = some body := by
  refine (parseDisplayString_iff _ _).2 ⟨body, rfl, ?_⟩
  induction body with
  | nil => exact ⟨.nil, .nil⟩
  | cons c r ih =>
    obtain ⟨h1, h2, h3⟩ := hb c (List.mem_cons_self ..)
    obtain ⟨ih1, ih2⟩ := ih fun x hx => hb x (List.mem_cons_of_mem _ hx)
    exact ⟨.raw c r r h1 h2 h3 ih1, .one c r (by omega) ih2⟩

/-! Inputs at the edges of RFC 9651 that a parser easily gets wrong (the repaired C56 defects of DESIGN §15;
also in corpus/C56/witness.ops). -/

/-- §4.2.1.2 step 4: "The end of the Inner List was not found; fail parsing". -/
example : parseBareInnerList [40] = none ∧ parseList [40] = none ∧ parseList [97, 44, 32, 40] = none ∧
    parseDictionary [97, 61, 40] = none ∧ parseBareInnerList [40, 41] = some [] := by decide +kernel

/-- §4.2.2 step 2.8: members must be separated by ",". -/
example : parseDictionary [97, 32, 98] = none ∧ parseDictionary [97, 61, 63, 49, 98] = none ∧
    parseDictionary [117, 61, 51, 32, 105] = none ∧
    parseDictionary [117, 61, 51, 44, 32, 105] = some [([117], [51], []), ([105], [63, 49], [])] := by decide +kernel

/-- §4.2.1.2 step 3.1 / §4.2.3.2 step 2.3: only SP is discarded (HTAB stays OWS between list members). -/
example : parseBareInnerList [40, 97, 32, 9, 98, 41] = none ∧ parseBareInnerList [40, 9, 97, 41] = none ∧
    parseParameter [59, 9, 97] = none ∧ parseParameter [59, 32, 97] = some [([97], [63, 49])] ∧
    parseList [97, 9, 44, 9, 98] = some [([97], []), ([98], [])] := by decide +kernel

/-- `%"%ef%bf%bd"` (U+FFFD, valid UTF-8) is accepted; the invalid `%"%ef%bf"` and `%"%ff"` are not. -/
example : parseDisplayString [37, 34, 37, 101, 102, 37, 98, 102, 37, 98, 100, 34] = some [0xEF, 0xBF, 0xBD] ∧
    parseDisplayString [37, 34, 37, 101, 102, 37, 98, 102, 34] = none ∧
    parseDisplayString [37, 34, 37, 102, 102, 34] = none := by decide +kernel

end NetVerif.Proofs.C56
