import NetVerif.Proofs.Lemmas.WriteSched
/-!
The C12 specification: a control FIFO, one FIFO per stream, flow-control windows; and the
proof that any run of the specification conserves every pushed token (ledger theorem).
-/
namespace NetVerif.Proofs.WriteSchedSpec
open NetVerif.Model.WriteSched NetVerif.Proofs.WriteSchedLemmas

structure Abs where
  ctl : List Frame
  q : Nat → List Frame

def Abs.empty : Abs := ⟨[], fun _ => []⟩

theorem Abs.ext' {a b : Abs} (h1 : a.ctl = b.ctl) (h2 : ∀ x, a.q x = b.q x) : a = b := by
  cases a; cases b
  simp only [Abs.mk.injEq]
  exact ⟨h1, funext h2⟩

/-- What a `Pop` may do on the specification.  `n` is the byte limit handed to `Consume`
(`math.MaxInt32`, or the RFC 7540 write-throttle limit; always positive).  `strict` switches the clause
"nothing is returned only if nothing is sendable" on (it is proved for three schedulers; for RFC 7540 only along
`C12.ReachAlong`). -/
inductive PopSpec (strict : Prop) (e : Env) (a : Abs) : Res → Env → Abs → Prop
  /-- control frames first, in FIFO order -/
  | ctl {f : Frame} {rest : List Frame} : a.ctl = f :: rest → PopSpec strict e a (.frame f) e ⟨rest, a.q⟩
  /-- the head of one stream's FIFO, written whole -/
  | whole {id : Nat} {f : Frame} {rest : List Frame} {e' : Env} {n : Int} :
      a.ctl = [] → a.q id = f :: rest → 0 < n → f.consume e n = (e', .whole f) →
      PopSpec strict e a (.frame f) e' ⟨[], upd a.q id rest⟩
  /-- a prefix of the head DATA frame; the remainder stays at the head -/
  | split {id : Nat} {f c r : Frame} {rest : List Frame} {e' : Env} {n : Int} :
      a.ctl = [] → a.q id = f :: rest → 0 < n → f.consume e n = (e', .split c r) →
      PopSpec strict e a (.frame c) e' ⟨[], upd a.q id (r :: rest)⟩
  /-- nothing: only if no queued frame is sendable under the windows -/
  | none : a.ctl = [] → (strict → ∀ id f rest, a.q id = f :: rest → ∃ e', f.consume e maxInt32 = (e', .none)) →
      PopSpec strict e a .none e a

def Abs.applyOp (a : Abs) : Op → Abs
  | .closeS id => ⟨a.ctl, upd a.q id []⟩
  | .push f => if f.isControl then ⟨a.ctl ++ [f], a.q⟩ else ⟨a.ctl, upd a.q f.streamID (a.q f.streamID ++ [f])⟩
  | _ => a

def envOp (e : Env) : Op → Env
  | .win id d => if id = 0 then { e with connWin := e.connWin + d } else { e with win := upd e.win id (e.win id + d) }
  | .maxframe n => { e with maxFrame := n }
  | _ => e

inductive StepSpec (strict : Prop) (e : Env) (a : Abs) : Op → Res → Env → Abs → Prop
  | pop {h : Option Nat} {r : Res} {e' : Env} {a' : Abs} : PopSpec strict e a r e' a' → StepSpec strict e a (.pop h) r e' a'
  /-- random scheduler only: the caller's report of the served stream was not a legal outcome -/
  | reject {h : Option Nat} : StepSpec strict e a (.pop h) .reject e a
  | other {op : Op} : (∀ h, op ≠ .pop h) → StepSpec strict e a op .ok (envOp e op) (a.applyOp op)

theorem StepSpec.other' {strict : Prop} {e e' : Env} {a a' : Abs} {op : Op} (hnp : ∀ h, op ≠ .pop h)
    (he : e' = envOp e op) (ha : a' = a.applyOp op) : StepSpec strict e a op .ok e' a' := by
  subst he ha; exact .other hnp

theorem PopSpec.mono {p q : Prop} {e e' : Env} {a a' : Abs} {r : Res} (h : PopSpec p e a r e' a')
    (hn : q → r = .none → ∀ id f rest, a.q id = f :: rest → ∃ e1, f.consume e maxInt32 = (e1, .none)) :
    PopSpec q e a r e' a' := by
  cases h with
  | ctl h1 => exact .ctl h1
  | whole h1 h2 h3 h4 => exact .whole h1 h2 h3 h4
  | split h1 h2 h3 h4 => exact .split h1 h2 h3 h4
  | none h1 _ => exact .none h1 fun hq => hn hq rfl

theorem StepSpec.mono {p q : Prop} {e e' : Env} {a a' : Abs} {op : Op} {r : Res} (h : StepSpec p e a op r e' a')
    (hn : q → r = .none → ∀ id f rest, a.q id = f :: rest → ∃ e1, f.consume e maxInt32 = (e1, .none)) :
    StepSpec q e a op r e' a' := by
  cases h with
  | pop hp => exact .pop (hp.mono hn)
  | reject => exact .reject
  | other hnp => exact .other hnp

theorem StepSpec.pop_of_none {p : Prop} {e e' : Env} {a a' : Abs} {op : Op} (h : StepSpec p e a op .none e' a') :
    ∃ hint, op = .pop hint := by
  cases h with
  | pop _ => exact ⟨_, rfl⟩

def pushOK (opn : Nat → Bool) : Frame → Prop
  | .data sid _ _ _ _ last => opn sid = true ∧ last = true
  | .hdr sid _ => opn sid = true
  | .ctl _ => True
  | .rst _ _ => True
  | .empty => False

def OpOK (opn : Nat → Bool) : Op → Prop
  | .openS id _ c => id ≠ 0 ∧ opn id = false ∧ c < 16
  | .closeS id => opn id = true
  | .adjust id _ _ _ c => id ≠ 0 ∧ c < 16
  | .push f => pushOK opn f
  | _ => True

def opnOp (opn : Nat → Bool) : Op → Nat → Bool
  | .openS id _ _ => upd opn id true
  | .closeS id => upd opn id false
  | _ => opn

/-- A history respects the `WriteScheduler` contract (`opn`: the open streams): fresh non-zero ids are opened, only open streams are closed,
stream frames are pushed on open streams only, no zero-valued request is pushed. -/
def Contract (opn : Nat → Bool) : List Op → Prop
  | [] => True
  | op :: ops => OpOK opn op ∧ Contract (opnOp opn op) ops

/-- Per stream: the tokens pushed and the tokens that left the queue (written, or dropped by `CloseStream`). -/
structure Ledger where
  pushed : Nat → List Tok
  /-- tokens handed out by `Pop`, in order, interleaved with the tokens discarded by `CloseStream` -/
  gone : Nat → List Tok
  /-- the part of `gone` that was discarded by `CloseStream` -/
  dropped : Nat → List Tok

def Ledger.empty : Ledger := ⟨fun _ => [], fun _ => [], fun _ => []⟩

def Ledger.step (a : Abs) (L : Ledger) : Op → Res → Ledger
  | .push f, _ =>
    if f.isControl then L else { L with pushed := upd L.pushed f.streamID (L.pushed f.streamID ++ toks f) }
  | .closeS id, _ =>
    { L with gone := upd L.gone id (L.gone id ++ flatToks (a.q id)),
             dropped := upd L.dropped id (L.dropped id ++ flatToks (a.q id)) }
  | .pop _, .frame f =>
    if f.isControl then L else { L with gone := upd L.gone f.streamID (L.gone f.streamID ++ toks f) }
  | _, _ => L

inductive SpecRun (strict : Prop) : Env → Abs → Ledger → List Op → List Res → Env → Abs → Ledger → Prop
  | nil {e a L} : SpecRun strict e a L [] [] e a L
  | cons {e a L op r e1 a1 ops rs e2 a2 L2} :
      StepSpec strict e a op r e1 a1 → SpecRun strict e1 a1 (L.step a op r) ops rs e2 a2 L2 →
      SpecRun strict e a L (op :: ops) (r :: rs) e2 a2 L2

structure AbsWF (a : Abs) (opn : Nat → Bool) : Prop where
  ctl : ∀ f ∈ a.ctl, f.isControl = true ∧ f ≠ .empty
  str : ∀ id, ∀ f ∈ a.q id, f.isControl = false ∧ f.streamID = id
  closed : ∀ id, opn id = false → a.q id = []

def LedgerOK (a : Abs) (L : Ledger) : Prop := ∀ id, L.gone id ++ flatToks (a.q id) = L.pushed id

theorem absWF_empty : AbsWF Abs.empty (fun _ => false) :=
  ⟨by simp [Abs.empty], by simp [Abs.empty], by simp [Abs.empty]⟩

theorem ledgerOK_empty : LedgerOK Abs.empty Ledger.empty := by
  intro id; simp [Abs.empty, Ledger.empty]

theorem open_of_pushOK {opn : Nat → Bool} {f : Frame} (h : pushOK opn f) (hc : f.isControl = false) :
    opn f.streamID = true := by
  cases f <;> simp_all [pushOK, Frame.isControl, Frame.streamID]

theorem AbsWF.set {a : Abs} {opn opn' : Nat → Bool} {ctl' l : List Frame} {id : Nat} (hwf : AbsWF a opn)
    (hctl : ∀ f ∈ ctl', f.isControl = true ∧ f ≠ .empty) (hl : ∀ f ∈ l, f.isControl = false ∧ f.streamID = id)
    (hid : opn' id = false → l = []) (hopn : ∀ x, x ≠ id → opn' x = false → opn x = false) :
    AbsWF ⟨ctl', upd a.q id l⟩ opn' := by
  refine ⟨hctl, fun x f hf => ?_, fun x hx => ?_⟩
  · simp only [upd] at hf; split at hf
    · rename_i hxi; exact hxi ▸ hl f hf
    · exact hwf.str x f hf
  · simp only [upd]; split
    · rename_i hxi; exact hid (hxi ▸ hx)
    · rename_i hxi; exact hwf.closed x (hopn x hxi hx)

theorem LedgerOK.set {a : Abs} {L L' : Ledger} {ctl' l : List Frame} {id : Nat} (hl : LedgerOK a L)
    (hid : L'.gone id ++ flatToks l = L'.pushed id)
    (hx : ∀ x, x ≠ id → L'.gone x = L.gone x ∧ L'.pushed x = L.pushed x) : LedgerOK ⟨ctl', upd a.q id l⟩ L' := by
  intro x; simp only [upd]; split
  · rename_i h; rw [h]; exact hid
  · rename_i h; rw [(hx x h).1, (hx x h).2]; exact hl x

theorem step_preserves {strict : Prop} {e e1 : Env} {a a1 : Abs} {L : Ledger} {opn : Nat → Bool} {op : Op} {r : Res}
    (hwf : AbsWF a opn) (hl : LedgerOK a L) (hok : OpOK opn op) (hs : StepSpec strict e a op r e1 a1) :
    AbsWF a1 (opnOp opn op) ∧ LedgerOK a1 (L.step a op r) ∧ r ≠ .frame .empty ∧ r ≠ .panic := by
  cases hs with
  | reject => exact ⟨hwf, hl, by simp, by simp⟩
  | other hnp =>
    cases op with
    | pop h => exact absurd rfl (hnp h)
    | adjust id d ex w c => exact ⟨hwf, hl, by simp, by simp⟩
    | win id d => exact ⟨hwf, hl, by simp, by simp⟩
    | maxframe n => exact ⟨hwf, hl, by simp, by simp⟩
    | openS id p c =>
      refine ⟨⟨hwf.ctl, hwf.str, fun x hx => ?_⟩, hl, by simp, by simp⟩
      by_cases hxi : x = id
      · exact hxi ▸ hwf.closed id hok.2.1
      · exact hwf.closed x (by simpa [opnOp, upd, hxi] using hx)
    | closeS id =>
      refine ⟨hwf.set hwf.ctl (by simp) (fun _ => rfl) ?_, hl.set ?_ ?_, by simp, by simp⟩
      · intro x hxi hx; simpa [opnOp, upd, hxi] using hx
      · simpa [Ledger.step, upd] using hl id
      · intro x hx; simp [Ledger.step, upd, hx]
    | push f =>
      by_cases hc : f.isControl = true
      · simp only [Abs.applyOp, Ledger.step, opnOp, hc, if_true]
        refine ⟨⟨fun g hg => ?_, hwf.str, hwf.closed⟩, hl, by simp, by simp⟩
        rcases List.mem_append.1 hg with hg | hg
        · exact hwf.ctl g hg
        · cases List.mem_singleton.1 hg; exact ⟨hc, fun he => by subst he; exact hok⟩
      · have hc' : f.isControl = false := by simpa using hc
        have hopen := open_of_pushOK hok hc'
        simp only [Abs.applyOp, Ledger.step, opnOp, hc', Bool.false_eq_true, if_false]
        refine ⟨hwf.set hwf.ctl (fun g hg => ?_) ?_ fun _ _ h => h, hl.set ?_ ?_, by simp, by simp⟩
        · rcases List.mem_append.1 hg with hg | hg
          · exact hwf.str _ g hg
          · cases List.mem_singleton.1 hg; exact ⟨hc', rfl⟩
        · intro h; rw [hopen] at h; cases h
        · simp [upd, ← hl f.streamID]
        · intro x hx; simp [upd, hx]
  | pop hp =>
    cases hp with
    | ctl hc =>
      rename_i f rest
      have hf := hwf.ctl f (by simp [hc])
      refine ⟨⟨fun g hg => hwf.ctl g (by simp [hc, hg]), hwf.str, hwf.closed⟩, ?_, ?_, by simp⟩
      · exact fun x => by simpa [Ledger.step, hf.1] using hl x
      · intro h; cases h; exact hf.2 rfl
    | none hc hall => exact ⟨hwf, hl, by simp, by simp⟩
    | whole hc hq hn hcons =>
      rename_i h id f rest n
      have hf := hwf.str id f (by simp [hq])
      have hne : opn id = false → rest = [] := fun h => by have := hwf.closed id h; rw [hq] at this; cases this
      refine ⟨hwf.set (by simp) (fun g hg => hwf.str id g (by simp [hq, hg])) hne fun _ _ h => h, ?_, ?_, by simp⟩
      · simp only [Ledger.step, hf.1, Bool.false_eq_true, if_false, hf.2]
        refine hl.set ?_ fun x hx => by simp [upd, hx]
        simp [upd, ← hl id, hq]
      · intro h; cases h; simp [Frame.isControl] at hf
    | split hc hq hn hcons =>
      rename_i h id f c r rest n
      have hf := hwf.str id f (by simp [hq])
      obtain ⟨htok, hcs, hrs, hcc, hrc, sid, tag, off, len, hcd, _⟩ := consume_split_toks hcons
      have hne : opn id = false → r :: rest = [] := fun h => by have := hwf.closed id h; rw [hq] at this; cases this
      refine ⟨hwf.set (by simp) (fun g hg => ?_) hne fun _ _ h => h, ?_, ?_, by simp⟩
      · rcases List.mem_cons.1 hg with rfl | hg
        · exact ⟨hrc, by rw [hrs, hf.2]⟩
        · exact hwf.str id g (by simp [hq, hg])
      · have hcid : c.streamID = id := by rw [hcs, hf.2]
        simp only [Ledger.step, hcc, Bool.false_eq_true, if_false, hcid]
        refine hl.set ?_ fun x hx => by simp [upd, hx]
        simp [upd, ← hl id, hq, ← htok]
      · intro h; cases h; cases hcd

/-- Well-formedness is an invariant of the specification on its own: some balanced ledger always exists. -/
theorem step_wf {strict : Prop} {e e1 : Env} {a a1 : Abs} {opn : Nat → Bool} {op : Op} {r : Res}
    (hwf : AbsWF a opn) (hok : OpOK opn op) (hs : StepSpec strict e a op r e1 a1) : AbsWF a1 (opnOp opn op) :=
  (step_preserves (L := ⟨fun id => flatToks (a.q id), fun _ => [], fun _ => []⟩) hwf (fun id => by simp) hok hs).1

/-- **Ledger theorem.**  Along any run of the specification over a contract-respecting history:
every token ever pushed on a stream is, in push order, either already handed out by `Pop`, dropped by a
`CloseStream`, or still queued — nothing is lost, duplicated or reordered; `Pop` never yields the zero
request and no call panics. -/
theorem specRun_ledger {strict : Prop} {e e' : Env} {a a' : Abs} {L L' : Ledger} {opn : Nat → Bool} {ops : List Op} {rs : List Res}
    (hwf : AbsWF a opn) (hl : LedgerOK a L) (hc : Contract opn ops) (hr : SpecRun strict e a L ops rs e' a' L') :
    LedgerOK a' L' ∧ (∀ r ∈ rs, r ≠ .frame .empty ∧ r ≠ .panic) := by
  induction hr generalizing opn with
  | nil => exact ⟨hl, by simp⟩
  | cons hs _ ih =>
    obtain ⟨hok, hc'⟩ := hc
    obtain ⟨hwf1, hl1, hne, hnp⟩ := step_preserves hwf hl hok hs
    obtain ⟨h1, h2⟩ := ih hwf1 hl1 hc'
    refine ⟨h1, ?_⟩
    intro r hr
    simp at hr
    rcases hr with rfl | hr
    · exact ⟨hne, hnp⟩
    · exact h2 r hr

end NetVerif.Proofs.WriteSchedSpec
