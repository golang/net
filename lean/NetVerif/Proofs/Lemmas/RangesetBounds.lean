import NetVerif.Model.Rangeset
import NetVerif.Proofs.Lemmas.Fold
/-! Where the ranges stored after `rangeset.add` / `rangeset.sub` come from (no well-formedness needed),
and the element-wise bounds that follow: if every stored range satisfies `s ≤ e`, `s ≤ M`, `e ≤ B`,
so does every range after the operation. -/
namespace NetVerif.Proofs.Lemmas.RangesetBounds
open NetVerif.Model.Rangeset

/-- Also for `i = j`, where the Go code returns early: nothing lies between the two parts. -/
theorem removeranges_eq (l : RS) (i j : Nat) : removeranges l i j = l.take i ++ l.drop j := by
  unfold removeranges
  split
  · next h => rw [← h, List.take_append_drop]
  · rfl

theorem mem_removeranges {l : RS} {i j : Nat} {x : Rg} (h : x ∈ removeranges l i j) : x ∈ l := by
  rw [removeranges_eq] at h
  exact (List.mem_append.1 h).elim List.mem_of_mem_take List.mem_of_mem_drop

theorem coalesce_end {E : Int → Prop} : ∀ (rest : List Rg) (e : Int), E e → (∀ r ∈ rest, E r.e) →
    E (coalesce e rest).1 ∧ e ≤ (coalesce e rest).1
  | [], e, he, _ => ⟨he, Int.le_refl e⟩
  | r :: rest, e, he, hr => by
    unfold coalesce
    split
    · have := coalesce_end rest (if r.e > e then r.e else e)
        (by split; exact hr r List.mem_cons_self; exact he) (fun q hq => hr q (List.mem_cons_of_mem _ hq))
      refine ⟨this.1, ?_⟩
      have h2 := this.2
      show e ≤ (coalesce (if r.e > e then r.e else e) rest).1
      split at h2 <;> omega
    · exact ⟨he, Int.le_refl e⟩

/-- A range that is not an old one spans `[st, en)`, from `st` or an old start to `en` or an old end
(`S`, `E`: any properties those have). -/
theorem add_all {P : Rg → Prop} {S E : Int → Prop} {st en : Int}
    (hnew : ∀ a b, S a → E b → a ≤ st → st < en → en ≤ b → P ⟨a, b⟩) (hst : S st) (hen : E en) (l : RS)
    (h : ∀ r ∈ l, P r ∧ S r.s ∧ E r.e) : ∀ r' ∈ add l st en, P r' := by
  unfold add
  split
  · exact fun r' hr' => (h r' hr').1
  · rename_i hse
    have hse : st < en := by omega
    induction l with
    | nil =>
      intro r' hr'
      obtain rfl := List.mem_singleton.1 hr'
      exact hnew st en hst hen (Int.le_refl _) hse (Int.le_refl _)
    | cons r rest ih =>
      have hr := h r List.mem_cons_self
      have hrest := fun q hq => h q (List.mem_cons_of_mem r hq)
      intro r' hr'
      have hn0 := hnew st en hst hen (Int.le_refl _) hse (Int.le_refl _)
      unfold addLoop at hr'
      by_cases c1 : r.s > en
      · rw [if_pos c1] at hr'
        rcases List.mem_cons.1 hr' with rfl | hr'
        · exact hn0
        · exact (h r' hr').1
      rw [if_neg c1] at hr'
      by_cases c2 : st > r.e
      · rw [if_pos c2] at hr'
        rcases List.mem_cons.1 hr' with rfl | hr'
        · exact hr.1
        · exact ih hrest r' hr'
      rw [if_neg c2] at hr'
      have hs' : S (if st < r.s then st else r.s) ∧ (if st < r.s then st else r.s) ≤ st := by
        split
        · exact ⟨hst, Int.le_refl _⟩
        · exact ⟨hr.2.1, by omega⟩
      simp only at hr'
      generalize (if st < r.s then st else r.s) = s' at hs' hr'
      by_cases c3 : en ≤ r.e
      · rw [if_pos c3] at hr'
        rcases List.mem_cons.1 hr' with rfl | hr'
        · exact hnew _ _ hs'.1 hr.2.2 hs'.2 hse c3
        · exact (hrest r' hr').1
      rw [if_neg c3] at hr'
      have hc := coalesce_end rest en hen (fun q hq => (hrest q hq).2.2)
      rcases List.mem_cons.1 (mem_removeranges hr') with rfl | hr'
      · exact hnew _ _ hs'.1 hc.1 hs'.2 hse hc.2
      · exact (hrest r' hr').1

/-- Whatever the index bookkeeping. A fully covered range is still in this list: the final `removeranges`
of `sub` drops it. -/
theorem subLoop_all {P : Rg → Prop} {st en : Int}
    (hcut : ∀ r a b, P r → r.s ≤ a → a < b → b ≤ r.e → (a = r.s ∨ a = en) → P ⟨a, b⟩)
    (l : RS) (i : Nat) (rf : Option Nat) (rt : Nat) (h : ∀ r ∈ l, P r) :
    ∀ r' ∈ (subLoop st en l i rf rt).l, P r' := by
  fun_induction subLoop st en l i rf rt with
  | case1 => exact fun _ hr' => nomatch hr'
  | case2 => exact h
  | case3 r rest i rf rt _ _ q ih | case4 r rest i rf rt _ _ _ q ih =>
    exact List.forall_mem_cons.2 ⟨(List.forall_mem_cons.1 h).1, ih (List.forall_mem_cons.1 h).2⟩
  | case5 r rest i rf rt _ _ _ _ q ih =>
    obtain ⟨hr, hrest⟩ := List.forall_mem_cons.1 h
    exact List.forall_mem_cons.2 ⟨hcut r en r.e hr (by omega) (by omega) (Int.le_refl _) (Or.inr rfl), ih hrest⟩
  | case6 r rest i rf rt _ _ _ _ _ q ih =>
    obtain ⟨hr, hrest⟩ := List.forall_mem_cons.1 h
    exact List.forall_mem_cons.2 ⟨hcut r r.s st hr (Int.le_refl _) (by omega) (by omega) (Or.inl rfl), ih hrest⟩
  | case7 r rest i rf rt _ _ _ _ _ =>
    obtain ⟨hr, hrest⟩ := List.forall_mem_cons.1 h
    exact List.forall_mem_cons.2 ⟨hcut r r.s st hr (Int.le_refl _) (by omega) (by omega) (Or.inl rfl),
      List.forall_mem_cons.2 ⟨hcut r en r.e hr (by omega) (by omega) (Int.le_refl _) (Or.inr rfl), hrest⟩⟩

theorem sub_all {P : Rg → Prop} {st en : Int}
    (hcut : ∀ r a b, P r → r.s ≤ a → a < b → b ≤ r.e → (a = r.s ∨ a = en) → P ⟨a, b⟩) (l : RS)
    (h : ∀ r ∈ l, P r) : ∀ r' ∈ sub l st en, P r' := by
  have hq := subLoop_all (st := st) hcut l 0 none 0 h
  intro r' hr'
  unfold sub at hr'
  split at hr'
  · exact h r' hr'
  · simp only at hr'
    split at hr'
    · exact hq r' hr'
    · split at hr'
      · exact hq r' hr'
      · exact hq r' (mem_removeranges hr')

/-- Every use (`Lemmas/QuicSendPath`) has `M = B`: the permitted prefix for `outunsent`, `outmaxsent` for `outacked`;
there `r.s ≤ M` follows from the other two conjuncts. -/
def RP (M B : Int) (r : Rg) : Prop := r.s ≤ r.e ∧ r.s ≤ M ∧ r.e ≤ B
def AllRP (M B : Int) (l : RS) : Prop := ∀ r ∈ l, RP M B r

theorem allRP_mono {M B M' B' : Int} {l : RS} (h : AllRP M B l) (hM : M ≤ M') (hB : B ≤ B') : AllRP M' B' l := by
  intro r hr; have := h r hr; unfold RP at *; omega

theorem allRP_nil (M B : Int) : AllRP M B [] := by intro r hr; cases hr

theorem add_rp {M B st en : Int} {l : RS} (hall : AllRP M B l) (_hse : st ≤ en) (hM : st ≤ M) (hB : en ≤ B) :
    AllRP M B (add l st en) :=
  add_all (S := fun _ => True) (E := (· ≤ B)) (fun a b _ hb h1 h2 h3 => by unfold RP; simp only; omega)
    trivial hB l (fun r hr => ⟨hall r hr, trivial, (hall r hr).2.2⟩)

theorem sub_rp {M B st en : Int} {l : RS} (hall : AllRP M B l) (hM : en ≤ M) : AllRP M B (sub l st en) :=
  sub_all (fun r a b hr h1 h2 h3 h4 => by unfold RP at *; simp only; omega) l hall

theorem foldl_sub_rp {M B : Int} (acked : List Rg) : ∀ (u : RS), AllRP M B u → (∀ a ∈ acked, a.e ≤ M) →
    AllRP M B (acked.foldl (fun u a => sub u a.s a.e) u) :=
  fun u hu ha => foldl_inv_mem _ (AllRP M B) acked (fun _ a h hv => sub_rp hv (ha a h)) u hu

end NetVerif.Proofs.Lemmas.RangesetBounds
