import NetVerif.Model.QuicPacket
import NetVerif.Proofs.Lemmas.QuicCodec
import NetVerif.Proofs.Lemmas.ByteArith
/-! Packet protection: what both packet writers put behind their header (packet number, sealed padded
payload, header-protection mask) is undone by `unprotect`, with the AEAD and the mask function abstract;
and the long header as written and as the key-independent part of the parser reads it back. -/
namespace NetVerif.Proofs.Lemmas.QuicPacketRT
open NetVerif.Model NetVerif.Model.VarintQuic NetVerif.Model.QuicFrames NetVerif.Model.QuicPacket
open NetVerif.Proofs.Lemmas.QuicCodec

theorem xorBytes_length : ∀ (a m : List Nat), (xorBytes a m).length = a.length
  | [], _ => by simp [xorBytes]
  | _ :: _, [] => by simp [xorBytes]
  | a :: as, m :: ms => by simp [xorBytes, xorBytes_length as ms]

theorem xorBytes_cancel : ∀ (a m : List Nat), a.length ≤ m.length → xorBytes (xorBytes a m) m = a
  | [], _, _ => by simp [xorBytes]
  | _ :: _, [], h => by simp at h
  | a :: as, m :: ms, h => by
    simp at h
    simp [xorBytes, xor_cancel, xorBytes_cancel as ms h]

theorem xor_div_two_pow (b x k : Nat) (hx : x < 2 ^ k) : (b ^^^ x) / 2 ^ k = b / 2 ^ k := by
  rw [← Nat.shiftRight_eq_div_pow, Nat.shiftRight_xor_distrib, Nat.shiftRight_eq_div_pow x,
    Nat.div_eq_of_lt hx, Nat.xor_zero, Nat.shiftRight_eq_div_pow]

/-- Long header: a mask below 16 leaves the form, fixed and type bits of the first byte alone; the low
two bits of the unmasked byte are the packet-number length less one. -/
theorem long_first_byte : ∀ tb ∈ [0, 16, 32], ∀ n ∈ [1, 2, 3, 4], ∀ x, x < 16 →
    ((128 + 64 + tb + (n - 1)) ^^^ x) / 128 % 2 = 1 ∧ ((128 + 64 + tb + (n - 1)) ^^^ x) / 64 % 2 = 1 ∧
    ((128 + 64 + tb + (n - 1)) ^^^ x) / 16 % 4 = tb / 16 ∧ (128 + 64 + tb + (n - 1)) % 4 + 1 = n := by
  intro tb htb n hn x hx
  rw [xor_div_two_pow _ x 7 (by omega), xor_div_two_pow _ x 6 (by omega), xor_div_two_pow _ x 4 hx]
  -- what is left is a table of the twelve unmasked bytes
  revert n
  revert tb
  decide

theorem typeBits_mem (ptype : Nat) (h : 1 ≤ ptype ∧ ptype ≤ 3) :
    typeBits ptype ∈ [0, 16, 32] ∧ typeBits ptype / 16 + 1 = ptype := by
  have : ptype = 1 ∨ ptype = 2 ∨ ptype = 3 := by omega
  rcases this with rfl | rfl | rfl <;> simp [typeBits]

theorem short_first_byte : ∀ ph ∈ [0, 4], ∀ n ∈ [1, 2, 3, 4],
    ((64 + (n - 1)) ||| ph) % 4 + 1 = n ∧ ((64 + (n - 1)) ||| ph) / 4 % 2 * 4 = ph := by
  decide

theorem drop_hdr (b0 : Nat) (hmid r : List Nat) (k : Nat) :
    (b0 :: (hmid ++ r)).drop (1 + hmid.length + k) = r.drop k := by
  have : 1 + hmid.length + k = (hmid.length + k) + 1 := by omega
  rw [this, List.drop_succ_cons, List.drop_append]
  simp

theorem drop4_pn (pn ct : List Nat) (h : pn.length ≤ 4) : (pn ++ ct).drop 4 = ct.drop (4 - pn.length) := by
  rw [List.drop_append]
  simp [List.drop_eq_nil_of_le h]

/-- Where `applyMask` and `unprotect` cut a packet whose packet number `pn` starts after `b :: mid`: the
sample, the packet number with what follows, what follows the packet number. -/
theorem cuts (b : Nat) (mid pn ct : List Nat) :
    (b :: (mid ++ (pn ++ ct))).drop (1 + mid.length + 4) = (pn ++ ct).drop 4 ∧
    (b :: (mid ++ (pn ++ ct))).drop (1 + mid.length) = pn ++ ct ∧
    (b :: (mid ++ (pn ++ ct))).drop (1 + mid.length + pn.length) = ct := by
  refine ⟨drop_hdr .., ?_, ?_⟩
  · simpa using drop_hdr b mid (pn ++ ct) 0
  · rw [drop_hdr, List.drop_left]

theorem applyMask_shape (c : Crypto) (long : Bool) (b0 : Nat) (hmid pn ct : List Nat) :
    applyMask c long (b0 :: (hmid ++ (pn ++ ct))) (1 + hmid.length) pn.length =
      (b0 ^^^ ((c.hpMask (((pn ++ ct).drop 4).take sampleSize)).headD 0 &&& (if long then 15 else 31))) ::
        (hmid ++ (xorBytes pn ((c.hpMask (((pn ++ ct).drop 4).take sampleSize)).drop 1) ++ ct)) := by
  obtain ⟨d1, d2, d3⟩ := cuts b0 hmid pn ct
  unfold applyMask
  simp only [d1, d2, d3, List.headD_cons, List.drop_succ_cons, List.drop_zero]
  simp

theorem pnLen_range (pnum maxAcked : Int) : 1 ≤ pnLen pnum maxAcked ∧ pnLen pnum maxAcked ≤ 4 := by
  unfold pnLen
  simp only
  repeat' split
  all_goals omega

theorem pnLen_mem (pnum maxAcked : Int) : pnLen pnum maxAcked ∈ [1, 2, 3, 4] := by
  have := pnLen_range pnum maxAcked
  simp; omega

theorem pnBytes_length (pnum n : Nat) (h1 : 1 ≤ n) (h4 : n ≤ 4) : (pnBytes pnum n).length = n := by
  unfold pnBytes
  repeat' split
  all_goals simp
  all_goals omega

theorem beNat_pnBytes (pnum n : Nat) (h1 : 1 ≤ n) (h4 : n ≤ 4) : beNat (pnBytes pnum n) = pnum % 256 ^ n := by
  have : n = 1 ∨ n = 2 ∨ n = 3 ∨ n = 4 := by omega
  rcases this with rfl | rfl | rfl | rfl <;> simp [pnBytes, beNat]
  · exact be_step pnum 256
  · rw [be_step pnum 256, be_step pnum 65536]
  · rw [be_step pnum 256, be_step pnum 65536, be_step pnum 16777216]

/-- What was written into the packet: the payload truncated to the room left, then zero padding
(so that the header-protection sample exists). -/
def Padded (payload out : List Nat) : Prop :=
  ∃ k z, 0 < k ∧ k ≤ payload.length ∧ z ≤ 3 ∧ out = payload.take k ++ List.replicate z 0

/-- What both packet writers emit behind a header `b0 :: mid` (the `n` low bytes of the packet number, the
sealed zero-padded payload, header protection over the whole), and what the receiver makes of it.
Assumed of the abstract `Crypto`: the mask of a 16-byte sample has five bytes; the AEAD opens what it
sealed and adds 16 bytes. `low`, `padded`, `hdr` and `pkt` are variables with defining equations so that
a caller can hand in the names `extract_lets` gave it for these terms. -/
theorem sealed_roundtrip (c : Crypto) (long : Bool) (b0 : Nat) (mid pay : List Nat) (pnum n : Nat) (recvMax : Int)
    (hopen : ∀ pn hdr pay, c.aeadOpen pn hdr (c.aeadSeal pn hdr pay) = some pay)
    (hlen : ∀ pn hdr pay, (c.aeadSeal pn hdr pay).length = pay.length + 16)
    (hmask : ∀ s, s.length = sampleSize → (c.hpMask s).length = 5)
    (hn : 1 ≤ n ∧ n ≤ 4) (hb0 : b0 % 4 + 1 = n)
    (hdec : PacketNumber.decodePN recvMax ((pnum % 256 ^ n : Nat)) n = (pnum : Int))
    (padded hdr pkt : List Nat) (low : Nat) (hlow : (if long then 15 else 31) = low)
    (hpd : padded = pay ++ List.replicate (padTo pay.length n) 0) (hhdr : hdr = b0 :: (mid ++ pnBytes pnum n))
    (h : applyMask c long (hdr ++ c.aeadSeal pnum hdr padded) (1 + mid.length) n = pkt) :
    ∃ m rest, pkt = (b0 ^^^ (m &&& low)) :: (mid ++ rest) ∧ rest.length = n + padded.length + 16 ∧
      (c.hpMask ((pkt.drop (1 + mid.length + 4)).take sampleSize)).headD 0 = m ∧
      unprotect c long pkt (1 + mid.length) recvMax = some (padded, pnum, hdr) := by
  subst hlow hhdr
  have hpnl := pnBytes_length pnum n hn.1 hn.2
  have hdec' : PacketNumber.decodePN recvMax (beNat (pnBytes pnum n)) (pnBytes pnum n).length = (pnum : Int) := by
    rw [beNat_pnBytes pnum n hn.1 hn.2, hpnl]; exact hdec
  generalize pnBytes pnum n = pn at *
  have hopen' := hopen pnum (b0 :: (mid ++ pn)) padded
  generalize hct : c.aeadSeal pnum (b0 :: (mid ++ pn)) padded = ct at h hopen'
  have hctl : ct.length = padded.length + 16 := by rw [← hct]; exact hlen _ _ _
  have hsample : 20 ≤ pn.length + ct.length := by
    rw [hctl, hpd, List.length_append, List.length_replicate, hpnl]; unfold padTo aeadOverhead; omega
  have e0 : b0 :: (mid ++ pn) ++ ct = b0 :: (mid ++ (pn ++ ct)) := by simp
  rw [e0, ← hpnl, applyMask_shape] at h
  subst h
  generalize hm : c.hpMask (((pn ++ ct).drop 4).take sampleSize) = m
  have hml : m.length = 5 := by
    rw [← hm]; apply hmask
    simp only [List.length_take, List.length_drop, List.length_append, sampleSize]; omega
  have hpl : (xorBytes pn (m.drop 1)).length = pn.length := xorBytes_length _ _
  obtain ⟨d1, d2, d3⟩ := cuts (b0 ^^^ (m.headD 0 &&& (if long then 15 else 31))) mid (xorBytes pn (m.drop 1)) ct
  -- masking the packet number leaves the sample where it was
  rw [drop4_pn _ _ (by omega), hpl, ← drop4_pn _ _ (by omega)] at d1
  rw [hpl] at d3
  refine ⟨m.headD 0, _, rfl, by rw [List.length_append, hpl, hpnl, hctl]; omega, by rw [d1, hm], ?_⟩
  unfold unprotect
  rw [if_neg (by
    simp only [List.length_cons, List.length_append, hpl, sampleSize]
    omega), d1, hm]
  simp only [List.headD_cons, xor_cancel, hb0, ← hpnl]
  have t1 : (xorBytes pn (m.drop 1) ++ ct).take pn.length = xorBytes pn (m.drop 1) := by
    rw [← hpl]; simp
  have hc : xorBytes (xorBytes pn (m.drop 1)) (m.drop 1) = pn :=
    xorBytes_cancel _ _ (by simp [hml]; omega)
  simp only [d2, d3, t1, hc, hdec', List.drop_succ_cons, List.drop_zero]
  simp [hopen']

theorem two_byte_len (plen : Nat) (r : List Nat) (h : plen < 16384) :
    takeVarint ((64 + plen / 256 % 256) :: plen % 256 :: r) = some (plen, r) := by
  have h1 : (64 + plen / 256 % 256) / 64 = 1 := by omega
  simp [takeVarint, consumeVarint, h1]
  clear h1
  have hq : plen / 256 < 64 := by omega
  have hm : plen / 256 % 64 = plen / 256 := Nat.mod_eq_of_lt hq
  rw [hm]
  omega

theorem u32_rt (v : Nat) (r : List Nat) (h : v < 4294967296) :
    consumeUint32 (u32be v ++ r) = some (v, 4) := by
  simp only [u32be, List.cons_append, List.nil_append, consumeUint32]
  rw [C22.be4, Nat.mod_eq_of_lt h]

/-- Offset of the packet number in a long header = bytes before the 2-byte Length field's value
starts counting (`pnumOff` in `startProtectedLongHeaderPacket`). -/
def longPnumOff (ptype : Nat) (dcid scid token : List Nat) : Nat :=
  1 + 4 + 1 + dcid.length + 1 + scid.length +
    (if ptype = 1 then (sizeVarint token.length).getD 0 + token.length else 0) + 2

theorem longHeader_some (ptype version : Nat) (dcid scid token : List Nat) (n plen : Nat) (h : List Nat)
    (hh : longHeader ptype version dcid scid token n plen = some h) :
    ∃ mid, h = (128 + 64 + typeBits ptype + (n - 1)) :: mid ∧ 1 + mid.length = longPnumOff ptype dcid scid token := by
  unfold longHeader at hh
  split at hh <;> cases hh
  rename_i d s t hd hs ht
  refine ⟨_, rfl, ?_⟩
  have htl : t.length = if ptype = 1 then (sizeVarint token.length).getD 0 + token.length else 0 := by
    by_cases h1 : ptype = 1
    · simp only [h1, if_true, appendVarintBytes] at ht ⊢
      split at ht <;> cases ht
      rename_i q hq
      rw [C22.append_length_eq_size _ q hq, List.length_append]
      rfl
    · simp only [h1, if_false] at ht ⊢
      cases ht
      rfl
  unfold longPnumOff
  simp only [List.length_append, uint8Bytes_len _ _ hd, uint8Bytes_len _ _ hs, htl, u32be, List.length_cons,
    List.length_nil]
  omega

/-- The key-independent part of `parseLongHeaderPacket`: a header written by `longHeader` (its first byte
masked or not, as long as form, fixed and type bits stand) followed by the `plen` bytes its Length field counts
parses, whatever trails, to the header's fields and what `unprotect` makes of these bytes.
Every segment of the packet gets a name by `generalize`, and the takes and drops `parseLong` makes of it are
stated once (`hd1`, `hd5`, `htake`); then each of its guards is one rewrite. -/
theorem parseLong_header (c : Crypto) (b b0 version ptype n plen : Nat) (dcid scid token mid rest trailing pay hdr : List Nat)
    (num : Nat) (recvMax : Int)
    (hh : longHeader ptype version dcid scid token n plen = some (b :: mid))
    (hb1 : b0 / 128 % 2 = 1) (hb2 : b0 / 64 % 2 = 1) (hb3 : b0 / 16 % 4 + 1 = ptype)
    (hpt : 1 ≤ ptype ∧ ptype ≤ 3) (hv0 : 0 < version) (hv : version < 4294967296)
    (hdl : dcid.length ≤ 20) (hsl : scid.length ≤ 20) (hpl : plen < 16384) (hrl : rest.length = plen)
    (hu : unprotect c true (b0 :: (mid ++ rest)) (1 + mid.length) recvMax = some (pay, num, hdr)) :
    parseLong c (b0 :: (mid ++ rest) ++ trailing) recvMax =
      some ({ ptype := ptype, version := version, num := num, dcid := dcid, scid := scid,
              extra := (if ptype = 1 then token else []), payload := pay }, (b0 :: (mid ++ rest)).length) := by
  unfold longHeader at hh
  split at hh <;> try (simp at hh; done)
  rename_i d s t hd hs ht
  obtain ⟨-, rfl⟩ := List.cons.inj (Option.some.inj hh)
  generalize hX : rest ++ trailing = X
  have hfull : b0 :: (u32be version ++ (d ++ (s ++ (t ++ [64 + plen / 256 % 256, plen % 256]))) ++ rest) ++ trailing =
      b0 :: (u32be version ++ (d ++ (s ++ (t ++ ((64 + plen / 256 % 256) :: plen % 256 :: X))))) := by
    rw [← hX]; simp
  generalize hmid : u32be version ++ (d ++ (s ++ (t ++ [64 + plen / 256 % 256, plen % 256]))) = mid at hu hfull ⊢
  have hmidl : mid.length = 4 + d.length + s.length + t.length + 2 := by
    rw [← hmid]; simp [u32be]; omega
  generalize hpkt : b0 :: (mid ++ rest) ++ trailing = full at hfull ⊢
  have hlen : full.length = 1 + mid.length + X.length := by
    rw [← hpkt, ← hX]; simp; omega
  have htake : full.take (1 + mid.length + plen) = b0 :: (mid ++ rest) := by
    rw [← hpkt, ← hrl]; exact List.take_left' (by simp; omega)
  have hhead : full.headD 0 = b0 := by rw [← hpkt]; rfl
  have hd1 : full.drop 1 = u32be version ++ (d ++ (s ++ (t ++ ((64 + plen / 256 % 256) :: plen % 256 :: X)))) := by
    rw [hfull]; rfl
  have hd5 : full.drop 5 = d ++ (s ++ (t ++ ((64 + plen / 256 % 256) :: plen % 256 :: X))) := by
    rw [hfull]; simp [u32be]
  have hver : (full.drop 1).take 4 ≠ [0, 0, 0, 0] := by
    rw [hd1]; simp [u32be]; omega
  have htype : longType full = ptype := by
    unfold longType
    simp only [hver, if_false, hhead, hb2, ne_eq, not_true_eq_false, hb3]
  unfold parseLong
  have c1 : ¬ (full.length < 5 ∨ full.headD 0 / 128 % 2 ≠ 1) := by
    rw [hhead, hlen]; omega
  obtain ⟨c2, c3, c6, c7, c4, c5, e⟩ : ¬ ptype = 0 ∧ ¬ version = 0 ∧ ¬ ptype = 4 ∧ ¬ X.length < plen ∧
      ¬ dcid.length > QuicPacket.maxConnIDLen ∧ ¬ scid.length > QuicPacket.maxConnIDLen ∧
      full.length - X.length = 1 + mid.length := by
    have : plen ≤ X.length := by rw [← hX, List.length_append]; omega
    simp only [QuicPacket.maxConnIDLen]; omega
  have hsz : (b0 :: (mid ++ rest)).length = 1 + mid.length + plen := by
    simp only [List.length_cons, List.length_append, hrl]; omega
  simp only [c1, if_false, htype, c2, hd1, u32_rt version _ hv, c3, hd5, takeUint8Bytes_append dcid _ d hd,
    c4, takeUint8Bytes_append scid _ s hs, c5, c6]
  by_cases h1 : ptype = 1
  · simp only [h1, if_true] at ht ⊢
    simp only [takeVarintBytes_append token _ t ht, two_byte_len plen X hpl, c7, if_false, e, htake, hu, hsz]
  · simp only [h1, if_false] at ht ⊢
    cases ht
    simp only [List.nil_append, two_byte_len plen X hpl, c7, if_false, e, htake, hu, hsz]

end NetVerif.Proofs.Lemmas.QuicPacketRT
