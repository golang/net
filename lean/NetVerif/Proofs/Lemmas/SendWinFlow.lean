import NetVerif.Model.Flow
/-!
`outflow` arithmetic over int32 counters (add / take / available) for C08/C09. It rests on `Model/Flow.lean` alone:
`Gen/Flow.lean`, which other properties' checks regenerate, is not below the C08/C09 proof tree.
-/
namespace NetVerif.Proofs.SendWinFlow
open NetVerif.Model.Flow

theorem wrap32_eq (x : Int) : wrap32 x = (x + 2147483648) % 4294967296 - 2147483648 := rfl

theorem wrap32_id (x : Int) (h : IsInt32 x) : wrap32 x = x := by
  unfold IsInt32 at h
  rw [wrap32_eq]
  omega

theorem wrap32_range (x : Int) : IsInt32 (wrap32 x) := by
  unfold IsInt32
  rw [wrap32_eq]
  omega

theorem outflow_add_spec (f : Outflow) (n : Int) (hf : IsInt32 f.n) (hn : IsInt32 n) :
    ((f.add n).1 = true ↔ IsInt32 (f.n + n)) ∧
    ((f.add n).1 = true → (f.add n).2 = { f with n := f.n + n }) ∧
    ((f.add n).1 = false → (f.add n).2 = f) := by
  -- Go's overflow test: `sum > n` agrees with `f.n > 0` exactly when the sum did not wrap
  have key : (wrap32 (f.n + n) > n ↔ f.n > 0) ↔ IsInt32 (f.n + n) := by
    unfold IsInt32 at *
    rw [wrap32_eq]
    omega
  by_cases hI : IsInt32 (f.n + n)
  · have e : f.add n = (true, { f with n := f.n + n }) := by
      unfold Outflow.add
      rw [if_pos (decide_eq_decide.mpr (key.mpr hI)), wrap32_id _ hI]
    rw [e]
    exact ⟨⟨fun _ => hI, fun _ => rfl⟩, fun _ => rfl, fun h => (nomatch h)⟩
  · have e : f.add n = (false, f) := by
      unfold Outflow.add
      rw [if_neg fun c => hI (key.mp (decide_eq_decide.mp c))]
    rw [e]
    exact ⟨⟨fun h => (nomatch h), fun h => absurd h hI⟩, fun h => (nomatch h), fun _ => rfl⟩

theorem outflow_available_spec (f : Outflow) :
    f.available ≤ f.n ∧ (∀ c, f.conn = some c → f.available ≤ c ∧ (f.available = c ∨ f.available = f.n)) ∧
    (f.conn = none → f.available = f.n) := by
  unfold Outflow.available
  cases hc : f.conn with
  | none => simp
  | some c =>
    by_cases h : c < f.n <;> simp [h] <;> omega

/-- `take = none` is the Go panic. The third conjunct of the second part follows from the fourth. -/
theorem outflow_take_spec (f : Outflow) (n : Int) (hn : 0 ≤ n) (hf : IsInt32 f.n)
    (hc : ∀ c, f.conn = some c → IsInt32 c) :
    (f.take n = none ↔ n > f.available) ∧
    (∀ g, f.take n = some g → g.n = f.n - n ∧ g.conn = f.conn.map (· - n) ∧ 0 ≤ g.available - (f.available - n)
        ∧ g.available = f.available - n) := by
  unfold Outflow.take
  by_cases h : n > f.available
  · simp [h]
  · simp only [h, if_false]
    refine ⟨by simp, ?_⟩
    intro g hg
    simp only [Option.some.injEq] at hg
    subst hg
    have av := outflow_available_spec f
    unfold IsInt32 at hf
    cases hcc : f.conn with
    | none =>
      have e : f.available = f.n := av.2.2 hcc
      have w : wrap32 (f.n - n) = f.n - n := wrap32_id _ (by unfold IsInt32; omega)
      simp [Outflow.available, hcc, w] at *
    | some c =>
      have hc' := hc c hcc
      unfold IsInt32 at hc'
      have ⟨a1, a2⟩ := av.2.1 c hcc
      have w1 : wrap32 (f.n - n) = f.n - n := wrap32_id _ (by unfold IsInt32; omega)
      have w2 : wrap32 (c - n) = c - n := wrap32_id _ (by unfold IsInt32; omega)
      simp only [Option.map_some, w1, w2, true_and]
      unfold Outflow.available at *
      simp only [hcc] at *
      by_cases hlt : c < f.n
      · have : c - n < f.n - n := by omega
        simp [hlt, this]
      · have : ¬ c - n < f.n - n := by omega
        simp [hlt, this]

end NetVerif.Proofs.SendWinFlow
