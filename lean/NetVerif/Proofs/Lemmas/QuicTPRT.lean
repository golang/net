import NetVerif.Model.QuicTransportParams
import NetVerif.Proofs.Lemmas.QuicCodec
/-! Transport parameters: marshal followed by unmarshal is the identity on valid parameter sets. -/
namespace NetVerif.Proofs.Lemmas.QuicTPRT
open NetVerif.Model.VarintQuic NetVerif.Model.QuicFrames NetVerif.Model.QuicTransportParams
open NetVerif.Proofs.Lemmas.QuicCodec

theorem splitTLVsF_fuel : ∀ (f g : Nat) (b : List Nat), b.length ≤ f → b.length ≤ g →
    splitTLVsF f b = splitTLVsF g b := by
  intro f
  induction f with
  | zero =>
    intro g b hf _
    have : b = [] := by cases b <;> simp_all
    subst this
    cases g <;> simp [splitTLVsF]
  | succ f ih =>
    intro g b hf hg
    cases b with
    | nil => cases g <;> simp [splitTLVsF]
    | cons x xs =>
      cases g with
      | zero => simp at hg
      | succ g =>
        simp only [splitTLVsF]
        cases h1 : takeVarint (x :: xs) with
        | none => rfl
        | some r1 =>
          obtain ⟨id, b1⟩ := r1
          simp only
          cases h2 : takeVarintBytes b1 with
          | none => rfl
          | some r2 =>
            obtain ⟨val, b2⟩ := r2
            simp only
            have l1 := takeVarint_shorter _ _ _ h1
            have l2 := takeVarintBytes_shorter _ _ _ h2
            simp at l1 hf hg
            rw [ih g b2 (by omega) (by omega)]

def unmarshalFrom (q : TParams) (b : List Nat) : Option TParams :=
  match splitTLVs b with
  | some l => applyAll q l
  | none => none

theorem unmarshal_eq : unmarshal b = unmarshalFrom defaultParams b := rfl

theorem unmarshalFrom_nil (q : TParams) : unmarshalFrom q [] = some q := by
  simp [unmarshalFrom, splitTLVs, splitTLVsF, applyAll]

theorem splitTLVs_cons (id : Nat) (val x rest : List Nat) (h : tlvBytes id val = some x) :
    splitTLVs (x ++ rest) = (splitTLVs rest).map ((id, val) :: ·) := by
  unfold tlvBytes at h
  split at h <;> simp at h
  rename_i a b ha hb
  subst h
  have hpos := (C22.append_length_range id a ha).1
  unfold splitTLVs
  obtain ⟨n, hn⟩ : ∃ n, (a ++ b ++ rest).length = n + 1 := ⟨(a ++ b ++ rest).length - 1, by simp; omega⟩
  rw [hn]
  cases hab : a ++ b ++ rest with
  | nil => simp [hab] at hn
  | cons y ys =>
    have e1 : y :: ys = a ++ (b ++ rest) := by rw [← hab]; simp
    simp only [splitTLVsF]
    rw [e1, takeVarint_append id a _ ha]
    simp only [takeVarintBytes_append val rest b hb]
    have hl : rest.length ≤ n := by
      have : (a ++ b ++ rest).length = n + 1 := hn
      simp at this; omega
    rw [splitTLVsF_fuel n rest.length rest hl (Nat.le_refl _)]
    cases splitTLVsF rest.length rest <;> simp

theorem unmarshalFrom_tlv (q q' : TParams) (id : Nat) (val x rest : List Nat)
    (h : tlvBytes id val = some x) (ha : applyParam q id val = some q') :
    unmarshalFrom q (x ++ rest) = unmarshalFrom q' rest := by
  unfold unmarshalFrom
  rw [splitTLVs_cons id val x rest h]
  cases splitTLVs rest <;> simp [applyAll, ha]

theorem wholeVarint_enc (v : Nat) (e : List Nat) (h : appendVarint v = some e) :
    wholeVarint e = some v := by
  have := C22.consume_append v e [] h
  simp at this
  simp [wholeVarint, this]

/-- The parameter sets for which the round trip is claimed: durations are whole milliseconds within
the accepted ranges (an idle timeout above `1<<32` ms is read back as 0), integer parameters are in their
RFC 9000 §18.2 ranges, the stateless reset token has 16 bytes, and the preferred-address fields are either
all absent or an IPv4 (4 bytes) + IPv6 (16 bytes) address with 16-bit ports and a 16-byte token.
`C28.tpValidB` is its Boolean form. -/
def TPValid (p : TParams) : Prop :=
  p.maxIdleTimeout % msNs = 0 ∧ p.maxIdleTimeout / msNs ≤ 4294967296 ∧
  (∀ t, p.statelessResetToken = some t → t.length = 16) ∧
  1200 ≤ p.maxUDPPayloadSize ∧ p.initialMaxStreamsBidi ≤ maxStreamsLimit ∧
  p.initialMaxStreamsUni ≤ maxStreamsLimit ∧ p.ackDelayExponent ≤ 20 ∧
  p.maxAckDelay % msNs = 0 ∧ p.maxAckDelay / msNs < 16384 ∧ 2 ≤ p.activeConnIDLimit ∧
  (∀ c, p.preferredAddrConnID = some c →
     p.preferredAddrV4.1.length = 4 ∧ p.preferredAddrV6.1.length = 16 ∧
     p.preferredAddrV4.2 < 65536 ∧ p.preferredAddrV6.2 < 65536 ∧
     ∃ t, p.preferredAddrResetToken = some t ∧ t.length = 16) ∧
  (p.preferredAddrConnID = none →
     p.preferredAddrV4 = ([], 0) ∧ p.preferredAddrV6 = ([], 0) ∧ p.preferredAddrResetToken = none)

/-- The first `k` marshalled fields taken from `p`, the others at their defaults: the state of
`unmarshalTransportParams` after the first `k` pieces. -/
def mix (k : Nat) (p : TParams) : TParams :=
  { originalDstConnID := if 0 < k then p.originalDstConnID else none,
    maxIdleTimeout := if 1 < k then p.maxIdleTimeout else 0,
    statelessResetToken := if 2 < k then p.statelessResetToken else none,
    maxUDPPayloadSize := if 3 < k then p.maxUDPPayloadSize else defaultMaxUDPPayloadSize,
    initialMaxData := if 4 < k then p.initialMaxData else 0,
    initialMaxStreamDataBidiLocal := if 5 < k then p.initialMaxStreamDataBidiLocal else 0,
    initialMaxStreamDataBidiRemote := if 6 < k then p.initialMaxStreamDataBidiRemote else 0,
    initialMaxStreamDataUni := if 7 < k then p.initialMaxStreamDataUni else 0,
    initialMaxStreamsBidi := if 8 < k then p.initialMaxStreamsBidi else 0,
    initialMaxStreamsUni := if 9 < k then p.initialMaxStreamsUni else 0,
    ackDelayExponent := if 10 < k then p.ackDelayExponent else defaultAckDelayExponent,
    maxAckDelay := if 11 < k then p.maxAckDelay else defaultMaxAckDelayMs * msNs,
    disableActiveMigration := if 12 < k then p.disableActiveMigration else false,
    preferredAddrConnID := if 13 < k then p.preferredAddrConnID else none,
    preferredAddrV4 := if 13 < k then p.preferredAddrV4 else ([], 0),
    preferredAddrV6 := if 13 < k then p.preferredAddrV6 else ([], 0),
    preferredAddrResetToken := if 13 < k then p.preferredAddrResetToken else none,
    activeConnIDLimit := if 14 < k then p.activeConnIDLimit else defaultActiveConnIDLimit,
    initialSrcConnID := if 15 < k then p.initialSrcConnID else none,
    retrySrcConnID := if 16 < k then p.retrySrcConnID else none }

theorem mix_zero (p : TParams) : mix 0 p = defaultParams := by simp [mix, defaultParams]
theorem mix_all (p : TParams) : mix 17 p = p := by cases p; simp [mix]

/-- `unmarshal` consumes the marshalled piece `o` and goes from `q` to `q'`, whatever follows. -/
def Piece (q q' : TParams) (o : Option (List Nat)) : Prop :=
  ∀ x rest, o = some x → unmarshalFrom q (x ++ rest) = unmarshalFrom q' rest

theorem pieces_cons {q q' : TParams} {o : Option (List Nat)} {ps : List (Option (List Nat))} {r : Option TParams}
    (h1 : Piece q q' o) (h2 : ∀ bs, concatPieces ps = some bs → unmarshalFrom q' bs = r) :
    ∀ bs, concatPieces (o :: ps) = some bs → unmarshalFrom q bs = r := by
  intro bs h
  cases o with
  | none => simp [concatPieces] at h
  | some x =>
    simp only [concatPieces] at h
    split at h <;> cases h
    rw [h1 x _ rfl]
    exact h2 _ ‹_›

theorem piece_bytes {q q' : TParams} {id : Nat} {v : Option (List Nat)} (hnone : v = none → q' = q)
    (hsome : ∀ val, v = some val → applyParam q id val = some q') : Piece q q' (optBytes id v) := by
  intro x rest h
  cases v with
  | none => cases h; simp [hnone rfl]
  | some val => exact unmarshalFrom_tlv q q' id val x rest h (hsome val rfl)

theorem piece_int {q q' : TParams} {id v dflt : Nat} (hd : v = dflt → q' = q)
    (hs : ∀ e, wholeVarint e = some v → applyParam q id e = some q') : Piece q q' (optInt id v dflt) := by
  intro x rest h
  unfold optInt at h
  split at h
  · rename_i hv; cases h; simp [hd hv]
  · unfold tlvInt at h
    split at h
    · rename_i e he
      exact unmarshalFrom_tlv q q' id e x rest h (hs e (wholeVarint_enc _ e he))
    · cases h

attribute [local simp] idOriginalDstConnID idMaxIdleTimeout idStatelessResetToken idMaxUDPPayloadSize
  idInitialMaxData idInitialMaxStreamDataBidiLocal idInitialMaxStreamDataBidiRemote idInitialMaxStreamDataUni
  idInitialMaxStreamsBidi idInitialMaxStreamsUni idAckDelayExponent idMaxAckDelay idDisableActiveMigration
  idPreferredAddress idActiveConnIDLimit idInitialSrcConnID idRetrySrcConnID

theorem piece_disableMigration (p : TParams) :
    Piece (mix 12 p) (mix 13 p) (if p.disableActiveMigration then some [idDisableActiveMigration, 0] else some []) := by
  intro x rest h
  cases hd : p.disableActiveMigration with
  | false =>
    simp [hd] at h; subst h
    simp [mix, hd]
  | true =>
    simp [hd] at h; subst h
    have ht : tlvBytes idDisableActiveMigration [] = some [12, 0] := by decide
    exact unmarshalFrom_tlv _ _ _ [] _ rest ht (by simp [applyParam, mix, hd])

private theorem u16_rt (v : Nat) (r : List Nat) (h : v < 65536) : u16of (u16be v ++ r) = v := by
  simp [u16of, u16be]; omega

/-- Cutting `A ++ B ++ C ++ D ++ E` at the offsets of the preferred_address value (4, 2, 16, 2 bytes). -/
private theorem segments (A B C D E : List Nat) (hA : A.length = 4) (hB : B.length = 2) (hC : C.length = 16)
    (hD : D.length = 2) :
    (A ++ (B ++ (C ++ (D ++ E)))).take 4 = A ∧ (A ++ (B ++ (C ++ (D ++ E)))).drop 4 = B ++ (C ++ (D ++ E)) ∧
    (A ++ (B ++ (C ++ (D ++ E)))).drop 6 = C ++ (D ++ E) ∧ (A ++ (B ++ (C ++ (D ++ E)))).drop 22 = D ++ E ∧
    (A ++ (B ++ (C ++ (D ++ E)))).drop 24 = E ∧ (A ++ (B ++ (C ++ (D ++ E)))).length = 24 + E.length := by
  refine ⟨List.take_left' hA, List.drop_left' hA, ?_, ?_, ?_, by simp only [List.length_append]; omega⟩
  · rw [← List.append_assoc]; exact List.drop_left' (by rw [List.length_append]; omega)
  · rw [← List.append_assoc, ← List.append_assoc]; exact List.drop_left' (by simp only [List.length_append]; omega)
  · rw [← List.append_assoc, ← List.append_assoc, ← List.append_assoc]
    exact List.drop_left' (by simp only [List.length_append]; omega)

theorem piece_prefAddr (p : TParams) (hv : TPValid p) : Piece (mix 13 p) (mix 14 p) (prefAddrBytes p) := by
  intro x rest h
  obtain ⟨_, _, _, _, _, _, _, _, _, _, hsome, hnone⟩ := hv
  unfold prefAddrBytes at h
  cases hc : p.preferredAddrConnID with
  | none =>
    simp [hc] at h; subst h
    obtain ⟨h4, h6, ht⟩ := hnone hc
    simp [mix, hc, h4, h6, ht]
  | some cid =>
    obtain ⟨l4, l6, p4, p6, tok, htok, ltok⟩ := hsome cid hc
    cases h4 : p.preferredAddrV4 with
    | mk v4b v4p =>
    cases h6 : p.preferredAddrV6 with
    | mk v6b v6p =>
    simp only [h4, h6] at l4 l6 p4 p6
    simp only [hc, h4, h6, htok, Option.getD_some] at h
    split at h <;> simp at h
    rename_i l c hl hcb
    subst h
    have hclen := uint8Bytes_len cid c hcb
    obtain ⟨e4, d4, d6, d22, e24, hlen⟩ := segments v4b (u16be v4p) v6b (u16be v6p) (c ++ tok) l4 rfl l6 rfl
    generalize v4b ++ (u16be v4p ++ (v6b ++ (u16be v6p ++ (c ++ tok)))) = val at *
    have hval : appendVarintBytes val = some (l ++ val) := by
      have : val.length = 4 + 2 + 16 + 2 + 1 + cid.length + 16 := by
        rw [hlen, List.length_append, hclen, ltok]; omega
      simp [appendVarintBytes, this, hl]
    have htlv : tlvBytes idPreferredAddress val = some (idPreferredAddress :: (l ++ val)) := by
      have : appendVarint 13 = some [13] := by decide
      simp [tlvBytes, this, hval]
    refine unmarshalFrom_tlv _ _ _ _ _ rest htlv ?_
    have t16 : (v6b ++ (u16be v6p ++ (c ++ tok))).take 16 = v6b := List.take_left' l6
    have hlen25 : ¬ (val.length < 4 + 2 + 16 + 2 + 1) := by
      rw [hlen, List.length_append, hclen]; omega
    simp only [applyParam, idPreferredAddress, idOriginalDstConnID, idMaxIdleTimeout, idStatelessResetToken,
      idMaxUDPPayloadSize, idInitialMaxData, idInitialMaxStreamDataBidiLocal, idInitialMaxStreamDataBidiRemote,
      idInitialMaxStreamDataUni, idInitialMaxStreamsBidi, idInitialMaxStreamsUni, idAckDelayExponent, idMaxAckDelay,
      idDisableActiveMigration, Nat.reduceEqDiff, if_false, if_true, hlen25, e24, takeUint8Bytes_append cid tok c hcb,
      e4, d4, d6, d22, t16, u16_rt v4p _ p4, u16_rt v6p _ p6]
    simp [ltok, mix, hc, h4, h6, htok]

/-- C28, transport parameters: what `marshalTransportParameters` produces for a valid parameter set,
`unmarshalTransportParams` accepts, and it gives back the same parameters (all twenty fields). -/
theorem tp_roundtrip (p : TParams) (bs : List Nat) (hv : TPValid p) (h : marshal p = some bs) :
    unmarshal bs = some p := by
  have hpa := piece_prefAddr p hv
  obtain ⟨h1, h2, h3, hudp, hsb, hsu, hade, h8, h9, hacl, _, _⟩ := hv
  have m1 : p.maxIdleTimeout / msNs * msNs = p.maxIdleTimeout := by unfold msNs at h1 ⊢; omega
  have m2 : p.maxAckDelay / msNs * msNs = p.maxAckDelay := by unfold msNs at h8 ⊢; omega
  rw [unmarshal_eq, ← mix_zero p]
  revert bs
  unfold marshal marshalPieces
  -- one `pieces_cons` per entry of `marshalPieces`, in its order; `mix k p` is the state after `k` entries
  refine pieces_cons (q' := mix 1 p)
    (piece_bytes (fun hn => by simp [mix, hn]) fun val hv => by simp [applyParam, mix, hv]) ?_
  refine pieces_cons (q' := mix 2 p)
    (piece_int (fun hd => by simp [mix, show p.maxIdleTimeout = 0 by unfold msNs at h1 hd; omega])
      fun e hw => by simp [applyParam, mix, hw, Nat.not_lt.mpr h2, m1]) ?_
  refine pieces_cons (q' := mix 3 p)
    (piece_bytes (fun hn => by simp [mix, hn]) fun val hv => by simp [applyParam, mix, hv, h3 val hv]) ?_
  refine pieces_cons (q' := mix 4 p)
    (piece_int (fun hd => by simp [mix, hd]) fun e hw => by simp [applyParam, mix, hw, Nat.not_lt.mpr hudp]) ?_
  refine pieces_cons (q' := mix 5 p)
    (piece_int (fun hd => by simp [mix, hd]) fun e hw => by simp [applyParam, mix, hw]) ?_
  refine pieces_cons (q' := mix 6 p)
    (piece_int (fun hd => by simp [mix, hd]) fun e hw => by simp [applyParam, mix, hw]) ?_
  refine pieces_cons (q' := mix 7 p)
    (piece_int (fun hd => by simp [mix, hd]) fun e hw => by simp [applyParam, mix, hw]) ?_
  refine pieces_cons (q' := mix 8 p)
    (piece_int (fun hd => by simp [mix, hd]) fun e hw => by simp [applyParam, mix, hw]) ?_
  refine pieces_cons (q' := mix 9 p)
    (piece_int (fun hd => by simp [mix, hd]) fun e hw => by simp [applyParam, mix, hw, Nat.not_lt.mpr hsb]) ?_
  refine pieces_cons (q' := mix 10 p)
    (piece_int (fun hd => by simp [mix, hd]) fun e hw => by simp [applyParam, mix, hw, Nat.not_lt.mpr hsu]) ?_
  refine pieces_cons (q' := mix 11 p)
    (piece_int (fun hd => by simp [mix, hd]) fun e hw => by simp [applyParam, mix, hw, Nat.not_lt.mpr hade]) ?_
  refine pieces_cons (q' := mix 12 p)
    (piece_int
      (fun hd => by
        simp [mix, show p.maxAckDelay = defaultMaxAckDelayMs * msNs by unfold msNs defaultMaxAckDelayMs at *; omega])
      fun e hw => by simp [applyParam, mix, hw, Nat.not_le.mpr h9, m2]) ?_
  refine pieces_cons (piece_disableMigration p) (pieces_cons hpa ?_)
  refine pieces_cons (q' := mix 15 p)
    (piece_int (fun hd => by simp [mix, hd]) fun e hw => by simp [applyParam, mix, hw, Nat.not_lt.mpr hacl]) ?_
  refine pieces_cons (q' := mix 16 p)
    (piece_bytes (fun hn => by simp [mix, hn]) fun val hv => by simp [applyParam, mix, hv]) ?_
  refine pieces_cons (q' := mix 17 p)
    (piece_bytes (fun hn => by simp [mix, hn]) fun val hv => by simp [applyParam, mix, hv]) ?_
  intro bs h
  cases h
  rw [unmarshalFrom_nil, mix_all]

end NetVerif.Proofs.Lemmas.QuicTPRT
