import NetVerif.Proofs.Lemmas.SendWin
import NetVerif.Proofs.Lemmas.SendWinFlow
/-! Refinement: every wire trace produced by the mechanism model `Send` (server and client role) is
accepted by the monitor `Mon`. The simulation relation is "the endpoint's own counters never exceed
the peer's view", together with the int32 range facts that make `outflow.add/take` exact. -/
namespace NetVerif.Proofs.SendWin
open NetVerif.Model.SendWin NetVerif.Model.Flow NetVerif.Proofs.SendWinFlow

/-- per-stream part of the simulation relation (`iw` = current initial window); the last conjunct
is what makes a refused `add(v − iw)` an overflow upwards (`add_settings_str`) -/
def StrInv (iw : Int) : Option Int → Option Int → Prop
  | none, none => True
  | some a, some b => a ≤ b ∧ IsInt32 a ∧ iw - maxWindow ≤ a
  | _, _ => False

structure Live (s : Send) (m : Mon) : Prop where
  mf : s.maxFrame = m.maxFrame
  /-- only `0 < maxFrame` is used: `awaitFlowControl` then takes a positive amount (`await_took`) -/
  mfmin : minMaxFrame ≤ s.maxFrame
  iw : s.initWin = m.initWin
  /-- with `iwM`, the range `add_settings_str` needs of the old initial window -/
  iw0 : 0 ≤ s.initWin
  iwM : s.initWin ≤ maxWindow
  conn : s.conn ≤ m.connWin
  conn32 : IsInt32 s.conn
  str : ∀ sid, StrInv s.initWin (tget s.wins sid) (tget m.win sid)

/-- Both sides are dead together; nothing else is claimed of a dead connection. -/
structure Inv (s : Send) (m : Mon) : Prop where
  dead : s.dead = m.dead
  live : s.dead = false → Live s m

theorem inv_init : Inv Send.init Mon.init :=
  ⟨rfl, fun _ =>
    { mf := rfl, mfmin := by decide, iw := rfl, iw0 := by decide, iwM := by decide, conn := by decide,
      conn32 := by unfold IsInt32; decide, str := fun _ => trivial }⟩

theorem strInv_cases {iw : Int} {x y : Option Int} (h : StrInv iw x y) :
    (x = none ∧ y = none) ∨ ∃ a b, x = some a ∧ y = some b ∧ a ≤ b ∧ IsInt32 a ∧ iw - maxWindow ≤ a := by
  cases x <;> cases y <;> simp_all [StrInv]

/-- `flow.add(v - iw)` on one stream when SETTINGS_INITIAL_WINDOW_SIZE changes from `iw` to `v`: a refused add can only
be an overflow upwards, so either way the stream's counter stays at or below the peer's view. -/
theorem add_settings_str (a b c iw v : Int) (hab : a ≤ b) (ha : IsInt32 a) (hlo : iw - maxWindow ≤ a)
    (hiw0 : 0 ≤ iw) (hiwM : iw ≤ maxWindow) (hv0 : 0 ≤ v) (hvM : v ≤ maxWindow) :
    let r := (Outflow.mk a (some c)).add (v - iw)
    r.2.n ≤ b + (v - iw) ∧ IsInt32 r.2.n ∧ v - maxWindow ≤ r.2.n ∧
    (r.1 = false → a + (v - iw) > maxWindow) := by
  intro r
  have hd : IsInt32 (v - iw) := by unfold IsInt32 maxWindow at *; omega
  have sp := outflow_add_spec (Outflow.mk a (some c)) (v - iw) ha hd
  cases hr : r.1 with
  | true =>
    have e : r.2.n = a + (v - iw) := congrArg Outflow.n (sp.2.1 hr)
    rw [e]
    exact ⟨by omega, sp.1.1 hr, by omega, fun h => (nomatch h)⟩
  | false =>
    have e : r.2.n = a := congrArg Outflow.n (sp.2.2 hr)
    have i : ¬ IsInt32 (a + (v - iw)) := fun h => by have := sp.1.2 h; rw [hr] at this; cases this
    rw [e]
    have key : a ≤ b + (v - iw) ∧ v - maxWindow ≤ a ∧ a + (v - iw) > maxWindow := by
      unfold IsInt32 maxWindow at *
      omega
    exact ⟨key.1, ha, key.2.1, fun _ => key.2.2⟩

theorem tget_addEach (conn : Int) (t : Tbl) (d : Int) (j : Nat) :
    tget (addEach conn t d).1 j = (tget t j).map (fun v => ((Outflow.mk v (some conn)).add d).2.n) := by
  induction t with
  | nil => simp [addEach]
  | cons p t ih =>
    obtain ⟨k, v⟩ := p
    by_cases h : k = j <;> simp [addEach, tget_cons, h, ih]

theorem addEach_ok (conn : Int) (t : Tbl) (d : Int) (h : (addEach conn t d).2 = true) :
    ∀ j v, tget t j = some v → ((Outflow.mk v (some conn)).add d).1 = true := by
  induction t with
  | nil => intro j v hj; simp at hj
  | cons p t ih =>
    obtain ⟨k, x⟩ := p
    simp only [addEach, Bool.and_eq_true] at h
    intro j v hj
    simp only [tget_cons] at hj
    by_cases hk : k = j
    · simp only [hk, if_true, Option.some.injEq] at hj
      subst hj; exact h.1
    · simp only [hk, if_false] at hj
      exact ih h.2 j v hj

theorem live_iw {s : Send} {m : Mon} (h : Live s m) (v : Int) (hv : validIw v = true) :
    Live { s with initWin := v, wins := (addEach s.conn s.wins (v - s.initWin)).1 }
         { m with initWin := v, win := taddAll m.win (v - m.initWin) } := by
  obtain ⟨h1, h2, h3, h4, h5, h6, h7, h8⟩ := h
  simp only [validIw, decide_eq_true_eq] at hv
  refine ⟨h1, h2, rfl, hv.1, hv.2, h6, h7, ?_⟩
  intro j
  simp only [tget_addEach, tget_taddAll, ← h3]
  rcases strInv_cases (h8 j) with ⟨a, b⟩ | ⟨a, b, ea, eb, hab, ha, hlo⟩
  · simp [a, b, StrInv]
  · have := add_settings_str a b s.conn s.initWin v hab ha hlo h4 h5 hv.1 hv.2
    simp only [ea, eb, Option.map_some, StrInv]
    exact ⟨this.1, this.2.1, this.2.2.1⟩

theorem inv_dead {s : Send} {m : Mon} (hs : s.dead = true) (hm : m.dead = true) : Inv s m :=
  ⟨by rw [hs, hm], fun h => by rw [hs] at h; cases h⟩

theorem iw_sim (r : Role) {s : Send} {m : Mon} (hd : s.dead = false) (hm : m.dead = false) (h : Live s m)
    (iw : Option Int) :
    ∃ m', Mon.run (m.settings none iw) (s.settings r none iw).2 = .ok m' ∧ Inv (s.settings r none iw).1 m' := by
  cases iw with
  | none => exact ⟨m, rfl, ⟨by show s.dead = m.dead; rw [hd, hm], fun _ => h⟩⟩
  | some v =>
    by_cases hv : validIw v = true
    · have L := live_iw h v hv
      -- the client ignores a failed `add`; the server ends the connection on one
      cases r with
      | client =>
        refine ⟨{ m with initWin := v, win := taddAll m.win (v - m.initWin) }, ?_, ?_⟩
        · simp [Send.settings, Mon.settings, hv, Mon.run]
        · simp only [Send.settings, hv, if_true]
          exact ⟨by simp [hd, hm], fun _ => L⟩
      | server =>
        cases hok : (addEach s.conn s.wins (v - s.initWin)).2 with
        | true =>
          refine ⟨{ m with initWin := v, win := taddAll m.win (v - m.initWin) }, ?_, ?_⟩
          · simp [Send.settings, Mon.settings, hv, hok, Mon.run]
          · simp only [Send.settings, hv, hok, if_true]
            exact ⟨by simp [hd, hm], fun _ => L⟩
        | false =>
          refine ⟨{ m with initWin := v, win := taddAll m.win (v - m.initWin), dead := true }, ?_, ?_⟩
          · simp [Send.settings, Mon.settings, hv, hok, Mon.run, Mon.step]
          · simp only [Send.settings, hv, hok, if_true]
            exact inv_dead rfl rfl
    · refine ⟨{ m with dead := true }, ?_, ?_⟩
      · simp [Send.settings, Mon.settings, hv, Mon.run, Mon.step]
      · simp only [Send.settings, hv]
        exact inv_dead rfl rfl

theorem settings_sim (r : Role) {s : Send} {m : Mon} (hd : s.dead = false) (hm : m.dead = false) (h : Live s m)
    (mfs iw : Option Int) :
    ∃ m', Mon.run (m.settings mfs iw) (s.settings r mfs iw).2 = .ok m' ∧ Inv (s.settings r mfs iw).1 m' := by
  cases mfs with
  | none => exact iw_sim r hd hm h iw
  | some v =>
    by_cases hv : validMfs v = true
    · have e1 : s.settings r (some v) iw = Send.settings r { s with maxFrame := v } none iw := by
        simp [Send.settings, hv]
      have e2 : m.settings (some v) iw = Mon.settings { m with maxFrame := v } none iw := by
        simp [Mon.settings, hv]
      rw [e1, e2]
      obtain ⟨h1, h2, h3, h4, h5, h6, h7, h8⟩ := h
      simp only [validMfs, decide_eq_true_eq] at hv
      exact iw_sim r (s := { s with maxFrame := v }) (m := { m with maxFrame := v }) hd hm
        ⟨rfl, hv.1, h3, h4, h5, h6, h7, h8⟩ iw
    · refine ⟨{ m with dead := true }, ?_, ?_⟩
      · simp [Send.settings, Mon.settings, hv, Mon.run, Mon.step]
      · simp only [Send.settings, hv]
        exact inv_dead rfl rfl

/-- what `flow.take(n)` does to the endpoint's state; a relation between `s` and `s'` because a
zero-length frame leaves `s` itself (`took_zero`), the others `{ s with conn, wins }` (`took_of_take`) -/
structure Took (s s' : Send) (sid : Nat) (a : Int) (n : Nat) : Prop where
  conn : s'.conn = s.conn - n
  wins : ∀ j, tget s'.wins j = if sid = j then some (a - n) else tget s.wins j
  iw : s'.initWin = s.initWin
  mf : s'.maxFrame = s.maxFrame
  dead : s'.dead = s.dead
  bound : (n : Int) ≤ s.maxFrame ∧ (0 < n → (n : Int) ≤ a ∧ (n : Int) ≤ s.conn)

theorem avail_eq (s : Send) (a : Int) : (s.flow a).available = min a s.conn := by
  have sp := outflow_available_spec (s.flow a)
  have := sp.2.1 s.conn rfl
  have : (s.flow a).n = a := rfl
  omega

theorem avail_le (s : Send) (a : Int) : (s.flow a).available ≤ a ∧ (s.flow a).available ≤ s.conn := by
  rw [avail_eq]
  omega

theorem avail_pos (s : Send) (a : Int) : 0 < (s.flow a).available ↔ 0 < a ∧ 0 < s.conn := by
  rw [avail_eq]
  omega

theorem windowUpdate_stream (s : Send) (sid : Nat) (a inc : Int) (hs : sid ≠ 0) (ha : IsInt32 a)
    (ea : tget s.wins sid = some a) (hinc : 0 < inc) (hincM : inc ≤ maxWindow) (hsum : IsInt32 (a + inc)) :
    s.windowUpdate sid inc = ({ s with wins := tset s.wins sid (a + inc) }, []) := by
  have hI : IsInt32 inc := by unfold IsInt32; unfold maxWindow at hincM; omega
  have sp := outflow_add_spec (s.flow a) inc ha hI
  have hr : ((s.flow a).add inc).1 = true := sp.1.2 hsum
  have hz : ¬ inc = 0 := by omega
  simp only [Send.windowUpdate, hs, if_false, hz, ea, hr, if_true, sp.2.1 hr]
  rfl

theorem windowUpdate_conn (s : Send) (inc : Int) (h7 : IsInt32 s.conn) (hinc : 0 < inc) (hincM : inc ≤ maxWindow)
    (hsum : IsInt32 (s.conn + inc)) : s.windowUpdate 0 inc = ({ s with conn := s.conn + inc }, []) := by
  have hI : IsInt32 inc := by unfold IsInt32; unfold maxWindow at hincM; omega
  have sp := outflow_add_spec (Outflow.mk s.conn none) inc h7 hI
  have hr : ((Outflow.mk s.conn none).add inc).1 = true := sp.1.2 hsum
  have hz : ¬ inc = 0 := by omega
  simp only [Send.windowUpdate, if_true, hz, if_false, hr, sp.2.1 hr]

theorem take_some {s : Send} (h7 : IsInt32 s.conn) (sid : Nat) (a n : Int) (ha : IsInt32 a) (hn0 : 0 ≤ n)
    (hn : n ≤ (s.flow a).available) :
    s.take sid a n = some { s with conn := s.conn - n, wins := tset s.wins sid (a - n) } := by
  have sp := outflow_take_spec (s.flow a) n hn0 ha (by intro c hc; simp [Send.flow] at hc; subst hc; exact h7)
  unfold Send.take
  cases ht : (s.flow a).take n with
  | none => exact absurd (sp.1.1 ht) (by omega)
  | some g =>
    have := sp.2 g ht
    simp only [Send.flow, Option.map_some] at this
    simp [this.1, this.2.1]

theorem took_of_take {s : Send} (sid : Nat) (a : Int) (n : Nat) (ea : tget s.wins sid = some a)
    (hb : (n : Int) ≤ s.maxFrame ∧ (0 < n → (n : Int) ≤ a ∧ (n : Int) ≤ s.conn)) :
    Took s { s with conn := s.conn - n, wins := tset s.wins sid (a - n) } sid a n := by
  refine ⟨rfl, ?_, rfl, rfl, rfl, hb⟩
  intro j
  simp only [tget_tset]
  by_cases hj : sid = j
  · subst hj; simp [ea]
  · simp [hj]

theorem took_zero {s : Send} (sid : Nat) (a : Int) (ea : tget s.wins sid = some a) (hmf : 0 ≤ s.maxFrame) :
    Took s s sid a 0 := by
  refine ⟨by simp, ?_, rfl, rfl, rfl, by simpa using hmf, fun h => absurd h (by omega)⟩
  intro j
  by_cases hj : sid = j
  · subst hj; simp [ea]
  · simp [hj]

theorem data_sim {s s' : Send} {m : Mon} (hd : s.dead = false) (hm : m.dead = false) (h : Live s m)
    (sid : Nat) (a : Int) (n : Nat) (fin : Bool) (ea : tget s.wins sid = some a) (tk : Took s s' sid a n) :
    ∃ m', m.step (.data sid n fin) = .ok m' ∧
      Inv (if fin then { s' with wins := tdel s'.wins sid } else s') m' := by
  obtain ⟨h1, h2, h3, h4, h5, h6, h7, h8⟩ := h
  obtain ⟨t1, t2, t3, t4, t5, t6⟩ := tk
  rcases strInv_cases (h8 sid) with ⟨x, _⟩ | ⟨a', b, ea', eb, hab, ha, hlo⟩
  · rw [ea] at x; cases x
  · rw [ea] at ea'; cases ea'
    have key : ¬ (n : Int) > m.maxFrame ∧ ¬ (0 < n ∧ (n : Int) > b) ∧ ¬ (0 < n ∧ (n : Int) > m.connWin) ∧
        IsInt32 (s.conn - n) ∧ IsInt32 (a - n) ∧ s.initWin - maxWindow ≤ a - n := by
      unfold IsInt32 maxWindow at *
      omega
    obtain ⟨g1, g2, g3, c32, a32⟩ := key
    have hstep : m.step (.data sid n fin) = .ok (if fin then { m with connWin := m.connWin - n, win := tdel m.win sid }
        else { m with connWin := m.connWin - n, win := tset m.win sid (b - n) }) := by
      simp only [Mon.step, eb]
      rw [if_neg g1, if_neg g2, if_neg g3]
    refine ⟨_, hstep, ?_⟩
    -- all of `Live` but the stream tables, which differ with `fin`
    have live : ∀ w W, (∀ j, StrInv s'.initWin (tget w j) (tget W j)) →
        Live { s' with wins := w } { m with connWin := m.connWin - n, win := W } := fun w W hstr =>
      { mf := t4.trans h1, mfmin := le_of_le_of_eq h2 t4.symm, iw := t3.trans h3, iw0 := le_of_le_of_eq h4 t3.symm,
        iwM := le_of_eq_of_le t3 h5, conn := le_of_eq_of_le t1 (show s.conn - (n : Int) ≤ m.connWin - n by omega),
        conn32 := t1 ▸ c32, str := hstr }
    cases fin with
    | true =>
      simp only [if_true]
      refine ⟨t5.trans (hd.trans hm.symm), fun _ => live _ _ fun j => ?_⟩
      simp only [tget_tdel, t3]
      by_cases hj : sid = j
      · simp [hj, StrInv]
      · simp only [hj, if_false, t2]; exact h8 j
    | false =>
      simp only [Bool.false_eq_true, if_false]
      refine ⟨t5.trans (hd.trans hm.symm), fun _ => live s'.wins _ fun j => ?_⟩
      simp only [tget_tset, t3, t2]
      by_cases hj : sid = j
      · subst hj
        simp only [if_true, eb, Option.map_some, StrInv]
        exact ⟨by omega, a32.1, a32.2⟩
      · simp only [hj, if_false]; exact h8 j

/-- `min(available, limit, maxFrameSize)` as `Consume` and `awaitFlowControl` compute it -/
theorem allowed_eq_min (x y z : Int) :
    (if z < (if y < x then y else x) then z else (if y < x then y else x)) = min (min x y) z := by
  have e : (if y < x then y else x) = min x y := by split <;> omega
  rw [e]
  split <;> omega

/-- `Consume` on an open stream with int32 counters, `flow.take` carried out; `k` is the most it hands out -/
theorem consume_eq {s : Send} (sid len : Nat) (limit a k : Int) (h7 : IsInt32 s.conn) (ha : IsInt32 a)
    (ea : tget s.wins sid = some a) (hk : k = min (min (s.flow a).available limit) s.maxFrame) :
    s.consume sid len limit =
      if len = 0 then some (0, s)
      else if k ≤ 0 then none
      else if (len : Int) > k then some (k.toNat, { s with conn := s.conn - k, wins := tset s.wins sid (a - k) })
      else some (len, { s with conn := s.conn - len, wins := tset s.wins sid (a - len) }) := by
  unfold Send.consume
  simp only [ea]
  by_cases hl : len = 0
  · rw [if_pos hl, if_pos hl]
  · rw [if_neg hl, if_neg hl, allowed_eq_min, ← hk]
    by_cases hz : k ≤ 0
    · rw [if_pos hz, if_pos hz]
    · have hle : k ≤ (s.flow a).available := by omega
      rw [if_neg hz, if_neg hz]
      by_cases hgt : (len : Int) > k
      · rw [if_pos hgt, if_pos hgt, take_some h7 sid a k ha (by omega) hle]
        rfl
      · rw [if_neg hgt, if_neg hgt, take_some h7 sid a len ha (by omega) (by omega)]
        rfl

/-- `awaitFlowControl(maxBytes)` is `Consume` on a frame of `maxBytes` bytes with limit `maxBytes` -/
theorem await_eq_consume (s : Send) (sid maxBytes : Nat) (hmb : 0 < maxBytes) (hmf : 0 < s.maxFrame) :
    s.await sid maxBytes = s.consume sid maxBytes maxBytes := by
  unfold Send.await Send.consume
  cases tget s.wins sid with
  | none => rfl
  | some w =>
    simp only [allowed_eq_min]
    generalize hk : min (min (s.flow w).available (maxBytes : Int)) s.maxFrame = k
    rw [if_neg (show ¬ maxBytes = 0 by omega)]
    by_cases hp : (s.flow w).available > 0
    · rw [if_pos hp, if_neg (show ¬ k ≤ 0 by omega)]
      by_cases hgt : (maxBytes : Int) > k
      · rw [if_pos hgt]
      · have e : k = maxBytes := by omega
        rw [if_neg hgt, e, Int.toNat_natCast]
    · rw [if_neg hp, if_pos (show k ≤ 0 by omega)]

/-- So the client's `send` is the server's with the chunk length as limit (`len = 0`: the empty final frame
is what `Consume` makes of an empty DATA frame). -/
theorem client_send_eq (s : Send) (sid len : Nat) (fin : Bool) (limit : Int) (hmf : 0 < s.maxFrame) :
    s.step .client (.send sid len fin limit) = s.step .server (.send sid len fin len) := by
  simp only [Send.step]
  by_cases hl : len = 0
  · subst hl
    simp only [if_true, Send.consume]
    cases tget s.wins sid <;> simp
  · rw [if_neg hl, await_eq_consume s sid len (by omega) hmf]

theorem consume_took {s s' : Send} (sid len : Nat) (limit a : Int) (n : Nat)
    (h7 : IsInt32 s.conn) (ha : IsInt32 a) (hmf : 0 ≤ s.maxFrame) (ea : tget s.wins sid = some a)
    (hc : s.consume sid len limit = some (n, s')) :
    Took s s' sid a n ∧ n ≤ len ∧ (0 < n → (n : Int) ≤ limit) := by
  generalize hk : min (min (s.flow a).available limit) s.maxFrame = k
  have hb : k ≤ s.maxFrame ∧ k ≤ limit ∧ k ≤ a ∧ k ≤ s.conn := by have := avail_le s a; omega
  rw [consume_eq sid len limit a k h7 ha ea hk.symm] at hc
  clear hk
  by_cases hl : len = 0
  · rw [if_pos hl] at hc
    cases hc
    exact ⟨took_zero sid a ea hmf, by omega, fun h => absurd h (by omega)⟩
  by_cases hz : k ≤ 0
  · rw [if_neg hl, if_pos hz] at hc
    cases hc
  have e : ((k.toNat : Nat) : Int) = k := Int.toNat_of_nonneg (by omega)
  by_cases hgt : (len : Int) > k
  · rw [if_neg hl, if_neg hz, if_pos hgt] at hc
    cases hc
    have tk := took_of_take (s := s) sid a k.toNat ea (by omega)
    rw [e] at tk
    have : k.toNat ≤ len ∧ (0 < k.toNat → (k.toNat : Int) ≤ limit) := by omega
    exact ⟨tk, this⟩
  · rw [if_neg hl, if_neg hz, if_neg hgt] at hc
    cases hc
    have : (len ≤ len) ∧ (0 < len → (len : Int) ≤ limit) := by omega
    exact ⟨took_of_take sid a len ea (by omega), this⟩

theorem consume_pos {s s' : Send} (sid len : Nat) (limit a : Int) (n : Nat) (h7 : IsInt32 s.conn) (ha : IsInt32 a)
    (ea : tget s.wins sid = some a) (hl : 0 < len) (hc : s.consume sid len limit = some (n, s')) : 0 < n := by
  rw [consume_eq sid len limit a _ h7 ha ea rfl, if_neg (show ¬ len = 0 by omega)] at hc
  split at hc
  · cases hc
  · split at hc <;> cases hc <;> omega

theorem await_took {s s' : Send} (sid maxBytes : Nat) (a : Int) (n : Nat)
    (h7 : IsInt32 s.conn) (ha : IsInt32 a) (hmf : 0 < s.maxFrame) (hmb : 0 < maxBytes) (ea : tget s.wins sid = some a)
    (hc : s.await sid maxBytes = some (n, s')) :
    Took s s' sid a n ∧ n ≤ maxBytes ∧ 0 < n := by
  rw [await_eq_consume s sid maxBytes hmb hmf] at hc
  have tk := consume_took sid maxBytes maxBytes a n h7 ha (by omega) ea hc
  exact ⟨tk.1, tk.2.1, consume_pos sid maxBytes maxBytes a n h7 ha ea hmb hc⟩

theorem live_sclose {s : Send} {m : Mon} (h : Live s m) (sid : Nat) :
    Live { s with wins := tdel s.wins sid } { m with win := tdel m.win sid } := by
  obtain ⟨h1, h2, h3, h4, h5, h6, h7, h8⟩ := h
  refine ⟨h1, h2, h3, h4, h5, h6, h7, ?_⟩
  intro j
  simp only [tget_tdel]
  by_cases hj : sid = j
  · simp [hj, StrInv]
  · simp only [hj, if_false]; exact h8 j

/-- The live, non-negative branch of `Mon.step (.wu ..)` (`mon_step_wu`), named so that `live_wu_ignored`
serves both the increment the endpoint accepts and the one it ignores. -/
def wuMon (m : Mon) (sid : Nat) (inc : Int) : Mon :=
  if sid = 0 then { m with connWin := m.connWin + inc }
  else match tget m.win sid with
    | some w => { m with win := tset m.win sid (w + inc) }
    | none => m

theorem mon_step_wu {m : Mon} (hm : m.dead = false) (sid : Nat) (inc : Int) (h0 : ¬ inc < 0) :
    m.step (.wu sid inc) = .ok (wuMon m sid inc) := by
  simp only [Mon.step, hm, h0, Bool.false_eq_true, or_self, if_false, wuMon]
  by_cases hs : sid = 0
  · simp [hs]
  · simp only [hs, if_false]
    cases tget m.win sid <;> rfl

/-- the monitor's WINDOW_UPDATE step only raises the peer's view (also for an increment the endpoint ignores) -/
theorem live_wu_ignored {s : Send} {m : Mon} (h : Live s m) (sid : Nat) (inc : Int) (h0 : 0 ≤ inc) :
    Live s (wuMon m sid inc) := by
  obtain ⟨h1, h2, h3, h4, h5, h6, h7, h8⟩ := h
  unfold wuMon
  by_cases hs : sid = 0
  · simp only [hs, if_true]; exact ⟨h1, h2, h3, h4, h5, by simp only; omega, h7, h8⟩
  · simp only [hs, if_false]
    cases hw : tget m.win sid with
    | none => exact ⟨h1, h2, h3, h4, h5, h6, h7, h8⟩
    | some w =>
      refine ⟨h1, h2, h3, h4, h5, h6, h7, ?_⟩
      intro j
      simp only [tget_tset]
      by_cases hj : sid = j
      · subst hj
        rcases strInv_cases (h8 sid) with ⟨x, y⟩ | ⟨a, b, ea, eb, hab, ha, hlo⟩
        · rw [hw] at y; cases y
        · rw [hw] at eb; cases eb
          simp only [if_true, hw, ea, Option.map_some, StrInv]
          exact ⟨by omega, ha, hlo⟩
      · simp only [hj, if_false]; exact h8 j

theorem wuMon_dead (m : Mon) (sid : Nat) (inc : Int) : (wuMon m sid inc).dead = m.dead := by
  unfold wuMon
  split
  · rfl
  · split <;> rfl

/-- The monitor's step first (`live_wu_ignored`), then the endpoint's reaction: add, `stop` or `sclose`. -/
theorem wu_sim {s : Send} {m : Mon} (hd : s.dead = false) (hm : m.dead = false) (h : Live s m)
    (sid : Nat) (inc : Int) (h0 : 0 ≤ inc) (hM : inc ≤ maxWindow) :
    ∃ m', Mon.run m (.wu sid inc :: (s.windowUpdate sid inc).2) = .ok m' ∧ Inv (s.windowUpdate sid inc).1 m' := by
  have hinc : IsInt32 inc := by unfold IsInt32; unfold maxWindow at hM; omega
  have hm1 : s.dead = (wuMon m sid inc).dead := by rw [wuMon_dead, hd, hm]
  have L1 := live_wu_ignored h sid inc h0
  simp only [Mon.run, mon_step_wu hm sid inc (by omega)]
  have stop : ∀ s' : Send, s'.dead = true → ∃ m', (wuMon m sid inc).run [.stop] = .ok m' ∧ Inv s' m' :=
    fun s' h' => ⟨_, rfl, inv_dead h' rfl⟩
  have close : ∃ m', (wuMon m sid inc).run [.sclose sid] = .ok m' ∧ Inv { s with wins := tdel s.wins sid } m' :=
    ⟨_, rfl, hm1, fun _ => live_sclose L1 sid⟩
  obtain ⟨l1, l2, l3, l4, l5, l6, l7, l8⟩ := L1
  unfold Send.windowUpdate
  by_cases hs0 : sid = 0
  · subst hs0
    rw [if_pos rfl]
    by_cases hz : inc = 0
    · rw [if_pos hz]
      exact stop _ rfl
    · rw [if_neg hz]
      dsimp only
      have sp := outflow_add_spec (Outflow.mk s.conn none) inc l7 hinc
      cases hr : ((Outflow.mk s.conn none).add inc).1 with
      | false =>
        simp only [Bool.false_eq_true, if_false]
        exact stop _ rfl
      | true =>
        simp only [if_true, sp.2.1 hr]
        exact ⟨_, rfl, hm1, fun _ => ⟨l1, l2, l3, l4, l5,
          show s.conn + inc ≤ m.connWin + inc by have := h.conn; omega, sp.1.1 hr, l8⟩⟩
  · rw [if_neg hs0]
    by_cases hz : inc = 0
    · rw [if_pos hz]
      exact close
    · rw [if_neg hz]
      rcases strInv_cases (h.str sid) with ⟨a, _⟩ | ⟨a, b, ea, eb, hab, ha, hlo⟩
      · rw [a]
        exact ⟨_, rfl, hm1, fun _ => ⟨l1, l2, l3, l4, l5, l6, l7, l8⟩⟩
      · rw [ea]
        dsimp only
        have sp := outflow_add_spec (s.flow a) inc ha hinc
        cases hr : ((s.flow a).add inc).1 with
        | false =>
          simp only [Bool.false_eq_true, if_false]
          exact close
        | true =>
          simp only [if_true, sp.2.1 hr]
          refine ⟨_, rfl, hm1, fun _ => ⟨l1, l2, l3, l4, l5, l6, l7, fun j => ?_⟩⟩
          have e : wuMon m sid inc = { m with win := tset m.win sid (b + inc) } := by
            simp only [wuMon, hs0, if_false, eb]
          rw [e]
          simp only [tget_tset]
          by_cases hj : sid = j
          · subst hj
            simp only [if_true, ea, eb, Option.map_some, StrInv, Send.flow]
            exact ⟨by omega, sp.1.1 hr, by omega⟩
          · simp only [hj, if_false]
            exact h.str j

theorem step_sim (r : Role) {s : Send} {m : Mon} (h : Inv s m) (a : Act) :
    ∃ m', m.run (s.step r a).2 = .ok m' ∧ Inv (s.step r a).1 m' := by
  cases hd : s.dead with
  | true =>
    have hm : m.dead = true := by rw [← h.dead]; exact hd
    cases a with
    | settings | wu | sopen =>
      exact ⟨m, by simp [Send.step, hd, Mon.run, Mon.step, hm], by simpa [Send.step, hd] using h⟩
    | sclose sid =>
      exact ⟨{ m with win := tdel m.win sid }, by simp [Send.step, Mon.run, Mon.step], inv_dead hd hm⟩
    | send sid len fin limit => exact ⟨m, by simp [Send.step, hd, Mon.run], by simpa [Send.step, hd] using h⟩
  | false =>
    have hm : m.dead = false := by rw [← h.dead]; exact hd
    have L := h.live hd
    cases a with
    | settings mfs iw =>
      obtain ⟨m', e, i⟩ := settings_sim r hd hm L mfs iw
      refine ⟨m', ?_, ?_⟩
      · simpa [Send.step, hd, Mon.run, Mon.step, hm] using e
      · simpa [Send.step, hd] using i
    | wu sid inc =>
      by_cases hig : inc < 0 ∨ inc > maxWindow
      · by_cases hneg : inc < 0
        · exact ⟨m, by simp [Send.step, hd, Mon.run, Mon.step, hneg], by simpa [Send.step, hd, hig] using h⟩
        · refine ⟨wuMon m sid inc, ?_, ?_⟩
          · simp only [Send.step, hd, hig, Bool.false_eq_true, false_or, if_true, Mon.run, mon_step_wu hm sid inc hneg]
          · simp only [Send.step, hd, hig, Bool.false_eq_true, false_or, if_true]
            exact ⟨by rw [wuMon_dead, hd, hm], fun _ => live_wu_ignored L sid inc (by omega)⟩
      · have h0 : 0 ≤ inc := by omega
        have hM : inc ≤ maxWindow := by omega
        obtain ⟨m', e, i⟩ := wu_sim hd hm L sid inc h0 hM
        refine ⟨m', ?_, ?_⟩
        · simpa [Send.step, hd, hig] using e
        · simpa [Send.step, hd, hig] using i
    | sopen sid =>
      cases hw : tget s.wins sid with
      | some a => exact ⟨m, by simp [Send.step, hd, hw, Mon.run], by simpa [Send.step, hd, hw] using h⟩
      | none =>
        obtain ⟨h1, h2, h3, h4, h5, h6, h7, h8⟩ := L
        have hmw : tget m.win sid = none := by
          rcases strInv_cases (h8 sid) with ⟨_, y⟩ | ⟨a, b, ea, _⟩
          · exact y
          · rw [hw] at ea; cases ea
        have i0 : IsInt32 (0 : Int) := by unfold IsInt32; omega
        have iiw : IsInt32 s.initWin := by unfold IsInt32; unfold maxWindow at h5; omega
        have sp := outflow_add_spec (Outflow.mk 0 (some s.conn)) s.initWin i0 iiw
        have hr : ((Outflow.mk 0 (some s.conn)).add s.initWin).1 = true := sp.1.2 (by simpa using iiw)
        have e := sp.2.1 hr
        refine ⟨{ m with win := (sid, m.initWin) :: m.win }, ?_, ?_⟩
        · simp [Send.step, hd, hw, Mon.run, Mon.step, hm, hmw]
        · simp only [Send.step, hd, hw, Bool.false_eq_true, if_false, e]
          refine ⟨by simp [hm], fun _ => ⟨h1, h2, h3, h4, h5, h6, h7, ?_⟩⟩
          intro j
          simp only [tget_cons]
          by_cases hj : sid = j
          · simp only [hj, if_true, StrInv]
            exact ⟨by omega, by simpa using iiw, by unfold maxWindow; omega⟩
          · simp only [hj, if_false]; exact h8 j
    | sclose sid =>
      exact ⟨{ m with win := tdel m.win sid }, by simp [Send.step, Mon.run, Mon.step],
        ⟨by simp [Send.step, hd, hm], fun _ => live_sclose L sid⟩⟩
    | send sid len fin limit =>
      have hmf : 0 < s.maxFrame := by have := L.mfmin; unfold minMaxFrame at this; omega
      have server : ∀ limit : Int, ∃ m', m.run (s.step .server (.send sid len fin limit)).2 = .ok m' ∧
          Inv (s.step .server (.send sid len fin limit)).1 m' := by
        intro limit
        cases hc : s.consume sid len limit with
        | none => exact ⟨m, by simp [Send.step, hd, hc, Mon.run], by simpa [Send.step, hd, hc] using h⟩
        | some p =>
          obtain ⟨n, s'⟩ := p
          cases hw : tget s.wins sid with
          | none => simp [Send.consume, hw] at hc
          | some a =>
            have ha : IsInt32 a := by
              rcases strInv_cases (L.str sid) with ⟨x, _⟩ | ⟨a', b, ea, _, _, ha, _⟩
              · rw [hw] at x; cases x
              · rw [hw] at ea; cases ea; exact ha
            have tk := (consume_took sid len limit a n L.conn32 ha (by omega) hw hc).1
            obtain ⟨m', e, i⟩ := data_sim hd hm L sid a n (fin && decide (n = len)) hw tk
            exact ⟨m', by simp [Send.step, hd, hc, Mon.run, e], by simpa [Send.step, hd, hc] using i⟩
      cases r with
      | server => exact server limit
      | client =>
        rw [client_send_eq s sid len fin limit hmf]
        exact server len

theorem mon_run_append (m : Mon) (a b : List Ev) :
    m.run (a ++ b) = match m.run a with | .ok m1 => m1.run b | .error x => .error x := by
  induction a generalizing m with
  | nil => rfl
  | cons e t ih =>
    simp only [List.cons_append, Mon.run]
    cases m.step e with
    | ok m1 => exact ih m1
    | error x => rfl

theorem run_sim (r : Role) : ∀ (acts : List Act) {s : Send} {m : Mon}, Inv s m →
    ∃ m', m.run (s.run r acts).2 = .ok m' ∧ Inv (s.run r acts).1 m'
  | [], s, m, h => ⟨m, rfl, h⟩
  | a :: t, s, m, h => by
    obtain ⟨m1, e1, i1⟩ := step_sim r h a
    obtain ⟨m2, e2, i2⟩ := run_sim r t i1
    refine ⟨m2, ?_, ?_⟩
    · simp only [Send.run, mon_run_append, e1, e2]
    · simpa [Send.run] using i2

end NetVerif.Proofs.SendWin
