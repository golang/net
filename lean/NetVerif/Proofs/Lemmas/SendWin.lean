import NetVerif.Model.SendWin
import NetVerif.Proofs.Lemmas.IfCases
/-! C08/C09: the monitor keeps windows, the ledger keeps credit granted and bytes sent. Under `Rel` (window = credit − sent)
the monitor's verdict on an event is the ledger's demand `Sat` on it. -/
namespace NetVerif.Proofs.SendWin
open NetVerif.Model.SendWin NetVerif.Model.Flow

@[simp] theorem tget_nil (sid : Nat) : tget [] sid = none := rfl

theorem tget_cons (k : Nat) (v : Int) (t : Tbl) (sid : Nat) :
    tget ((k, v) :: t) sid = if k = sid then some v else tget t sid := rfl

theorem tget_tset (t : Tbl) (k : Nat) (x : Int) (j : Nat) :
    tget (tset t k x) j = if k = j then (tget t j).map (fun _ => x) else tget t j := by
  induction t with
  | nil => simp [tset]
  | cons p t ih =>
    obtain ⟨a, v⟩ := p
    by_cases h1 : a = k
    · subst h1
      by_cases h2 : a = j <;> simp [tset, tget_cons, h2]
    · by_cases h2 : a = j
      · subst h2
        have : ¬ k = a := fun h => h1 h.symm
        simp [tset, tget_cons, h1, this]
      · simp [tset, tget_cons, h1, h2, ih]

theorem tget_tdel (t : Tbl) (k j : Nat) :
    tget (tdel t k) j = if k = j then none else tget t j := by
  induction t with
  | nil => simp [tdel]
  | cons p t ih =>
    obtain ⟨a, v⟩ := p
    by_cases h1 : a = k
    · subst h1
      by_cases h2 : a = j
      · subst h2; simpa [tdel] using ih
      · simp [tdel, tget_cons, h2, ih]
    · by_cases h2 : a = j
      · subst h2
        have : ¬ k = a := fun h => h1 h.symm
        simp [tdel, tget_cons, h1, this]
      · simp [tdel, tget_cons, h1, h2, ih]

theorem tget_taddAll (t : Tbl) (d : Int) (j : Nat) :
    tget (taddAll t d) j = (tget t j).map (· + d) := by
  induction t with
  | nil => simp [taddAll]
  | cons p t ih =>
    obtain ⟨a, v⟩ := p
    by_cases h : a = j <;> simp [taddAll, tget_cons, h, ih]

/-- window = credit − sent, pointwise on open streams -/
def RelS : Option Int → Option Int → Option Int → Prop
  | none, none, none => True
  | some w, some c, some s => w = c - s
  | _, _, _ => False

structure Rel (m : Mon) (L : Ledger) : Prop where
  conn : m.connWin = L.connCredit - L.connSent
  iw : m.initWin = L.initWin
  mf : m.maxFrame = L.maxFrame
  dead : m.dead = L.dead
  str : ∀ sid, RelS (tget m.win sid) (tget L.credit sid) (tget L.sent sid)

theorem rel_init : Rel Mon.init Ledger.init :=
  ⟨by decide, rfl, rfl, rfl, fun _ => trivial⟩

theorem relS_cases {w c s : Option Int} (h : RelS w c s) :
    (w = none ∧ c = none ∧ s = none) ∨ ∃ w' c' s', w = some w' ∧ c = some c' ∧ s = some s' ∧ w' = c' - s' := by
  cases w <;> cases c <;> cases s <;> simp_all [RelS]

theorem rel_settings {m : Mon} {L : Ledger} (h : Rel m L) (mfs iw : Option Int) :
    Rel (m.settings mfs iw) (L.settings mfs iw) := by
  obtain ⟨h1, h2, h3, h4, h5⟩ := h
  have key : ∀ (m1 : Mon) (L1 : Ledger), Rel m1 L1 →
      Rel (match iw with
            | none => m1
            | some v => if validIw v then { m1 with initWin := v, win := taddAll m1.win (v - m1.initWin) }
                        else { m1 with dead := true })
          (match iw with
            | none => L1
            | some v => if validIw v then { L1 with initWin := v, credit := taddAll L1.credit (v - L1.initWin) }
                        else { L1 with dead := true }) := by
    intro m1 L1 ⟨g1, g2, g3, g4, g5⟩
    cases iw with
    | none => exact ⟨g1, g2, g3, g4, g5⟩
    | some v =>
      by_cases hv : validIw v = true
      · simp only [hv, if_true]
        refine ⟨g1, rfl, g3, g4, ?_⟩
        intro sid
        have := g5 sid
        simp only [tget_taddAll, g2]
        rcases relS_cases this with ⟨a, b, c⟩ | ⟨w, c, s, a, b, d, e⟩
        · simp [a, b, c, RelS]
        · simp [a, b, d, RelS]; omega
      · simp only [hv]
        exact ⟨g1, g2, g3, rfl, g5⟩
  unfold Mon.settings Ledger.settings
  cases mfs with
  | none => exact key m L ⟨h1, h2, h3, h4, h5⟩
  | some v =>
    by_cases hv : validMfs v = true
    · simp only [hv, if_true]
      exact key _ _ ⟨h1, h2, rfl, h4, h5⟩
    · simp only [hv]
      exact ⟨h1, h2, h3, rfl, h5⟩

theorem step_exact {m : Mon} {L : Ledger} (h : Rel m L) (e : Ev) :
    match m.step e with
    | .ok m' => L.Sat e ∧ Rel m' (L.step e)
    | .error _ => ¬ L.Sat e := by
  obtain ⟨h1, h2, h3, h4, h5⟩ := h
  cases e with
  | settings mfs iw =>
    refine ⟨trivial, ?_⟩
    simp only [Ledger.step]
    by_cases hd : m.dead = true
    · have hL : L.dead = true := by rw [← h4]; exact hd
      simp only [hd, hL, if_true]; exact ⟨h1, h2, h3, h4, h5⟩
    · have hL : ¬ L.dead = true := by rw [← h4]; exact hd
      simp only [hd, hL]; exact rel_settings ⟨h1, h2, h3, h4, h5⟩ mfs iw
  | wu sid inc =>
    simp only [Mon.step, Ledger.step]
    by_cases hd : m.dead = true ∨ inc < 0
    · have hL : L.dead = true ∨ inc < 0 := by rw [← h4]; exact hd
      simp only [hd, hL, if_true]
      exact ⟨trivial, h1, h2, h3, h4, h5⟩
    · have hL : ¬ (L.dead = true ∨ inc < 0) := by rw [← h4]; exact hd
      simp only [hd, hL, if_false]
      by_cases h0 : sid = 0
      · simp only [h0, if_true]
        exact ⟨trivial, by simp only [h1]; omega, h2, h3, h4, h5⟩
      · simp only [h0, if_false]
        rcases relS_cases (h5 sid) with ⟨a, b, c⟩ | ⟨w, c, s0, a, b, d, e⟩
        · simp only [a, b]
          exact ⟨trivial, h1, h2, h3, h4, h5⟩
        · simp only [a, b]
          refine ⟨trivial, h1, h2, h3, h4, ?_⟩
          intro j
          simp only [tget_tset]
          by_cases hj : sid = j
          · subst hj; simp [a, b, d, RelS]; omega
          · simp only [hj, if_false]; exact h5 j
  | sopen sid =>
    simp only [Mon.step, Ledger.step, Ledger.Sat]
    by_cases hd : m.dead = true
    · have hL : L.dead = true := by rw [← h4]; exact hd
      simp only [hd, hL, if_true]
      exact ⟨by simp, h1, h2, h3, h4, h5⟩
    · have hL : L.dead = false := by rw [← h4]; simpa using hd
      simp only [hd, hL, if_false, Bool.false_eq_true]
      rcases relS_cases (h5 sid) with ⟨a, b, c⟩ | ⟨w, c, s0, a, b, d, e⟩
      · simp only [a]
        refine ⟨fun _ => b, h1, h2, h3, rfl, ?_⟩
        intro j
        simp only [tget_cons]
        by_cases hj : sid = j
        · simp [hj, RelS, h2]
        · simp only [hj, if_false]; exact h5 j
      · simp only [a]
        exact fun hc => nomatch b.symm.trans (hc trivial)
  | sclose sid =>
    refine ⟨trivial, h1, h2, h3, h4, ?_⟩
    intro j
    simp only [Ledger.step, tget_tdel]
    by_cases hj : sid = j
    · simp [hj, RelS]
    · simp only [hj, if_false]; exact h5 j
  | data sid len fin =>
    simp only [Mon.step, Ledger.Sat]
    rcases relS_cases (h5 sid) with ⟨a, b, c⟩ | ⟨w, c, s0, a, b, d, e⟩
    · simp only [a]
      exact fun ⟨_, _, _, hc, _⟩ => nomatch b.symm.trans hc
    · simp only [a, b, d, Option.some.injEq, exists_and_left, exists_eq_left']
      -- each of the monitor's three tests refutes one bound of the demand
      by_cases g1 : (len : Int) > m.maxFrame
      · rw [if_pos g1]
        exact fun hs => by omega
      by_cases g2 : 0 < len ∧ (len : Int) > w
      · rw [if_neg g1, if_pos g2]
        exact fun hs => by have := hs.2 g2.1; omega
      by_cases g3 : 0 < len ∧ (len : Int) > m.connWin
      · rw [if_neg g1, if_neg g2, if_pos g3]
        exact fun hs => by have := hs.2 g3.1; omega
      rw [if_neg g1, if_neg g2, if_neg g3]
      have key : (len : Int) ≤ L.maxFrame ∧ (0 < len → s0 + len ≤ c ∧ L.connSent + len ≤ L.connCredit) ∧
          m.connWin - len = L.connCredit - (L.connSent + len) ∧ w - len = c - (s0 + len) := by omega
      refine ⟨⟨key.1, key.2.1⟩, ?_⟩
      simp only [Ledger.step]
      cases fin with
      | true =>
        refine ⟨key.2.2.1, h2, h3, h4, ?_⟩
        intro j
        simp only [if_true, tget_tdel]
        by_cases hj : sid = j
        · simp [hj, RelS]
        · simp only [hj, if_false]; exact h5 j
      | false =>
        simp only [d, Bool.false_eq_true, if_false]
        refine ⟨key.2.2.1, h2, h3, h4, ?_⟩
        intro j
        simp only [tget_tset]
        by_cases hj : sid = j
        · subst hj; simp only [if_true, a, b, d, Option.map_some, RelS]; exact key.2.2.2
        · simp only [hj, if_false]; exact h5 j
  | stop => exact ⟨trivial, h1, h2, h3, rfl, h5⟩

theorem step_sound {m m' : Mon} {L : Ledger} {e : Ev} (h : Rel m L) (hs : m.step e = .ok m') :
    L.Sat e ∧ Rel m' (L.step e) := by
  have := step_exact h e
  rwa [hs] at this

theorem run_exact : ∀ (tr : List Ev) {m : Mon} {L : Ledger}, Rel m L → ((∃ m', m.run tr = .ok m') ↔ TraceOK L tr)
  | [], m, _, _ => ⟨fun _ => trivial, fun _ => ⟨m, rfl⟩⟩
  | e :: t, m, L, h => by
    have hs := step_exact h e
    simp only [Mon.run]
    cases hm : m.step e with
    | error x =>
      rw [hm] at hs
      exact ⟨fun ⟨_, h'⟩ => (nomatch h'), fun ht => absurd ht.1 hs⟩
    | ok m1 =>
      rw [hm] at hs
      exact ⟨fun h' => ⟨hs.1, (run_exact t hs.2).1 h'⟩, fun ht => (run_exact t hs.2).2 ht.2⟩

end NetVerif.Proofs.SendWin
