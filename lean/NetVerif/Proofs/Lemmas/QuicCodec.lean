import NetVerif.Model.QuicFrames
import NetVerif.Proofs.C22
/-! `sizeVarint` and `appendVarint` read against each other; the remaining-input readers of `Model.QuicFrames`
(`takeVarint`, `takeVarintBytes`, `takeUint8Bytes`) on what the encoders write, and that they shorten their
input; shared by the C28 proofs. -/
namespace NetVerif.Proofs.Lemmas.QuicCodec
open NetVerif.Model.VarintQuic NetVerif.Model.QuicFrames NetVerif.Proofs.C22

theorem size_length (v n : Nat) (x : List Nat) (hs : sizeVarint v = some n) (hx : appendVarint v = some x) :
    x.length = n := by
  rw [append_length_eq_size v x hx] at hs
  exact Option.some.inj hs

theorem append_lt (v : Nat) (bs : List Nat) (h : appendVarint v = some bs) : v < 4611686018427387904 :=
  Nat.lt_succ_of_le ((append_accepts_iff v).mp (h ▸ rfl))

theorem append_isSome (v : Nat) (h : v < 4611686018427387904) : ∃ bs, appendVarint v = some bs :=
  Option.isSome_iff_exists.mp ((append_accepts_iff v).mpr (Nat.le_of_lt_succ h))

theorem size_some_iff (v n : Nat) (h : sizeVarint v = some n) : ∃ bs, appendVarint v = some bs ∧ bs.length = n := by
  rw [sizeVarint_eq] at h
  exact Option.map_eq_some_iff.mp h

theorem size_none (v : Nat) (h : sizeVarint v = none) : appendVarint v = none := by
  rw [sizeVarint_eq] at h
  exact Option.map_eq_none_iff.mp h

theorem takeVarint_append (v : Nat) (bs tail : List Nat) (h : appendVarint v = some bs) :
    takeVarint (bs ++ tail) = some (v, tail) := by
  simp [takeVarint, consume_append v bs tail h]

theorem takeVarintBytes_append (v tail bs : List Nat) (h : appendVarintBytes v = some bs) :
    takeVarintBytes (bs ++ tail) = some (v, tail) := by
  simp [takeVarintBytes, varintBytes_roundtrip v tail bs h]

theorem takeUint8Bytes_append (v tail bs : List Nat) (h : appendUint8Bytes v = some bs) :
    takeUint8Bytes (bs ++ tail) = some (v, tail) := by
  simp [takeUint8Bytes, uint8Bytes_roundtrip v tail bs h]

theorem uint8Bytes_len (v b : List Nat) (h : appendUint8Bytes v = some b) : b.length = 1 + v.length := by
  unfold appendUint8Bytes at h
  split at h <;> cases h
  exact Nat.add_comm ..

theorem takeVarint_shorter (b r : List Nat) (v : Nat) (h : takeVarint b = some (v, r)) :
    r.length < b.length := by
  unfold takeVarint at h
  split at h
  · rename_i v' n hc
    have := consume_within_input b v' n hc
    cases h
    rw [List.length_drop]
    omega
  · cases h

theorem takeVarintBytes_shorter (b r p : List Nat) (h : takeVarintBytes b = some (p, r)) :
    r.length < b.length := by
  unfold takeVarintBytes at h
  split at h
  · rename_i p' n hc
    simp at h
    obtain ⟨_, rfl⟩ := h
    unfold consumeVarintBytes at hc
    split at hc
    · simp at hc
    · rename_i sz m hv
      split at hc
      · simp at hc
      · simp at hc
        obtain ⟨_, rfl⟩ := hc
        have := takeVarint_shorter b (b.drop m) sz (by simp [takeVarint, hv])
        simp at this ⊢
        omega
  · simp at h

theorem takeUint8Bytes_shorter (b r p : List Nat) (h : takeUint8Bytes b = some (p, r)) :
    r.length < b.length := by
  unfold takeUint8Bytes at h
  split at h
  · rename_i p' n hc
    simp at h
    obtain ⟨_, rfl⟩ := h
    unfold consumeUint8Bytes at hc
    split at hc
    · simp at hc
    · split at hc
      · simp at hc
      · simp at hc
        obtain ⟨_, rfl⟩ := hc
        simp
        omega
  · simp at h

end NetVerif.Proofs.Lemmas.QuicCodec
