import NetVerif.Model.Dns
import NetVerif.Gen.C36
import NetVerif.Proofs.Lemmas.Dns
/-!
T-tie, header bits and names for C36. Compression lives at the name level: `Name.pack` followed by
`Name.unpack` is the identity on canonical names under the invariant "every map entry points at an
offset where unpacking yields that suffix, following at most 10 pointers" (the budget of `Name.unpack`,
which `Name.pack` respects by asking `compressionDepth`). Every `Name.pack` keeps the invariant
(`packName_decodes`), so the names of a sequence sharing one map all unpack to themselves (`seq_holds`).
-/
namespace NetVerif.Proofs.C36
open NetVerif NetVerif.Model.Dns NetVerif.Proofs.Dns

/-- T-tie: the constants and limits regenerated from message.go are the model's. -/
theorem gen_constants_eq :
    Gen.C36.typeA = typeA ∧ Gen.C36.typeNS = typeNS ∧ Gen.C36.typeCNAME = typeCNAME ∧
    Gen.C36.typeSOA = typeSOA ∧ Gen.C36.typePTR = typePTR ∧ Gen.C36.typeMX = typeMX ∧
    Gen.C36.typeTXT = typeTXT ∧ Gen.C36.typeAAAA = typeAAAA ∧ Gen.C36.typeSRV = typeSRV ∧
    Gen.C36.typeOPT = typeOPT ∧ Gen.C36.typeSVCB = typeSVCB ∧ Gen.C36.typeHTTPS = typeHTTPS ∧
    Gen.C36.headerLen = headerLen ∧ Gen.C36.nonEncodedNameMax = nameMax ∧
    Gen.C36.ptrLimit = ptrLimit ∧ Gen.C36.segLimit = segLimit ∧ Gen.C36.maxPtr = maxPtr ∧
    Gen.C36.textMax = textMax ∧ Gen.C36.uint16Len = 2 ∧ Gen.C36.uint32Len = 4 ∧
    Gen.C36.packChecksDepth = true := by
  decide

/-- T-tie: the type switch of `unpackResourceBody` has exactly the model's cases. -/
theorem gen_bodyTypes_eq :
    Gen.C36.bodyTypes = [typeA, typeNS, typeCNAME, typeSOA, typePTR, typeMX, typeTXT, typeAAAA,
      typeSRV, typeSVCB, typeHTTPS, typeOPT] := by decide

/-- T-tie: translated `packUint16` / `packUint32` are the model's `u16` / `u32`. -/
theorem gen_packUint_eq (msg : Bytes) (v : Nat) :
    Gen.C36.packUint16 msg v = some (msg ++ u16 v) ∧ Gen.C36.packUint32 msg v = some (msg ++ u32 v) := by
  simp [Gen.C36.packUint16, Gen.C36.packUint32, u16, u32]

/-- T-tie: header flag masks. -/
theorem gen_headerBits_eq (h : Header) :
    h.bits = (h.opCode * 2048 % 65536) ||| h.rCode ||| bitIf h.recursionAvailable Gen.C36.headerBitRA |||
      bitIf h.recursionDesired Gen.C36.headerBitRD ||| bitIf h.truncated Gen.C36.headerBitTC |||
      bitIf h.authoritative Gen.C36.headerBitAA ||| bitIf h.response Gen.C36.headerBitQR |||
      bitIf h.authenticData Gen.C36.headerBitAD ||| bitIf h.checkingDisabled Gen.C36.headerBitCD := rfl

private theorem bitIf_div (b : Bool) (v d : Nat) : bitIf b v / d = bitIf b (v / d) := by
  cases b <;> simp [bitIf]
private theorem bitIf_mod (b : Bool) (v d : Nat) : bitIf b v % d = bitIf b (v % d) := by
  cases b <;> simp [bitIf]
private theorem bitIf_zero (b : Bool) : bitIf b 0 = 0 := by cases b <;> rfl
private theorem bitIf_one (b : Bool) : decide (bitIf b 1 = 1) = b := by cases b <;> rfl

/-- the OpCode operand of `bits` under each field's shift and mask -/
private theorem opCode_fields {x : Nat} (h : x < 16) :
    x * 2048 % 65536 / 32768 = 0 ∧ x * 2048 % 65536 / 2048 % 16 = x ∧ x * 2048 % 65536 / 1024 % 2 = 0 ∧
    x * 2048 % 65536 / 512 % 2 = 0 ∧ x * 2048 % 65536 / 256 % 2 = 0 ∧ x * 2048 % 65536 / 128 % 2 = 0 ∧
    x * 2048 % 65536 / 32 % 2 = 0 ∧ x * 2048 % 65536 / 16 % 2 = 0 ∧ x * 2048 % 65536 % 16 = 0 := by
  rw [Nat.mod_eq_of_lt (by omega : x * 2048 < 65536)]
  omega

private theorem rCode_fields {x : Nat} (h : x < 16) :
    x / 32768 = 0 ∧ x / 2048 = 0 ∧ x / 1024 = 0 ∧ x / 512 = 0 ∧ x / 256 = 0 ∧ x / 128 = 0 ∧ x / 32 = 0 ∧
    x / 16 = 0 ∧ x % 16 = x := by
  omega

/-- `header.header()` of the packed `bits` word gives the header back
(OpCode and RCode are 4-bit fields). -/
theorem header_bits_roundtrip (h : Header) (ho : h.opCode < 16) (hr : h.rCode < 16) :
    headerOfBits h.id h.bits = h := by
  -- every field is a shift and a mask of `bits`; both distribute over `|||`, and each operand
  -- of `bits` then contributes either its flag or zero
  have d15 := fun a b => @Nat.or_div_two_pow a b 15
  have d11 := fun a b => @Nat.or_div_two_pow a b 11
  have d10 := fun a b => @Nat.or_div_two_pow a b 10
  have d9 := fun a b => @Nat.or_div_two_pow a b 9
  have d8 := fun a b => @Nat.or_div_two_pow a b 8
  have d7 := fun a b => @Nat.or_div_two_pow a b 7
  have d5 := fun a b => @Nat.or_div_two_pow a b 5
  have d4 := fun a b => @Nat.or_div_two_pow a b 4
  have m1 := fun a b => @Nat.or_mod_two_pow a b 1
  have m4 := fun a b => @Nat.or_mod_two_pow a b 4
  simp only [Nat.reducePow] at d15 d11 d10 d9 d8 d7 d5 d4 m1 m4
  obtain ⟨o1, o2, o3, o4, o5, o6, o7, o8, o9⟩ := opCode_fields ho
  obtain ⟨r1, r2, r3, r4, r5, r6, r7, r8, r9⟩ := rCode_fields hr
  simp only [headerOfBits, Header.bits, d15, d11, d10, d9, d8, d7, d5, d4, m1, m4, bitIf_div, bitIf_mod,
    o1, o2, o3, o4, o5, o6, o7, o8, o9, r1, r2, r3, r4, r5, r6, r7, r8, r9, Nat.reduceDiv, Nat.reduceMod,
    bitIf_zero, Nat.zero_or, Nat.or_zero, bitIf_one]

/-- The well-formed names of C36: within `nonEncodedNameMax`, and of the shape `Name.unpack` returns. -/
def Canonical (n : Bytes) : Prop := n.length ≤ 254 ∧ NameShape n

theorem textOf_getLast : ∀ (ls : List Bytes), ls ≠ [] → (textOf ls).getLast? = some 46 := by
  intro ls
  induction ls with
  | nil => intro h; exact absurd rfl h
  | cons l ls ih =>
    intro _
    simp only [textOf, List.getLast?_append]
    cases ls with
    | nil => simp [textOf]
    | cons l' ls' =>
      have := ih (by simp)
      simp [List.getLast?_cons, this]

theorem textOf_length_ge {ls : List Bytes} (hne : ls ≠ []) (hok : LabelsOK ls) :
    2 ≤ (textOf ls).length := by
  have := labels_le_text ls hok
  have := List.length_pos_iff.mpr hne
  omega

theorem rootIfEmpty_textOf {ls : List Bytes} (hne : ls ≠ []) (hok : LabelsOK ls) : rootIfEmpty (textOf ls) = textOf ls := by
  have := textOf_length_ge hne hok
  unfold rootIfEmpty
  cases h : textOf ls with
  | nil => rw [h] at this; simp at this
  | cons a t => simp

theorem packName_textOf {ls : List Bytes} (hne : ls ≠ []) (hok : LabelsOK ls)
    (hlen : (textOf ls).length ≤ 254) (pos : Bytes) (comp : Option CompMap) :
    packName (textOf ls) pos comp = packLoop pos (textOf ls) [] [] comp := by
  have h2 := textOf_length_ge hne hok
  have h1 : ¬ (textOf ls).length > 254 := by omega
  have h3 : (textOf ls).isEmpty = false := by
    cases h : textOf ls with
    | nil => rw [h] at h2; simp at h2
    | cons a t => rfl
  have h4 : textOf ls ≠ [46] := by
    intro h; rw [h] at h2; simp at h2
  unfold packName
  simp [h1, h3, textOf_getLast ls hne, h4]

theorem Canonical.labels {n : Bytes} (hc : Canonical n) :
    ∃ ls, LabelsOK ls ∧ (textOf ls).length ≤ 254 ∧ n = rootIfEmpty (textOf ls) := by
  obtain ⟨hlen, rfl | ⟨ls, hne, hok, rfl⟩⟩ := hc
  · exact ⟨[], nofun, Nat.zero_le _, rfl⟩
  · exact ⟨ls, hok, hlen, (rootIfEmpty_textOf hne hok).symm⟩

theorem packName_rootIfEmpty {ls : List Bytes} (hok : LabelsOK ls) (hlen : (textOf ls).length ≤ 254)
    (buf : Bytes) (c : Option CompMap) : packName (rootIfEmpty (textOf ls)) buf c = .ok (packLabels buf ls [] c) := by
  cases ls with
  | nil => rfl
  | cons l ls =>
    rw [rootIfEmpty_textOf (List.cons_ne_nil _ _) hok, packName_textOf (List.cons_ne_nil _ _) hok hlen,
      packLoop_labels _ _ _ _ hok]

theorem packName_none_buf {n : Bytes} (hc : Canonical n) (b1 b2 : Bytes) :
    packName n b1 none = packName n b2 none := by
  obtain ⟨ls, hok, hlen, rfl⟩ := hc.labels
  rw [packName_rootIfEmpty hok hlen, packName_rootIfEmpty hok hlen, packLabels_none b1 b2, ← packLabels_none b2 b2]

/-- One `Name.pack` at the end of `msg` keeps the invariant, and the bytes written decode (`Decodes`) to the
labels of the name within the budget - without a map, without any pointer. The round trips
`name_roundtrip_nocomp`, `name_roundtrip_comp` and `packName_spec` of `Lemmas/DnsMsg` (the one the record
level works with) are each this and `decodes_unpackName`. -/
theorem packName_decodes {k : Nat} (msg n bs : Bytes) (comp comp' : Option CompMap)
    (hinv : ∀ j, CompInvUpTo k j msg comp) (hk : k ≤ msg.length) (hc : Canonical n)
    (hp : packName n msg comp = .ok (bs, comp')) :
    (∀ j, CompInvUpTo k j (msg ++ bs) comp') ∧
    ∃ ls d, LabelsOK ls ∧ (textOf ls).length ≤ 254 ∧ n = rootIfEmpty (textOf ls) ∧ d ≤ 10 ∧ (comp = none → d = 0) ∧
      Decodes k (msg ++ bs) msg.length ls d (msg ++ bs).length := by
  obtain ⟨ls, hok, hlen, rfl⟩ := hc.labels
  rw [packName_rootIfEmpty hok hlen] at hp
  obtain ⟨d, e, x, hx, hd, rfl, h10, h0, hmap⟩ := packLabels_spec msg hk ls [] comp hok hlen
    (by rw [List.append_nil]; exact hinv _)
  obtain ⟨rfl, rfl⟩ : x = bs ∧ (packLabels msg ls [] comp).2 = comp' := by
    rw [← List.nil_append x, ← hx, ← (Prod.mk.inj (Except.ok.inj hp)).1]
    exact ⟨rfl, (Prod.mk.inj (Except.ok.inj hp)).2⟩
  rw [List.append_nil] at hd hmap
  refine ⟨fun j m' key p hm' _ hl => ?_, ls, d, hok, hlen, rfl, h10, h0, hd⟩
  rcases hmap m' key p hm' hl with ⟨m, hm, h1⟩ | h1
  · exact (hinv _ m key p hm (Nat.le_refl _) h1).append _
  · exact h1

/-- C36 for a name without compression (Builder without `EnableCompression`, SRV/SVCB targets); the packed
bytes may sit anywhere in a message. -/
theorem name_roundtrip_nocomp (n : Bytes) (pos : Bytes) (hc : Canonical n) :
    ∃ bs, packName n pos none = .ok (bs, none) ∧
      ∀ pre post, unpackName (pre ++ bs ++ post) pre.length = .ok (n, pre.length + bs.length) := by
  obtain ⟨ls, hok, hlen, rfl⟩ := hc.labels
  have hp : ∀ buf, packName (rootIfEmpty (textOf ls)) buf none = .ok ((packLabels pos ls [] none).1, none) := fun buf => by
    rw [packName_rootIfEmpty hok hlen, packLabels_none buf pos]
  refine ⟨_, hp pos, fun pre post => ?_⟩
  obtain ⟨-, ls', d, -, hlen', hn, h10, -, hd⟩ :=
    packName_decodes (k := 0) pre _ _ none none (fun _ => compInvUpTo_none) (Nat.zero_le _) hc (hp pre)
  rw [hn, ← List.length_append]
  exact decodes_unpackName (hd.append post) hlen' h10

/-- C36 for a name with compression, under `CompInv`, which is kept. -/
theorem name_roundtrip_comp {k : Nat} (msg : Bytes) (m : CompMap) (n : Bytes)
    (hinv : CompInv k msg m) (hk : k ≤ msg.length) (hc : Canonical n) :
    ∃ bs m', packName n msg (some m) = .ok (bs, some m') ∧
      CompInv k (msg ++ bs) m' ∧
      ∀ post, unpackName (msg ++ bs ++ post) msg.length = .ok (n, msg.length + bs.length) := by
  obtain ⟨ls, hok, hlen, rfl⟩ := hc.labels
  have hp := packName_rootIfEmpty hok hlen msg (some m)
  cases hm : (packLabels msg ls [] (some m)).2 with
  | none => have := packLabels_isSome msg ls [] (some m); rw [hm] at this; cases this
  | some m' =>
    rw [← Prod.eta (packLabels msg ls [] (some m)), hm] at hp
    obtain ⟨hinv', ls', d, -, hlen', hn, h10, -, hd⟩ := packName_decodes msg _ _ (some m) (some m')
      (fun _ _ key p h _ hl => hinv key p (Option.some.inj h ▸ hl)) hk hc hp
    refine ⟨_, m', hp, fun key p hl => hinv' _ m' key p rfl (Nat.le_refl _) hl, fun post => ?_⟩
    rw [hn, ← List.length_append]
    exact decodes_unpackName (hd.append post) hlen' h10

/-- What `Message.Pack` and the Builder with compression do with the names of a message: one buffer, one
shared map; `gap` are arbitrary bytes written before each name (headers, fixed fields, other record
data). Returns the buffer and the offset of every name. -/
def packSeq : List (Bytes × Bytes) → Bytes → CompMap → Except Err (Bytes × List Nat)
  | [], msg, _ => .ok (msg, [])
  | (gap, n) :: r, msg, m =>
    match packName n (msg ++ gap) (some m) with
    | .ok (bs, some m') =>
      match packSeq r (msg ++ gap ++ bs) m' with
      | .ok (final, starts) => .ok (final, (msg ++ gap).length :: starts)
      | .error e => .error e
    -- not reached on canonical names (`packLabels_isSome`: a map given is a map returned)
    | .ok (_, none) => .error .fuel
    | .error e => .error e

/-- C36 for names: "name compression never changes the decoded names". -/
def SeqStatement : Prop :=
  ∀ (l : List (Bytes × Bytes)), (∀ p ∈ l, Canonical p.2) →
    ∀ final starts, packSeq l [] [] = .ok (final, starts) →
      ∀ q ∈ (l.map Prod.snd).zip starts, ∃ o, unpackName final q.2 = .ok (q.1, o)

theorem packSeq_sound : ∀ (l : List (Bytes × Bytes)) (msg : Bytes) (m : CompMap),
    CompInv 0 msg m → (∀ p ∈ l, Canonical p.2) →
    ∀ final starts, packSeq l msg m = .ok (final, starts) →
      (∃ ext, final = msg ++ ext) ∧
      ∀ q ∈ (l.map Prod.snd).zip starts, ∃ o, unpackName final q.2 = .ok (q.1, o) := by
  intro l
  induction l with
  | nil =>
    intro msg m _ _ final starts h
    simp [packSeq] at h
    exact ⟨⟨[], by simp [h.1]⟩, by simp⟩
  | cons p r ih =>
    intro msg m hinv hcan final starts h
    rcases p with ⟨gap, n⟩
    have hc : Canonical n := hcan (gap, n) (by simp)
    rcases name_roundtrip_comp (msg ++ gap) m n (hinv.append gap) (Nat.zero_le _) hc with ⟨bs, m', hp, hinv', hun⟩
    rw [packSeq, hp] at h
    simp only [] at h
    cases hrec : packSeq r (msg ++ gap ++ bs) m' with
    | error e => rw [hrec] at h; simp at h
    | ok res =>
      rcases res with ⟨final', starts'⟩
      rw [hrec] at h
      simp only [Except.ok.injEq, Prod.mk.injEq] at h
      rcases h with ⟨hf, hs⟩
      subst hf hs
      rcases ih (msg ++ gap ++ bs) m' hinv' (fun q hq => hcan q (by simp [hq])) _ _ hrec with ⟨⟨ext, hext⟩, hrest⟩
      refine ⟨⟨gap ++ bs ++ ext, by rw [hext]; simp⟩, ?_⟩
      intro q hq
      simp only [List.map_cons, List.zip_cons_cons, List.mem_cons] at hq
      rcases hq with hq | hq
      · subst hq
        have := hun ext
        rw [← hext] at this
        exact ⟨_, this⟩
      · exact hrest q hq

theorem seq_holds : SeqStatement := fun l hcan final starts h =>
  (packSeq_sound l [] [] (compInv_nil 0 _) hcan final starts h).2

/-- "a.", "a.a.", …, twelve names each one label longer than the previous one: the input on which
`Name.pack` built a chain of more than 10 pointers before repair `b15f534` (finding `ptr-depth`). -/
def deepNames : List (Bytes × Bytes) :=
  (List.range 12).map (fun k => (([] : Bytes), textOf (List.replicate (k + 1) [97])))

theorem deepNames_canonical : ∀ p ∈ deepNames, Canonical p.2 := by
  intro p hp
  simp only [deepNames, List.mem_map, List.mem_range] at hp
  rcases hp with ⟨k, hk, rfl⟩
  have hok : LabelsOK (List.replicate (k + 1) [97]) := by
    intro l hl
    rw [List.mem_replicate] at hl
    rw [hl.2]
    simp [LabelOK]
  have hlen : ∀ j, (textOf (List.replicate j [97])).length = 2 * j := by
    intro j
    induction j with
    | zero => simp [textOf]
    | succ j ih => simp [List.replicate_succ, textOf, ih]; omega
  refine ⟨by simp only [hlen]; omega, Or.inr ⟨_, by simp, hok, rfl⟩⟩

/-- `Name.pack` stops compressing at depth 10: the twelfth name is written as two labels and a pointer
to the tenth name. -/
def deepPacked : Bytes :=
  [1, 97, 0, 1, 97, 192, 0, 1, 97, 192, 3, 1, 97, 192, 7, 1, 97, 192, 11, 1, 97, 192, 15, 1, 97, 192, 19,
   1, 97, 192, 23, 1, 97, 192, 27, 1, 97, 192, 31, 1, 97, 192, 35, 1, 97, 1, 97, 192, 35]

theorem deepNames_packs :
    packSeq deepNames [] [] = .ok (deepPacked, [0, 3, 7, 11, 15, 19, 23, 27, 31, 35, 39, 43]) := by
  decide +kernel

example : unpackName deepPacked 43 = .ok (textOf (List.replicate 12 [97]), 49) := by decide +kernel

example : ∀ q ∈ (deepNames.map Prod.snd).zip [0, 3, 7, 11, 15, 19, 23, 27, 31, 35, 39, 43],
    ∃ o, unpackName deepPacked q.2 = .ok (q.1, o) :=
  seq_holds deepNames deepNames_canonical _ _ deepNames_packs

end NetVerif.Proofs.C36
