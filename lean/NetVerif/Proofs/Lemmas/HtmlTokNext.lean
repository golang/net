import NetVerif.Proofs.Lemmas.HtmlTokMaxBuf
/-! The walk of `HtmlTokMaxBuf` through the tag functions and what `Next` dispatches to. -/
namespace NetVerif.Proofs.Lemmas.HtmlTokMaxBuf
open NetVerif.Model.HtmlTokExact NetVerif.Proofs.Lemmas.HtmlTokExact

theorem tagNameLoop_step (f : Nat) (z : Z) (h : Live z) (hf : rem z < f) :
    Step (z.err = .none) z.rawEnd z (tagNameLoop f z) := by
  induction f generalizing z with
  | zero => omega
  | succ f ih =>
    simp only [tagNameLoop, ne_eq, ite_not]
    refine .read h rfl fun hr e l q => ?_
    refine .ite (fun _ => hr.congr rfl) fun _ => .ite (fun _ => ?_) fun _ => hr.step (ih _ l (by omega)) e
    rw [unread_read z h e]; exact Step.refl.congr rfl

theorem readTagName_step (z : Z) (h : Live z) : Step (z.err = .none) z.rawEnd z (readTagName z) :=
  (tagNameLoop_step _ { z with dataStart := z.rawEnd - 1 } h (rem_lt z)).congr_left rfl

theorem attrKeyLoop_step (f : Nat) (z : Z) (h : Live z) (hf : rem z < f) :
    Step (z.err = .none) z.rawEnd z (attrKeyLoop f z) := by
  induction f generalizing z with
  | zero => omega
  | succ f ih =>
    simp only [attrKeyLoop, ne_eq, ite_not]
    refine .read h rfl fun hr e l q => ?_
    have again := hr.step (ih _ l (by omega)) e
    refine .ite (fun _ => again) fun _ => .ite (fun _ => ?_) fun _ => again
    rw [unread_read z h e]; exact Step.refl.congr rfl

theorem readTagAttrKey_step (z : Z) (h : Live z) : Step (z.err = .none) z.rawEnd z (readTagAttrKey z) :=
  (attrKeyLoop_step _ { z with pkStart := z.rawEnd } h (rem_lt z)).congr_left rfl

theorem quotedValLoop_step (f q : Nat) (z : Z) (h : Live z) (hf : rem z < f) :
    Step (z.err = .none) z.rawEnd z (quotedValLoop f q z) := by
  induction f generalizing z with
  | zero => omega
  | succ f ih =>
    simp only [quotedValLoop, ne_eq, ite_not]
    refine .read h rfl fun hr e l q => ?_
    exact .ite (fun _ => hr.congr rfl) fun _ => hr.step (ih _ l (by omega)) e

theorem unquotedValLoop_step (f : Nat) (z : Z) (h : Live z) (hf : rem z < f) :
    Step (z.err = .none) z.rawEnd z (unquotedValLoop f z) := by
  induction f generalizing z with
  | zero => omega
  | succ f ih =>
    simp only [unquotedValLoop, ne_eq, ite_not]
    refine .read h rfl fun hr e l q => ?_
    refine .ite (fun _ => hr.congr rfl) fun _ => .ite (fun _ => ?_) fun _ => hr.step (ih _ l (by omega)) e
    rw [unread_read z h e]; exact Step.refl.congr rfl

/-- `readTagAttrVal` after its first `skipWhiteSpace`: that part of the model's body, copied
(`readTagAttrVal_eq` is `rfl`) so that the state `skipWhiteSpace` returns can be a variable -/
def valTail (z : Z) : Z :=
  if z.err ≠ .none then z else
  let (c, z) := readByte z
  if z.err ≠ .none then z else
  if c == 47 then z else
  if c ≠ 61 then unread z else
  let z := skipWhiteSpace z
  if z.err ≠ .none then z else
  let (quote, z) := readByte z
  if z.err ≠ .none then z else
  if quote == 62 then unread z
  else if quote == 39 ∨ quote == 34 then
    quotedValLoop (z.inp.size + 2) quote { z with pvStart := z.rawEnd }
  else
    unquotedValLoop (z.inp.size + 2) { z with pvStart := z.rawEnd - 1 }

theorem readTagAttrVal_eq (z : Z) :
    readTagAttrVal z = valTail (skipWhiteSpace { z with pvStart := z.rawEnd, pvEnd := z.rawEnd }) := rfl

theorem valTail_step (z : Z) (h : Live z) : Step True z.rawEnd z (valTail z) := by
  unfold valTail
  simp only [ne_eq, ite_not]
  refine .ite (fun he => ?_) fun _ => Step.refl
  have hr : Step True z.rawEnd z (readByte z).2 := (read_clean z).of he
  refine .ite (fun e => ?_) fun _ => hr
  refine .ite (fun _ => hr) fun _ => .ite (fun _ => ?_) fun _ => by rw [unread_read z h e]; exact Step.refl
  have hw := hr.step (skipWhiteSpace_step _ (hr.live h)) trivial
  have lw := hw.live h
  generalize skipWhiteSpace (readByte z).2 = z2 at hw lw ⊢
  refine .ite (fun e2 => ?_) fun _ => hw
  have hr2 := hw.step (read_clean z2) e2
  have l2 := hr2.live h
  refine .ite (fun e3 => ?_) fun _ => hr2
  refine .ite (fun _ => by rw [unread_read z2 lw e3]; exact hw) fun _ => .ite (fun _ => ?_) fun _ => ?_
  · exact hr2.step ((quotedValLoop_step _ _ { (readByte z2).2 with pvStart := (readByte z2).2.rawEnd }
      l2 (rem_lt _)).congr_left rfl) e3
  · exact hr2.step ((unquotedValLoop_step _ { (readByte z2).2 with pvStart := (readByte z2).2.rawEnd - 1 }
      l2 (rem_lt _)).congr_left rfl) e3

theorem readTagAttrVal_step (z : Z) (h : Live z) : Step True z.rawEnd z (readTagAttrVal z) := by
  rw [readTagAttrVal_eq]
  have hw := skipWhiteSpace_step { z with pvStart := z.rawEnd, pvEnd := z.rawEnd } h
  exact (hw.step (valTail_step _ (hw.live h)) trivial).congr_left rfl

/-! `tagLoop` runs on fuel `rem z`, so each of its rounds (attribute key, then value) has to consume a byte
(`attr_round_progress`). The key reader consumes none when the first byte is white space or `/`
(`key_progress`); the value reader then does (`val_progress`). -/

theorem read_facts (z : Z) (he : z.err = .none) (c : Nat) (hp : peek z = some c) :
    ∃ z1, readByte z = (c, z1) ∧ Step True z.rawEnd z z1 ∧ z1.err = .none ∧ z1.rawEnd = z.rawEnd + 1 ∧
      z1.pkStart = z.pkStart ∧ unread z1 = z ∧ rem z1 + 1 = rem z := by
  obtain ⟨hrb, hlt, -⟩ := readByte_of_peek z c hp
  refine ⟨_, hrb, ?_, he, rfl, rfl, ?_, ?_⟩
  · have := (read_clean z).of (P := True) he; rwa [hrb] at this
  · cases z; simp [unread]
  · unfold rem; simp only []; omega

theorem attrKeyLoop_first (f : Nat) (z : Z) (h : Live z) (he : z.err = .none) (c : Nat) (hp : peek z = some c)
    (hk : z.pkStart = z.rawEnd) (hc : c ≠ 62) (hf : rem z < f + 1) :
    z.rawEnd + 1 ≤ (attrKeyLoop (f + 1) z).rawEnd ∨
    (attrKeyLoop (f + 1) z = { z with pkEnd := z.rawEnd } ∧ (isWS c = true ∨ c = 47)) := by
  obtain ⟨z1, hrb, s1, e1, r1, k1, u1, q1⟩ := read_facts z he c hp
  have cont : z.rawEnd + 1 ≤ (attrKeyLoop f z1).rawEnd := r1 ▸ (attrKeyLoop_step f z1 (s1.live h) (by omega)).lo
  simp only [attrKeyLoop, hrb]
  rw [if_neg (not_not_intro e1)]
  split
  · exact Or.inl cont
  · rename_i hn1
    split
    · rename_i hterm
      right
      rw [u1]
      refine ⟨rfl, ?_⟩
      rcases hterm with h1 | h1 | h1 | h1
      · exact absurd ⟨h1, by rw [k1, hk, r1]⟩ hn1
      · exact Or.inl h1
      · exact Or.inr (by simpa using h1)
      · exact absurd (by simpa using h1) hc
    · exact Or.inl cont

theorem key_progress (z : Z) (h : Live z) (he : z.err = .none) (c : Nat) (hp : peek z = some c) (hc : c ≠ 62) :
    z.rawEnd + 1 ≤ (readTagAttrKey z).rawEnd ∨
    (readTagAttrKey z = { z with pkStart := z.rawEnd, pkEnd := z.rawEnd } ∧ (isWS c = true ∨ c = 47)) := by
  unfold readTagAttrKey
  exact attrKeyLoop_first (z.inp.size + 1) { z with pkStart := z.rawEnd } h he c hp rfl hc (rem_lt z)

theorem skipWS_first (z : Z) (h : Live z) (he : z.err = .none) (c : Nat) (hp : peek z = some c) :
    (isWS c = true → z.rawEnd + 1 ≤ (skipWhiteSpace z).rawEnd) ∧ (isWS c = false → skipWhiteSpace z = z) := by
  obtain ⟨z1, hrb, s1, e1, r1, -, u1, q1⟩ := read_facts z he c hp
  have := rem_lt z
  unfold skipWhiteSpace
  rw [if_neg (not_not_intro he), show z.inp.size + 2 = (z.inp.size + 1) + 1 from rfl, skipWSLoop]
  simp only [hrb]
  rw [if_neg (not_not_intro e1)]
  constructor
  · intro hws
    rw [if_pos hws]
    have := (skipWSLoop_step (z.inp.size + 1) z1 (s1.live h) (by omega)).lo
    omega
  · intro hws
    rw [if_neg (by simp [hws])]
    exact u1

theorem val_progress (z : Z) (h : Live z) (he : z.err = .none) (c : Nat) (hp : peek z = some c)
    (hc : isWS c = true ∨ c = 47) : z.rawEnd + 1 ≤ (readTagAttrVal z).rawEnd := by
  rw [readTagAttrVal_eq]
  have h0 : Live { z with pvStart := z.rawEnd, pvEnd := z.rawEnd } := h
  have hp0 : peek { z with pvStart := z.rawEnd, pvEnd := z.rawEnd } = some c := hp
  have e0 : ({ z with pvStart := z.rawEnd, pvEnd := z.rawEnd } : Z).err = .none := he
  have r0 : ({ z with pvStart := z.rawEnd, pvEnd := z.rawEnd } : Z).rawEnd = z.rawEnd := rfl
  generalize ({ z with pvStart := z.rawEnd, pvEnd := z.rawEnd } : Z) = z0 at h0 hp0 e0 r0 ⊢
  obtain ⟨hws, hnws⟩ := skipWS_first z0 h0 e0 c hp0
  rcases hc with hc | hc
  · -- white space: everything after skipWhiteSpace only moves forward
    have hw := skipWhiteSpace_step z0 h0
    have := (valTail_step _ (hw.live h0)).lo
    have := hws hc
    omega
  · -- `/`: skipWhiteSpace does nothing, the next readByte consumes the `/` and returns
    subst hc
    rw [hnws (by decide)]
    obtain ⟨z1, hrb, s1, e1, r1, -, u1, q1⟩ := read_facts z0 e0 47 hp0
    unfold valTail
    simp only [hrb, e0, e1, ne_eq, not_true_eq_false, if_false, beq_self_eq_true, if_true]
    omega

theorem attr_round_progress (z : Z) (h : Live z) (he : z.err = .none) (c : Nat) (hp : peek z = some c) (hc : c ≠ 62) :
    z.rawEnd + 1 ≤ (readTagAttrVal (readTagAttrKey z)).rawEnd := by
  have hk := readTagAttrKey_step z h
  rcases key_progress z h he c hp hc with h1 | ⟨h1, h2⟩
  · have := (readTagAttrVal_step _ (hk.live h)).lo; omega
  · rw [h1]; exact val_progress { z with pkStart := z.rawEnd, pkEnd := z.rawEnd } h he c hp h2

theorem tagLoop_step (f : Nat) (sa : Bool) (z : Z) (h : Live z) (hf : rem z < f) :
    Step (z.err = .none) z.rawEnd z (tagLoop f sa z) := by
  induction f generalizing z with
  | zero => omega
  | succ f ih =>
    have hr := read_clean z
    simp only [tagLoop]
    refine .ite (fun _ => hr) fun hno => ?_
    · simp only [not_or, ne_eq, Decidable.not_not] at hno
      have hp := peek_of_ok z h hno.1
      have hlt := (readByte_of_peek z _ hp).2.1
      rw [unread_read z h hno.1]
      have hprog := attr_round_progress z h (err_read z h hno.1) _ hp (fun e => hno.2 (by simp [e]))
      have hk := readTagAttrKey_step z h
      have hv := hk.step (readTagAttrVal_step _ (hk.live h)) trivial
      generalize readTagAttrVal (readTagAttrKey z) = zv at hprog hv ⊢
      have key : ∀ z' : Z, core z' = core zv → Step (z.err = .none) z.rawEnd z
          (if (skipWhiteSpace z').err ≠ .none then skipWhiteSpace z' else tagLoop f sa (skipWhiteSpace z')) := by
        intro z' hz'
        have hv' := hv.congr hz'
        have hsk := skipWhiteSpace_step z' (hv'.live h)
        have hw := hv'.step hsk trivial
        refine .ite (fun _ => hw) fun e => hw.step (ih _ (hw.live h) ?_) (of_not_ne e)
        have h1 := hsk.lo
        have h2 : z'.rawEnd = zv.rawEnd := congrArg (·.2.1) hz'
        unfold rem at hf ⊢
        rw [inp_of_fr hw.frame]
        omega
      split
      · exact key _ rfl
      · exact key _ rfl

theorem readTag_step (sa : Bool) (z : Z) (h : Live z) : Step (z.err = .none) z.rawEnd z (readTag sa z) := by
  unfold readTag
  simp only [ne_eq, ite_not]
  have hn := (readTagName_step { z with nAttr := 0, lastValEnd := 0, attrNames := [] } h).congr_left (z := z) rfl
  have hw := hn.step (skipWhiteSpace_step _ (hn.live h)) trivial
  exact .ite (fun e => hw.step (tagLoop_step _ _ _ (hw.live h) (rem_lt _)) e) fun _ => hw

theorem readStartTag_step (z : Z) (h : Live z) : Step (z.err = .none) z.rawEnd z (readStartTag z).2 := by
  unfold readStartTag
  have ht := readTag_step true z h
  simp only [ne_eq, ite_not, apply_ite Prod.snd, ite_self]
  generalize readTag true z = z1 at ht ⊢
  exact .ite (fun _ => .ite (fun _ => ht.congr rfl) fun _ => ht) fun _ => ht

theorem Step.finish {P : Prop} {lo : Nat} {z r : Z} (h : Step P lo z r) : Step P lo z (finishText r).2 := by
  simp only [finishText, apply_ite Prod.snd]
  exact .ite (fun _ => h.congr rfl) fun _ => h

theorem endTagOpen_step (z : Z) (h : Live z) : Step (z.err = .none) z.rawEnd z (endTagOpen z).2 := by
  unfold endTagOpen
  have hr := read_clean z
  simp only [ne_eq, ite_not, apply_ite Prod.snd, ite_self]
  refine .ite (fun e => ?_) fun _ => hr.finish
  refine .ite (fun _ => hr) fun _ => .ite (fun _ => hr.step (readTag_step false _ (hr.live h)) e) fun _ => ?_
  rw [unread_read z h e]; exact readUntilCloseAngle_step z h

theorem dispatch_step (k c : Nat) (z : Z) (h : Live z) (hs2 : z.rawStart + 2 ≤ z.rawEnd) :
    Step (z.err = .none) z.rawStart z (dispatch k c z).2 := by
  have hs : z.rawStart ≤ z.rawEnd := by omega
  unfold dispatch
  simp only [apply_ite Prod.snd]
  refine .ite (fun _ => (Step.refl.unread id 2 (by omega)).congr rfl) fun _ =>
    .ite (fun _ => (readStartTag_step z h).weaken hs) fun _ =>
    .ite (fun _ => (endTagOpen_step z h).weaken hs) fun _ =>
    .ite (fun _ => (readMarkupDeclaration_step z h).weaken hs) fun _ => ?_
  -- `<?` : two bytes of this token have been read, so `raw.end--` stays inside it
  have hu : Step (z.err = .none) z.rawStart z (unread z) := Step.refl.unread id 1 (by omega)
  exact hu.trans (readUntilCloseAngle_step _ (hu.live h)) hu.lo id

end NetVerif.Proofs.Lemmas.HtmlTokMaxBuf
