import NetVerif.Proofs.Lemmas.Punycode
/-! String-level Punycode round trip (`decode (encode s) = s`). The decoder's loop is the replay of a sequence of
deltas (`stepD`, `replay`), read from their canonical digit strings (`canon`): `decodeAll_canon` and `run_of_decode` are
the two directions. The encoder's variables are the decoder's and a pending delta (`enc`); it appends `canon` of a
sequence that replays to its input (`encode_run`; `InvI` with its moves is the insertion-order argument). `stepD`,
`replay`, `canon` and `stepsOK` are declared in this file under the namespace `PunycodeConverse`. -/

namespace NetVerif.Proofs.Lemmas.PunycodeString
open NetVerif.Model.Punycode NetVerif.Proofs.Lemmas.Punycode

/-- Upper bound of every delta that occurs for strings of at most 1024 code points ≤ U+10FFFF
(`1114111 * 1025 = 1141963775`), and it is `< 35^6`. -/
def Q : Nat := 1142000000

theorem threshold_small (k bias : Nat) (h : threshold k bias ≤ 12) : k ≤ bias + 12 := by
  unfold threshold tmin tmax at h
  split at h
  · omega
  · split at h <;> omega

theorem threshold_one (k bias : Nat) (h : k ≤ bias) : threshold k bias = 1 := by
  unfold threshold tmin; rw [if_pos h]

/-- The decoder's next weight fits in int32 when the current digit's contribution `t * w` is at most
`Q`: a threshold `≥ 13` bounds the next weight by `23/13 · Q`; a smaller one occurs only while all
thresholds so far were 1, so that `w = 35^j ≤ Q < 35^6`. -/
theorem next_weight_le (t w j : Nat) (ht : 1 ≤ t) (htw : t * w ≤ Q) (hpow : t ≤ 12 → w = 35 ^ j) :
    w * (base - t) ≤ maxInt32 := by
  unfold Q at htw
  unfold maxInt32 base
  by_cases h13 : 13 ≤ t
  · have : 13 * w ≤ t * w := Nat.mul_le_mul_right w h13
    have : w * (36 - t) ≤ w * 23 := Nat.mul_le_mul_left w (by omega)
    omega
  · have hwj := hpow (by omega)
    have h1w : 1 * w ≤ t * w := Nat.mul_le_mul_right w ht
    have hj5 : j ≤ 5 := by
      by_contra hcon
      have : 35 ^ 6 ≤ 35 ^ j := Nat.pow_le_pow_right (by omega) (by omega)
      omega
    have : 35 ^ j ≤ 35 ^ 5 := Nat.pow_le_pow_right (by omega) hj5
    have : w * (36 - t) ≤ w * 35 := Nat.mul_le_mul_left w (by omega)
    omega

/-- No overflow hypothesis on the decoder's weights, only `q * w ≤ Q`; `j` counts the digits read so far.
`Lemmas.Punycode.varint_roundtrip` asks for `i + 35 * (q * w) ≤ maxInt32`, which a delta near `Q` does not meet. -/
theorem varint_roundtrip_sharp (bias k q i w : Nat) (rest : List Nat) (j : Nat)
    (hk : k = 36 * (j + 1)) (hpow : k ≤ bias + 36 → w = 35 ^ j)
    (hq : q * w ≤ Q) (hi : i + q * w ≤ maxInt32) :
    decodeVar bias k i w (encodeVar bias k q ++ rest) = some (i + q * w, rest) := by
  fun_induction encodeVar bias k q generalizing i w j with
  | case1 k q hlt => exact decodeVar_last bias k q i w rest hlt hi
  | case2 k q hge ih =>
    have hpos := threshold_pos k bias
    have hle := threshold_le k bias
    have hval := encodeVar_value (threshold k bias) (base - threshold k bias) q w (Nat.le_of_not_lt hge)
    have hwx := next_weight_le (threshold k bias) w j hpos
      (Nat.le_trans (Nat.mul_le_mul_right w (Nat.le_of_not_lt hge)) hq)
      (fun h => hpow (Nat.le_trans (threshold_small k bias h) (Nat.add_le_add_left (by decide) _)))
    rw [hval] at hq hi
    rw [List.cons_append, decodeVar_more bias k _ i w _ (encodeVar_digit_lt _ q hle)
      (Nat.not_lt.mpr (Nat.le_add_right _ _)) (by omega) hwx,
      ih _ _ (j + 1) (hk ▸ rfl) ?_ (Nat.le_trans (Nat.le_add_left _ _) hq) (by rw [Nat.add_assoc]; exact hi), hval, Nat.add_assoc]
    intro hk'
    have hkb : k ≤ bias := Nat.le_of_add_le_add_right hk'
    rw [threshold_one k bias hkb, hpow (Nat.le_trans hkb (Nat.le_add_right _ _)), Nat.pow_succ]
    rfl

theorem decodeVar_rest_lt (bias : Nat) : ∀ (inp : List Nat) (k i w i' : Nat) (rest : List Nat),
    decodeVar bias k i w inp = some (i', rest) → rest.length < inp.length
  | [], _, _, _, _, _, h => by rw [decodeVar] at h; cases h
  | c :: cs, k, i, w, i', rest, h => by
    obtain ⟨digit, -, h⟩ := decodeVar_cons_some bias k i w c cs rest i' h
    split at h
    · rw [h.2]; exact Nat.lt_succ_self _
    · exact Nat.lt_succ_of_lt (decodeVar_rest_lt bias cs _ _ _ _ _ h)

theorem encodeVar_ne_nil (bias k q : Nat) : encodeVar bias k q ≠ [] := by
  rw [encodeVar]; split <;> simp

theorem decodeLoop_nil (f : Nat) (out : List Nat) (i n bias : Nat) :
    decodeLoop f [] out i n bias = some out := by
  cases f <;> simp [decodeLoop]

theorem decodeLoop_fuel : ∀ (f f' : Nat) (inp out : List Nat) (i n bias : Nat),
    inp.length ≤ f → inp.length ≤ f' →
    decodeLoop f inp out i n bias = decodeLoop f' inp out i n bias
  | f, f', [], out, i, n, bias, _, _ => by rw [decodeLoop_nil, decodeLoop_nil]
  | 0, _, _ :: _, _, _, _, _, h, _ => by simp at h
  | _, 0, _ :: _, _, _, _, _, _, h => by simp at h
  | f + 1, f' + 1, c :: cs, out, i, n, bias, h1, h2 => by
    rw [decodeLoop, decodeLoop]
    cases hv : decodeVar bias base i 1 (c :: cs) with
    | none => rfl
    | some r =>
      obtain ⟨i', rest⟩ := r
      have hlt := decodeVar_rest_lt bias _ _ _ _ _ _ hv
      rw [List.length_cons] at hlt h1 h2
      simp only []
      rw [decodeLoop_fuel f f' rest _ _ _ _ (Nat.le_trans (Nat.le_of_lt_succ hlt) (Nat.le_of_succ_le_succ h1))
        (Nat.le_trans (Nat.le_of_lt_succ hlt) (Nat.le_of_succ_le_succ h2))]

/-- The variables of the decoder's loop between two rounds. -/
structure DecSt where
  out : List Nat
  i : Nat
  n : Nat
  bias : Nat

/-- The loop from `d` on the remaining input, with the fuel `decodeRunes` gives it (`decodeLoop_fuel`: any fuel of at
least the input's length gives the same). -/
def decodeAll (inp : List Nat) (d : DecSt) : Option (List Nat) :=
  decodeLoop inp.length inp d.out d.i d.n d.bias

theorem decodeAll_nil (d : DecSt) : decodeAll [] d = some d.out := by
  simp [decodeAll, decodeLoop_nil]

theorem slot_le_Q (a x p : Nat) (ha : a ≤ maxRune) (hx : x ≤ maxOutput + 1) (hp : p ≤ x) : a * x + p ≤ Q := by
  have := Nat.mul_le_mul ha hx
  unfold maxRune maxOutput at *
  unfold Q
  omega

theorem Q_le : Q + maxOutput ≤ maxInt32 := by decide

end NetVerif.Proofs.Lemmas.PunycodeString

namespace NetVerif.Proofs.Lemmas.PunycodeConverse
open NetVerif.Model.Punycode NetVerif.Proofs.Lemmas.Punycode NetVerif.Proofs.Lemmas.PunycodeString

/-- One round of the decoder loop as a function of the delta. -/
def stepD (d : DecSt) (delta : Nat) : DecSt :=
  { out := insertAt ((d.i + delta) % (d.out.length + 1)) (d.n + (d.i + delta) / (d.out.length + 1)) d.out,
    i := (d.i + delta) % (d.out.length + 1) + 1,
    n := d.n + (d.i + delta) / (d.out.length + 1),
    bias := adapt delta (d.out.length + 1) (d.i == 0) }

def replay (d : DecSt) : List Nat → DecSt
  | [] => d
  | x :: xs => replay (stepD d x) xs

/-- The canonical (lower-case) digit string of a delta sequence from a decoder state. -/
def canon (d : DecSt) : List Nat → List Nat
  | [] => []
  | x :: xs => encodeVar d.bias base x ++ canon (stepD d x) xs

/-- The checks the decoder makes in every round. -/
def stepsOK (d : DecSt) : List Nat → Prop
  | [] => True
  | x :: xs => d.out.length < maxOutput ∧ d.n + (d.i + x) / (d.out.length + 1) ≤ maxRune ∧
      stepsOK (stepD d x) xs

theorem canon_nil_iff (d : DecSt) (ds : List Nat) (h : canon d ds = []) : ds = [] := by
  cases ds with
  | nil => rfl
  | cons x xs =>
    simp only [canon, List.append_eq_nil_iff] at h
    exact absurd h.1 (encodeVar_ne_nil _ _ _)

end NetVerif.Proofs.Lemmas.PunycodeConverse

namespace NetVerif.Proofs.Lemmas.PunycodeString
open NetVerif.Model.Punycode NetVerif.Proofs.Lemmas.Punycode NetVerif.Proofs.Lemmas.PunycodeConverse

/-- The state in which the delta loop starts after the literal part `lit`. -/
def start (lit : List Nat) : DecSt := { out := lit, i := 0, n := initialN, bias := initialBias }

theorem insertAt_length (p n : Nat) (l : List Nat) (hp : p ≤ l.length) :
    (insertAt p n l).length = l.length + 1 := by
  unfold insertAt
  rw [List.length_append, List.length_cons, List.length_take, List.length_drop]
  omega

theorem stepD_length (d : DecSt) (delta : Nat) : (stepD d delta).out.length = d.out.length + 1 :=
  insertAt_length _ _ _ (Nat.le_of_lt_succ (Nat.mod_lt _ (Nat.succ_pos _)))

theorem replay_inv {P : DecSt → Prop} (hstep : ∀ d x, P d → P (stepD d x)) :
    ∀ (ds : List Nat) (d : DecSt), P d → P (replay d ds)
  | [], _, h => h
  | x :: xs, d, h => replay_inv hstep xs (stepD d x) (hstep d x h)

/-- `canon`, `replay` and `stepsOK` over a concatenation, in one induction since all three recurse through `stepD`. -/
theorem run_append : ∀ (xs ys : List Nat) (d : DecSt),
    canon d (xs ++ ys) = canon d xs ++ canon (replay d xs) ys ∧
    replay d (xs ++ ys) = replay (replay d xs) ys ∧
    (stepsOK d xs → stepsOK (replay d xs) ys → stepsOK d (xs ++ ys))
  | [], _, _ => ⟨rfl, rfl, fun _ h => h⟩
  | x :: xs, ys, d => by
    obtain ⟨h1, h2, h3⟩ := run_append xs ys (stepD d x)
    exact ⟨by rw [List.cons_append, canon, canon, h1, List.append_assoc]; rfl, h2,
      fun ha hb => ⟨ha.1, ha.2.1, h3 ha.2.2 hb⟩⟩

/-- The two checks of the round bound `i + delta` by `Q`, so no weight overflows (`varint_roundtrip_sharp`). -/
theorem decodeAll_step (d : DecSt) (delta : Nat) (tail : List Nat) (hlen : d.out.length < maxOutput)
    (hn : d.n + (d.i + delta) / (d.out.length + 1) ≤ maxRune) :
    decodeAll (encodeVar d.bias base delta ++ tail) d = decodeAll tail (stepD d delta) := by
  have hQ : d.i + delta ≤ Q := Nat.le_trans (Nat.le_of_eq (Nat.div_add_mod' _ (d.out.length + 1)).symm)
    (slot_le_Q _ _ _ (Nat.le_trans (Nat.le_add_left _ _) hn) (Nat.le_succ_of_le hlen) (Nat.le_of_lt (Nat.mod_lt _ (Nat.succ_pos _))))
  have hV := varint_roundtrip_sharp d.bias base delta d.i 1 tail 0 rfl (fun _ => rfl)
    (by rw [Nat.mul_one]; exact Nat.le_trans (Nat.le_add_left _ _) hQ)
    (by rw [Nat.mul_one]; exact Nat.le_trans hQ (Nat.le_trans (Nat.le_add_right _ _) Q_le))
  rw [Nat.mul_one] at hV
  unfold decodeAll
  cases hvt : encodeVar d.bias base delta ++ tail with
  | nil => exact absurd (List.append_eq_nil_iff.mp hvt).1 (encodeVar_ne_nil _ _ _)
  | cons c cs =>
    rw [hvt] at hV
    have hlt := decodeVar_rest_lt _ _ _ _ _ _ _ hV
    rw [List.length_cons] at hlt ⊢
    simp only [decodeLoop, hV]
    rw [if_neg (Nat.not_le.mpr hlen), if_neg (Nat.not_lt.mpr hn), Nat.add_sub_cancel_left]
    exact decodeLoop_fuel _ _ tail _ _ _ _ (Nat.le_of_lt_succ hlt) (Nat.le_refl _)

theorem decodeAll_canon : ∀ (ds : List Nat) (d : DecSt) (tail : List Nat), stepsOK d ds →
    decodeAll (canon d ds ++ tail) d = decodeAll tail (replay d ds)
  | [], _, _, _ => rfl
  | x :: xs, d, tail, h => by
    rw [canon, List.append_assoc, decodeAll_step d x _ h.1 h.2.1, decodeAll_canon xs _ tail h.2.2]
    rfl

theorem run_of_decode : ∀ (fuel : Nat) (D : List Nat) (d : DecSt) (u : List Nat),
    decodeLoop fuel D d.out d.i d.n d.bias = some u →
    ∃ ds, D.map lowerAscii = canon d ds ∧ (replay d ds).out = u ∧ stepsOK d ds
  | _, [], d, u, h => by
    rw [decodeLoop_nil] at h
    exact ⟨[], rfl, Option.some.inj h, trivial⟩
  | 0, c :: cs, d, u, h => nomatch h
  | fuel + 1, c :: cs, d, u, h => by
    rw [decodeLoop] at h
    cases hv : decodeVar d.bias base d.i 1 (c :: cs) with
    | none => rw [hv] at h; cases h
    | some r =>
      obtain ⟨i', rest⟩ := r
      obtain ⟨q, dg, hsplit, hi', hdg⟩ := varint_canonical _ _ _ _ _ _ _ hv
      rw [Nat.mul_one] at hi'
      subst hi'
      rw [hv] at h
      simp only [Nat.add_sub_cancel_left] at h
      by_cases h1 : d.out.length ≥ maxOutput
      · rw [if_pos h1] at h; cases h
      · rw [if_neg h1] at h
        by_cases h2 : d.n + (d.i + q) / (d.out.length + 1) > maxRune
        · rw [if_pos h2] at h; cases h
        · rw [if_neg h2] at h
          obtain ⟨ds, hc, hr, hok⟩ := run_of_decode fuel rest (stepD d q) u h
          refine ⟨q :: ds, ?_, hr, ⟨by omega, by omega, hok⟩⟩
          rw [hsplit, List.map_append, hdg, hc]
          rfl

theorem encDigit_ne_hyphen (d : Nat) (h : d < 36) : encDigit d ≠ hyphen := by
  unfold encDigit hyphen; split <;> omega

theorem encodeVar_no_hyphen (bias k q : Nat) : ∀ c ∈ encodeVar bias k q, c ≠ hyphen := by
  intro c hc
  obtain ⟨d, hd, rfl, _⟩ := encodeVar_digits_ok bias k q c hc
  exact encDigit_ne_hyphen d hd

theorem insertAt_append (A B : List Nat) (m : Nat) : insertAt A.length m (A ++ B) = A ++ m :: B := by
  simp [insertAt]

theorem canon_no_hyphen : ∀ (ds : List Nat) (d : DecSt), ∀ c ∈ canon d ds, c ≠ hyphen
  | [], _, _, h => nomatch h
  | _ :: xs, _, c, h => (List.mem_append.mp h).elim (encodeVar_no_hyphen _ _ _ c) (canon_no_hyphen xs _ c)

/-- The encoder's variables as the decoder's: `h` is the length of the decoder's output and the biases agree,
since both sides call `adapt` with the same arguments. -/
abbrev enc (d : DecSt) (delta : Nat) (out : List Nat) : EncSt :=
  { delta := delta, h := d.out.length, bias := d.bias, out := out }

/-- The decoder's `i == 0` and the encoder's `h == b` both say that no delta has been handled yet. -/
def Fresh (b : Nat) (d : DecSt) : Prop := b ≤ d.out.length ∧ (d.i = 0 ↔ d.out.length = b)

theorem fresh_step {b : Nat} (d : DecSt) (x : Nat) (h : Fresh b d) : Fresh b (stepD d x) := by
  have hl := stepD_length d x
  unfold Fresh
  rw [hl]
  exact ⟨Nat.le_succ_of_le h.1, fun h0 => absurd h0 (Nat.succ_ne_zero _),
    fun hb => absurd (hb ▸ h.1) (Nat.not_succ_le_self _)⟩

theorem encInner_cons {b : Nat} {d : DecSt} (hf : Fresh b d) (m r : Nat) (rs : List Nat) (delta : Nat) (out : List Nat) :
    encInner m b (r :: rs) (enc d delta out) =
      if r < m then (if delta + 1 > maxInt32 then none else encInner m b rs (enc d (delta + 1) out))
      else if r > m then encInner m b rs (enc d delta out)
      else encInner m b rs (enc (stepD d delta) 0 (out ++ encodeVar d.bias base delta)) := by
  have hb : (d.i == 0) = (d.out.length == b) := by
    rw [Bool.eq_iff_iff, beq_iff_eq, beq_iff_eq]; exact hf.2
  rw [encInner]
  unfold enc
  rw [stepD_length]
  simp only [stepD, hb]

/-- The decoder's output is `A ++ B` with the encoder's scan for the code point `m` standing between the two; the
pending `delta` is exactly what moves the decoder's `(n, i)` there, at `|A ++ B| + 1` slots per code point. -/
structure InvI (m : Nat) (A B : List Nat) (delta : Nat) (d : DecSt) : Prop where
  out : d.out = A ++ B
  nle : d.n ≤ m
  pos : d.i + delta = (m - d.n) * (d.out.length + 1) + A.length

variable {m : Nat} {A B : List Nat} {delta : Nat} {d : DecSt}

/-- The pending delta is a distance in slots, of which there are at most `maxRune * (maxOutput + 1) ≤ Q`: the
encoder's additions do not overflow. -/
theorem InvI.delta_le (inv : InvI m A B delta d) (hm : m ≤ maxRune) (hlen : A.length + B.length ≤ maxOutput) :
    delta ≤ maxInt32 := by
  have hl := congrArg List.length inv.out
  rw [List.length_append] at hl
  have := slot_le_Q (m - d.n) (d.out.length + 1) A.length (Nat.le_trans (Nat.sub_le _ _) hm) (by omega) (by omega)
  have := inv.pos
  have := Q_le
  omega

/-- The scan passes a code point that the decoder has already. -/
theorem InvI.pass {r : Nat} (inv : InvI m A (r :: B) delta d) : InvI m (A ++ [r]) B (delta + 1) d where
  out := by rw [inv.out, List.append_assoc]; rfl
  nle := inv.nle
  pos := by rw [← Nat.add_assoc, inv.pos, List.length_append]; rfl

/-- The decoder's round on the pending delta passes its checks and inserts `m` at the scan's place. -/
theorem InvI.emit (inv : InvI m A B delta d) (hm : m ≤ maxRune) (hlen : A.length + B.length < maxOutput) :
    stepsOK d [delta] ∧ InvI m (A ++ [m]) B 0 (stepD d delta) := by
  have holen : d.out.length = A.length + B.length := by rw [inv.out, List.length_append]
  obtain ⟨hdiv, hmod⟩ : (d.i + delta) / (d.out.length + 1) = m - d.n ∧ (d.i + delta) % (d.out.length + 1) = A.length :=
    (Nat.div_mod_unique (Nat.succ_pos _)).mpr ⟨by rw [inv.pos, Nat.mul_comm, Nat.add_comm], by omega⟩
  refine ⟨⟨by omega, by rw [hdiv, Nat.add_sub_cancel' inv.nle]; exact hm, trivial⟩, ?_⟩
  unfold stepD
  rw [hdiv, hmod, Nat.add_sub_cancel' inv.nle, inv.out, insertAt_append]
  exact {
    out := (List.append_assoc A [m] B).symm
    nle := Nat.le_refl _
    pos := by rw [Nat.sub_self, Nat.zero_mul, Nat.zero_add]; exact (List.length_append (as := A) (bs := [m])).symm }

/-- Between two scans: looking for `m` instead of `ne` adds `m - ne` times all slots to the delta. -/
theorem InvI.raise {ne : Nat} (inv : InvI ne [] B delta d) (hle : ne ≤ m) :
    InvI m [] B (delta + (m - ne) * (d.out.length + 1)) d where
  out := inv.out
  nle := Nat.le_trans inv.nle hle
  pos := by
    have hp := inv.pos
    have hm : m - d.n = (ne - d.n) + (m - ne) := by rw [Nat.add_comm, Nat.sub_add_sub_cancel hle inv.nle]
    rw [hm, Nat.add_mul, ← Nat.add_assoc, hp]
    omega

/-- After the scan for `m` the code `delta++, n++`: the scan for `m + 1` stands at the beginning. -/
theorem InvI.wrap (inv : InvI m A [] delta d) : InvI (m + 1) [] A (delta + 1) d where
  out := by rw [inv.out, List.append_nil, List.nil_append]
  nle := Nat.le_succ_of_le inv.nle
  pos := by
    have hp := inv.pos
    have hn := inv.nle
    have hl : A.length = d.out.length := by rw [inv.out, List.append_nil]
    have hm : m + 1 - d.n = (m - d.n) + 1 := by omega
    rw [hm, Nat.add_mul, Nat.one_mul, List.length_nil]
    omega

/-- The scan of `post` for `m` moves the elements `< m + 1` of `post` from `B` to `A`: it passes those `< m`, which the
decoder has already, and emits one delta per occurrence of `m`; what it appends is `canon` of these deltas. -/
theorem encInner_run (b m : Nat) (hm : m ≤ maxRune) (out : List Nat) :
    ∀ (post A : List Nat) (delta : Nat) (d : DecSt), A.length + post.length ≤ maxOutput →
      InvI m A (post.filter (fun r => decide (r < m))) delta d → Fresh b d →
      ∃ delta' ds, encInner m b post (enc d delta out) = some (enc (replay d ds) delta' (out ++ canon d ds)) ∧
        stepsOK d ds ∧ InvI m (A ++ post.filter (fun r => decide (r < m + 1))) [] delta' (replay d ds)
  | [], A, delta, d, _, inv, _ =>
    ⟨delta, [], congrArg (fun o => some (enc d delta o)) (List.append_nil _).symm, trivial, by
      rw [List.filter_nil, List.append_nil]; exact inv⟩
  | r :: post, A, delta, d, hlen, inv, hf => by
    have hB := List.length_filter_le (fun r => decide (r < m)) post
    have hlen' : (A ++ [r]).length + post.length ≤ maxOutput := by
      rw [List.length_append, Nat.add_right_comm]; exact hlen
    rw [encInner_cons hf, List.filter_cons]
    rw [List.filter_cons] at inv
    by_cases hlt : r < m
    · rw [if_pos (decide_eq_true hlt)] at inv
      rw [if_pos hlt, if_neg (Nat.not_lt.mpr (inv.pass.delta_le hm (Nat.le_trans (Nat.add_le_add_left hB _) hlen'))),
        if_pos (decide_eq_true (Nat.lt_succ_of_lt hlt)), List.append_cons]
      exact encInner_run b m hm out post _ _ d hlen' inv.pass hf
    · rw [if_neg (mt of_decide_eq_true hlt)] at inv
      rw [if_neg hlt]
      by_cases hgt : r > m
      · rw [if_pos hgt, if_neg (mt of_decide_eq_true (Nat.not_lt.mpr hgt))]
        exact encInner_run b m hm out post A delta d (Nat.le_of_succ_le hlen) inv hf
      · obtain rfl : r = m := Nat.le_antisymm (Nat.not_lt.mp hgt) (Nat.not_lt.mp hlt)
        obtain ⟨hok, inv1⟩ := inv.emit hm (Nat.lt_of_lt_of_le (Nat.add_lt_add_left (Nat.lt_succ_of_le hB) _) hlen)
        obtain ⟨delta', ds, he, h2, h3⟩ := encInner_run b r hm _ post _ 0 _ hlen' inv1 (fresh_step d delta hf)
        rw [if_neg hgt, if_pos (decide_eq_true (Nat.lt_succ_self r)), List.append_cons]
        exact ⟨delta', delta :: ds, by rw [he, List.append_assoc]; rfl, ⟨hok.1, hok.2.1, h2⟩, h3⟩

theorem foldl_min (n : Nat) : ∀ (s : List Nat) (acc : Nat),
    let m := s.foldl (fun m r => if m > r ∧ r ≥ n then r else m) acc
    m ≤ acc ∧ (m = acc ∨ (m ∈ s ∧ m ≥ n)) ∧ ∀ r ∈ s, r ≥ n → m ≤ r
  | [], acc => ⟨Nat.le_refl _, Or.inl rfl, nofun⟩
  | r :: s, acc => by
    have ih := foldl_min n s (if acc > r ∧ r ≥ n then r else acc)
    rw [List.foldl_cons]
    by_cases hc : acc > r ∧ r ≥ n
    · rw [if_pos hc] at ih ⊢
      obtain ⟨h1, h2, h3⟩ := ih
      refine ⟨by omega, Or.inr ?_, fun r' hr' hge => ?_⟩
      · rcases h2 with e | h
        · exact ⟨by rw [e]; exact List.mem_cons_self, by omega⟩
        · exact ⟨List.mem_cons_of_mem _ h.1, h.2⟩
      · rcases List.mem_cons.mp hr' with e | hr'
        · exact e ▸ h1
        · exact h3 r' hr' hge
    · rw [if_neg hc] at ih ⊢
      obtain ⟨h1, h2, h3⟩ := ih
      refine ⟨h1, h2.imp_right fun h => ⟨List.mem_cons_of_mem _ h.1, h.2⟩, fun r' hr' hge => ?_⟩
      rcases List.mem_cons.mp hr' with e | hr'
      · omega
      · exact h3 r' hr' hge

theorem minGE_spec (n : Nat) (s : List Nat) (hex : ∃ r ∈ s, r ≥ n) (hb : ∀ r ∈ s, r < maxInt32) :
    minGE n s ∈ s ∧ minGE n s ≥ n ∧ ∀ r ∈ s, r ≥ n → minGE n s ≤ r := by
  have := foldl_min n s maxInt32
  simp only at this
  obtain ⟨h1, h2, h3⟩ := this
  obtain ⟨r, hr, hge⟩ := hex
  have hlt : minGE n s < maxInt32 := Nat.lt_of_le_of_lt (h3 r hr hge) (hb r hr)
  unfold minGE at hlt ⊢
  rcases h2 with h2 | h2
  · omega
  · exact ⟨h2.1, h2.2, h3⟩

theorem filter_lt_succ (m : Nat) (s : List Nat) (h : m ∈ s) :
    (s.filter (fun r => decide (r < m))).length < (s.filter (fun r => decide (r < m + 1))).length := by
  have hsub : s.filter (fun r => decide (r < m)) =
      (s.filter (fun r => decide (r < m + 1))).filter (fun r => decide (r < m)) := by
    rw [List.filter_filter]
    exact List.filter_congr fun r _ => by
      by_cases hr : r < m
      · simp [hr, Nat.lt_succ_of_lt hr]
      · simp [hr]
  rw [hsub]
  exact List.length_filter_lt_length_iff_exists.mpr
    ⟨m, List.mem_filter.mpr ⟨h, decide_eq_true (Nat.lt_succ_self m)⟩, fun hc => Nat.lt_irrefl m (of_decide_eq_true hc)⟩

/-- The outer loop ends when the decoder's output is as long as `s`: it is `s` then. -/
theorem encOuter_exit {ne : Nat} {s : List Nat} (inv : InvI ne [] (s.filter (fun r => decide (r < ne))) delta d)
    (hh : ¬ d.out.length < s.length) (fuel b : Nat) (out : List Nat) :
    ∃ ds, encOuter fuel s b ne (enc d delta out) = some (out ++ canon d ds) ∧ stepsOK d ds ∧
      (replay d ds).out = s := by
  refine ⟨[], by rw [encOuter_done _ _ _ _ _ hh]; exact congrArg some (List.append_nil _).symm, trivial, ?_⟩
  have ho : d.out = s.filter (fun r => decide (r < ne)) := inv.out
  rw [ho] at hh
  exact ho.trans (List.Sublist.eq_of_length_le List.filter_sublist (Nat.not_lt.mp hh))

theorem encOuter_run (s : List Nat) (b : Nat) (hs : ∀ r ∈ s, r ≤ maxRune) (hlen : s.length ≤ maxOutput) :
    ∀ (fuel ne delta : Nat) (out : List Nat) (d : DecSt),
      s.length - d.out.length ≤ fuel → InvI ne [] (s.filter (fun r => decide (r < ne))) delta d → Fresh b d →
      ∃ ds, encOuter fuel s b ne (enc d delta out) = some (out ++ canon d ds) ∧ stepsOK d ds ∧
        (replay d ds).out = s
  | 0, _, _, _, _, hf, inv, _ => encOuter_exit inv (Nat.not_lt.mpr (Nat.le_of_sub_eq_zero (Nat.le_zero.mp hf))) _ _ _
  | fuel + 1, ne, delta, out, d, hf, inv, hfr => by
    by_cases hh : d.out.length < s.length
    · obtain ⟨r, hr, hnr⟩ := List.length_filter_lt_length_iff_exists.mp (inv.out ▸ hh)
      obtain ⟨hmem, hge, hmin⟩ := minGE_spec ne s ⟨r, hr, Nat.not_lt.mp fun h => hnr (decide_eq_true h)⟩
        (fun r hr => Nat.lt_of_le_of_lt (hs r hr) (by decide))
      rw [encOuter, if_pos hh]
      simp only []
      generalize minGE ne s = m at *
      -- `s` has nothing from `ne` up to `m`
      rw [List.filter_congr fun r hr => show decide (r < ne) = decide (r < m) from
        decide_eq_decide.mpr (by have := hmin r hr; omega)] at inv
      have hB := List.length_filter_le (fun r => decide (r < m)) s
      have inv0 := inv.raise hge
      rw [madd_some _ _ _ (inv0.delta_le (hs m hmem) (by rw [List.length_nil]; omega))]
      obtain ⟨delta1, ds1, hin, ok1, inv1⟩ := encInner_run b m (hs m hmem) out s [] _ d
        (by rw [List.length_nil]; omega) inv0 hfr
      simp only [hin]
      rw [List.nil_append] at inv1
      -- progress: at least the code point `m` itself was handled
      have hprog : s.length - (replay d ds1).out.length ≤ fuel := by
        have hlt := filter_lt_succ m s hmem
        rw [inv0.out, List.nil_append] at hf
        rw [inv1.out, List.append_nil]
        omega
      obtain ⟨ds2, henc, ok2, hr2⟩ := encOuter_run s b hs hlen fuel (m + 1) (delta1 + 1) (out ++ canon d ds1) _ hprog
        inv1.wrap (replay_inv fresh_step ds1 d hfr)
      obtain ⟨ha, hr, hok⟩ := run_append ds1 ds2 d
      exact ⟨ds1 ++ ds2, by rw [ha, ← List.append_assoc]; exact henc, hok ok1 ok2, by rw [hr, hr2]⟩
    · exact encOuter_exit inv hh _ _ _

theorem decodeRunes_literal (B E : List Nat) (hB : isAscii B = true) (hy : ∀ c ∈ E, c ≠ hyphen) :
    decodeRunes (B ++ (if B.length > 0 then [hyphen] else []) ++ E) = decodeAll E (start B) := by
  unfold decodeRunes
  cases B with
  | nil =>
    rw [List.length_nil, if_neg (Nat.lt_irrefl 0), List.nil_append, List.nil_append]
    by_cases hE : E = []
    · rw [if_pos hE, hE, decodeAll_nil]; rfl
    · rw [if_neg hE, splitLast_no_hyphen E hy]
      rfl
  | cons c cs =>
    rw [List.length_cons, if_pos (Nat.zero_lt_succ _), List.append_assoc, List.singleton_append,
      if_neg (List.append_ne_nil_of_right_ne_nil _ (List.cons_ne_nil _ _)), splitLast_append _ _ hy]
    simp only [reduceCtorEq, if_false, hB, Bool.not_true, Bool.false_eq_true]
    by_cases hE : E = []
    · rw [if_pos hE, hE, decodeAll_nil]; rfl
    · rw [if_neg hE]
      rfl

/-- What `encode` appends to the prefix: the basic code points, the delimiter if there are any, and the
canonical digit string of a delta sequence that the decoder accepts and that replays to `s`. -/
theorem encode_run (pfx s : List Nat) (hs : ∀ r ∈ s, r ≤ maxRune) (hlen : s.length ≤ maxOutput) :
    ∃ ds, encode pfx s = some (pfx ++ s.filter (fun x => decide (x < 128)) ++
        (if (s.filter (fun x => decide (x < 128))).length > 0 then [hyphen] else []) ++
        canon (start (s.filter (fun x => decide (x < 128)))) ds) ∧
      stepsOK (start (s.filter (fun x => decide (x < 128)))) ds ∧
      (replay (start (s.filter (fun x => decide (x < 128)))) ds).out = s :=
  encOuter_run s _ hs hlen s.length initialN 0 _ (start (s.filter (fun x => decide (x < 128)))) (Nat.sub_le _ _)
    { out := rfl, nle := Nat.le_refl _
      pos := by show 0 + 0 = (initialN - initialN) * _ + 0; rw [Nat.sub_self, Nat.zero_mul] }
    ⟨Nat.le_refl _, fun _ => rfl, fun _ => rfl⟩

theorem decodeRunes_encode (s a : List Nat) (hs : ∀ r ∈ s, r ≤ maxRune) (hlen : s.length ≤ maxOutput)
    (h : encode [] s = some a) : decodeRunes a = some s := by
  obtain ⟨ds, henc, hok, hr⟩ := encode_run [] s hs hlen
  cases Option.some.inj (henc.symm.trans h)
  have hB : isAscii (s.filter (fun x => decide (x < 128))) = true :=
    List.all_eq_true.mpr fun r hr => (List.mem_filter.mp hr).2
  rw [List.nil_append, decodeRunes_literal _ _ hB (canon_no_hyphen ds _), ← List.append_nil (canon _ ds),
    decodeAll_canon ds _ [] hok, decodeAll_nil, hr]

end NetVerif.Proofs.Lemmas.PunycodeString
