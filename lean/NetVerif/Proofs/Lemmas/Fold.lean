/-! Histories are folds of a step function: what every step preserves or relates, the whole run does. -/
namespace NetVerif.Proofs.Lemmas

/-- A relation that holds across every step (reflexive, transitive) holds across a whole history;
with `R a b := P a → P b` this is preservation of an invariant. -/
theorem foldl_rel {σ ο : Type} (step : σ → ο → σ) (R : σ → σ → Prop) (hrefl : ∀ s, R s s)
    (htrans : ∀ a b c, R a b → R b c → R a c) (hstep : ∀ s op, R s (step s op)) :
    ∀ (ops : List ο) (s : σ), R s (ops.foldl step s) := by
  intro ops
  induction ops with
  | nil => exact hrefl
  | cons op rest ih => exact fun s => htrans _ _ _ (hstep s op) (ih (step s op))

theorem foldl_inv {σ ο : Type} (step : σ → ο → σ) (P : σ → Prop) (hstep : ∀ s op, P s → P (step s op))
    (ops : List ο) (s : σ) : P s → P (ops.foldl step s) :=
  foldl_rel step (fun a b => P a → P b) (fun _ h => h) (fun _ _ _ f g h => g (f h)) hstep ops s

/-- `foldl_inv` where a step need preserve `P` only for the operations that occur in the history. -/
theorem foldl_inv_mem {σ ο : Type} (step : σ → ο → σ) (P : σ → Prop) (ops : List ο)
    (hstep : ∀ s, ∀ op ∈ ops, P s → P (step s op)) (s : σ) (h : P s) : P (ops.foldl step s) := by
  induction ops generalizing s with
  | nil => exact h
  | cons op rest ih =>
    exact ih (fun s o ho => hstep s o (List.mem_cons_of_mem _ ho)) _ (hstep s op List.mem_cons_self h)

/-- A Boolean monitor that checks each event against the state its predecessors leave accepts a trace only if every
event passes its check. -/
theorem run_check {σ ε : Type} {check : σ → ε → Bool} {next : σ → ε → σ} {run : σ → List ε → Bool}
    (hcons : ∀ st e es, run st (e :: es) = (check st e && run (next st e) es)) (pre : List ε) :
    ∀ (st : σ) (e : ε) (post : List ε), run st (pre ++ e :: post) = true → check (pre.foldl next st) e = true := by
  induction pre with
  | nil =>
    intro st e post h
    rw [List.nil_append, hcons, Bool.and_eq_true] at h
    exact h.1
  | cons x rest ih =>
    intro st e post h
    rw [List.cons_append, hcons, Bool.and_eq_true] at h
    exact ih _ e post h.2

end NetVerif.Proofs.Lemmas
