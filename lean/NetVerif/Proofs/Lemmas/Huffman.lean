import NetVerif.Model.Huffman
/-!
Bit lists against numbers, and the facts about the generated Huffman tables (`Gen.Huffman`) that C04
rests on. The decoding tree is the tree of the tables because every leaf carries the table entry of its
path (`checkLeaves_ok`, one traversal with two table lookups per leaf) and every symbol has a leaf
(`leafMask_ok`).
-/
namespace NetVerif.Proofs.Lemmas.Huffman
open NetVerif.Model.Huffman
open NetVerif

@[simp] theorem natToBits_length (k v : Nat) : (natToBits k v).length = k := by
  induction k with
  | zero => rfl
  | succ k ih => simp [natToBits, ih]

theorem bitsToNat_append (p q : List Bool) :
    bitsToNat (p ++ q) = bitsToNat p * 2 ^ q.length + bitsToNat q := by
  induction p with
  | nil => simp [bitsToNat]
  | cons b p ih =>
    simp only [List.cons_append, bitsToNat, List.length_append, ih, Nat.pow_add, Nat.add_mul]
    cases b
    · simp
    · simp
      omega

theorem bitsToNat_lt (p : List Bool) : bitsToNat p < 2 ^ p.length := by
  induction p with
  | nil => simp [bitsToNat]
  | cons b p ih =>
    simp only [bitsToNat, List.length_cons, Nat.pow_succ]
    cases b
    · simp
      omega
    · simp
      omega

theorem bitsToNat_natToBits (k v : Nat) : bitsToNat (natToBits k v) = v % 2 ^ k := by
  induction k with
  | zero => simp [natToBits, bitsToNat, Nat.mod_one]
  | succ k ih =>
    simp only [natToBits, bitsToNat, natToBits_length, ih]
    rw [Nat.mod_pow_succ]
    rcases Nat.mod_two_eq_zero_or_one (v / 2 ^ k) with h | h
    · simp [h]
    · simp [h]
      omega

theorem natToBits_mod (k a r : Nat) : natToBits k (a * 2 ^ k + r) = natToBits k r := by
  induction k generalizing a with
  | zero => rfl
  | succ k ih =>
    simp only [natToBits]
    have hp : 0 < 2 ^ k := Nat.two_pow_pos k
    have e : a * 2 ^ (k + 1) + r = r + (a * 2) * 2 ^ k := by
      rw [Nat.pow_succ, Nat.add_comm, Nat.mul_assoc, Nat.mul_comm (2 ^ k) 2]
    congr 1
    · rw [e, Nat.add_mul_div_right _ _ hp, Nat.add_mul_mod_self_right]
    · rw [e, Nat.add_comm]; exact ih (a * 2)

theorem natToBits_bitsToNat (l : List Bool) : natToBits l.length (bitsToNat l) = l := by
  induction l with
  | nil => rfl
  | cons b l ih =>
    have hlt := bitsToNat_lt l
    cases b
    · simp [natToBits, bitsToNat, Nat.div_eq_of_lt hlt, ih]
    · have h := natToBits_mod l.length 1 (bitsToNat l)
      rw [Nat.one_mul] at h
      simp only [List.length_cons, natToBits, bitsToNat, ↓reduceIte, h, ih]
      rw [Nat.add_comm, Nat.add_div_right _ (Nat.two_pow_pos _), Nat.div_eq_of_lt hlt]
      rfl

@[simp] theorem symBits_length (s : Nat) : (symBits s).length = lenOf s := by simp [symBits]

theorem encodeBits_length (s : List Nat) : (encodeBits s).length = bitLen s := by
  induction s with
  | nil => rfl
  | cons c s ih =>
    simp only [encodeBits, List.flatMap_cons, List.length_append, symBits_length, bitLen,
      List.map_cons, List.sum_cons] at *
    omega

theorem bytesToBits_cons (c : Nat) (v : List Nat) : bytesToBits (c :: v) = natToBits 8 c ++ bytesToBits v :=
  List.flatMap_cons

theorem bytesToBits_append (a b : List Nat) : bytesToBits (a ++ b) = bytesToBits a ++ bytesToBits b :=
  List.flatMap_append

theorem bytesToBits_length (v : List Nat) : (bytesToBits v).length = 8 * v.length := by
  induction v with
  | nil => rfl
  | cons c s ih => rw [bytesToBits_cons, List.length_append, natToBits_length, ih, List.length_cons]; omega

/-- The side condition of the second equation of `packBits`. -/
theorem length_lt_8 {bits : List Bool}
    (hne : ∀ b0 b1 b2 b3 b4 b5 b6 b7 rest, bits = b0 :: b1 :: b2 :: b3 :: b4 :: b5 :: b6 :: b7 :: rest → False) :
    bits.length < 8 := by
  match bits, hne with
  | _ :: _ :: _ :: _ :: _ :: _ :: _ :: _ :: _, hne => exact absurd rfl (hne _ _ _ _ _ _ _ _ _)
  | [], _ | [_], _ | [_, _], _ | [_, _, _], _ | [_, _, _, _], _ | [_, _, _, _, _], _ | [_, _, _, _, _, _], _
  | [_, _, _, _, _, _, _], _ => simp

theorem packBits_natToBits (c : Nat) (rest : List Bool) :
    packBits (natToBits 8 c ++ rest) = bitsToNat (natToBits 8 c) :: packBits rest := rfl

theorem packBits_bytesToBits (v : List Nat) (h : ∀ b ∈ v, b < 256) : packBits (bytesToBits v) = v := by
  induction v with
  | nil => rfl
  | cons c v ih =>
    rw [bytesToBits_cons, packBits_natToBits, bitsToNat_natToBits, ih fun b hb => h b (List.mem_cons_of_mem c hb),
      Nat.mod_eq_of_lt (h c List.mem_cons_self)]

theorem bytesToBits_packBits (bits : List Bool) (h : bits.length % 8 = 0) :
    bytesToBits (packBits bits) = bits := by
  fun_induction packBits bits with
  | case1 b0 b1 b2 b3 b4 b5 b6 b7 rest ih =>
    rw [bytesToBits_cons, ih (by simp at h; omega)]
    exact congrArg (· ++ rest) (natToBits_bitsToNat [b0, b1, b2, b3, b4, b5, b6, b7])
  | case2 bits hne =>
    have := length_lt_8 hne
    rw [List.eq_nil_of_length_eq_zero (by omega : bits.length = 0)]
    rfl

theorem packBits_length (bits : List Bool) : (packBits bits).length = bits.length / 8 := by
  fun_induction packBits bits with
  | case1 b0 b1 b2 b3 b4 b5 b6 b7 rest ih => simp [ih]; omega
  | case2 bits hne => have := length_lt_8 hne; simp; omega

theorem packBits_append (d q : List Bool) (h : d.length % 8 = 0) :
    packBits (d ++ q) = packBits d ++ packBits q := by
  fun_induction packBits d with
  | case1 b0 b1 b2 b3 b4 b5 b6 b7 rest ih =>
    simp only [List.cons_append, packBits, ih (by simp at h; omega)]
  | case2 d hne =>
    have := length_lt_8 hne
    rw [List.eq_nil_of_length_eq_zero (by omega : d.length = 0)]
    rfl

theorem packBits_lt (bits : List Bool) : ∀ b ∈ packBits bits, b < 256 := by
  fun_induction packBits bits with
  | case1 b0 b1 b2 b3 b4 b5 b6 b7 rest ih =>
    intro x hx
    rcases List.mem_cons.mp hx with rfl | hx
    · simpa using bitsToNat_lt [b0, b1, b2, b3, b4, b5, b6, b7]
    · exact ih x hx
  | case2 bits hne => intro x hx; cases hx

@[simp] theorem walk_nil (t : Trie) : t.walk [] = t := rfl
@[simp] theorem walk_cons (t : Trie) (b : Bool) (p : List Bool) : t.walk (b :: p) = (t.child b).walk p := rfl

theorem walk_append (t : Trie) (p q : List Bool) : t.walk (p ++ q) = (t.walk p).walk q := by
  induction p generalizing t with
  | nil => rfl
  | cons b p ih => exact ih _

@[simp] theorem child_empty (b : Bool) : Gen.Huffman.Trie.empty.child b = .empty := rfl
@[simp] theorem child_leaf (s : Nat) (b : Bool) : (Gen.Huffman.Trie.leaf s).child b = .empty := rfl

@[simp] theorem walk_empty (p : List Bool) : Gen.Huffman.Trie.empty.walk p = .empty := by
  induction p with
  | nil => rfl
  | cons b p ih => exact ih

theorem walk_leaf_cons (s : Nat) (b : Bool) (p : List Bool) : (Gen.Huffman.Trie.leaf s).walk (b :: p) = .empty := by
  exact walk_empty p

/-- `l` cut into `k` rows of 16. Reading entry `s` of a table through its rows takes the kernel
`s / 16 + s % 16` steps of `nth` instead of `s`; the 512 table lookups dominate the cost of `checkLeaves_ok`. -/
def rows : Nat → List Nat → List (List Nat)
  | 0, _ => []
  | k + 1, l => l.take 16 :: rows k (l.drop 16)

def nthRow : List (List Nat) → Nat → List Nat
  | [], _ => []
  | x :: _, 0 => x
  | _ :: xs, n + 1 => nthRow xs n

theorem nth_eq_getD (l : List Nat) (i : Nat) : nth l i = l.getD i 0 := by
  induction l generalizing i with
  | nil => simp [nth]
  | cons x xs ih => cases i <;> simp [nth, ih]

theorem nth_rows (k : Nat) (l : List Nat) (i j : Nat) (hi : i < k) (hj : j < 16) :
    nth (nthRow (rows k l) i) j = nth l (16 * i + j) := by
  induction k generalizing l i with
  | zero => cases hi
  | succ k ih =>
    cases i with
    | zero => simp [rows, nthRow, nth_eq_getD, hj]
    | succ i =>
      rw [rows, nthRow, ih _ _ (Nat.lt_of_succ_lt_succ hi)]
      simp only [nth_eq_getD, List.getD_eq_getElem?_getD, List.getElem?_drop]
      congr 2
      omega

/-- Every leaf of `t`, reached by a path of `l` bits with value `c`, carries a symbol `< 256` whose entry
in the tables with rows `C`, `L` is `(c, l)`, and `5 ≤ l ≤ 30`. -/
def checkLeaves (C L : List (List Nat)) : Trie → Nat → Nat → Bool
  | .empty, _, _ => true
  | .leaf s, c, l => decide (s < 256) && nth (nthRow C (s / 16)) (s % 16) == c &&
      nth (nthRow L (s / 16)) (s % 16) == l && decide (5 ≤ l) && decide (l ≤ 30)
  | .node z o, c, l => checkLeaves C L z (2 * c) (l + 1) && checkLeaves C L o (2 * c + 1) (l + 1)

def leafMask : Trie → Nat
  | .empty => 0
  | .leaf s => 2 ^ s
  | .node z o => leafMask z ||| leafMask o

def isLeaf : Trie → Bool
  | .leaf _ => true
  | _ => false

theorem checkLeaves_ok :
    checkLeaves (rows 16 Gen.Huffman.codes) (rows 16 Gen.Huffman.lens) trie 0 0 = true := by decide +kernel
theorem leafMask_ok : leafMask trie = 2 ^ 256 - 1 := by decide +kernel
theorem walk_ones_isNode : ∀ j < 30, (trie.walk (List.replicate j true)).isNode = true := by decide +kernel
theorem walk_ones_30 : trie.walk (List.replicate 30 true) = .empty := by decide +kernel
theorem eos_consts : Gen.Huffman.eosCode = 2 ^ 30 - 1 ∧ Gen.Huffman.eosNBits = 30 ∧
    Gen.Huffman.eosPadByte = 255 := by decide +kernel
theorem trie_isNode : trie.isNode = true := by decide +kernel

theorem checkLeaves_walk {C L : List (List Nat)} {t : Trie} {c l : Nat} {p : List Bool} {s : Nat}
    (hc : checkLeaves C L t c l = true) (hw : t.walk p = .leaf s) :
    s < 256 ∧ nth (nthRow C (s / 16)) (s % 16) = c * 2 ^ p.length + bitsToNat p ∧
      nth (nthRow L (s / 16)) (s % 16) = l + p.length ∧ 5 ≤ l + p.length ∧ l + p.length ≤ 30 := by
  induction p generalizing t c l with
  | nil =>
    subst hw
    simpa [checkLeaves, bitsToNat, and_assoc] using hc
  | cons b p ih =>
    cases t with
    | empty => simp at hw
    | leaf s' => simp at hw
    | node z o =>
      simp only [checkLeaves, Bool.and_eq_true] at hc
      have e : ∀ x : Nat, c * 2 ^ (p.length + 1) + x = 2 * c * 2 ^ p.length + x := by
        intro x; rw [Nat.pow_succ, Nat.mul_comm 2 c, Nat.mul_assoc, Nat.mul_comm 2]
      simp only [bitsToNat, List.length_cons, e]
      cases b with
      | false => have := ih hc.1 hw; simp only [Bool.false_eq_true, ↓reduceIte]; omega
      | true =>
        have := ih hc.2 hw
        rw [Nat.add_mul, Nat.one_mul] at this
        simp only [↓reduceIte]
        omega

theorem walk_leaf {p : List Bool} {s : Nat} (h : trie.walk p = .leaf s) :
    s < 256 ∧ codeOf s = bitsToNat p ∧ lenOf s = p.length ∧ 5 ≤ p.length ∧ p.length ≤ 30 := by
  obtain ⟨hs, hc, hl, hb⟩ := checkLeaves_walk checkLeaves_ok h
  have e : 16 * (s / 16) + s % 16 = s := Nat.div_add_mod s 16
  rw [nth_rows _ _ _ _ (by omega) (Nat.mod_lt _ (by decide)), e] at hc hl
  simpa [codeOf, lenOf, hc, hl] using And.intro hs hb

theorem walk_leaf_unique (p : List Bool) (s : Nat) (h : trie.walk p = .leaf s) :
    s < 256 ∧ symBits s = p := by
  obtain ⟨hs, hc, hl, -⟩ := walk_leaf h
  rw [symBits, hc, hl]
  exact ⟨hs, natToBits_bitsToNat p⟩

theorem leafMask_walk {t : Trie} {s : Nat} (h : (leafMask t).testBit s = true) : ∃ p, t.walk p = .leaf s := by
  induction t with
  | empty => simp [leafMask] at h
  | leaf s' =>
    have : s' = s := by simpa [leafMask, Nat.testBit_two_pow] using h
    exact ⟨[], congrArg _ this⟩
  | node z o ihz iho =>
    rw [leafMask, Nat.testBit_or, Bool.or_eq_true] at h
    rcases h with h | h
    · obtain ⟨p, hp⟩ := ihz h; exact ⟨false :: p, hp⟩
    · obtain ⟨p, hp⟩ := iho h; exact ⟨true :: p, hp⟩

theorem exists_walk_leaf (s : Nat) (h : s < 256) : ∃ p, trie.walk p = .leaf s :=
  leafMask_walk (by rw [leafMask_ok, Nat.testBit_two_pow_sub_one]; exact decide_eq_true h)

theorem walk_symBits (s : Nat) (h : s < 256) : trie.walk (symBits s) = .leaf s := by
  obtain ⟨p, hp⟩ := exists_walk_leaf s h
  rw [(walk_leaf_unique p s hp).2]
  exact hp

theorem code_lt (s : Nat) (h : s < 256) : codeOf s < 2 ^ lenOf s ∧ 5 ≤ lenOf s ∧ lenOf s ≤ 30 := by
  obtain ⟨p, hp⟩ := exists_walk_leaf s h
  obtain ⟨-, hc, hl, hb⟩ := walk_leaf hp
  rw [hc, hl]
  exact ⟨bitsToNat_lt p, hb⟩

theorem prefix_free (a b : Nat) (ha : a < 256) (hb : b < 256) (q : List Bool)
    (h : symBits b = symBits a ++ q) : a = b := by
  have hwb := walk_symBits b hb
  rw [h, walk_append, walk_symBits a ha] at hwb
  cases q with
  | nil => exact Gen.Huffman.Trie.leaf.inj hwb
  | cons x q => simp at hwb

end NetVerif.Proofs.Lemmas.Huffman
