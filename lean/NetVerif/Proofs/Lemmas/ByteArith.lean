/-! Arithmetic of byte strings read as numbers, shared by the codecs (QUIC varints and packet numbers,
HPACK and QPACK prefixed integers, ICMP and IP headers, control messages, WebSocket masking), and of bit
fields read and written with masks (BPF opcodes). -/
namespace NetVerif.Proofs.Lemmas

/-- Splitting off the byte above `a` (`Nat.mod_mul`).  Rewriting with it digit by digit proves that the
big- or little-endian bytes of `v` sum to `v % 256^k`; `omega` on a four- or eight-byte sum is very slow. -/
theorem be_step (v a : Nat) : v / a % 256 * a + v % a = v % (a * 256) := by
  rw [Nat.mod_mul, Nat.mul_comm, Nat.add_comm]

theorem xor_cancel (a b : Nat) : (a ^^^ b) ^^^ b = a := by
  rw [Nat.xor_assoc, Nat.xor_self, Nat.xor_zero]

/-- A value below `M` on top of a multiple of `M` (a prefix-coded integer under its flag bits): `%` gives
the value back, `/` the flags. -/
theorem prefix_bits {first M u : Nat} (hf : first % M = 0) (hu : u < M) :
    (first + u) % M = u ∧ (first + u) / M = first / M := by
  obtain ⟨q, rfl⟩ := Nat.dvd_of_mod_eq_zero hf
  have hM : 0 < M := by omega
  rw [Nat.mul_add_mod, Nat.mul_add_div hM, Nat.mul_div_cancel_left q hM, Nat.mod_eq_of_lt hu,
    Nat.div_eq_of_lt hu]
  exact ⟨rfl, rfl⟩

/-- One base-128 digit of a little-endian integer: the low 7 bits at weight `m`, the rest at `m * 128`. -/
theorem digit128 (x v m : Nat) : x + v % 128 * m + v / 128 * (m * 128) = x + v * m := by
  rw [Nat.add_assoc, Nat.mul_comm m, ← Nat.mul_assoc, ← Nat.add_mul, Nat.mod_add_div']

/-- Reading a bit field: `x &&& mask` for the mask of `j` bits at position `k` is a div/mod expression,
so that `omega` can reason about the field. -/
theorem and_shifted_mask (x j k : Nat) : x &&& ((2^j - 1) * 2^k) = x / 2^k % 2^j * 2^k := by
  have h1 : (x &&& ((2^j - 1) * 2^k)) % 2^k = 0 := by
    rw [Nat.and_mod_two_pow, Nat.mul_mod_left, Nat.and_zero]
  have h2 : (x &&& ((2^j - 1) * 2^k)) / 2^k = x / 2^k % 2^j := by
    rw [Nat.and_div_two_pow, Nat.mul_div_cancel _ (Nat.two_pow_pos k), Nat.and_two_pow_sub_one_eq_mod]
  have := Nat.div_add_mod (x &&& ((2^j - 1) * 2^k)) (2^k)
  rw [h1, h2] at this
  rw [← this]; simp [Nat.mul_comm]

/-- A single-bit mask (`j = 1`). -/
theorem and_two_pow (n i : Nat) : n &&& 2 ^ i = if n / 2 ^ i % 2 = 1 then 2 ^ i else 0 := by
  have h := and_shifted_mask n 1 i
  rw [show (2 ^ 1 - 1) * 2 ^ i = 2 ^ i from Nat.one_mul _, Nat.pow_one] at h
  rw [h]
  split
  · rename_i h1; rw [h1, Nat.one_mul]
  · rw [show n / 2 ^ i % 2 = 0 by omega, Nat.zero_mul]

/-- Writing bit fields: `|||` of a value below `2^k` and one with no bit below `2^k` is their sum. -/
theorem or_eq_add_of_disjoint (a b k : Nat) (ha : a < 2^k) (hb : b % 2^k = 0) : a ||| b = a + b := by
  obtain ⟨q, rfl⟩ : ∃ q, b = 2^k * q := ⟨b / 2^k, by have := Nat.div_add_mod b (2^k); omega⟩
  rw [Nat.or_comm, Nat.add_comm]
  exact (Nat.two_pow_add_eq_or_of_lt ha q).symm

end NetVerif.Proofs.Lemmas
