import NetVerif.Proofs.Lemmas.HtmlTokExact
/-!
One walk through the exact tokenizer model: the byte-level helpers, raw text, script data, comments and
markup declarations here (tags: `HtmlTokNext`; `Next`: `HtmlTokFinal`).
-/
namespace NetVerif.Proofs.Lemmas.HtmlTokMaxBuf
open NetVerif.Model.HtmlTokExact NetVerif.Proofs.Lemmas.HtmlTokExact

/-- raw-text bookkeeping fields untouched by the byte-level helpers -/
def rt (z : Z) : List Nat × Nat := (z.rawTag, z.dataStart)

theorem rt_blind : Blind rt := fun _ _ _ _ => rfl

@[simp, grind =] theorem rt_outOfFuel (z : Z) : rt (outOfFuel z) = rt z := rfl

@[simp, grind =] theorem rt_skipWSLoop (f : Nat) (z : Z) : rt (skipWSLoop f z) = rt z :=
  blind_skipWSLoop rt_blind f z

theorem rawTag_of_rt {z z' : Z} (h : rt z' = rt z) : z'.rawTag = z.rawTag := congrArg Prod.fst h
theorem dataStart_of_rt {z z' : Z} (h : rt z' = rt z) : z'.dataStart = z.dataStart := congrArg Prod.snd h

/-- The MaxBuf invariant, `raw.end - raw.start ≤ maxBuf` (`le`), `< maxBuf` while no error is pending
(`lt`), with what keeping it needs: the reader ends with io.EOF or another error, never with
ErrBufferExceeded (`fe`: so the error `readByte` sets at the end of the input is not that one), an error
other than ErrBufferExceeded is pending only at the end of the input (`fin`), and ErrBufferExceeded only
in a non-empty token (`exc`: `readByte` sets it after moving the cursor over a byte; so a raw-text attempt
that produced no text does not end with it, `safe_of_no_text`). -/
structure MB (z : Z) : Prop where
  fe : z.finalErr = .eof ∨ z.finalErr = .other
  lt : z.maxBuf > 0 → z.err = .none → z.rawEnd - z.rawStart < z.maxBuf
  le : z.maxBuf > 0 → z.rawEnd - z.rawStart ≤ z.maxBuf
  fin : z.err ≠ .none → z.err ≠ .exceeded → z.rawEnd ≥ z.inp.size
  exc : z.err = .exceeded → z.rawStart < z.rawEnd

def rem (z : Z) : Nat := z.inp.size - z.rawEnd

/-- what `MB` and `Step` look at -/
def core (z : Z) : (Nat × Array Nat × Nat × Err × Bool) × Nat × Err × Bool :=
  (fr z, z.rawEnd, z.err, z.fuelOut)

theorem MB.congr {z z' : Z} (hz : MB z) (h : core z' = core z) : MB z' := by
  simp only [core, fr, Prod.mk.injEq] at h
  obtain ⟨⟨a, b, c, d, -⟩, e, f, -⟩ := h
  obtain ⟨h1, h2, h3, h4, h5⟩ := hz
  constructor <;> simp only [a, b, c, d, e, f] <;> assumption

/-- A function entered in `z` and left in `r` kept the frame, did not run out of fuel, left the cursor at
or above `lo` (the backups of the Go code never cross the start of the token; `lo = z.rawEnd`: it only
moved forward) and inside the input. These need nothing of `z` but `Live z`, which every lemma assumes.
`mb`: entered under `P` (no error pending; `True` for a function that tests `z.err` first) with `MB z`,
it left `MB r`. -/
structure Step (P : Prop) (lo : Nat) (z r : Z) : Prop where
  frame : fr r = fr z
  fo : r.fuelOut = z.fuelOut
  lo : lo ≤ r.rawEnd
  hi : z.rawEnd ≤ z.inp.size → r.rawEnd ≤ z.inp.size
  mb : P → MB z → MB r

theorem inp_of_fr {z r : Z} (h : fr r = fr z) : r.inp = z.inp := congrArg (·.2.1) h
theorem rawStart_of_fr {z r : Z} (h : fr r = fr z) : r.rawStart = z.rawStart := congrArg (·.1) h
theorem maxBuf_of_fr {z r : Z} (h : fr r = fr z) : r.maxBuf = z.maxBuf := congrArg (·.2.2.1) h
theorem finalErr_of_fr {z r : Z} (h : fr r = fr z) : r.finalErr = z.finalErr := congrArg (·.2.2.2.1) h

/-- the reader reports an error after the last byte (else a loop at the end of the input would spin) -/
abbrev Live (z : Z) : Prop := z.finalErr ≠ .none

namespace Step
variable {P Q : Prop} {lo lo' : Nat}

theorem live {z r : Z} (h : Step P lo z r) (hl : Live z) : Live r :=
  fun e => hl ((finalErr_of_fr h.frame).symm.trans e)

theorem refl {z : Z} : Step P z.rawEnd z z := ⟨rfl, rfl, Nat.le_refl _, id, fun _ => id⟩

theorem trans' {a b c : Z} (h1 : Step P lo a b) (h2 : Step Q lo' b c) (hl : lo ≤ lo') (q : P → MB b → Q) : Step P lo a c :=
  ⟨h2.frame.trans h1.frame, h2.fo.trans h1.fo, Nat.le_trans hl h2.lo,
    fun h => inp_of_fr h1.frame ▸ h2.hi (inp_of_fr h1.frame ▸ h1.hi h), fun p m => h2.mb (q p (h1.mb p m)) (h1.mb p m)⟩

theorem trans {a b c : Z} (h1 : Step P lo a b) (h2 : Step Q lo' b c) (hl : lo ≤ lo') (q : P → Q) : Step P lo a c :=
  h1.trans' h2 hl fun p _ => q p

theorem mono {z r : Z} (h : Step Q lo z r) (i : P → Q) : Step P lo z r := ⟨h.frame, h.fo, h.lo, h.hi, fun p => h.mb (i p)⟩

theorem of {z r : Z} (h : Step Q lo z r) (q : Q) : Step P lo z r := h.mono fun _ => q

/-- both parts bounded below by the start of the token, which the frame keeps -/
theorem span {a b c : Z} (h1 : Step P a.rawStart a b) (h2 : Step Q b.rawStart b c) (q : Q) : Step P a.rawStart a c :=
  h1.trans h2 (Nat.le_of_eq (rawStart_of_fr h1.frame).symm) fun _ => q

/-- the second part only moves forward from where the first ended: the bound of the first stands -/
theorem step {a b c : Z} (h1 : Step P lo a b) (h2 : Step Q b.rawEnd b c) (q : Q) : Step P lo a c :=
  h1.trans h2 h1.lo fun _ => q

theorem weaken {z r : Z} (h : Step P lo z r) (hl : lo' ≤ lo) : Step P lo' z r :=
  ⟨h.frame, h.fo, Nat.le_trans hl h.lo, h.hi, h.mb⟩

theorem ite {c : Prop} [Decidable c] {z a b : Z} (ha : c → Step P lo z a) (hb : ¬c → Step P lo z b) :
    Step P lo z (if c then a else b) := ite_ind (Step P lo z) ha hb

theorem congr {z r r' : Z} (h : Step P lo z r) (e : core r' = core r) : Step P lo z r' := by
  have hm := fun p m => (h.mb p m).congr e
  simp only [core, Prod.mk.injEq] at e
  obtain ⟨efr, eend, -, efo⟩ := e
  exact ⟨efr.trans h.frame, efo.trans h.fo, eend ▸ h.lo, fun hz => eend ▸ h.hi hz, hm⟩

theorem congr_left {z z' r : Z} (h : Step P lo z' r) (e : core z' = core z) : Step P lo z r := by
  have hm := fun p (m : MB z) => h.mb p (m.congr e)
  simp only [core, Prod.mk.injEq] at e
  obtain ⟨efr, eend, -, efo⟩ := e
  exact ⟨h.frame.trans efr, h.fo.trans efo, h.lo, fun hz => inp_of_fr efr ▸ h.hi (by rw [eend, inp_of_fr efr]; exact hz), hm⟩

theorem rem_le {z r : Z} (h : Step P z.rawEnd z r) : rem r ≤ rem z := by
  have := h.lo
  unfold rem; rw [inp_of_fr h.frame]; omega

end Step

theorem mb_unread (z : Z) (k : Nat) (h : MB z) (he : z.err = .none) : MB (unread z k) := by
  obtain ⟨h1, h2, h3, h4, h5⟩ := h
  refine ⟨h1, fun hm _ => ?_, fun hm => ?_, fun hn => absurd he hn, fun hx => absurd (he.symm.trans hx) nofun⟩
  · have := h2 hm he; simp only [unread]; omega
  · have := h3 hm; simp only [unread]; omega

theorem Step.unread {P : Prop} {lo lo' : Nat} {z r : Z} (h : Step P lo z r) (he : P → r.err = .none) (k : Nat)
    (hl : lo' ≤ r.rawEnd - k) : Step P lo' z (unread r k) :=
  ⟨h.frame, h.fo, hl, fun hz => Nat.le_trans (Nat.sub_le _ _) (h.hi hz), fun p m => mb_unread r k (h.mb p m) (he p)⟩

/-- `readByte` may be called: no error pending, or nothing left to read. -/
def Safe (z : Z) : Prop := z.err = .none ∨ z.rawEnd ≥ z.inp.size

theorem read_step (z : Z) : Step (Safe z) z.rawEnd z (readByte z).2 := by
  unfold readByte
  split
  · rename_i hge
    refine ⟨rfl, rfl, Nat.le_refl _, id, fun _ ⟨h1, h2, h3, h4, h5⟩ => ?_⟩
    have hfe : z.finalErr ≠ .none ∧ z.finalErr ≠ .exceeded := by
      rcases h1 with e | e <;> rw [e] <;> exact ⟨nofun, nofun⟩
    exact ⟨h1, fun _ e => absurd e hfe.1, h3, fun _ _ => hge, fun e => absurd e hfe.2⟩
  · rename_i hlt
    simp only [apply_ite Prod.snd]
    split
    · rename_i hx
      refine ⟨rfl, rfl, Nat.le_succ _, fun _ => ?_, fun hs ⟨h1, h2, h3, h4, h5⟩ => ?_⟩
      · simp only []; omega
      have := h2 hx.1 (hs.resolve_right hlt)
      refine ⟨h1, fun _ e => (nomatch e), fun (hm : z.maxBuf > 0) => ?_, fun _ e => absurd rfl e, fun _ => ?_⟩
      all_goals simp only []; omega
    · rename_i hx
      refine ⟨rfl, rfl, Nat.le_succ _, fun _ => ?_, fun hs ⟨h1, h2, h3, h4, h5⟩ => ?_⟩
      · simp only []; omega
      have he : z.err = .none := hs.resolve_right hlt
      refine ⟨h1, fun (hm : z.maxBuf > 0) _ => ?_, fun (hm : z.maxBuf > 0) => ?_,
        fun e => absurd he e, fun e => (nomatch he.symm.trans e)⟩
      all_goals simp only []; omega

theorem read_clean (z : Z) : Step (z.err = .none) z.rawEnd z (readByte z).2 := (read_step z).mono .inl

theorem mb_readByte (z : Z) (h : MB z) (hs : z.err = .none ∨ z.rawEnd ≥ z.inp.size) : MB (readByte z).2 :=
  (read_step z).mb hs h

/-- the byte `readByte` would deliver without setting an error (looks at the cursor and the frame only,
so updates of other fields do not change it) -/
def peek (z : Z) : Option Nat :=
  if z.rawEnd ≥ z.inp.size then none
  else if z.maxBuf > 0 ∧ z.rawEnd + 1 - z.rawStart ≥ z.maxBuf then none
  else some (z.inp.getD z.rawEnd 0)

theorem readByte_of_peek (z : Z) (c : Nat) (h : peek z = some c) :
    readByte z = (c, { z with rawEnd := z.rawEnd + 1 }) ∧ z.rawEnd < z.inp.size ∧ c = z.inp.getD z.rawEnd 0 := by
  unfold peek at h
  unfold readByte
  split at h
  · cases h
  · rename_i h1
    split at h
    · cases h
    · rename_i h2
      cases h
      exact ⟨by simp only [h1, if_false, h2], by omega, rfl⟩

theorem peek_of_ok (z : Z) (h : Live z) (hok : (readByte z).2.err = .none) : peek z = some (readByte z).1 := by
  unfold peek
  unfold readByte at hok ⊢
  split
  · rename_i h1
    rw [if_pos h1] at hok
    exact absurd hok h
  · rename_i h1
    rw [if_neg h1] at hok
    simp only [] at hok ⊢
    split
    · rename_i h2; rw [if_pos h2] at hok; cases hok
    · rfl

theorem read_rawEnd (z : Z) (h : Live z) (hok : (readByte z).2.err = .none) :
    (readByte z).2.rawEnd = z.rawEnd + 1 := by
  rw [(readByte_of_peek z _ (peek_of_ok z h hok)).1]

theorem rem_read (z : Z) (h : Live z) (hok : (readByte z).2.err = .none) : rem (readByte z).2 + 1 = rem z := by
  obtain ⟨h1, h2, -⟩ := readByte_of_peek z _ (peek_of_ok z h hok)
  rw [h1]; unfold rem; simp only []; omega

theorem unread_read (z : Z) (h : Live z) (hok : (readByte z).2.err = .none) : unread (readByte z).2 = z := by
  rw [(readByte_of_peek z _ (peek_of_ok z h hok)).1]
  cases z
  simp [unread]

theorem err_read (z : Z) (h : Live z) (hok : (readByte z).2.err = .none) : z.err = .none := by
  rw [← unread_read z h hok]; exact hok

/-- the opening of the one-byte loops: return the read state on an error, else go on with one byte less -/
theorem Step.read {z a b : Z} (h : Live z) (hb : core b = core (readByte z).2)
    (ha : Step (z.err = .none) z.rawEnd z (readByte z).2 → (readByte z).2.err = .none → Live (readByte z).2 →
      rem (readByte z).2 + 1 = rem z → Step (z.err = .none) z.rawEnd z a) :
    Step (z.err = .none) z.rawEnd z (if (readByte z).2.err = .none then a else b) :=
  .ite (fun e => ha (read_clean z) e ((read_clean z).live h) (rem_read z h e)) fun _ => (read_clean z).congr hb

@[grind =] theorem err_outOfFuel (z : Z) : (outOfFuel z).err = z.err := rfl

theorem of_not_ne {e : Err} (h : ¬ e ≠ .none) : e = .none := Decidable.not_not.mp h

theorem rem_lt (z : Z) : rem z < z.inp.size + 2 := by unfold rem; omega

theorem skipWSLoop_step (f : Nat) (z : Z) (h : Live z) (hf : rem z < f) :
    Step (z.err = .none) z.rawEnd z (skipWSLoop f z) := by
  induction f generalizing z with
  | zero => omega
  | succ f ih =>
    simp only [skipWSLoop, ne_eq, ite_not]
    refine .read h rfl fun hr e l q => ?_
    refine .ite (fun _ => hr.step (ih _ l (by omega)) e) fun _ => ?_
    rw [unread_read z h e]; exact Step.refl

theorem skipWhiteSpace_step (z : Z) (h : Live z) : Step True z.rawEnd z (skipWhiteSpace z) :=
  .ite (fun _ => Step.refl) fun e => (skipWSLoop_step _ z h (rem_lt z)).of (of_not_ne e)

theorem matchRawTag_step (t : List Nat) (z : Z) (h : Live z) :
    Step (z.err = .none) z.rawEnd z (matchRawTag t z).2 ∧
    (∀ v, (matchRawTag t z).1 = some v →
      (matchRawTag t z).2.err = z.err ∧ (matchRawTag t z).2.rawEnd = z.rawEnd + t.length) := by
  induction t generalizing z with
  | nil => exact ⟨Step.refl, fun _ _ => ⟨rfl, rfl⟩⟩
  | cons t ts ih =>
    have hr := read_clean z
    have ite := @ite_ind _ (fun r : Option Z × Z => Step (z.err = .none) z.rawEnd z r.2 ∧
      ∀ v, r.1 = some v → r.2.err = z.err ∧ r.2.rawEnd = z.rawEnd + (t :: ts).length)
    simp only [matchRawTag, ne_eq, ite_not]
    refine ite (fun e => ?_) fun _ => ⟨by simp only []; exact hr, fun _ hv => absurd hv.symm (Option.some_ne_none _)⟩
    refine ite (fun _ => ?_) fun _ => ?_
    · rw [unread_read z h e]; exact ⟨Step.refl, fun _ hv => absurd hv.symm (Option.some_ne_none _)⟩
    · obtain ⟨i1, i2⟩ := ih _ (hr.live h)
      refine ⟨hr.step i1 e, fun v hv => ?_⟩
      obtain ⟨a, b⟩ := i2 v hv
      exact ⟨a.trans (e.trans (err_read z h e).symm), by rw [b, read_rawEnd z h e, List.length_cons]; omega⟩

/-- on success `z1` is the state after `</rawTag` and one more byte, before backing up over all of it -/
theorem readRawEndTag_step (z : Z) (h : Live z) :
    ((readRawEndTag z).1 = false → Step (z.err = .none) z.rawEnd z (readRawEndTag z).2) ∧
    ((readRawEndTag z).1 = true → ∃ z1, Step (z.err = .none) z.rawEnd z z1 ∧ z1.err = .none ∧ rt z1 = rt z ∧
      z1.rawEnd = z.rawEnd + z.rawTag.length + 1 ∧ (readRawEndTag z).2 = unread z1 (3 + z.rawTag.length)) := by
  obtain ⟨hm, hs⟩ := matchRawTag_step z.rawTag z h
  have hrt := blind_matchRawTag rt_blind z.rawTag z
  unfold readRawEndTag
  split
  · rename_i z1 heq
    rw [heq] at hm
    exact ⟨fun _ => hm, Bool.noConfusion⟩
  · rename_i v z1 heq
    rw [heq] at hm hs hrt
    obtain ⟨e1, p1⟩ := hs v rfl
    have l1 := hm.live h
    have hr := hm.trans (read_clean z1) hm.lo e1.trans
    have hrt2 := (blind_readByte rt_blind z1).trans hrt
    simp only [ne_eq, ite_not]
    split
    · rename_i e
      split
      · refine ⟨Bool.noConfusion, fun _ => ⟨_, hr, e, hrt2, by rw [read_rawEnd z1 l1 e, p1], ?_⟩⟩
        rw [rawTag_of_rt hrt2]
      · rw [unread_read z1 l1 e]; exact ⟨fun _ => hm, Bool.noConfusion⟩
    · exact ⟨fun _ => hr, Bool.noConfusion⟩

theorem matchScript_step (w : List (Nat × Nat)) (z : Z) (h : Live z) :
    Step (z.err = .none) z.rawEnd z (matchScript w z).2 ∧ ((matchScript w z).1 ≠ 0 → (matchScript w z).2.err = z.err) := by
  induction w generalizing z with
  | nil => exact ⟨Step.refl, fun _ => rfl⟩
  | cons w ws ih =>
    obtain ⟨lo, up⟩ := w
    have hr := read_clean z
    simp only [matchScript, ne_eq, ite_not]
    split
    · rename_i e
      split
      · rw [unread_read z h e]; exact ⟨Step.refl, fun _ => rfl⟩
      · obtain ⟨i1, i2⟩ := ih _ (hr.live h)
        exact ⟨hr.step i1 e, fun n => (i2 n).trans (e.trans (err_read z h e).symm)⟩
    · exact ⟨hr, fun hne => absurd rfl hne⟩

/-- how many bytes of the current token a script-data state has certainly consumed -/
def need : SS → Nat
  | .endTagOpen | .escEndTagOpen | .dblEscEnd => 2
  | .lt | .escLt | .dblEscLt | .dblEscStart => 1
  | _ => 0

/-- fuel: the potential `8·rem + rank` strictly decreases on every transition. A transition that reads
no byte goes to a state of lower rank; one that reads a byte may raise the rank, by less than the 8 the
byte is worth; `dblEscStart` first un-reads a byte (8) and must still decrease (+1), whence its 9. -/
def rank : SS → Nat
  | .data | .esc | .dblEsc => 0
  | .dblEscStart => 9
  | .escLt => 2
  | _ => 1

/-- `z.raw.end += len("</script>")` after a successful `readRawEndTag` goes back to where the reads ended -/
theorem unread_add (z : Z) (k : Nat) (hk : k ≤ z.rawEnd) :
    ({ unread z k with rawEnd := (unread z k).rawEnd + k } : Z) = z := by
  cases z
  simp only [unread, Z.mk.injEq, and_true, true_and]
  simp only [] at hk
  omega

theorem scriptLoop_step (f : Nat) (st : SS) (z : Z) (h : Live z) (hl : z.rawTag.length = 6)
    (hn : z.rawStart + need st ≤ z.rawEnd) (hf : 8 * rem z + rank st < f) :
    Step (z.err = .none) z.rawStart z (scriptLoop f st z) := by
  induction f generalizing st z with
  | zero => omega
  | succ f ih =>
    have hs : z.rawStart ≤ z.rawEnd := by omega
    have hr := read_clean z
    have hrt := rawTag_of_rt (blind_readByte rt_blind z)
    have hre := readRawEndTag_step z h
    have hrert := rawTag_of_rt (blind_readRawEndTag rt_blind z)
    have step : ∀ st', need st' ≤ need st + 1 → rank st' < rank st + 8 → (readByte z).2.err = .none →
        Step (z.err = .none) z.rawStart z (scriptLoop f st' (readByte z).2) := by
      intro st' hle hrk e
      have hp := read_rawEnd z h e
      have hq := rem_read z h e
      exact (hr.weaken hs).span (ih st' _ (hr.live h) (hrt ▸ hl) (by rw [rawStart_of_fr hr.frame, hp]; omega) (by omega)) e
    have stepU : ∀ st', need st' = 0 → rank st' < rank st → (readByte z).2.err = .none →
        Step (z.err = .none) z.rawStart z (scriptLoop f st' (unread (readByte z).2)) := by
      intro st' hle hrk e
      rw [unread_read z h e]
      exact ih st' z h hl (by omega) (by omega)
    have stepE : ∀ st', need st' = 0 → rank st' < rank st → (readRawEndTag z).1 = false →
        (readRawEndTag z).2.err = .none → Step (z.err = .none) z.rawStart z (scriptLoop f st' (readRawEndTag z).2) := by
      intro st' hle hrk hfalse e
      have hm := hre.1 hfalse
      have := hm.rem_le
      have := hm.lo
      exact (hm.weaken hs).span (ih st' _ (hm.live h) (hrert ▸ hl) (by rw [rawStart_of_fr hm.frame, hle]; omega) (by omega)) e
    have endTrue : need st = 2 → (readRawEndTag z).1 = true → Step (z.err = .none) z.rawStart z (readRawEndTag z).2 := by
      intro h2 ht
      obtain ⟨z1, s1, e1, -, p1, q1⟩ := hre.2 ht
      rw [q1]
      exact s1.unread (fun _ => e1) _ (by omega)
    cases st <;> simp only [scriptLoop, ne_eq, ite_not]
    case endTagOpen | escEndTagOpen =>
      cases hb : (readRawEndTag z).1 with
      | true => simp only [true_or, if_true]; exact endTrue rfl hb
      | false =>
        simp only [Bool.false_eq_true, false_or, ite_not]
        exact .ite (stepE _ rfl (by decide) hb) fun _ => (hre.1 hb).weaken hs
    case dblEscEnd =>
      cases hb : (readRawEndTag z).1 with
      | true =>
        simp only [if_true]
        obtain ⟨z1, s1, e1, r1, p1, q1⟩ := hre.2 hb
        simp only [need] at hn
        have := s1.rem_le
        rw [q1, hl, show 3 + 6 = 9 from rfl, unread_add z1 9 (by omega)]
        exact (s1.weaken hs).span (ih _ _ (s1.live h) (rawTag_of_rt r1 ▸ hl)
          (by rw [rawStart_of_fr s1.frame]; simp only [need]; omega) (by simp only [rank] at hf ⊢; omega)) e1
      | false =>
        simp only [Bool.false_eq_true, if_false]
        exact .ite (stepE _ rfl (by decide) hb) fun _ => (hre.1 hb).weaken hs
    case dblEscStart =>
      simp only [need] at hn
      simp only [rank] at hf
      have hu : Step (z.err = .none) z.rawStart z (unread z) := Step.refl.unread id 1 (by omega)
      obtain ⟨hms, hmse⟩ := matchScript_step scriptWord (unread z) (hu.live h)
      have hmsrt := rawTag_of_rt (blind_matchScript rt_blind scriptWord (unread z))
      have hq := hms.rem_le
      have hq' : rem (unread z) ≤ rem z + 1 := by unfold rem unread; simp only []; omega
      replace hms := hu.trans hms hu.lo id
      have cont : ∀ st' z1, need st' = 0 → rank st' = 0 → Step (z.err = .none) z.rawStart z z1 → (z.err = .none → z1.err = .none) →
          z1.rawTag = z.rawTag → rem z1 ≤ rem z + 1 → Step (z.err = .none) z.rawStart z (scriptLoop f st' z1) := by
        intro st' z1 hn' hr' s1 e1 t1 q1
        have := s1.lo
        exact s1.trans (ih st' z1 (s1.live h) (t1 ▸ hl) (by rw [rawStart_of_fr s1.frame, hn']; omega) (by omega))
          (Nat.le_of_eq (rawStart_of_fr s1.frame).symm) e1
      split
      · rename_i z1 heq; rw [heq] at hms; exact hms
      · rename_i z1 heq
        rw [heq] at hms hmse hmsrt hq
        simp only [] at hq
        exact cont _ z1 rfl rfl hms (hmse Nat.one_ne_zero).trans hmsrt (by omega)
      · rename_i c z1 hne0 _ heq
        rw [heq] at hms hmse hmsrt hq
        simp only [] at hms hmse hmsrt hq
        have e1 := hmse hne0
        have hr1 := hms.trans (read_clean z1) hms.lo e1.trans
        refine .ite (fun e => ?_) fun _ => hr1
        have hq1 := rem_read z1 (hms.live h) e
        refine .ite (fun _ => ?_) fun _ => ?_
        · exact cont _ _ rfl rfl hr1 (fun _ => e) ((rawTag_of_rt (blind_readByte rt_blind z1)).trans hmsrt) (by omega)
        · rw [unread_read z1 (hms.live h) e]
          exact cont _ z1 rfl rfl hms e1.trans hmsrt (by omega)
    -- The other states read one byte and, if that set no error, go through one `if` per transition: each
    -- branch is `step` to the state it names, the two `decide`s being the conditions on `need` and `rank`
    -- for that pair of states. The last branch of these five un-reads (`stepU`), that of the rest is a `step`.
    case lt | escStart | escStartDash | escLt | dblEscLt =>
      refine .ite (fun e => ?_) fun _ => hr.weaken hs
      repeat' refine .ite (fun _ => step _ (by decide) (by decide) e) fun _ => ?_
      exact stepU _ rfl (by decide) e
    all_goals
      refine .ite (fun e => ?_) fun _ => hr.weaken hs
      repeat' refine .ite (fun _ => step _ (by decide) (by decide) e) fun _ => ?_
      exact step _ (by decide) (by decide) e

theorem readScript_step (z : Z) (h : Live z) (hs : z.rawStart ≤ z.rawEnd)
    (hl : z.rawTag = scriptTag) : Step (z.err = .none) z.rawStart z (readScript z) := by
  unfold readScript
  have := rem_lt z
  have hsl := scriptLoop_step (8 * (z.inp.size + 2)) .data z h (by rw [hl]; rfl) hs (by simp only [rank]; omega)
  generalize scriptLoop (8 * (z.inp.size + 2)) .data z = r at hsl ⊢
  exact hsl.congr rfl

theorem rawLoop_step (f : Nat) (z : Z) (h : Live z) (hs : z.rawStart ≤ z.rawEnd)
    (hf : rem z < f) : Step (z.err = .none) z.rawStart z (rawLoop f z) := by
  induction f generalizing z with
  | zero => omega
  | succ f ih =>
    have hr := read_clean z
    have l1 := hr.live h
    simp only [rawLoop, ne_eq, ite_not]
    refine .ite (fun e1 => ?_) fun _ => hr.weaken hs
    have q1 := rem_read z h e1
    have p1 := read_rawEnd z h e1
    have again : ∀ z1, Step (z.err = .none) z.rawEnd z z1 → z1.err = .none → rem z1 < rem z →
        Step (z.err = .none) z.rawStart z (rawLoop f z1) := by
      intro z1 s1 e q
      have := s1.lo
      exact (s1.weaken hs).span (ih z1 (s1.live h) (by rw [rawStart_of_fr s1.frame]; omega) (by omega)) e
    refine .ite (fun _ => ?_) fun _ => again _ hr e1 (by omega)
    have hr2 := hr.step (read_clean _) e1
    refine .ite (fun e2 => ?_) fun _ => hr2.weaken hs
    have q2 := rem_read _ l1 e2
    have p2 := read_rawEnd _ l1 e2
    refine .ite (fun _ => ?_) fun _ => by rw [unread_read _ l1 e2]; exact again _ hr e1 (by omega)
    obtain ⟨hf', ht'⟩ := readRawEndTag_step _ (hr2.live h)
    cases hb : (readRawEndTag (readByte (readByte z).2).2).1 with
    | true =>
      simp only [true_or, if_true]
      obtain ⟨z1, s1, e1', -, p1', q1'⟩ := ht' hb
      rw [q1']
      exact (hr2.step s1 e2).unread (fun _ => e1') _ (by omega)
    | false =>
      simp only [Bool.false_eq_true, false_or, ite_not]
      have s3 := hr2.step (hf' hb) e2
      have := (hf' hb).rem_le
      exact .ite (fun e3 => again _ s3 e3 (by omega)) fun _ => s3.weaken hs

theorem readRawOrRCDATA_step (z : Z) (h : Live z) (hs : z.rawStart ≤ z.rawEnd) :
    Step (z.err = .none) z.rawStart z (readRawOrRCDATA z) := by
  refine .ite (fun hl => ?_) fun _ => ?_
  · have hsc := readScript_step z h hs hl
    generalize readScript z = r at hsc ⊢
    exact hsc.congr rfl
  · have hrl := rawLoop_step (2 * (z.inp.size + 2)) z h hs (Nat.lt_of_lt_of_le (rem_lt z) (by omega))
    generalize rawLoop (2 * (z.inp.size + 2)) z = r at hrl ⊢
    exact hrl.congr rfl

theorem plaintextLoop_step (f : Nat) (z : Z) (h : Live z) (hf : rem z + 1 < f) :
    Step True z.rawEnd z (plaintextLoop f z) := by
  induction f generalizing z with
  | zero => omega
  | succ f ih =>
    simp only [plaintextLoop, ne_eq, ite_not]
    refine .ite (fun he => ?_) fun _ => Step.refl
    have hr : Step True z.rawEnd z (readByte z).2 := (read_clean z).of he
    by_cases e : (readByte z).2.err = .none
    · have := rem_read z h e
      exact hr.step (ih _ (hr.live h) (by omega)) trivial
    · -- the read failed: the next iteration stops at once
      cases f with
      | zero => omega
      | succ f => simp only [plaintextLoop, ne_eq, e, not_false_eq_true, if_true]; exact hr

theorem rawTextAttempt_step (z : Z) (h : Live z) (hs : z.rawStart ≤ z.rawEnd) :
    Step (z.err = .none) z.rawStart z (rawTextAttempt z) :=
  .ite (fun _ => (((plaintextLoop_step _ z h (by unfold rem; omega)).weaken hs).of trivial).congr rfl)
    fun _ => readRawOrRCDATA_step z h hs

theorem rawTextAttempt_data (z : Z) :
    (rawTextAttempt z).dataStart = z.dataStart ∧ (rawTextAttempt z).dataEnd = (rawTextAttempt z).rawEnd := by
  simp only [rawTextAttempt, readRawOrRCDATA, readScript]
  split
  · exact ⟨(dataStart_of_rt (blind_plaintextLoop rt_blind _ z) :), rfl⟩
  · split
    · exact ⟨(dataStart_of_rt (blind_scriptLoop rt_blind _ _ z) :), rfl⟩
    · exact ⟨(dataStart_of_rt (blind_rawLoop rt_blind _ z) :), rfl⟩

theorem commentLoop_step (f d : Nat) (b : Bool) (z : Z) (h : Live z) (hf : rem z < f) :
    Step (z.err = .none) z.rawEnd z (commentLoop f d b z) := by
  induction f generalizing d b z with
  | zero => omega
  | succ f ih =>
    simp only [commentLoop, ne_eq, ite_not]
    refine .read h rfl fun hr e l q => ?_
    have again := fun d b => hr.step (ih d b _ l (by omega)) e
    refine .ite (fun _ => again _ _) fun _ => ?_
    refine .ite (fun _ => hr) fun _ => ?_
    refine .ite (fun _ => ?_) fun _ => again _ _
    have hr2 := hr.step (read_clean _) e
    refine .ite (fun e2 => ?_) fun _ => hr2
    have q2 := rem_read _ l e2
    have again2 := fun d b => hr2.step (ih d b _ (hr2.live h) (by omega)) e2
    exact .ite (fun _ => hr2) fun _ => .ite (fun _ => again2 _ _) fun _ => again2 _ _

theorem readComment_step (z : Z) (h : Live z) : Step (z.err = .none) z.rawEnd z (readComment z) :=
  commentLoop_step _ _ _ z h (rem_lt z)

theorem untilCloseAngleLoop_step (f : Nat) (z : Z) (h : Live z) (hf : rem z < f) :
    Step (z.err = .none) z.rawEnd z (untilCloseAngleLoop f z) := by
  induction f generalizing z with
  | zero => omega
  | succ f ih =>
    simp only [untilCloseAngleLoop, ne_eq, ite_not]
    refine .read h rfl fun hr e l q => ?_
    exact .ite (fun _ => hr) fun _ => hr.step (ih _ l (by omega)) e

theorem readUntilCloseAngle_step (z : Z) (h : Live z) : Step (z.err = .none) z.rawEnd z (readUntilCloseAngle z) :=
  (untilCloseAngleLoop_step _ { z with dataStart := z.rawEnd } h (rem_lt z)).congr_left rfl

theorem cdataLoop_step (f b : Nat) (z : Z) (h : Live z) (hf : rem z < f) :
    Step (z.err = .none) z.rawEnd z (cdataLoop f b z) := by
  induction f generalizing b z with
  | zero => omega
  | succ f ih =>
    simp only [cdataLoop, ne_eq, ite_not]
    refine .read h rfl fun hr e l q => ?_
    have again := fun b => hr.step (ih b _ l (by omega)) e
    refine .ite (fun _ => again _) fun _ => ?_
    refine .ite (fun _ => ?_) fun _ => again _
    exact .ite (fun _ => hr) fun _ => again _

/-- `z.raw.end = z.data.start`, with the error cleared -/
theorem Step.backup {lo : Nat} {z r : Z} (h : Step (z.err = .none) lo z r) (hl : lo ≤ r.dataStart)
    (hp : r.dataStart ≤ z.rawEnd) : Step (z.err = .none) lo z { r with rawEnd := r.dataStart, err := .none } := by
  refine ⟨h.frame, h.fo, hl, fun hs => Nat.le_trans hp hs, fun he hz => ?_⟩
  have hlt := hz.lt
  rw [← maxBuf_of_fr h.frame, ← rawStart_of_fr h.frame] at hlt
  refine ⟨(h.mb he hz).fe, fun (hm : r.maxBuf > 0) _ => ?_, fun (hm : r.maxBuf > 0) => ?_, fun e => absurd rfl e, nofun⟩
  all_goals have := hlt hm he; simp only []; omega

theorem matchWord_step (ci : Bool) (w : List Nat) (z : Z) (h : Live z) (hd : z.dataStart ≤ z.rawEnd) :
    Step (z.err = .none) z.dataStart z (matchWord ci w z).2 ∧
    ((matchWord ci w z).1 = some () → (matchWord ci w z).2.err = z.err) := by
  induction w generalizing z with
  | nil => exact ⟨Step.refl.weaken hd, fun _ => rfl⟩
  | cons w ws ih =>
    have hr := (read_clean z).weaken hd
    have hds := dataStart_of_rt (blind_readByte rt_blind z)
    have hb := hr.backup (Nat.le_of_eq hds.symm) (hds ▸ hd)
    simp only [matchWord, ne_eq, ite_not]
    split
    · rename_i e
      split
      · exact ⟨hb.congr (by simp only [core, e]), fun hv => absurd hv.symm (Option.some_ne_none _)⟩
      · obtain ⟨i1, i2⟩ := ih _ (hr.live h) (hds ▸ hr.lo)
        exact ⟨hr.trans i1 (Nat.le_of_eq hds.symm) fun _ => e, fun hv => (i2 hv).trans (e.trans (err_read z h e).symm)⟩
    · split
      · exact ⟨hb, fun hv => absurd hv.symm (Option.some_ne_none _)⟩
      · exact ⟨hr, fun hv => absurd hv.symm (Option.some_ne_none _)⟩

theorem readDoctype_step (z : Z) (h : Live z) (hd : z.dataStart ≤ z.rawEnd) :
    Step (z.err = .none) z.dataStart z (readDoctype z).2 ∧ ((readDoctype z).1 = false → rt (readDoctype z).2 = rt z) := by
  obtain ⟨hm, -⟩ := matchWord_step true doctypeWord z h hd
  have hrt := blind_matchWord rt_blind true doctypeWord z
  unfold readDoctype
  split
  · rename_i z1 heq
    rw [heq] at hm hrt
    exact ⟨hm, fun _ => hrt⟩
  · rename_i u z1 heq
    rw [heq] at hm
    have hw := hm.step (skipWhiteSpace_step z1 (hm.live h)) trivial
    simp only [ne_eq, ite_not]
    constructor
    · simp only [apply_ite Prod.snd]
      exact .ite (fun e => hw.step (readUntilCloseAngle_step _ (hw.live h)) e) fun _ => hw
    · split
      · exact Bool.noConfusion
      · exact Bool.noConfusion

theorem readCDATA_step (z : Z) (h : Live z) (hd : z.dataStart ≤ z.rawEnd) :
    Step (z.err = .none) z.dataStart z (readCDATA z).2 := by
  obtain ⟨hm, hs⟩ := matchWord_step false cdataWord z h hd
  unfold readCDATA
  split
  · rename_i z1 heq
    rw [heq] at hm
    exact hm
  · rename_i u z1 heq
    rw [heq] at hm hs
    simp only []
    exact hm.trans ((cdataLoop_step _ _ { z1 with dataStart := z1.rawEnd } (hm.live h) (rem_lt z1)).congr_left rfl)
      hm.lo (hs rfl).trans

theorem readMarkupDeclaration_step (z : Z) (h : Live z) :
    Step (z.err = .none) z.rawEnd z (readMarkupDeclaration z).2 := by
  unfold readMarkupDeclaration
  simp only [ne_eq, ite_not, apply_ite Prod.snd]
  have h0 : Step (z.err = .none) z.rawEnd z { z with dataStart := z.rawEnd } := Step.refl.congr rfl
  have hr1 := h0.trans (read_clean _) h0.lo id
  have d1 := dataStart_of_rt (blind_readByte rt_blind { z with dataStart := z.rawEnd })
  refine .ite (fun e1 => ?_) fun _ => hr1
  have l1 := hr1.live h
  have hr2 := hr1.step (read_clean _) e1
  have d2 := (dataStart_of_rt (blind_readByte rt_blind _)).trans d1
  refine .ite (fun e2 => ?_) fun _ => hr2
  refine .ite (fun _ => hr2.step (readComment_step _ (hr2.live h)) e2) fun _ => ?_
  -- after `z.raw.end -= 2` we are back at the entry position, which is data.start
  have p2 : _ = z.rawEnd + 1 + 1 := (read_rawEnd _ l1 e2).trans (congrArg (· + 1) (read_rawEnd _ (h0.live h) e1))
  generalize (readByte (readByte { z with dataStart := z.rawEnd }).2).2 = z2 at hr2 d2 e2 p2 ⊢
  replace d2 : z2.dataStart = z.rawEnd := d2
  have hu := hr2.unread (fun _ => e2) 2 (lo' := z.rawEnd) (by omega)
  obtain ⟨hd, hdf⟩ := readDoctype_step (unread z2 2) (hu.live h) (by show z2.dataStart ≤ z2.rawEnd - 2; omega)
  replace hd := hu.trans hd (Nat.le_of_eq d2.symm) fun _ => e2
  split
  · rename_i z3 heq; rw [heq] at hd; exact hd
  rename_i z3 heq
  rw [heq] at hd hdf
  have d3 : z3.dataStart = z.rawEnd := (dataStart_of_rt (hdf rfl)).trans d2
  have l3 := hd.live h
  simp only [apply_ite Prod.snd]
  refine .ite (fun e3 => ?_) fun _ => hd
  refine .ite (fun _ => ?_) fun _ => hd.step (readUntilCloseAngle_step z3 l3) e3
  have hc := hd.trans (readCDATA_step z3 l3 (by rw [d3]; exact hd.lo)) (Nat.le_of_eq d3.symm) fun _ => e3
  split
  · rename_i z4 heq4; rw [heq4] at hc; exact hc
  rename_i z4 heq4
  rw [heq4] at hc
  simp only [apply_ite Prod.snd]
  exact .ite (fun e4 => hc.step (readUntilCloseAngle_step _ (hc.live h)) e4) fun _ => hc

end NetVerif.Proofs.Lemmas.HtmlTokMaxBuf

namespace NetVerif.Proofs.Lemmas.HtmlTokFuel
open NetVerif.Model.HtmlTokExact

theorem fo_unread (z : Z) (k : Nat) : (unread z k).fuelOut = z.fuelOut := rfl

end NetVerif.Proofs.Lemmas.HtmlTokFuel

/-! The cursor and frame clauses of `Step` as plain conjunctions (`Mono`: `lo = z.rawEnd`), with the cursor
inside the input as a fact, not `hi`'s implication. -/
namespace NetVerif.Proofs.Lemmas.HtmlTokSpan
open NetVerif.Model.HtmlTokExact NetVerif.Proofs.Lemmas.HtmlTokExact NetVerif.Proofs.Lemmas.HtmlTokMaxBuf

def Mono (z r : Z) : Prop :=
  z.rawEnd ≤ r.rawEnd ∧ r.rawEnd ≤ r.inp.size ∧ r.inp = z.inp ∧ r.rawStart = z.rawStart ∧ r.finalErr = z.finalErr

theorem mono_setRawEnd (z : Z) (k : Nat) (h1 : z.rawEnd ≤ k) (h2 : k ≤ z.inp.size) :
    Mono z { z with rawEnd := k } := ⟨h1, h2, rfl, rfl, rfl⟩

def Low (lo : Nat) (z r : Z) : Prop :=
  lo ≤ r.rawEnd ∧ r.rawEnd ≤ r.inp.size ∧ r.inp = z.inp ∧ r.rawStart = z.rawStart ∧ r.finalErr = z.finalErr

theorem low_of_mono {lo : Nat} {z r : Z} (h : lo ≤ z.rawEnd) (m : Mono z r) : Low lo z r :=
  ⟨Nat.le_trans h m.1, m.2.1, m.2.2.1, m.2.2.2.1, m.2.2.2.2⟩

end NetVerif.Proofs.Lemmas.HtmlTokSpan
