import NetVerif.Proofs.Lemmas.H3Safe
import NetVerif.Proofs.Lemmas.ByteArith
/-! How the stream primitives of QPACK advance over bytes an encoder produced. -/
namespace NetVerif.Proofs.QpackBasic
open NetVerif.Model.H3Stream NetVerif.Model.Qpack NetVerif.Proofs.H3Safe

/-- `s` is live and primed, `bs ++ t` is left of the stream and the frame ends `k` bytes after `bs`.
Each reading lemma turns `At s (bs ++ more) t k` into `At s' more t k`. -/
structure At (s : St) (bs t : List Nat) (k : Nat) : Prop where
  dead : s.dead = false
  primed : s.primed = true
  data : s.data = bs ++ t
  lim : s.lim = ((bs.length + k : Nat) : Int)

/-- The first byte of a frame section may be read from a stream that is not yet primed. -/
theorem readByte_cons (s : St) (b : Nat) (bs t : List Nat) (k : Nat) (hd : s.dead = false)
    (hdata : s.data = b :: bs ++ t) (hlim : s.lim = ((bs.length + 1 + k : Nat) : Int)) :
    ∃ s', readByte s = .ok b s' ∧ At s' bs t k := by
  unfold readByte
  rw [recordBytesRead_le s 1 (by omega)]
  simp only [qsReadByte, hd, hdata, Bool.false_eq_true, if_false]
  exact ⟨_, rfl, ⟨rfl, rfl, rfl, by dsimp only; omega⟩⟩

theorem At.readByte {s : St} {b : Nat} {bs t : List Nat} {k : Nat} (h : At s (b :: bs) t k) :
    ∃ s', readByte s = .ok b s' ∧ At s' bs t k :=
  readByte_cons s b bs t k h.dead h.data (by rw [h.lim, List.length_cons])

theorem appendUvarint_lt (v : Nat) (h : v < 128) : appendUvarint v = [v] := by
  rw [appendUvarint, dif_pos h]

theorem appendUvarint_ge (v : Nat) (h : ¬ v < 128) :
    appendUvarint v = (v % 128 + 128) :: appendUvarint (v / 128) := by
  rw [appendUvarint, dif_neg h]

theorem appendUvarint_length_le (k : Nat) : ∀ v, v < 128 ^ (k + 1) → (appendUvarint v).length ≤ k + 1 := by
  induction k with
  | zero => intro v hv; rw [appendUvarint_lt v hv]; exact Nat.le_refl 1
  | succ k ih =>
    intro v hv
    by_cases h : v < 128
    · rw [appendUvarint_lt v h]; exact Nat.succ_le_succ (Nat.zero_le _)
    · rw [appendUvarint_ge v h]
      exact Nat.succ_le_succ (ih _ (Nat.div_lt_of_lt_mul (by rw [Nat.mul_comm, ← Nat.pow_succ]; exact hv)))

theorem appendUvarint_length_pos (v : Nat) : 1 ≤ (appendUvarint v).length := by
  by_cases h : v < 128
  · rw [appendUvarint_lt v h]; exact Nat.le_refl 1
  · rw [appendUvarint_ge v h]; exact Nat.succ_le_succ (Nat.zero_le _)

theorem readUvarintAux_append (v : Nat) : ∀ (n x m : Nat) (s : St) (more t : List Nat) (k : Nat),
    At s (appendUvarint v ++ more) t k → (appendUvarint v).length < n →
    ∃ s', readUvarintAux n x m s = .ok (x + v * m) s' ∧ At s' more t k := by
  induction v using Nat.strongRecOn with
  | _ v ih =>
    intro n x m s more t k h hn
    obtain ⟨j, rfl⟩ := Nat.exists_eq_succ_of_ne_zero (Nat.ne_of_gt (Nat.lt_of_le_of_lt (Nat.zero_le _) hn))
    unfold readUvarintAux
    by_cases hv : v < 128
    · rw [appendUvarint_lt v hv] at h hn
      obtain ⟨s1, hrb, h1⟩ := h.readByte
      rw [hrb]
      dsimp only
      rw [if_pos hv, if_neg (by rw [List.length_cons] at hn; omega)]
      exact ⟨s1, rfl, h1⟩
    · rw [appendUvarint_ge v hv] at h hn
      obtain ⟨s1, hrb, h1⟩ := h.readByte
      obtain ⟨s2, hr2, h2⟩ := ih (v / 128)
        (Nat.div_lt_self (Nat.lt_of_lt_of_le (by decide) (Nat.le_of_not_lt hv)) (by decide))
        j (x + (v % 128) * m) (m * 128) s1 more t k h1 (Nat.lt_of_succ_lt_succ hn)
      rw [hrb]
      dsimp only
      rw [if_neg (Nat.not_lt.mpr (Nat.le_add_left 128 _)), Nat.add_sub_cancel, hr2]
      exact ⟨s2, by rw [Lemmas.digit128], h2⟩

theorem appendPrefixedInt_cons (first p v : Nat) :
    appendPrefixedInt first p v = (first + min v (2 ^ p - 1)) ::
      (if v < 2 ^ p - 1 then [] else appendUvarint (v - (2 ^ p - 1))) := by
  unfold appendPrefixedInt
  split
  · rw [Nat.min_eq_left (by omega)]
  · rw [Nat.min_eq_right (by omega)]

theorem appendPrefixedInt_ne_nil (first p v : Nat) : appendPrefixedInt first p v ≠ [] := by
  rw [appendPrefixedInt_cons]; exact List.cons_ne_nil _ _

theorem readPrefixedIntWithByte_append (first0 p v : Nat) (hf : first0 % 2 ^ p = 0)
    (hv : v < 2 ^ 62) (b : Nat) (tl : List Nat) (henc : appendPrefixedInt first0 p v = b :: tl)
    (s : St) (more t : List Nat) (k : Nat) (h : At s (tl ++ more) t k) :
    ∃ s', readPrefixedIntWithByte s b p = .ok v s' ∧ At s' more t k := by
  rw [appendPrefixedInt_cons] at henc
  obtain ⟨rfl, rfl⟩ := List.cons.inj henc
  have hM : 0 < 2 ^ p := Nat.two_pow_pos p
  unfold readPrefixedIntWithByte
  generalize 2 ^ p = M at *
  dsimp only
  rw [(Lemmas.prefix_bits hf (Nat.lt_of_le_of_lt (Nat.min_le_right v _) (Nat.sub_lt hM Nat.one_pos))).1]
  by_cases hlt : v < M - 1
  · rw [Nat.min_eq_left (Nat.le_of_lt hlt), if_pos (Nat.ne_of_lt hlt)]
    rw [if_pos hlt] at h
    exact ⟨s, rfl, h⟩
  · rw [Nat.min_eq_right (Nat.le_of_not_lt hlt), if_neg (fun h => h rfl)]
    rw [if_neg hlt] at h
    -- 9 bytes of 7 bits hold any value below 2^63, so `ReadUvarint`'s 10-byte budget is enough
    have hlen := appendUvarint_length_le 8 (v - (M - 1)) (by omega)
    obtain ⟨s1, hr, h1⟩ := readUvarintAux_append (v - (M - 1)) 10 0 1 s more t k h (by omega)
    unfold readUvarint
    rw [hr]
    dsimp only
    rw [if_neg (by unfold maxInt64; omega), show 0 + (v - (M - 1)) * 1 + (M - 1) = v by omega]
    exact ⟨s1, rfl, h1⟩

theorem readFull_append (bs more t : List Nat) (s : St) (k : Nat) (h : At s (bs ++ more) t k) :
    ∃ s', readFull s bs.length = .ok bs s' ∧ At s' more t k := by
  unfold readFull readFullAux
  cases bs with
  | nil => exact ⟨s, if_pos rfl, h⟩
  | cons b bs =>
    have hl := h.lim
    rw [List.length_append] at hl
    rw [if_neg (show (b :: bs).length ≠ 0 from Nat.succ_ne_zero _),
      read_primed b bs (more ++ t) s h.dead h.primed (by rw [h.data, List.append_assoc]) (by omega)]
    dsimp only
    rw [if_pos (Nat.sub_self _)]
    exact ⟨_, rfl, ⟨h.dead, h.primed, rfl, by dsimp only; omega⟩⟩

/-- Any payload behind a length prefix with flag bits `f0`; the bit above the prefix is the H bit. -/
theorem readPrefixedStringWithByte_raw (H : Huff) (f0 p : Nat) (payload : List Nat)
    (hf : f0 % 2 ^ p = 0) (hpl : payload.length < 2 ^ 62)
    (b : Nat) (tl : List Nat) (henc : appendPrefixedInt f0 p payload.length ++ payload = b :: tl)
    (s : St) (more t : List Nat) (k : Nat) (h : At s (tl ++ more) t k) :
    ∃ s', readPrefixedStringWithByte H s b p =
        (if f0 / 2 ^ p % 2 = 1 then
          (match H.dec payload with
           | some str => .ok str s'
           | none => .err qpackErr s')
         else .ok payload s') ∧ At s' more t k := by
  have hc := appendPrefixedInt_cons f0 p payload.length
  rw [hc, List.cons_append] at henc
  obtain ⟨rfl, rfl⟩ := List.cons.inj henc
  rw [List.append_assoc] at h
  obtain ⟨s1, hr, h1⟩ := readPrefixedIntWithByte_append f0 p _ hf hpl _ _ hc s _ t k h
  obtain ⟨s3, hr3, h3⟩ := readFull_append payload more t
    { s1 with allocs := (2 * min payload.length s1.data.length + 512, s1.data.length) :: s1.allocs } k
    ⟨h1.dead, h1.primed, h1.data, h1.lim⟩
  have hl := h1.lim
  rw [List.length_append] at hl
  unfold readPrefixedStringWithByte
  rw [hr]
  dsimp only
  rw [if_neg (by omega), hr3]
  dsimp only
  rw [(Lemmas.prefix_bits hf (by have := Nat.two_pow_pos p; omega : min payload.length (2 ^ p - 1) < 2 ^ p)).2]
  exact ⟨s3, rfl, h3⟩

theorem readPrefixedStringWithByte_append (H : Huff)
    (str : List Nat) (hdec : H.dec (H.enc str) = some str) (hlen : (H.enc str).length = H.encLen str)
    (first0 p : Nat) (hf : first0 % 2 ^ p = 0) (hh : first0 / 2 ^ p % 2 = 0) (hstr : str.length < 2 ^ 62)
    (b : Nat) (tl : List Nat) (henc : appendPrefixedString H first0 p str = b :: tl)
    (s : St) (more t : List Nat) (k : Nat) (h : At s (tl ++ more) t k) :
    ∃ s', readPrefixedStringWithByte H s b p = .ok str s' ∧ At s' more t k := by
  unfold appendPrefixedString at henc
  split at henc
  · rename_i hshort
    rw [← hlen] at henc hshort
    obtain ⟨s', hr, h'⟩ := readPrefixedStringWithByte_raw H (first0 + 2 ^ p) p (H.enc str)
      (by rw [Nat.add_mod_right]; exact hf) (by omega) b tl henc s more t k h
    rw [Nat.add_div_right _ (Nat.two_pow_pos p), if_pos (by omega), hdec] at hr
    exact ⟨s', hr, h'⟩
  · obtain ⟨s', hr, h'⟩ := readPrefixedStringWithByte_raw H first0 p str hf hstr b tl henc s more t k h
    rw [if_neg (by omega)] at hr
    exact ⟨s', hr, h'⟩

end NetVerif.Proofs.QpackBasic
