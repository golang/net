import NetVerif.Model.H2FrameParse
import NetVerif.Proofs.Lemmas.IfCases
import NetVerif.Proofs.Lemmas.ByteArith
/-! The Framer model and its checked twin: byte layout of a written frame, dispatch on the type byte,
what each `parse*Frame` guarantees of a frame it returns. -/
namespace NetVerif.Proofs.H2FrameLemmas
open NetVerif.Model NetVerif.Model.H2Frame NetVerif.Proofs.Lemmas

theorem rd32_be32 (v : Nat) (h : v < 4294967296) :
    rd32 (v / 16777216 % 256) (v / 65536 % 256) (v / 256 % 256) (v % 256) = v := by
  unfold rd32
  rw [Nat.add_assoc, Nat.add_assoc, be_step v 256, be_step v 65536, be_step v 16777216]
  exact Nat.mod_eq_of_lt h

theorem frameBytes_ok {t fl sid : Nat} {payload bs : List Nat}
    (h : frameBytes t fl sid payload = .ok bs) :
    payload.length < 16777216 ∧
    bs = payload.length / 65536 % 256 :: payload.length / 256 % 256 :: payload.length % 256 ::
            t :: fl :: sid / 16777216 % 256 :: sid / 65536 % 256 :: sid / 256 % 256 :: sid % 256 ::
            payload := by
  unfold frameBytes at h
  split at h
  · cases h
  · simp only [Except.ok.injEq] at h
    exact ⟨by omega, h.symm⟩

theorem readFrame_frameBytes (fr : Framer) (t fl sid : Nat) (payload rest bs : List Nat)
    (hsid : sid < 2147483648)
    (hw : frameBytes t fl sid payload = .ok bs)
    (hmax : payload.length ≤ fr.maxReadSize) (last' : Nat)
    (hord : checkFrameOrder fr.lastHeaderStream ⟨payload.length, t, fl, sid⟩ = .ok last') :
    readFrame fr (bs ++ rest) =
      ⟨parseFrame ⟨payload.length, t, fl, sid⟩ payload, some ⟨payload.length, t, fl, sid⟩,
       { fr with lastHeaderStream := last' }, rest⟩ := by
  obtain ⟨hlen, rfl⟩ := frameBytes_ok hw
  have h1 : payload.length / 65536 % 256 * 65536 + payload.length / 256 % 256 * 256 + payload.length % 256
      = payload.length := by
    rw [Nat.add_assoc, be_step _ 256, be_step _ 65536]
    exact Nat.mod_eq_of_lt hlen
  have h2 : rd32 (sid / 16777216 % 256) (sid / 65536 % 256) (sid / 256 % 256) (sid % 256) % 2147483648 = sid := by
    rw [rd32_be32 sid (by omega)]
    exact Nat.mod_eq_of_lt hsid
  have h3 : ¬ (payload.length > fr.maxReadSize) := by omega
  have h4 : ¬ (payload ++ rest).length < payload.length := by simp
  simp only [List.cons_append, readFrame, decodeHeader, h1, h2, hord, h3, h4, if_false, List.take_left,
    List.drop_left]

/-- `typeFrameParser` walked once for the model and its checked twin together; a property of one of
them is the relation that ignores the other. -/
theorem parseFrame_rel {R : Option (Except RErr Frame) → Except RErr Frame → Prop}
    (fh : FrameHeader) (p : List Nat)
    (data : fh.type = frameData → R (H2FrameParse.parseData fh p) (parseData fh p))
    (headers : fh.type = frameHeaders → R (H2FrameParse.parseHeaders fh p) (parseHeaders fh p))
    (priority : fh.type = framePriority → R (H2FrameParse.parsePriority fh p) (parsePriority fh p))
    (rstStream : fh.type = frameRSTStream → R (H2FrameParse.parseRSTStream fh p) (parseRSTStream fh p))
    (settings : fh.type = frameSettings → R (H2FrameParse.parseSettings fh p) (parseSettings fh p))
    (pushPromise : fh.type = framePushPromise →
      R (H2FrameParse.parsePushPromise fh p) (parsePushPromise fh p))
    (ping : fh.type = framePing → R (H2FrameParse.parsePing fh p) (parsePing fh p))
    (goAway : fh.type = frameGoAway → R (H2FrameParse.parseGoAway fh p) (parseGoAway fh p))
    (windowUpdate : fh.type = frameWindowUpdate →
      R (H2FrameParse.parseWindowUpdate fh p) (parseWindowUpdate fh p))
    (continuation : fh.type = frameContinuation →
      R (H2FrameParse.parseContinuation fh p) (parseContinuation fh p))
    (priorityUpdate : fh.type = framePriorityUpdate →
      R (H2FrameParse.parsePriorityUpdate fh p) (parsePriorityUpdate fh p))
    (unknown : fh.type ∉ [frameData, frameHeaders, framePriority, frameRSTStream, frameSettings,
        framePushPromise, framePing, frameGoAway, frameWindowUpdate, frameContinuation, framePriorityUpdate] →
      R (some (.ok (.unknown fh p))) (.ok (.unknown fh p))) :
    R (H2FrameParse.parseFrame fh p) (parseFrame fh p) := by
  unfold H2FrameParse.parseFrame parseFrame
  exact ite_rel data fun h0 => ite_rel headers fun h1 => ite_rel priority fun h2 =>
    ite_rel rstStream fun h3 => ite_rel settings fun h4 => ite_rel pushPromise fun h5 =>
    ite_rel ping fun h6 => ite_rel goAway fun h7 => ite_rel windowUpdate fun h8 =>
    ite_rel continuation fun h9 => ite_rel priorityUpdate fun h10 =>
    unknown (by simp [h0, h1, h2, h3, h4, h5, h6, h7, h8, h9, h10])

variable {fh : FrameHeader} {p : List Nat} {f : Frame}

/-! Each `parse*Frame` returns only its own frame type, around the header it was given, and only when
the stream id is on the side of zero the type requires. The stream-id test is taken off by
`ok_of_ite_error`; of what remains every branch fails or returns the type's constructor, which
`repeat' split` walks. -/

theorem parseData_ok (h : parseData fh p = .ok f) : fh.streamID ≠ 0 ∧ ∃ d, f = .data fh d := by
  unfold parseData at h
  obtain ⟨hs, h⟩ := ok_of_ite_error h
  refine ⟨hs, ?_⟩
  repeat' split at h
  all_goals cases h
  all_goals exact ⟨_, rfl⟩

theorem parseHeaders_ok (h : parseHeaders fh p = .ok f) :
    fh.streamID ≠ 0 ∧ ∃ prio frag, f = .headers fh prio frag := by
  unfold parseHeaders at h
  obtain ⟨hs, h⟩ := ok_of_ite_error h
  refine ⟨hs, ?_⟩
  repeat' split at h
  all_goals cases h
  all_goals exact ⟨_, _, rfl⟩

theorem parsePriority_ok (h : parsePriority fh p = .ok f) : fh.streamID ≠ 0 ∧ ∃ pp, f = .priority fh pp := by
  unfold parsePriority at h
  obtain ⟨hs, h⟩ := ok_of_ite_error h
  split at h
  all_goals cases h
  exact ⟨hs, _, rfl⟩

theorem parseRSTStream_ok (h : parseRSTStream fh p = .ok f) : fh.streamID ≠ 0 ∧ ∃ c, f = .rstStream fh c := by
  unfold parseRSTStream at h
  split at h
  · obtain ⟨hs, h⟩ := ok_of_ite_error h
    cases h
    exact ⟨hs, _, rfl⟩
  · cases h

theorem parseSettings_ok (h : parseSettings fh p = .ok f) : fh.streamID = 0 ∧ ∃ ss, f = .settings fh ss := by
  unfold parseSettings at h
  obtain ⟨_, h⟩ := ok_of_ite_error h
  obtain ⟨hs, h⟩ := ok_of_ite_error h
  obtain ⟨_, h⟩ := ok_of_ite_error h
  refine ⟨by simpa using hs, ?_⟩
  repeat' split at h
  all_goals cases h
  all_goals exact ⟨_, rfl⟩

theorem parsePushPromise_ok (h : parsePushPromise fh p = .ok f) :
    fh.streamID ≠ 0 ∧ ∃ pid frag, f = .pushPromise fh pid frag := by
  unfold parsePushPromise at h
  obtain ⟨hs, h⟩ := ok_of_ite_error h
  refine ⟨hs, ?_⟩
  repeat' split at h
  all_goals cases h
  all_goals exact ⟨_, _, rfl⟩

theorem parsePing_ok (h : parsePing fh p = .ok f) : fh.streamID = 0 ∧ f = .ping fh p := by
  unfold parsePing at h
  obtain ⟨_, h⟩ := ok_of_ite_error h
  obtain ⟨hs, h⟩ := ok_of_ite_error h
  cases h
  exact ⟨by simpa using hs, rfl⟩

theorem parseGoAway_ok (h : parseGoAway fh p = .ok f) :
    fh.streamID = 0 ∧ ∃ last code debug, f = .goAway fh last code debug := by
  unfold parseGoAway at h
  obtain ⟨hs, h⟩ := ok_of_ite_error h
  refine ⟨by simpa using hs, ?_⟩
  split at h
  all_goals cases h
  exact ⟨_, _, _, rfl⟩

theorem parseWindowUpdate_ok (h : parseWindowUpdate fh p = .ok f) : ∃ incr, f = .windowUpdate fh incr := by
  unfold parseWindowUpdate at h
  repeat' split at h
  all_goals cases h
  exact ⟨_, rfl⟩

theorem parseContinuation_ok (h : parseContinuation fh p = .ok f) :
    fh.streamID ≠ 0 ∧ f = .continuation fh p := by
  unfold parseContinuation at h
  obtain ⟨hs, h⟩ := ok_of_ite_error h
  cases h
  exact ⟨hs, rfl⟩

theorem parsePriorityUpdate_ok (h : parsePriorityUpdate fh p = .ok f) :
    fh.streamID = 0 ∧ ∃ sid prio, f = .priorityUpdate fh sid prio := by
  unfold parsePriorityUpdate at h
  obtain ⟨hs, h⟩ := ok_of_ite_error h
  refine ⟨by simpa using hs, ?_⟩
  repeat' split at h
  all_goals cases h
  exact ⟨_, _, rfl⟩

end NetVerif.Proofs.H2FrameLemmas
