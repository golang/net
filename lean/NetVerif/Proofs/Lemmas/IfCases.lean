/-! Taking the `if`s of an unfolded handler, parser or monitor one at a time.  `split` re-simplifies
the whole goal or hypothesis at every `if`, which is slow on a long chain (millions of heartbeats per
`if` on the larger models); these lemmas only peel the outermost one. -/
namespace NetVerif.Proofs.Lemmas

/-- A property of a conditional follows from the property of each branch under its condition.
With `P := fun x => Q x.1` (or a field) it walks a handler that returns a pair or a structure. -/
theorem ite_ind {α : Sort _} (P : α → Prop) {c : Prop} [Decidable c] {a b : α}
    (ha : c → P a) (hb : ¬c → P b) : P (if c then a else b) := by
  by_cases h : c
  · rw [if_pos h]; exact ha h
  · rw [if_neg h]; exact hb h

theorem ite_eq_iff {α : Sort _} {c : Prop} [Decidable c] {a b res : α} :
    (if c then a else b) = res ↔ (c ∧ a = res) ∨ (¬c ∧ b = res) := by
  by_cases hc : c <;> simp [hc]

theorem ite_cases {α : Sort _} {c : Prop} [Decidable c] {a b res : α} (h : (if c then a else b) = res) :
    (c ∧ a = res) ∨ (¬c ∧ b = res) :=
  ite_eq_iff.mp h

/-- Two `if`s on the same condition are related when their branches are. -/
theorem ite_rel {α β : Sort _} {R : α → β → Prop} {c : Prop} [Decidable c] {a a' : α} {b b' : β}
    (ht : c → R a b) (he : ¬c → R a' b') : R (if c then a else a') (if c then b else b') := by
  by_cases h : c
  · rw [if_pos h, if_pos h]; exact ht h
  · rw [if_neg h, if_neg h]; exact he h

/-- A check of the form `if bad then error else …` that let the run through: the test was negative. -/
theorem ok_of_ite_error {ε α : Type _} {c : Prop} [Decidable c] {e : ε} {x : Except ε α} {v : α}
    (h : (if c then .error e else x) = .ok v) : ¬c ∧ x = .ok v := by
  by_cases hc : c
  · rw [if_pos hc] at h; cases h
  · rw [if_neg hc] at h; exact ⟨hc, h⟩

/-- The same for a check that reports by `some verdict`. -/
theorem ite_some_eq_none {α : Type _} {c : Prop} [Decidable c] {a : α} {b : Option α} :
    (if c then some a else b) = none ↔ ¬c ∧ b = none := by
  by_cases hc : c <;> simp [hc]

end NetVerif.Proofs.Lemmas
