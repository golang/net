import NetVerif.Model.XsrfToken
/-! Helper lemmas for C57: `clean`, decimal rendering / parsing, last-colon split. -/
namespace NetVerif.Proofs.Lemmas.XsrfStrings
open NetVerif.Model.Xsrf

/-- single-pass form of `clean`. -/
def cleanByte (c : Nat) : Bytes := if c = 95 then [95, 95] else if c = 58 then [95, 99] else [c]

/-- The two passes are one: the second finds no ':' in what the first wrote for '_'. -/
theorem clean_flatMap (s : Bytes) : clean s = s.flatMap cleanByte := by
  unfold clean replaceColon replaceUnderscore
  rw [List.flatMap_assoc]
  congr 1
  funext c
  unfold cleanByte
  split
  · rfl
  · simp only [List.flatMap_cons, List.flatMap_nil, List.append_nil]

/-- Decoding: `__` is an underscore, `_c` a colon. -/
def unclean : Bytes → Bytes
  | 95 :: 95 :: r => 95 :: unclean r
  | 95 :: 99 :: r => 58 :: unclean r
  | c :: r => c :: unclean r
  | [] => []

theorem unclean_cleanByte (c : Nat) (r : Bytes) : unclean (cleanByte c ++ r) = c :: unclean r := by
  unfold cleanByte
  split
  · subst c; rfl
  · rename_i h95
    split
    · subst c; rfl
    · -- neither escape pattern of `unclean` can start with `c`
      rw [List.singleton_append, unclean]
      · exact fun _ h _ => h95 h
      · exact fun _ h _ => h95 h

theorem unclean_clean (s : Bytes) : unclean (clean s) = s := by
  rw [clean_flatMap]
  induction s with
  | nil => rfl
  | cons c s ih => rw [List.flatMap_cons, unclean_cleanByte, ih]

theorem clean_injective (a b : Bytes) (h : clean a = clean b) : a = b := by
  rw [← unclean_clean a, h, unclean_clean]

theorem clean_no_colon (s : Bytes) : 58 ∉ clean s := by
  rw [clean_flatMap, List.mem_flatMap]
  intro ⟨c, _, h⟩
  unfold cleanByte at h
  split at h
  · simp at h
  · split at h <;> simp at h
    omega

theorem splitLast_spec (t : Bytes) :
    match splitLast t with
    | some (p, s) => t = p ++ 58 :: s ∧ 58 ∉ s
    | none => 58 ∉ t := by
  induction t with
  | nil => exact List.not_mem_nil
  | cons c t ih =>
    unfold splitLast
    cases hr : splitLast t with
    | some ps =>
      rw [hr] at ih
      exact ⟨by rw [ih.1]; rfl, ih.2⟩
    | none =>
      rw [hr] at ih
      by_cases hc : c = 58
      · simp only [hc, if_true]
        exact ⟨rfl, ih⟩
      · simp only [hc, if_false]
        intro hm
        rcases List.mem_cons.mp hm with h | h
        · exact hc h.symm
        · exact ih h

theorem splitLast_none (s : Bytes) (h : 58 ∉ s) : splitLast s = none := by
  have := splitLast_spec s
  cases hs : splitLast s with
  | none => rfl
  | some ps =>
    rw [hs] at this
    exact absurd (this.1 ▸ List.mem_append_right _ List.mem_cons_self) h

theorem splitLast_append (p s : Bytes) (h : 58 ∉ s) : splitLast (p ++ 58 :: s) = some (p, s) := by
  induction p with
  | nil => simp [splitLast, splitLast_none s h]
  | cons c p ih => simp [splitLast, ih]

theorem splitLast_some (t p s : Bytes) (h : splitLast t = some (p, s)) : t = p ++ 58 :: s ∧ 58 ∉ s := by
  have := splitLast_spec t
  rwa [h] at this

theorem valRev_digitsRev (f n : Nat) (h : n < 10 ^ f) : valRev (digitsRev f n) = n := by
  induction f generalizing n with
  | zero =>
    have h0 : n = 0 := by have : (10:Nat) ^ 0 = 1 := rfl; omega
    subst h0; rfl
  | succ f ih =>
    unfold digitsRev
    by_cases hn : n < 10
    · simp [hn, valRev]
    · have hp : 10 ^ (f + 1) = 10 ^ f * 10 := by rw [Nat.pow_succ]
      have := ih (n / 10) (by omega)
      simp [hn, valRev, this]; omega

theorem digitsRev_digit (f n c : Nat) (h : c ∈ digitsRev f n) : 48 ≤ c ∧ c ≤ 57 := by
  induction f generalizing n with
  | zero => simp [digitsRev] at h
  | succ f ih =>
    unfold digitsRev at h
    simp at h
    rcases h with rfl | h
    · omega
    · exact ih _ h.2

theorem decNat_digit (n c : Nat) (h : c ∈ decNat n) : 48 ≤ c ∧ c ≤ 57 := by
  unfold decNat at h; simp at h; exact digitsRev_digit _ _ _ h

theorem decNat_ne_nil (n : Nat) : decNat n ≠ [] := by
  unfold decNat digitsRev; simp

theorem decNat_inj (n m : Nat) (hn : n < 10 ^ 20) (hm : m < 10 ^ 20) (h : decNat n = decNat m) : n = m := by
  unfold decNat at h
  rw [List.reverse_inj] at h
  have := congrArg valRev h
  rwa [valRev_digitsRev _ _ hn, valRev_digitsRev _ _ hm] at this

theorem decInt_no_colon (i : Int) : 58 ∉ decInt i := by
  unfold decInt
  split
  · intro h; simp at h; have := decNat_digit _ _ h; omega
  · intro h; have := decNat_digit _ _ h; omega

theorem decInt_inj (i j : Int) (hi : i.natAbs < 10 ^ 20) (hj : j.natAbs < 10 ^ 20)
    (h : decInt i = decInt j) : i = j := by
  unfold decInt at h
  by_cases h1 : i < 0 <;> by_cases h2 : j < 0 <;> simp [h1, h2] at h
  · have := decNat_inj _ _ hi hj h; omega
  · have : 45 ∈ decNat j.natAbs := by rw [← h]; simp
    have := decNat_digit _ _ this; omega
  · have : 45 ∈ decNat i.natAbs := by rw [h]; simp
    have := decNat_digit _ _ this; omega
  · have := decNat_inj _ _ hi hj h; omega

theorem parse_decNat (n : Nat) (hn : n < 10 ^ 20) :
    (decNat n).isEmpty = false ∧ (decNat n).all isDigit = true ∧ valRev (decNat n).reverse = n := by
  refine ⟨?_, ?_, ?_⟩
  · have := decNat_ne_nil n
    cases h : decNat n with
    | nil => exact absurd h this
    | cons _ _ => rfl
  · rw [List.all_eq_true]; intro c hc
    have := decNat_digit _ _ hc
    simp [isDigit]; omega
  · unfold decNat; rw [List.reverse_reverse]; exact valRev_digitsRev _ _ hn

/-- `ParseInt(fmt.Sprintf("%d", i), 10, 64) = i` for every int64. -/
theorem parseInt64_decInt (i : Int) (hlo : -9223372036854775808 ≤ i) (hhi : i ≤ 9223372036854775807) :
    parseInt64 (decInt i) = some i := by
  have hb : i.natAbs < 10 ^ 20 := by omega
  obtain ⟨he, ha, hv⟩ := parse_decNat i.natAbs hb
  unfold decInt
  by_cases hneg : i < 0
  · simp only [hneg, if_true]
    unfold parseInt64
    simp [he, ha, hv]
    omega
  · simp only [hneg, if_false]
    cases hd : decNat i.natAbs with
    | nil => rw [hd] at he; simp at he
    | cons c r =>
      have hc : 48 ≤ c ∧ c ≤ 57 := decNat_digit i.natAbs c (by rw [hd]; simp)
      unfold parseInt64
      have h43 : ¬ (c = 43 ∨ c = 45) := by omega
      have h45 : ¬ c = 45 := by omega
      rw [hd] at he ha hv
      have h43' : ¬ c = 43 := by omega
      simp only [h45, h43', decide_false, or_self, if_false]
      rw [hv]
      simp [ha]
      omega

end NetVerif.Proofs.Lemmas.XsrfStrings
