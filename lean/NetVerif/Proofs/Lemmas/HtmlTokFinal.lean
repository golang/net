import NetVerif.Proofs.Lemmas.HtmlTokNext
/-!
The scanning loop of `Next` and `Next` itself: the walk of `HtmlTokMaxBuf`, and what is returned:
non-error tokens are non-empty; a non-empty ErrorToken is an open tag. `next_step` says it for every
state whose reader ends with an error; `next_bound` adds the MaxBuf invariant between two calls.
-/
namespace NetVerif.Proofs.Lemmas.HtmlTokMaxBuf
open NetVerif.Model.HtmlTokExact NetVerif.Proofs.Lemmas.HtmlTokExact

/-- `input[a:b]` begins `<`letter or `</`letter (the tag the tokenizer was in when the input ended) -/
def OpenTag (inp : Array Nat) (a b : Nat) : Prop :=
  a + 2 ≤ b ∧ inp.getD a 0 = 60 ∧
  (isLetter (inp.getD (a + 1) 0) = true ∨
   (inp.getD (a + 1) 0 = 47 ∧ a + 3 ≤ b ∧ isLetter (inp.getD (a + 2) 0) = true))

/-- a non-empty token which, if it is the ErrorToken, is an open tag -/
def Opened (inp : Array Nat) (r : Nat × Z) : Prop :=
  r.2.rawStart < r.2.rawEnd ∧ (r.1 = 0 → OpenTag inp r.2.rawStart r.2.rawEnd)

theorem opened_of_step {P : Prop} {c : Nat} {z : Z} (p : Nat × Z) (m : Step P z.rawEnd z p.2) (hs : z.rawStart + 2 = z.rawEnd)
    (b1 : z.inp.getD (z.rawEnd - 2) 0 = 60) (b2 : z.inp.getD (z.rawEnd - 1) 0 = c)
    (hl : p.1 = 0 → isLetter c = true) : Opened z.inp p := by
  have m4 := rawStart_of_fr m.frame
  have m1 := m.lo
  refine ⟨by rw [m4]; omega, fun h0 => ?_⟩
  rw [m4]
  refine ⟨by omega, by rw [show z.rawStart = z.rawEnd - 2 by omega]; exact b1, Or.inl ?_⟩
  rw [show z.rawStart + 1 = z.rawEnd - 1 by omega, b2]; exact hl h0

theorem endTagOpen_opened (z : Z) (h : Live z) (hs : z.rawStart + 2 = z.rawEnd)
    (b1 : z.inp.getD (z.rawEnd - 2) 0 = 60) (b2 : z.inp.getD (z.rawEnd - 1) 0 = 47) :
    Opened z.inp (endTagOpen z) := by
  have hr := read_clean z
  have key : ∀ p : Nat × Z, Step (z.err = .none) z.rawEnd z p.2 → p.1 ≠ 0 → Opened z.inp p :=
    fun p m hp => opened_of_step p m hs b1 b2 fun e => absurd e hp
  unfold endTagOpen
  simp only [ne_eq, ite_not]
  refine ite_ind (Opened z.inp) (fun e1 => ?_) fun _ => ?_
  · have hval := (readByte_of_peek z _ (peek_of_ok z h e1)).2.2
    have hpos := read_rawEnd z h e1
    refine ite_ind (Opened z.inp) (fun _ => key _ hr (Nat.succ_ne_zero _)) fun _ =>
      ite_ind (Opened z.inp) (fun hlet => ?_) fun _ => key _ ?_ (Nat.succ_ne_zero _)
    · have ht := readTag_step false _ (hr.live h)
      have m4 := (rawStart_of_fr ht.frame).trans (rawStart_of_fr hr.frame)
      have hlo := ht.lo
      generalize readTag false (readByte z).2 = t at m4 hlo ⊢
      have ot : OpenTag z.inp t.rawStart t.rawEnd := by
        rw [m4]
        refine ⟨by omega, by rw [show z.rawStart = z.rawEnd - 2 by omega]; exact b1, Or.inr ⟨?_, by omega, ?_⟩⟩
        · rw [show z.rawStart + 1 = z.rawEnd - 1 by omega]; exact b2
        · rw [hs, ← hval]; exact hlet
      have hlt : t.rawStart < t.rawEnd := by rw [m4]; omega
      exact ite_ind (Opened z.inp) (fun _ => ⟨hlt, fun _ => ot⟩) fun _ => ⟨hlt, fun _ => ot⟩
    · simp only []; rw [unread_read z h e1]; exact readUntilCloseAngle_step z h
  · -- the read failed: the pending `</` is text
    refine key _ hr.finish ?_
    have : (readByte z).2.rawStart < (readByte z).2.rawEnd := by
      have := hr.lo; rw [rawStart_of_fr hr.frame]; omega
    simp only [finishText, this, if_true]
    exact Nat.succ_ne_zero _

theorem ty_readMarkupDeclaration (z : Z) : (readMarkupDeclaration z).1 ≠ 0 := by
  have ite := @ite_ind _ (fun r : Nat × Z => r.1 ≠ 0)
  have nz : ∀ n (z : Z), (n + 1, z).1 ≠ 0 := fun n _ => Nat.succ_ne_zero n
  unfold readMarkupDeclaration
  simp only []
  refine ite (fun _ => nz _ _) fun _ => ite (fun _ => nz _ _) fun _ => ite (fun _ => nz _ _) fun _ => ?_
  split
  · exact nz _ _
  refine ite (fun _ => nz _ _) fun _ => ite (fun _ => ?_) fun _ => nz _ _
  split
  · exact nz _ _
  · exact ite (fun _ => nz _ _) fun _ => nz _ _

theorem tokenKind_2 (c : Nat) (h : tokenKind c = 2) : isLetter c = true := by
  unfold tokenKind at h
  split at h
  · assumption
  · split at h
    · simp at h
    · split at h <;> simp at h

theorem tokenKind_3 (c : Nat) (h : tokenKind c = 3) : c = 47 := by
  unfold tokenKind at h
  split at h
  · simp at h
  · split at h
    · rename_i h1; simpa using h1
    · split at h <;> simp at h

theorem dispatch_result (c : Nat) (z : Z) (h : Live z) (hs2 : z.rawStart + 2 ≤ z.rawEnd)
    (b1 : z.inp.getD (z.rawEnd - 2) 0 = 60) (b2 : z.inp.getD (z.rawEnd - 1) 0 = c) :
    Opened z.inp (dispatch (tokenKind c) c z) := by
  unfold dispatch
  refine ite_ind (Opened z.inp) (fun hlt => ⟨by simp only []; omega, fun e => absurd e (Nat.succ_ne_zero _)⟩)
    fun hge => ?_
  have hs : z.rawStart + 2 = z.rawEnd := by omega
  refine ite_ind (Opened z.inp)
    (fun hk => opened_of_step _ (readStartTag_step z h) hs b1 b2 fun _ => tokenKind_2 c hk) fun _ => ?_
  refine ite_ind (Opened z.inp) (fun hk => endTagOpen_opened z h hs b1 (b2.trans (tokenKind_3 c hk))) fun _ => ?_
  refine ite_ind (Opened z.inp) (fun _ => opened_of_step _ (readMarkupDeclaration_step z h) hs b1 b2
    fun e => absurd e (ty_readMarkupDeclaration z)) fun _ => ?_
  -- `<?`: the bogus comment starts one byte back, still behind the `<`
  have hu : Step (z.err = .none) (z.rawEnd - 1) z (unread z) := Step.refl.unread id 1 (Nat.le_refl _)
  have hm := hu.trans (readUntilCloseAngle_step _ (hu.live h)) hu.lo id
  generalize readUntilCloseAngle (unread z) = r at hm
  have := hm.lo
  exact ⟨by show r.rawStart < r.rawEnd; rw [rawStart_of_fr hm.frame]; omega, fun e => absurd e (Nat.succ_ne_zero _)⟩

/-- result of the scanning loop: a non-error token is non-empty; the ErrorToken is empty or an open tag -/
def GoodResult (inp : Array Nat) (r : Nat × Z) : Prop :=
  (r.1 ≠ 0 → r.2.rawStart < r.2.rawEnd) ∧
  (r.1 = 0 → r.2.rawStart = r.2.rawEnd ∨ OpenTag inp r.2.rawStart r.2.rawEnd)

theorem Opened.good {inp : Array Nat} {r : Nat × Z} (h : Opened inp r) : GoodResult inp r :=
  ⟨fun _ => h.1, fun e => Or.inr (h.2 e)⟩

theorem good_inp {i j : Array Nat} {r : Nat × Z} (e : i = j) (h : GoodResult i r) : GoodResult j r := e ▸ h

theorem good_finishText (inp : Array Nat) (z : Z) (hs : z.rawStart ≤ z.rawEnd) : GoodResult inp (finishText z) := by
  unfold finishText GoodResult
  split
  · rename_i h; exact ⟨fun _ => h, fun e => by simp at e⟩
  · rename_i h; exact ⟨fun e => by simp at e, fun _ => Or.inl (by simp only []; omega)⟩

theorem mainLoop_step (f : Nat) (z : Z) (h : Live z) (hs : z.rawStart ≤ z.rawEnd) (hf : rem z < f) :
    Step (Safe z) z.rawStart z (mainLoop f z).2 ∧ GoodResult z.inp (mainLoop f z) := by
  induction f generalizing z with
  | zero => omega
  | succ f ih =>
    have ite := @ite_ind _ (fun r : Nat × Z => Step (Safe z) z.rawStart z r.2 ∧ GoodResult z.inp r)
    have fin : ∀ r, Step (Safe z) z.rawStart z r → Step (Safe z) z.rawStart z (finishText r).2 ∧ GoodResult z.inp (finishText r) :=
      fun r s => ⟨s.finish, good_finishText _ _ (by rw [rawStart_of_fr s.frame]; exact s.lo)⟩
    have hr := (read_step z).weaken hs
    have l1 := hr.live h
    have m3 := inp_of_fr hr.frame
    simp only [mainLoop, ne_eq, ite_not]
    refine ite (fun e1 => ?_) fun _ => fin _ hr
    have p1 := rem_read z h e1
    have v1 := (readByte_of_peek z _ (peek_of_ok z h e1)).2.2
    have q1 := read_rawEnd z h e1
    have again : Step (Safe z) z.rawStart z (mainLoop f (readByte z).2).2 ∧ GoodResult z.inp (mainLoop f (readByte z).2) := by
      obtain ⟨i1, i2⟩ := ih _ l1 (by rw [rawStart_of_fr hr.frame, q1]; omega) (by omega)
      exact ⟨hr.span i1 (.inl e1), good_inp m3 i2⟩
    refine ite (fun hc60 => ?_) fun _ => again
    have hr2' := read_clean (readByte z).2
    have hr2 := hr.step hr2' e1
    have l2 := hr2.live h
    have n3 := inp_of_fr hr2'.frame
    refine ite (fun e2 => ?_) fun _ => fin _ hr2
    have v2 := (readByte_of_peek _ _ (peek_of_ok _ l1 e2)).2.2
    have q2 := read_rawEnd _ l1 e2
    refine ite (fun _ => by rw [unread_read _ l1 e2]; exact again) fun _ => ?_
    have hs2 : (readByte (readByte z).2).2.rawStart + 2 ≤ (readByte (readByte z).2).2.rawEnd := by
      rw [rawStart_of_fr hr2.frame, q2, q1]; omega
    have hd := dispatch_result (readByte (readByte z).2).1 (readByte (readByte z).2).2 l2 hs2
      (by rw [n3, m3, q2, q1, show z.rawEnd + 1 + 1 - 2 = z.rawEnd by omega, ← v1]; exact hc60)
      (by rw [n3, q2, show (readByte z).2.rawEnd + 1 - 1 = (readByte z).2.rawEnd by omega, ← v2])
    rw [n3, m3] at hd
    exact ⟨hr2.span (dispatch_step _ _ _ l2 hs2) e2, hd.good⟩

/-- State between two `Next` calls. -/
structure Between (z : Z) : Prop where
  fe : z.finalErr = .eof ∨ z.finalErr = .other
  fin : z.err ≠ .none → z.err ≠ .exceeded → z.rawEnd ≥ z.inp.size

theorem mb_start (z : Z) (hb : Between z) (he : (startToken z).err = .none) : MB (startToken z) :=
  ⟨hb.fe, fun (hm : z.maxBuf > 0) _ => by simp only [startToken]; omega, fun _ => by simp only [startToken]; omega,
    fun e => absurd he e, fun e => nomatch he.symm.trans e⟩

theorem safe_of_no_text (z : Z) (h : MB z) (hds : z.dataStart = z.rawStart) (hde : z.dataEnd = z.rawEnd)
    (hno : ¬ z.dataEnd > z.dataStart) : Safe z := by
  unfold Safe
  cases he : z.err with
  | none => exact Or.inl rfl
  | exceeded => have := h.exc he; omega
  | eof => exact Or.inr (h.fin (by simp [he]) (by simp [he]))
  | other => exact Or.inr (h.fin (by simp [he]) (by simp [he]))

theorem next_step (z : Z) (h : Live z) :
    Step (z.err = .none) z.rawEnd (startToken z) (next z).2 ∧ GoodResult z.inp (next z) := by
  have ite := @ite_ind _ (fun r : Nat × Z => Step (z.err = .none) z.rawEnd (startToken z) r.2 ∧ GoodResult z.inp r)
  unfold next
  simp only [ne_eq, ite_not]
  refine ite (fun _ => ?_) fun _ => ⟨Step.refl (z := startToken z), fun e => absurd rfl e, fun _ => Or.inl rfl⟩
  have hmain := mainLoop_step _ (startToken z) h (Nat.le_refl _) (rem_lt _)
  refine ite (fun _ => ⟨hmain.1.mono .inl, hmain.2⟩) fun _ => ?_
  have ha := rawTextAttempt_step (startToken z) h (Nat.le_refl _)
  have hd := rawTextAttempt_data (startToken z)
  generalize rawTextAttempt (startToken z) = z2 at ha hd ⊢
  have hrs := rawStart_of_fr ha.frame
  refine ite (fun hgt => ⟨ha, fun _ => ?_, fun e => absurd e (Nat.succ_ne_zero _)⟩) fun hno => ?_
  · show z2.rawStart < z2.rawEnd
    rw [hd.1, hd.2] at hgt
    rw [hrs]; exact hgt
  · obtain ⟨m1, m2⟩ := mainLoop_step _ z2 (ha.live h) (hrs ▸ ha.lo) (rem_lt _)
    exact ⟨ha.trans' m1 (Nat.le_of_eq hrs.symm) fun _ m => safe_of_no_text z2 m (hd.1.trans hrs.symm) hd.2 hno,
      good_inp (inp_of_fr ha.frame :) m2⟩

/-- what every `Next` from a state `z` between two calls guarantees about its result `r` -/
structure NextOK (z : Z) (r : Nat × Z) : Prop where
  fo : r.2.fuelOut = z.fuelOut
  lo : z.rawEnd ≤ r.2.rawEnd
  hi : z.rawEnd ≤ z.inp.size → r.2.rawEnd ≤ z.inp.size
  between : Between r.2
  le : r.2.maxBuf > 0 → r.2.rawEnd - r.2.rawStart ≤ r.2.maxBuf
  good : GoodResult z.inp r

theorem next_bound (z : Z) (hb : Between z) : NextOK z (next z) := by
  by_cases he : z.err = .none
  · obtain ⟨s, g⟩ := next_step z (by rcases hb.fe with e | e <;> rw [Live, e] <;> nofun)
    have m := s.mb he (mb_start z hb he)
    exact { fo := s.fo, lo := s.lo, hi := s.hi, between := ⟨m.fe, m.fin⟩, le := m.le, good := g }
  · -- an error is pending: `Next` returns the empty ErrorToken at once
    rw [show next z = (0, startToken z) from if_pos he]
    exact { fo := rfl, lo := Nat.le_refl _, hi := id, between := ⟨hb.fe, hb.fin⟩,
            le := fun _ => by simp only [startToken]; omega, good := ⟨fun e => absurd rfl e, fun _ => Or.inl rfl⟩ }

end NetVerif.Proofs.Lemmas.HtmlTokMaxBuf

/-! The cursor and fuel facts in terms of `Ok`: they hold whatever error is pending and whatever the reader
ends with, ErrBufferExceeded included. -/
namespace NetVerif.Proofs.Lemmas.HtmlTokSpan
open NetVerif.Model.HtmlTokExact NetVerif.Proofs.Lemmas.HtmlTokMaxBuf

def Ok (z : Z) : Prop := z.rawEnd ≤ z.inp.size ∧ z.finalErr ≠ .none

theorem next_span (z : Z) (h : Ok z) :
    (next z).2.rawStart ≤ (next z).2.rawEnd ∧ Ok (next z).2 :=
  have s := (next_step z h.2).1
  ⟨rawStart_of_fr s.frame ▸ s.lo, inp_of_fr s.frame ▸ s.hi h.1, s.live h.2⟩

end NetVerif.Proofs.Lemmas.HtmlTokSpan

namespace NetVerif.Proofs.Lemmas.HtmlTokFuel
open NetVerif.Model.HtmlTokExact NetVerif.Proofs.Lemmas.HtmlTokSpan NetVerif.Proofs.Lemmas.HtmlTokMaxBuf

theorem fo_scriptLoop (f : Nat) (st : SS) (z : Z) (h : Ok z) (hn : z.rawStart + need st ≤ z.rawEnd)
    (hl : z.rawTag.length = 6) (hf : 8 * rem z + rank st < f) : (scriptLoop f st z).fuelOut = z.fuelOut :=
  (scriptLoop_step f st z h.2 hl hn hf).fo

theorem attr_round_progress (z : Z) (h : Ok z) (he : z.err = .none) (c : Nat) (hp : peek z = some c) (hc : c ≠ 62) :
    z.rawEnd + 1 ≤ (readTagAttrVal (readTagAttrKey z)).rawEnd :=
  HtmlTokMaxBuf.attr_round_progress z h.2 he c hp hc

theorem fo_next (z : Z) (h : Ok z) : (next z).2.fuelOut = z.fuelOut := (next_step z h.2).1.fo

theorem good_next (z : Z) (h : Ok z) : GoodResult z.inp (next z) := (next_step z h.2).2

end NetVerif.Proofs.Lemmas.HtmlTokFuel
