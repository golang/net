/-!
Positional (little-endian, base `B`) encoding of digit lists as one natural number, with the
lemmas that let a kernel evaluation replace `List.drop/take/getD` on a long literal list by
GMP arithmetic on one literal; likewise `bitsOf`, a set of naturals as one number whose `testBit`
replaces `∈` (used by Proofs/C42).
-/
namespace NetVerif.Proofs.Lemmas.AtomEnc

def enc (B : Nat) : List Nat → Nat
  | [] => 0
  | b :: l => b + B * enc B l

def digits (B : Nat) : Nat → Nat → List Nat
  | 0, _ => []
  | n + 1, x => x % B :: digits B n (x / B)

theorem enc_cons_div (B b E : Nat) (hb : b < B) : (b + B * E) / B = E := by
  have hB : 0 < B := by omega
  rw [Nat.add_mul_div_left _ _ hB, Nat.div_eq_of_lt hb, Nat.zero_add]

theorem enc_cons_mod (B b E : Nat) (hb : b < B) : (b + B * E) % B = b := by
  rw [Nat.add_mul_mod_self_left, Nat.mod_eq_of_lt hb]

theorem enc_drop (B : Nat) (l : List Nat) (hl : ∀ b ∈ l, b < B) (s : Nat) :
    enc B (l.drop s) = enc B l / B ^ s := by
  induction s generalizing l with
  | zero => simp
  | succ s ih =>
    cases l with
    | nil => simp [enc]
    | cons b l =>
      obtain ⟨hb, hl'⟩ := List.forall_mem_cons.1 hl
      rw [List.drop_succ_cons, ih l hl', enc, Nat.pow_succ, Nat.mul_comm (B ^ s) B,
        ← Nat.div_div_eq_div_mul, enc_cons_div B b _ hb]

theorem digits_enc (B : Nat) (l : List Nat) (hl : ∀ b ∈ l, b < B) (n : Nat) (hn : n ≤ l.length) :
    digits B n (enc B l) = l.take n := by
  induction n generalizing l with
  | zero => simp [digits]
  | succ n ih =>
    cases l with
    | nil => simp at hn
    | cons b l =>
      obtain ⟨hb, hl'⟩ := List.forall_mem_cons.1 hl
      simp only [List.length_cons] at hn
      rw [enc, digits, enc_cons_div B b _ hb, enc_cons_mod B b _ hb, ih l hl' (by omega), List.take_succ_cons]

theorem slice_eq_digits (B : Nat) (l : List Nat) (hl : ∀ b ∈ l, b < B) (s n : Nat)
    (h : s + n ≤ l.length) : (l.drop s).take n = digits B n (enc B l / B ^ s) := by
  rw [← enc_drop B l hl s, digits_enc B (l.drop s) (fun b hb => hl b (List.mem_of_mem_drop hb)) n
    (by rw [List.length_drop]; omega)]

theorem getD_eq (B : Nat) (l : List Nat) (hl : ∀ b ∈ l, b < B) (i : Nat) (h : i < l.length) :
    l.getD i 0 = enc B l / B ^ i % B := by
  have h1 := slice_eq_digits B l hl i 1 (by omega)
  simp only [digits] at h1
  rw [List.drop_eq_getElem_cons h] at h1
  simp only [List.take_succ_cons, List.take_zero, List.cons.injEq, and_true] at h1
  rw [List.getD_eq_getElem?_getD, List.getElem?_eq_getElem h, Option.getD_some, h1]

def bitsOf (l : List Nat) : Nat := l.foldl (fun acc a => acc ||| 2 ^ a) 0

theorem mem_of_testBit_foldl (l : List Nat) (init x : Nat)
    (h : (l.foldl (fun acc a => acc ||| 2 ^ a) init).testBit x = true) :
    init.testBit x = true ∨ x ∈ l := by
  induction l generalizing init with
  | nil => exact Or.inl h
  | cons a l ih =>
    rcases ih _ h with h1 | h1
    · rw [Nat.testBit_or, Nat.testBit_two_pow] at h1
      simp only [Bool.or_eq_true, decide_eq_true_eq] at h1
      rcases h1 with h1 | h1
      · exact Or.inl h1
      · exact Or.inr (by simp [h1])
    · exact Or.inr (by simp [h1])

theorem mem_of_testBit_bitsOf (l : List Nat) (x : Nat) (h : (bitsOf l).testBit x = true) : x ∈ l := by
  rcases mem_of_testBit_foldl l 0 x h with h1 | h1
  · simp at h1
  · exact h1

end NetVerif.Proofs.Lemmas.AtomEnc
