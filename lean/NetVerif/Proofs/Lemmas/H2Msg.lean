import NetVerif.Model.H2Msg
/-!
For C14: fragmentation, chunking, and how the receive state machine `run` consumes the three kinds of
frame runs an encoded message consists of (header block, DATA, trailers).
-/
namespace NetVerif.Proofs.H2MsgLemmas
open NetVerif NetVerif.Model.H2Frame NetVerif.Model.H2Msg

theorem splitLoop_flatten (max : Nat) (hmax : 0 < max) (fuel : Nat) (hb : Bytes) (h : hb.length ≤ fuel) :
    (splitLoop fuel max hb).flatten = hb := by
  fun_induction splitLoop fuel max hb with
  | case1 => rw [List.length_eq_zero_iff.mp (Nat.le_zero.mp h)]; rfl
  | case2 fuel max hb _ ih =>
    rw [List.flatten_cons, ih hmax (by rw [List.length_drop]; omega), List.take_append_drop]
  | case3 fuel max hb hz => rw [List.length_eq_zero_iff.mp (by omega : hb.length = 0)]; rfl

theorem splitLoop_bounds (max : Nat) (hmax : 0 < max) (fuel : Nat) (hb : Bytes) :
    ∀ f ∈ splitLoop fuel max hb, 0 < f.length ∧ f.length ≤ max := by
  fun_induction splitLoop fuel max hb with
  | case1 => exact List.forall_mem_nil _
  | case2 fuel max hb _ ih =>
    refine List.forall_mem_cons.mpr ⟨?_, ih hmax⟩
    rw [List.length_take]; omega
  | case3 => exact List.forall_mem_nil _

theorem chunks_flatten (max : Nat) (hmax : 0 < max) (cuts : List Nat) (b : Bytes) :
    (chunks max cuts b).flatten = b := by
  fun_induction chunks max cuts b with
  | case1 b => exact splitLoop_flatten max hmax _ b (Nat.le_refl _)
  | case2 c cs b _ ih => rw [List.flatten_cons, ih, List.take_append_drop]
  | case3 c cs b hz => rw [List.length_eq_zero_iff.mp (by omega : b.length = 0)]; rfl

theorem mem_contFrames {sid : Nat} {frs : List Bytes} {f : SFrame} (h : f ∈ contFrames sid frs) :
    ∃ eh frag, f = .continuation sid eh frag ∧ frag ∈ frs := by
  fun_induction contFrames sid frs with
  | case1 => cases h
  | case2 => exact ⟨_, _, List.mem_singleton.mp h, List.mem_cons_self ..⟩
  | case3 _ _ _ ih =>
    rcases List.mem_cons.mp h with rfl | h
    · exact ⟨_, _, rfl, List.mem_cons_self ..⟩
    · obtain ⟨eh, frag, hf, hm⟩ := ih h
      exact ⟨eh, frag, hf, List.mem_cons_of_mem _ hm⟩

theorem contFrames_frag (sid : Nat) (frs : List Bytes) : (contFrames sid frs).map SFrame.frag = frs := by
  fun_induction contFrames sid frs with
  | case1 => rfl
  | case2 => rfl
  | case3 f _ _ ih => exact congrArg (f :: ·) ih

theorem headerFrames_frag (sid : Nat) (es : Bool) (frs : List Bytes) :
    (headerFrames sid es frs).map SFrame.frag = frs := by
  cases frs with
  | nil => rfl
  | cons f rest => exact congrArg (f :: ·) (contFrames_frag sid rest)

theorem mem_headerFrames {sid : Nat} {es : Bool} {frs : List Bytes} {f : SFrame}
    (h : f ∈ headerFrames sid es frs) :
    f.sid = sid ∧ f.frag ∈ frs ∧ f.len = f.frag.length ∧ f.dataBytes = [] := by
  cases frs with
  | nil => cases h
  | cons a rest =>
    rcases List.mem_cons.mp h with rfl | h
    · exact ⟨rfl, List.mem_cons_self .., rfl, rfl⟩
    · obtain ⟨_, _, rfl, hm⟩ := mem_contFrames h
      exact ⟨rfl, List.mem_cons_of_mem _ hm, rfl, rfl⟩

theorem contFrames_endHeaders (sid : Nat) (frs : List Bytes) (hne : frs ≠ []) :
    (contFrames sid frs).map SFrame.endHeaders = List.replicate (frs.length - 1) false ++ [true] := by
  fun_induction contFrames sid frs with
  | case1 => exact absurd rfl hne
  | case2 => rfl
  | case3 _ _ _ ih => exact congrArg (false :: ·) (ih (List.cons_ne_nil _ _))

theorem contFrames_length (sid : Nat) (frs : List Bytes) : (contFrames sid frs).length = frs.length := by
  fun_induction contFrames sid frs with
  | case1 => rfl
  | case2 => rfl
  | case3 _ _ _ ih => exact congrArg (· + 1) ih

theorem dataFrames_data (sid : Nat) (e : Bool) (chs : List Bytes) :
    (dataFrames sid e chs).map SFrame.dataBytes = chs := by
  fun_induction dataFrames sid e chs with
  | case1 => rfl
  | case2 => rfl
  | case3 c _ _ ih => exact congrArg (c :: ·) ih

/-- END_STREAM in a DATA frame of its own is END_STREAM on the last chunk, the last chunk being empty. -/
theorem dataFrames_snoc (sid : Nat) (c : Bytes) (chs : List Bytes) :
    dataFrames sid false chs ++ [.data sid true c] = dataFrames sid true (chs ++ [c]) := by
  fun_induction dataFrames sid false chs with
  | case1 => rfl
  | case2 => rfl
  | case3 a _ _ ih => exact congrArg (SFrame.data sid false a :: ·) ih

variable {D : Type} {dec : D → Bytes → Option (List Field × D)}

theorem run_append_of {fs : List SFrame} {d d1 : D} {st st1 : StreamSt}
    (h : run dec d st fs = some (d1, st1)) (gs : List SFrame) :
    run dec d st (fs ++ gs) = run dec d1 st1 gs := by
  fun_induction run dec d st fs with
  | case1 => cases h; rfl
  | case2 d st f fs d' st' hs ih => rw [List.cons_append, run, hs]; exact ih h
  | case3 => cases h

theorem run_singleton (d : D) (st : StreamSt) (f : SFrame) : run dec d st [f] = step dec d st f := by
  rw [run]
  split
  · rename_i h; exact h.symm
  · rename_i h; exact h.symm

/-- A header block as `step` sees it: opened in phase `p0` by a HEADERS frame with END_STREAM `es`,
its fragments accumulated in phase `mk acc`, completed by `fin` on END_HEADERS. The first header
block and the trailers are the two instances. -/
structure Block (dec : D → Bytes → Option (List Field × D)) (d : D) (sid : Nat) (es : Bool)
    (p0 : Phase) (mk : Bytes → Phase) (fin : StreamSt → Bytes → Option (D × StreamSt)) : Prop where
  first : ∀ (st : StreamSt) (eh : Bool) (frag : Bytes), st.sid = sid → st.phase = p0 →
    step dec d st (.headers sid es eh frag) =
      if eh then fin st frag else some (d, { st with phase := mk frag })
  cont : ∀ (st : StreamSt) (acc : Bytes) (eh : Bool) (frag : Bytes), st.sid = sid → st.phase = mk acc →
    step dec d st (.continuation sid eh frag) =
      if eh then fin st (acc ++ frag) else some (d, { st with phase := mk (acc ++ frag) })
  fin_phase : ∀ (st : StreamSt) (ph : Phase) (blk : Bytes), fin { st with phase := ph } blk = fin st blk

theorem block_hdr (dec : D → Bytes → Option (List Field × D)) (d : D) (sid : Nat) (es : Bool) :
    Block dec d sid es .start (.hdrBlock es) (fun st blk => finishHdr dec d st es blk) where
  first st eh frag hs hp := by
    subst hs
    unfold step
    rw [hp]
    exact if_neg (not_not_intro rfl)
  cont st acc eh frag hs hp := by
    subst hs
    unfold step
    rw [hp]
    exact if_neg (not_not_intro rfl)
  fin_phase st ph blk := by
    unfold finishHdr
    cases dec d blk <;> rfl

theorem block_trl (dec : D → Bytes → Option (List Field × D)) (d : D) (sid : Nat) :
    Block dec d sid true .body .trlBlock (fun st blk => finishTrl dec d st blk) where
  first st eh frag hs hp := by
    subst hs
    unfold step
    rw [hp]
    exact if_neg (not_not_intro rfl)
  cont st acc eh frag hs hp := by
    subst hs
    unfold step
    rw [hp]
    exact if_neg (not_not_intro rfl)
  fin_phase st ph blk := by
    unfold finishTrl
    cases dec d blk <;> rfl

variable {d : D} {sid : Nat} {es : Bool} {p0 : Phase} {mk : Bytes → Phase}
  {fin : StreamSt → Bytes → Option (D × StreamSt)}

theorem run_contFrames (B : Block dec d sid es p0 mk fin) (frs : List Bytes) (hne : frs ≠ [])
    (st : StreamSt) (acc : Bytes) (hs : st.sid = sid) (hp : st.phase = mk acc) :
    run dec d st (contFrames sid frs) = fin st (acc ++ frs.flatten) := by
  fun_induction contFrames sid frs generalizing st acc with
  | case1 => exact absurd rfl hne
  | case2 f =>
    rw [run_singleton, B.cont st acc true f hs hp, if_pos rfl, List.flatten_singleton]
  | case3 f g rest ih =>
    rw [run, B.cont st acc false f hs hp, if_neg Bool.false_ne_true]
    dsimp only
    rw [ih (List.cons_ne_nil _ _) { st with phase := mk (acc ++ f) } (acc ++ f) hs rfl,
      B.fin_phase, List.append_assoc]
    rfl

theorem run_headerFrames (B : Block dec d sid es p0 mk fin) {frs : List Bytes} (hne : frs ≠ [])
    {st : StreamSt} (hs : st.sid = sid) (hp : st.phase = p0) :
    run dec d st (headerFrames sid es frs) = fin st frs.flatten := by
  cases frs with
  | nil => exact absurd rfl hne
  | cons f rest =>
    cases rest with
    | nil =>
      rw [headerFrames, contFrames, run_singleton, B.first st _ f hs hp, List.flatten_singleton]
      exact if_pos rfl
    | cons g rest =>
      rw [headerFrames, run, B.first st _ f hs hp]
      dsimp only [List.isEmpty_cons]
      rw [if_neg Bool.false_ne_true]
      dsimp only
      rw [run_contFrames B (g :: rest) (List.cons_ne_nil _ _) { st with phase := mk f } f hs rfl,
        B.fin_phase]
      rfl

theorem step_data {d : D} {st : StreamSt} {sid : Nat} (es : Bool) (p : Bytes) (hs : st.sid = sid)
    (hp : st.phase = .body) :
    step dec d st (.data sid es p) =
      some (d, { st with chunksRev := p :: st.chunksRev, phase := if es then .done else .body }) := by
  subst hs
  unfold step
  rw [hp]
  exact if_neg (not_not_intro rfl)

theorem run_dataFrames (sid : Nat) (e : Bool) (chs : List Bytes) (d : D) (st : StreamSt)
    (hs : st.sid = sid) (hp : st.phase = .body) :
    run dec d st (dataFrames sid e chs) =
      some (d, { st with chunksRev := chs.reverse ++ st.chunksRev,
                         phase := if e && !chs.isEmpty then .done else .body }) := by
  fun_induction dataFrames sid e chs generalizing st with
  | case1 =>
    cases st
    cases hp
    cases e <;> rfl
  | case2 c =>
    rw [run_singleton, step_data e c hs hp]
    cases e <;> rfl
  | case3 c c2 rest ih =>
    rw [run, step_data false c hs hp]
    exact (ih { st with chunksRev := c :: st.chunksRev, phase := .body } hs rfl).trans
      (by rw [List.reverse_cons (a := c), List.append_assoc]; rfl)

end NetVerif.Proofs.H2MsgLemmas
