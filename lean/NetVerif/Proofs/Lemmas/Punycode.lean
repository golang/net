import NetVerif.Model.Punycode
import Mathlib.Tactic.Ring
/-! Punycode, below the string level: the loop of `adapt`, digits, one generalized variable-length integer in
both directions (`varint_roundtrip`, `varint_canonical`), the basic-code-point part of `encode`, and the
A-label branch of `process`. -/
namespace NetVerif.Proofs.Lemmas.Punycode
open NetVerif.Model.Punycode

/-- `455 = ((base - tmin) * tmax) / 2` is the bound of `adapt`'s loop, which divides by `base - tmin = 35`. -/
theorem adaptLoop_done : ∀ (fuel d k : Nat), d < 456 * 35 ^ fuel → (adaptLoop fuel d k).1 ≤ 455
  | 0, d, k, h => by rw [adaptLoop]; omega
  | fuel + 1, d, k, h => by
    rw [adaptLoop]
    by_cases hc : d > ((base - tmin) * tmax) / 2
    · rw [if_pos hc]
      apply adaptLoop_done fuel
      rw [Nat.pow_succ] at h
      unfold base tmin
      omega
    · rw [if_neg hc]
      exact Nat.not_lt.mp hc

theorem decodeDigit_encDigit (d : Nat) (h : d < 36) : decodeDigit (encDigit d) = some d := by
  unfold decodeDigit encDigit
  by_cases h1 : d < 26
  · rw [if_pos h1, if_neg (by omega), if_neg (by omega), if_pos (by omega)]
    exact congrArg some (Nat.add_sub_cancel _ _)
  · rw [if_neg h1, if_pos (by omega)]
    exact congrArg some (Nat.add_sub_cancel _ _)

theorem threshold_le (k bias : Nat) : threshold k bias ≤ 26 := by
  unfold threshold tmin tmax; split
  · omega
  · split <;> omega

theorem madd_some (a b c : Nat) (h : a + b * c ≤ maxInt32) : madd a b c = some (a + b * c) := by
  unfold madd; rw [if_neg (by omega)]

theorem decodeVar_last (bias k q i w : Nat) (rest : List Nat) (hq : q < threshold k bias)
    (hi : i + q * w ≤ maxInt32) :
    decodeVar bias k i w (encDigit q :: rest) = some (i + q * w, rest) := by
  have := threshold_le k bias
  rw [decodeVar, decodeDigit_encDigit q (by omega)]
  simp only [madd_some i q w hi, if_pos hq]

theorem decodeVar_more (bias k d i w : Nat) (cs : List Nat) (hd : d < 36) (ht : ¬ d < threshold k bias)
    (hi : i + d * w ≤ maxInt32) (hw : w * (base - threshold k bias) ≤ maxInt32) :
    decodeVar bias k i w (encDigit d :: cs) =
      decodeVar bias (k + base) (i + d * w) (w * (base - threshold k bias)) cs := by
  rw [decodeVar, decodeDigit_encDigit d hd]
  simp only [madd_some i d w hi, if_neg ht, madd_some 0 w (base - threshold k bias) (by omega), Nat.zero_add]

theorem encodeVar_digit_lt (t q : Nat) (ht : t ≤ 26) : t + (q - t) % (base - t) < 36 := by
  have := Nat.mod_lt (q - t) (show 0 < base - t by unfold base; omega)
  unfold base at this ⊢; omega

/-- The value `q` splits as the emitted digit at weight `w` plus the quotient at the next weight. -/
theorem encodeVar_value (t x q w : Nat) (ht : t ≤ q) :
    q * w = (t + (q - t) % x) * w + (q - t) / x * (w * x) := by
  have := Nat.div_add_mod (q - t) x
  calc q * w = (t + (x * ((q - t) / x) + (q - t) % x)) * w := by rw [this]; congr 1; omega
    _ = _ := by ring

theorem varint_roundtrip (bias k q i w : Nat) (rest : List Nat)
    (h : i + 35 * (q * w) ≤ maxInt32) :
    decodeVar bias k i w (encodeVar bias k q ++ rest) = some (i + q * w, rest) := by
  fun_induction encodeVar bias k q generalizing i w with
  | case1 k q hlt => exact decodeVar_last bias k q i w rest hlt (by omega)
  | case2 k q hge ih =>
    have hpos := threshold_pos k bias
    have hle := threshold_le k bias
    have hval := encodeVar_value (threshold k bias) (base - threshold k bias) q w (Nat.le_of_not_lt hge)
    have hx : w * (base - threshold k bias) ≤ w * 35 :=
      Nat.mul_le_mul_left w (Nat.sub_le_of_le_add (Nat.add_le_add_left hpos 35))
    have hqw : 1 * w ≤ q * w := Nat.mul_le_mul_right w (Nat.le_trans hpos (Nat.le_of_not_lt hge))
    rw [List.cons_append, decodeVar_more bias k _ i w _ (encodeVar_digit_lt _ q hle)
      (Nat.not_lt.mpr (Nat.le_add_right _ _)) (by omega) (by omega), ih _ _ (by omega), hval, Nat.add_assoc]

theorem encodeDigit_eq_encDigit (d : Nat) (h : d < 36) : encodeDigit d = some (encDigit d) := by
  unfold encodeDigit encDigit
  by_cases h1 : d < 26
  · rw [if_pos h1, if_pos h1]
  · rw [if_neg h1, if_neg h1, if_pos h]

theorem encodeVar_digits_ok (bias k q : Nat) :
    ∀ c ∈ encodeVar bias k q, ∃ d, d < 36 ∧ c = encDigit d ∧ encodeDigit d = some c := by
  fun_induction encodeVar bias k q with
  | case1 k q hlt =>
    intro c hc
    have := threshold_le k bias
    rw [List.mem_singleton] at hc
    subst hc
    exact ⟨q, by omega, rfl, encodeDigit_eq_encDigit q (by omega)⟩
  | case2 k q hge ih =>
    intro c hc
    rcases List.mem_cons.mp hc with rfl | hc
    · have hd := encodeVar_digit_lt (threshold k bias) q (threshold_le k bias)
      exact ⟨_, hd, rfl, encodeDigit_eq_encDigit _ hd⟩
    · exact ih c hc

theorem madd_inv (a b c v : Nat) (h : madd a b c = some v) : v = a + b * c := by
  unfold madd at h
  split at h
  · cases h
  · exact (Option.some.inj h).symm

theorem encDigit_of_decodeDigit (c d : Nat) (h : decodeDigit c = some d) :
    encDigit d = lowerAscii c ∧ d < 36 := by
  unfold decodeDigit at h
  unfold encDigit lowerAscii
  split at h
  · cases h
    rw [if_neg (by omega), if_neg (by omega)]
    omega
  · split at h
    · cases h
      rw [if_pos (by omega), if_pos (by omega)]
      omega
    · split at h
      · cases h
        rw [if_pos (by omega), if_neg (by omega)]
        omega
      · cases h

theorem decodeVar_cons_some (bias k i w c : Nat) (cs rest : List Nat) (i' : Nat)
    (h : decodeVar bias k i w (c :: cs) = some (i', rest)) :
    ∃ digit, decodeDigit c = some digit ∧
      if digit < threshold k bias then i' = i + digit * w ∧ rest = cs
      else decodeVar bias (k + base) (i + digit * w) (w * (base - threshold k bias)) cs = some (i', rest) := by
  rw [decodeVar] at h
  split at h
  · cases h
  · rename_i digit hdig
    refine ⟨digit, hdig, ?_⟩
    split at h
    · cases h
    · rename_i i1 hm1
      cases madd_inv _ _ _ _ hm1
      split at h
      · rename_i hlt
        cases h
        rw [if_pos hlt]
        exact ⟨rfl, rfl⟩
      · rename_i hge
        rw [if_neg hge]
        split at h
        · cases h
        · rename_i w' hm2
          cases madd_inv _ _ _ _ hm2
          rw [Nat.zero_add] at h
          exact h

theorem varint_canonical (bias k i w : Nat) (inp rest : List Nat) (i' : Nat)
    (h : decodeVar bias k i w inp = some (i', rest)) :
    ∃ q ds, inp = ds ++ rest ∧ i' = i + q * w ∧ ds.map lowerAscii = encodeVar bias k q := by
  induction inp generalizing k i w with
  | nil => rw [decodeVar] at h; cases h
  | cons c cs ih =>
    obtain ⟨digit, hdig, h⟩ := decodeVar_cons_some bias k i w c cs rest i' h
    obtain ⟨hlow, hd36⟩ := encDigit_of_decodeDigit c digit hdig
    by_cases hlt : digit < threshold k bias
    · rw [if_pos hlt] at h
      obtain ⟨rfl, rfl⟩ := h
      refine ⟨digit, [c], rfl, rfl, ?_⟩
      rw [encodeVar, if_pos hlt, hlow]
      rfl
    · rw [if_neg hlt] at h
      obtain ⟨q', ds', rfl, rfl, hds⟩ := ih _ _ _ h
      have hge := Nat.le_of_not_lt hlt
      have hx : 0 < base - threshold k bias :=
        Nat.sub_pos_of_lt (Nat.lt_of_le_of_lt (threshold_le k bias) (by decide))
      have hdx : digit - threshold k bias < base - threshold k bias := Nat.sub_lt_sub_right hge hd36
      refine ⟨digit + (base - threshold k bias) * q', c :: ds', rfl, ?_, ?_⟩
      · ring
      · rw [encodeVar, if_neg (Nat.not_lt.mpr (Nat.le_trans hge (Nat.le_add_right _ _))),
          Nat.sub_add_comm hge, Nat.add_mul_mod_self_left, Nat.mod_eq_of_lt hdx,
          Nat.add_mul_div_left _ _ hx, Nat.div_eq_of_lt hdx, Nat.zero_add, List.map_cons, hds,
          Nat.add_sub_cancel' hge, hlow]

theorem encOuter_done (fuel : Nat) (s : List Nat) (b n : Nat) (st : EncSt) (h : ¬ st.h < s.length) :
    encOuter fuel s b n st = some st.out := by
  cases fuel <;> simp [encOuter, h]

theorem splitLast_no_hyphen : ∀ (E : List Nat), (∀ c ∈ E, c ≠ hyphen) → splitLast E = none
  | [], _ => rfl
  | c :: E, h => by
    have := splitLast_no_hyphen E (fun x hx => h x (by simp [hx]))
    have hc := h c (by simp)
    simp [splitLast, this, hc]

theorem splitLast_append : ∀ (B E : List Nat), (∀ c ∈ E, c ≠ hyphen) →
    splitLast (B ++ hyphen :: E) = some (B, E)
  | [], E, h => by simp [splitLast, splitLast_no_hyphen E h]
  | c :: B, E, h => by simp [splitLast, splitLast_append B E h]

/-- `string([]rune)` leaves Unicode scalar values alone. -/
theorem map_goRune (s : List Nat) (hs : ∀ r ∈ s, r ≤ maxRune ∧ ¬ (55296 ≤ r ∧ r ≤ 57343)) :
    s.map goRune = s :=
  (List.map_congr_left fun r hr =>
    if_neg (not_or.mpr ⟨(hs r hr).2, Nat.not_lt.mpr (hs r hr).1⟩)).trans (List.map_id s)

theorem decode_encode_ascii (s : List Nat) (hs : ∀ r ∈ s, r < 128) :
    encode [] s = some (if s = [] then [] else s ++ [hyphen]) ∧
    decode (if s = [] then [] else s ++ [hyphen]) = some s := by
  have hf : s.filter (· < 128) = s := List.filter_eq_self.mpr (by simpa using hs)
  constructor
  · unfold encode
    simp only [hf]
    rw [encOuter_done _ _ _ _ _ (by simp)]
    cases s <;> simp
  · cases s with
    | nil => simp [decode, decodeRunes]
    | cons c cs =>
      simp only [reduceCtorEq, if_false]
      unfold decode decodeRunes
      rw [splitLast_append _ [] nofun]
      have hasc : isAscii (c :: cs) = true := by
        unfold isAscii; rw [List.all_eq_true]; intro r hr; simpa using hs r hr
      simp [hasc, map_goRune _ fun r hr => ⟨by unfold maxRune; have := hs r hr; omega, by have := hs r hr; omega⟩]

theorem encInner_prefix (n b : Nat) (rs : List Nat) (st st' : EncSt) (h : encInner n b rs st = some st') :
    st.out <+: st'.out := by
  induction rs generalizing st with
  | nil => simp [encInner] at h; subst h; exact List.prefix_refl _
  | cons r rs ih =>
    unfold encInner at h
    split at h
    · split at h
      · simp at h
      · have := ih _ h
        simpa using this
    · split at h
      · exact ih _ h
      · have := ih _ h
        exact List.IsPrefix.trans (List.prefix_append _ _) this

theorem encOuter_prefix (fuel : Nat) (s : List Nat) (b n : Nat) (st : EncSt) (a : List Nat)
    (h : encOuter fuel s b n st = some a) : st.out <+: a := by
  induction fuel generalizing n st with
  | zero =>
    rw [encOuter] at h
    split at h
    · cases h
    · cases h; exact List.prefix_refl _
  | succ fuel ih =>
    rw [encOuter] at h
    split at h
    · simp only at h
      split at h
      · cases h
      · split at h
        · cases h
        · rename_i hin
          have h2 := ih _ _ h
          exact (encInner_prefix _ _ _ _ _ hin).trans h2
    · cases h; exact List.prefix_refl _

theorem encode_basic_prefix (pfx s a : List Nat) (h : encode pfx s = some a) :
    (pfx ++ s.filter (· < 128) ++ (if (s.filter (· < 128)).length > 0 then [hyphen] else [])) <+: a := by
  unfold encode at h
  exact encOuter_prefix _ _ _ _ _ _ h

theorem firstLoop_snd (err : Bool) (ls : List (List Nat)) :
    (firstLoop err ls).2 = (err || ls.any fun l => (alabelStep l).2) := by
  induction ls generalizing err with
  | nil => simp [firstLoop]
  | cons l ls ih => simp only [firstLoop, ih, List.any_cons, Bool.or_assoc]

theorem secondLoop_err (u16 : Bool) (ls : List (List Nat)) : (secondLoop u16 true ls).2 = true := by
  induction ls with
  | nil => rfl
  | cons l ls ih =>
    unfold secondLoop
    split <;> simp [ih]

theorem alabelStep_bad (l : List Nat) (h : badALabel l = true) : (alabelStep l).2 = true := by
  unfold badALabel undecodableALabel asciiOnlyALabel hasAce at h
  unfold alabelStep
  cases hp : acePrefix.isPrefixOf l with
  | false => simp [hp] at h
  | true =>
    simp only [hp, Bool.true_and, if_true] at h ⊢
    cases hd : decode (l.drop 4) with
    | none => rfl
    | some u => simpa [hd] using h

theorem process_err_of_first (u16 toASCII : Bool) (s : List Nat)
    (h : (firstLoop false (splitDots s)).2 = true) : (processPunycode u16 toASCII s).2 = true := by
  unfold processPunycode
  generalize firstLoop false (splitDots s) = r at h
  obtain ⟨ls, err⟩ := r
  simp only at h
  subst h
  cases toASCII
  · rfl
  · simp [secondLoop_err]

theorem alabel_holds (u16 toASCII : Bool) (s : List Nat)
    (h : (splitDots s).any badALabel = true) : (processPunycode u16 toASCII s).2 = true :=
  process_err_of_first _ _ _ (by
    obtain ⟨l, hl, hb⟩ := List.any_eq_true.1 h
    rw [firstLoop_snd]
    exact List.any_eq_true.2 ⟨l, hl, alabelStep_bad l hb⟩)

end NetVerif.Proofs.Lemmas.Punycode
