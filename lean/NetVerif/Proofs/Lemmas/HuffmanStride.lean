import NetVerif.Model.HuffmanTable
import NetVerif.Proofs.Lemmas.HuffmanAcc
import NetVerif.Proofs.Lemmas.IfCases
/-!
The byte-stride decoder of `huffmanDecode` equals the bit-level decoder. `stride t p` is what walking the
bits `p` from tree node `t` meets first (dead end, a leaf after `k` bits, or an inner node after all of
`p`). A lookup table is right when each slot agrees with `stride` over the 8 bits of its index
(`checkNode`, evaluated once by the kernel for `rootTable`). `Inv` relates the Go variables (`n`, `cur`,
`cbits`, `sbits`, `buf`) to the bit-level state plus the `cbits` bits of look-ahead not yet walked.
-/
namespace NetVerif.Proofs.Lemmas.HuffmanStride
open NetVerif.Model.Huffman
open NetVerif.Proofs.Lemmas.Huffman
open NetVerif.Proofs.Lemmas.HuffmanAcc
open NetVerif
open NetVerif.Proofs.Lemmas (ite_rel)

inductive Stride where
  | dead
  | leaf (sym k : Nat)
  | inner (t : Trie)

def bump : Stride → Stride
  | .leaf s k => .leaf s (k + 1)
  | r => r

/-- Mirrors the case analysis of `decodeAux` on `cur.child b`. -/
def stride : Trie → List Bool → Stride
  | t, [] => .inner t
  | t, b :: bs =>
    match t.child b with
    | .empty => .dead
    | .leaf s => .leaf s 1
    | .node z o => bump (stride (.node z o) bs)

@[simp] theorem bump_eq_dead {r : Stride} : bump r = .dead ↔ r = .dead := by
  cases r <;> simp [bump]

@[simp] theorem bump_eq_inner {r : Stride} {t : Trie} : bump r = .inner t ↔ r = .inner t := by
  cases r <;> simp [bump]

theorem bump_eq_leaf {r : Stride} {s k : Nat} (h : bump r = .leaf s k) : ∃ k', r = .leaf s k' ∧ k = k' + 1 := by
  cases r <;> cases h
  exact ⟨_, rfl, rfl⟩

theorem stride_leaf_bounds {p : List Bool} {t : Trie} {s k : Nat} (h : stride t p = .leaf s k) :
    1 ≤ k ∧ k ≤ p.length := by
  induction p generalizing t k with
  | nil => cases h
  | cons b p ih =>
    rw [stride] at h
    cases hc : t.child b <;> simp only [hc] at h
    · cases h
    · cases h; simp
    · obtain ⟨k', hk', rfl⟩ := bump_eq_leaf h
      have := ih hk'
      simp only [List.length_cons]
      omega

theorem decodeAux_stride (root : Trie) (m : Nat) (rest p : List Bool) (t : Trie) (pend : List Bool)
    (acc : List Nat) :
      match stride t p with
      | .dead => decodeAux root m t pend acc (p ++ rest) = .error .invalid
      | .leaf s k => decodeAux root m t pend acc (p ++ rest) =
          (if m ≠ 0 ∧ acc.length = m then .error .strLen
           else decodeAux root m root [] (s :: acc) (p.drop k ++ rest))
      | .inner t' => decodeAux root m t pend acc (p ++ rest) =
          decodeAux root m t' (p.reverse ++ pend) acc rest := by
  induction p generalizing t pend with
  | nil => simp [stride]
  | cons b p ih =>
    simp only [stride, List.cons_append, decodeAux]
    cases hc : t.child b with
    | empty => simp
    | leaf s => simp
    | node z o =>
      simp only
      have := ih (.node z o) (b :: pend)
      cases hs : stride (.node z o) p <;> rw [hs] at this
      · simpa [bump] using this
      · simpa [bump] using this
      · simpa [bump] using this

theorem stride_append (p q : List Bool) (t : Trie) :
    stride t (p ++ q) =
      match stride t p with
      | .dead => .dead
      | .leaf s k => .leaf s k
      | .inner t' =>
        match stride t' q with
        | .leaf s k => .leaf s (k + p.length)
        | r => r := by
  induction p generalizing t with
  | nil => simp only [List.nil_append, stride, List.length_nil, Nat.add_zero]; cases stride t q <;> rfl
  | cons b p ih =>
    simp only [List.cons_append, stride]
    cases hc : t.child b with
    | empty => rfl
    | leaf s => rfl
    | node z o =>
      simp only
      rw [ih (.node z o)]
      cases hs : stride (.node z o) p with
      | dead => rfl
      | leaf s k => rfl
      | inner t' =>
        simp only [bump]
        cases stride t' q with
        | dead => rfl
        | leaf s k => simp only [List.length_cons, Stride.leaf.injEq, true_and]; omega
        | inner t'' => rfl

theorem stride_walk_leaf {p : List Bool} {t : Trie} {s : Nat} (ht : t.isNode = true) (h : t.walk p = .leaf s) :
    stride t p = .leaf s p.length := by
  induction p generalizing t with
  | nil => rw [walk_nil] at h; rw [h] at ht; cases ht
  | cons b p ih =>
    rw [walk_cons] at h
    rw [stride]
    cases hc : t.child b <;> rw [hc] at h
    · rw [walk_empty] at h; cases h
    · cases p with
      | nil => cases h; rfl
      | cons b' p' => rw [walk_leaf_cons] at h; cases h
    · simp only [ih rfl h, bump, List.length_cons]

theorem stride_walk_node {p : List Bool} {t : Trie} (ht : t.isNode = true) (h : (t.walk p).isNode = true) :
    stride t p = .inner (t.walk p) := by
  induction p generalizing t with
  | nil => rfl
  | cons b p ih =>
    rw [walk_cons] at h ⊢
    rw [stride]
    cases hc : t.child b <;> rw [hc] at h
    · rw [walk_empty] at h; cases h
    · cases p with
      | nil => cases h
      | cons b' p' => rw [walk_leaf_cons] at h; cases h
    · simp only [ih rfl h, bump]

theorem stride_walk_dead {p q : List Bool} {b : Bool} {t : Trie} (ht : t.isNode = true)
    (h : (t.walk p).isNode = true) (he : (t.walk p).child b = .empty) : stride t (p ++ b :: q) = .dead := by
  rw [stride_append, stride_walk_node ht h]
  simp only [stride, he]

/-- Every zero-child in the tree is non-empty (dead ends are reached by one-bits only: EOS). -/
def checkNZ : Trie → Bool
  | .node z o => (z != .empty) && checkNZ z && checkNZ o
  | _ => true

theorem checkNZ_child (t : Trie) (b : Bool) (h : checkNZ t = true) : checkNZ (t.child b) = true := by
  cases t with
  | empty => rfl
  | leaf s => rfl
  | node z o =>
    simp only [checkNZ, Bool.and_eq_true] at h
    cases b <;> simp [Gen.Huffman.Trie.child, h.1.2, h.2]

theorem stride_inner {p : List Bool} {t t' : Trie} (h : stride t p = .inner t') (ht : t.isNode = true)
    (hnz : checkNZ t = true) : t'.isNode = true ∧ checkNZ t' = true := by
  induction p generalizing t with
  | nil => cases h; exact ⟨ht, hnz⟩
  | cons b p ih =>
    have hcn := checkNZ_child t b hnz
    rw [stride] at h
    cases hc : t.child b <;> simp only [hc] at h hcn
    · cases h
    · cases h
    · exact ih (bump_eq_inner.mp h) rfl hcn

theorem stride_zeros_not_dead (j : Nat) {t : Trie} (ht : t.isNode = true) (hnz : checkNZ t = true) :
    stride t (List.replicate j false) ≠ .dead := by
  induction j generalizing t with
  | zero => simp [stride]
  | succ j ih =>
    cases t with
    | empty => cases ht
    | leaf s => cases ht
    | node z o =>
      have hz := checkNZ_child _ false hnz
      simp only [checkNZ, Bool.and_eq_true, bne_iff_ne, ne_eq] at hnz
      rw [List.replicate_succ, stride]
      cases z with
      | empty => exact absurd rfl hnz.1.1
      | leaf s => simp [Gen.Huffman.Trie.child]
      | node z' o' => simpa [Gen.Huffman.Trie.child] using ih rfl hz

/-- The look-ahead `W` padded with zero bits to a slot index: what the slot says about `W` itself. -/
theorem stride_pad {t : Trie} (W : List Bool) (j : Nat) (ht : t.isNode = true) (hnz : checkNZ t = true) :
    match stride t (W ++ List.replicate j false) with
    | .dead => stride t W = .dead
    | .leaf s k => (k ≤ W.length ∧ stride t W = .leaf s k) ∨ (W.length < k ∧ ∃ t', stride t W = .inner t')
    | .inner _ => ∃ t', stride t W = .inner t' := by
  rw [stride_append]
  cases hs : stride t W with
  | dead => rfl
  | leaf s k => exact .inl ⟨(stride_leaf_bounds hs).2, rfl⟩
  | inner t' =>
    obtain ⟨hn', hnz'⟩ := stride_inner hs ht hnz
    dsimp only
    cases hz : stride t' (List.replicate j false) <;> dsimp only
    · exact absurd hz (stride_zeros_not_dead j hn' hnz')
    · exact .inr ⟨by have := (stride_leaf_bounds hz).1; omega, t', rfl⟩
    · exact ⟨t', rfl⟩

/-- Node `id` of the table agrees, slot by slot, with 8-bit strides from tree node `t`
(`f` bounds the depth of internal nodes below). Code words have at most 30 bits, so internal nodes lie at
most 3 bytes below the root, and the 5 given at the root (`Table.check`, `checkRoot`) is enough. In
`Inv.rel`, `f + d ≤ 5` then bounds the depth `d` of the current node, hence `sbits`, which is a `uint8`
in Go (`feed_sim`). -/
def checkNode (tbl : Nat) : Nat → Nat → Trie → Bool
  | 0, _, _ => false
  | f + 1, id, t => (List.range 256).all fun idx =>
      match stride t (natToBits 8 idx), childAt tbl id idx with
      | .dead, .nil => true
      | .leaf s k, .leaf s' k' => s == s' && k == k'
      | .inner t', .inner id' => checkNode tbl f id' t'
      | _, _ => false

/-- The lookup table `tbl` is the 8-bit-stride view of the code tree `root`. -/
structure Table (tbl : Nat) (root : Trie) : Prop where
  check : checkNode tbl 5 0 root = true
  node : root.isNode = true
  nz : checkNZ root = true

/-- `checkNode` at the root of the built table, and the build never followed a leaf pointer (`st.ok`).
The match on `n + 1` makes the kernel build the table once, before `checkNode` reads its slots. -/
def checkRoot (st : TblSt) : Bool :=
  st.ok && match st.tbl with
    | 0 => false
    | n + 1 => checkNode (n + 1) 5 0 trie

theorem checkRoot_ok : checkRoot rootTable = true := by decide +kernel

theorem checkNZ_ok : checkNZ trie = true := by decide +kernel

theorem rootTable_ok : Table rootTable.tbl trie ∧ rootTable.ok = true := by
  have h : ∀ st, checkRoot st = true → checkNode st.tbl 5 0 trie = true ∧ st.ok = true := by
    intro st h
    rw [checkRoot, Bool.and_eq_true] at h
    refine ⟨?_, h.1⟩
    cases ht : st.tbl <;> simp only [ht] at h
    · cases h.2
    · exact h.2
  exact ⟨⟨(h _ checkRoot_ok).1, trie_isNode, checkNZ_ok⟩, (h _ checkRoot_ok).2⟩

theorem checkNode_slot {tbl f id : Nat} {t : Trie} (h : checkNode tbl f id t = true) (idx : Nat) (hi : idx < 256) :
    match childAt tbl id idx with
    | .nil => stride t (natToBits 8 idx) = .dead
    | .leaf s k => stride t (natToBits 8 idx) = .leaf s k
    | .inner id' => ∃ t' f', stride t (natToBits 8 idx) = .inner t' ∧ f = f' + 1 ∧
        checkNode tbl f' id' t' = true := by
  cases f with
  | zero => cases h
  | succ f =>
    simp only [checkNode, List.all_eq_true] at h
    have := h idx (List.mem_range.mpr hi)
    revert this
    cases childAt tbl id idx with
    | nil =>
      cases stride t (natToBits 8 idx) with
      | dead => exact fun _ => rfl
      | leaf s k => exact fun h => nomatch h
      | inner t' => exact fun h => nomatch h
    | leaf s' k' =>
      cases stride t (natToBits 8 idx) with
      | dead => exact fun h => nomatch h
      | leaf s k => simp
      | inner t' => exact fun h => nomatch h
    | inner id' =>
      cases stride t (natToBits 8 idx) with
      | dead => exact fun h => nomatch h
      | leaf s k => exact fun h => nomatch h
      | inner t' => exact fun h => ⟨t', f, rfl, rfl, h⟩

/- The simulation holds for any `Table tbl root`; `rootTable.tbl` and `trie` are put in at the very end, so
that no step before has the kernel look into the built table. -/

/-- Go state `st` stands for: bit-level decoder at tree node `t` with `pend` read since the last
symbol, output `st.out`, and the look-ahead bits `W` (the low `cbits` bits of `cur`) still to walk. -/
structure Inv (tbl : Nat) (st : DState) (t : Trie) (pend W : List Bool) : Prop where
  rel : ∃ f d, pend.length = 8 * d ∧ f + d ≤ 5 ∧ checkNode tbl f st.n t = true
  node : t.isNode = true
  nz : checkNZ t = true
  wlen : W.length = st.cbits
  low : Low st.cur W
  sb : st.sbits = pend.length + st.cbits

theorem inv_root {tbl : Nat} {root : Trie} (hT : Table tbl root) (cur c : Nat) (out : List Nat) (W : List Bool)
    (hl : W.length = c) (hw : Low cur W) :
    Inv tbl { n := 0, cur := cur, cbits := c, sbits := c, out := out } root [] W where
  rel := ⟨5, 0, rfl, Nat.le_refl 5, hT.check⟩
  node := hT.node
  nz := hT.nz
  wlen := hl
  low := hw
  sb := (Nat.zero_add c).symm

/-- `cur = cur<<8 | uint(b); cbits += 8; sbits += 8`. -/
theorem Inv.push {tbl : Nat} {st : DState} {t : Trie} {pend W : List Bool} (inv : Inv tbl st t pend W) {b : Nat}
    (hb : b < 2 ^ 8) :
    Inv tbl { st with cur := ((st.cur <<< 8) % 2 ^ 64) ||| b, cbits := st.cbits + 8, sbits := st.sbits + 8 }
      t pend (W ++ natToBits 8 b) where
  rel := inv.rel
  node := inv.node
  nz := inv.nz
  wlen := by rw [List.length_append, natToBits_length, inv.wlen]
  low := inv.low.shift_or 8 b (by decide) hb
  sb := by rw [inv.sb, Nat.add_assoc]

theorem take_drop_drop (W : List Bool) (k : Nat) (hk : k ≤ 8) :
    (W.take 8).drop k ++ W.drop 8 = W.drop k := by
  have := List.take_append_drop (8 - k) (W.drop k)
  rw [List.drop_drop, Nat.add_sub_cancel' hk] at this
  rw [List.drop_take]
  exact this

/-- The byte-level result `r` simulates the bit-level run `run`, `rest` being the input behind the
look-ahead: an error is the same error, and a state stands for where the run has got to. -/
def Sim (tbl : Nat) (root : Trie) (m : Nat) (rest : List Bool) (r : Except DecErr DState) (run : Except DecErr (List Nat)) : Prop :=
  match r with
  | .error e => run = .error e
  | .ok st' => ∃ t' pend' W', Inv tbl st' t' pend' W' ∧ st'.cbits < 8 ∧
      run = decodeAux root m t' pend' st'.out (W' ++ rest)

/-- One round of `for cbits >= 8`: the slot under the top 8 look-ahead bits is `stride` over those bits
(`checkNode_slot`), and `decodeAux_stride` says what the bit-level decoder does over them: it fails, or
emits a symbol and starts again at the root with the bits behind the code word, or goes down with all 8 read. -/
theorem drain_sim {tbl : Nat} {root : Trie} (hT : Table tbl root) (m : Nat) (rest : List Bool)
    (fuel : Nat) (st : DState) (t : Trie) (pend W : List Bool)
    (inv : Inv tbl st t pend W) (hf : st.cbits < fuel) (h64 : st.cbits ≤ 64) :
    Sim tbl root m rest (drain tbl m fuel st) (decodeAux root m t pend st.out (W ++ rest)) := by
  induction fuel generalizing st t pend W with
  | zero => exact absurd hf (Nat.not_lt_zero _)
  | succ fuel ih =>
    rw [drain]
    by_cases hc : st.cbits ≥ 8
    · rw [if_pos hc]
      have hlen := inv.wlen
      have htl : (W.take 8).length = 8 := by rw [List.length_take, hlen]; exact Nat.min_eq_left hc
      obtain ⟨f, d, hd, hfb, hck⟩ := inv.rel
      have hi := Nat.mod_lt (st.cur >>> (st.cbits - 8)) (by decide : 0 < 256)
      have hidx := inv.low.idx (hlen ▸ hc) (hlen ▸ h64)
      rw [hlen] at hidx
      generalize (st.cur >>> (st.cbits - 8)) % 256 = idx at hi hidx ⊢
      have hslot := checkNode_slot hck idx hi
      rw [hidx] at hslot
      have hspec := decodeAux_stride root m (W.drop 8 ++ rest) (W.take 8) t pend st.out
      rw [← List.append_assoc, List.take_append_drop] at hspec
      cases hch : childAt tbl st.n idx <;> simp only [hch] at hslot ⊢
      · rw [hslot] at hspec
        exact hspec
      · rename_i s k
        rw [hslot] at hspec
        have hk := stride_leaf_bounds hslot
        simp only at hspec
        rw [← List.append_assoc, take_drop_drop W k (htl ▸ hk.2)] at hspec
        rw [hspec]
        exact ite_rel (R := Sim tbl root m rest) (fun _ => rfl) fun _ => ih _ root [] (W.drop k)
          (inv_root hT st.cur _ (s :: st.out) (W.drop k) (by rw [List.length_drop, hlen]) (inv.low.drop k))
          (Nat.lt_of_lt_of_le (Nat.sub_lt (Nat.lt_of_lt_of_le (by decide) hc) hk.1) (Nat.le_of_lt_succ hf))
          (Nat.le_trans (Nat.sub_le _ _) h64)
      · rename_i id'
        obtain ⟨t', f', hs, rfl, hck'⟩ := hslot
        rw [hs] at hspec
        obtain ⟨hn', hnz'⟩ := stride_inner hs inv.node inv.nz
        have hl8 : ((W.take 8).reverse ++ pend).length = 8 * (d + 1) := by
          rw [List.length_append, List.length_reverse, htl, hd, Nat.mul_succ, Nat.add_comm]
        rw [hspec]
        exact ih _ t' ((W.take 8).reverse ++ pend) (W.drop 8)
          { rel := ⟨f', d + 1, hl8, by rw [← Nat.add_assoc, Nat.add_right_comm]; exact hfb, hck'⟩
            node := hn', nz := hnz', wlen := by rw [List.length_drop, hlen], low := inv.low.drop 8
            sb := by rw [hl8, inv.sb, hd, Nat.mul_succ, Nat.add_assoc, Nat.add_sub_cancel' hc] }
          (Nat.lt_of_lt_of_le (Nat.sub_lt (Nat.lt_of_lt_of_le (by decide) hc) (by decide)) (Nat.le_of_lt_succ hf))
          (Nat.le_trans (Nat.sub_le _ _) h64)
    · rw [if_neg hc]
      exact ⟨t, pend, W, inv, Nat.lt_of_not_le hc, rfl⟩

theorem feed_sim {tbl : Nat} {root : Trie} (hT : Table tbl root) (m : Nat)
    (bytes : List Nat) (st : DState) (t : Trie) (pend W : List Bool)
    (hb : ∀ b ∈ bytes, b < 256) (inv : Inv tbl st t pend W) (hc : st.cbits < 8) :
    Sim tbl root m [] (feed tbl m st bytes) (decodeAux root m t pend st.out (W ++ bytesToBits bytes)) := by
  induction bytes generalizing st t pend W with
  | nil =>
    rw [feed, bytesToBits, List.flatMap_nil]
    exact ⟨t, pend, W, inv, hc, rfl⟩
  | cons b bs ih =>
    obtain ⟨f, d, hd, hfb, hck⟩ := inv.rel
    have hsb := inv.sb
    -- `cbits`, `sbits` are uint8: `sbits + 8` does not wrap because the table is at most 5 levels deep.
    have e1 : (st.cbits + 8) % 256 = st.cbits + 8 := Nat.mod_eq_of_lt (by omega)
    have e2 : (st.sbits + 8) % 256 = st.sbits + 8 := Nat.mod_eq_of_lt (by omega)
    rw [feed, e1, e2, bytesToBits_cons, ← List.append_assoc]
    have hd := drain_sim hT m (bytesToBits bs) 16 _ t pend _ (inv.push (hb b List.mem_cons_self))
      (Nat.add_lt_add_right hc 8) (by simp only; omega)
    generalize drain tbl m 16 _ = r at hd ⊢
    cases r with
    | error e => exact hd
    | ok st' =>
      obtain ⟨t', pend', W', inv', hc', heq⟩ := hd
      simp only at heq ⊢
      rw [heq]
      exact ih st' t' pend' W' (fun x hx => hb x (List.mem_cons_of_mem b hx)) inv' hc'

theorem finish_sim {tbl : Nat} (st : DState) (t : Trie) (pend W : List Bool) (inv : Inv tbl st t pend W) (hc : st.cbits < 8) :
    finishDecode st =
      (if (W.reverse ++ pend).length > 7 then .error .invalid
       else if (W.reverse ++ pend).all id then .ok st.out.reverse else .error .invalid) := by
  have hlen : (W.reverse ++ pend).length = st.sbits := by
    simp only [List.length_append, List.length_reverse, inv.wlen, inv.sb]; omega
  simp only [finishDecode, hlen]
  by_cases hs : st.sbits > 7
  · simp [hs]
  · simp only [hs, ↓reduceIte]
    have hp : pend = [] := by
      obtain ⟨f, d, hd, -⟩ := inv.rel
      have := inv.sb
      exact List.eq_nil_of_length_eq_zero (by omega)
    subst hp
    have hw := inv.low.mod (by have := inv.wlen; omega)
    have hiff := bitsToNat_all_ones W
    rw [inv.wlen] at hiff hw
    rw [Nat.one_shiftLeft, Nat.and_two_pow_sub_one_eq_mod, hw, List.append_nil, List.all_reverse]
    simp only [← hiff, ne_eq, ite_not]

/-- One round of the trailing `for cbits > 0`: the slot index is the look-ahead `W` (fewer than 8 bits)
padded with zero bits (`Low.pad`), and `stride_pad` reads the slot back as a statement about `W` alone:
a leaf of at most `cbits` bits is a code word inside `W`, and the loop goes on behind it; a longer
leaf or an inner node means the input ends inside a code word, where both decoders are left with the
padding checks (`finish_sim`). -/
theorem tail_sim {tbl : Nat} {root : Trie} (hT : Table tbl root) (m : Nat)
    (fuel : Nat) (st : DState) (t : Trie) (pend W : List Bool)
    (inv : Inv tbl st t pend W) (hc : st.cbits < 8) (hf : st.cbits < fuel) :
    (match drainTail tbl m fuel st with
      | .error e => .error e
      | .ok st' => finishDecode st') = decodeAux root m t pend st.out W := by
  induction fuel generalizing st t pend W with
  | zero => exact absurd hf (Nat.not_lt_zero _)
  | succ fuel ih =>
    have hspec := decodeAux_stride root m [] W t pend st.out
    rw [List.append_nil] at hspec
    -- the decoder stops inside a code word: only the final checks remain
    have hstay : (∃ t', stride t W = .inner t') → finishDecode st = decodeAux root m t pend st.out W := by
      rintro ⟨t', hs⟩
      rw [hs] at hspec
      rw [hspec, finish_sim st t pend W inv hc]
      simp [decodeAux]
    have hlen := inv.wlen
    rw [drainTail]
    by_cases hpos : st.cbits > 0
    · rw [if_pos hpos]
      obtain ⟨f, d, hd, hfb, hck⟩ := inv.rel
      have hi := Nat.mod_lt ((st.cur <<< (8 - st.cbits)) % 2 ^ 64) (by decide : 0 < 256)
      have hidx := inv.low.pad (hlen ▸ Nat.le_of_lt hc)
      rw [hlen] at hidx
      generalize ((st.cur <<< (8 - st.cbits)) % 2 ^ 64) % 256 = idx at hi hidx ⊢
      have hslot := checkNode_slot hck idx hi
      have hpad := stride_pad W (8 - st.cbits) inv.node inv.nz
      rw [hidx] at hslot
      cases hch : childAt tbl st.n idx <;> simp only [hch] at hslot ⊢
      · rw [hslot] at hpad
        rw [hpad] at hspec
        exact hspec.symm
      · rename_i s k
        rw [hslot] at hpad
        by_cases hk : k > st.cbits
        · rw [if_pos hk]
          exact hstay (hpad.resolve_left fun h => Nat.not_le_of_gt hk (hlen ▸ h.1)).2
        · obtain ⟨hkw, hs⟩ := hpad.resolve_right fun h => hk (hlen ▸ h.1)
          have hk1 := (stride_leaf_bounds hs).1
          rw [if_neg hk]
          rw [hs] at hspec
          simp only at hspec
          by_cases hm : m ≠ 0 ∧ st.out.length = m
          · rw [if_pos hm] at hspec ⊢
            exact hspec.symm
          · rw [if_neg hm] at hspec ⊢
            rw [List.append_nil] at hspec
            rw [hspec]
            exact ih _ root [] (W.drop k)
              (inv_root hT st.cur _ (s :: st.out) (W.drop k) (by rw [List.length_drop, hlen]) (inv.low.drop k))
              (Nat.lt_of_le_of_lt (Nat.sub_le _ _) hc)
              (Nat.lt_of_lt_of_le (Nat.sub_lt hpos hk1) (Nat.le_of_lt_succ hf))
      · obtain ⟨t', f', hs, -⟩ := hslot
        rw [hs] at hpad
        exact hstay hpad
    · rw [if_neg hpos]
      exact hstay ⟨t, by rw [List.eq_nil_of_length_eq_zero (hlen.trans (Nat.eq_zero_of_not_pos hpos))]; rfl⟩

theorem decodeBytes_sim {tbl : Nat} {root : Trie} (hT : Table tbl root) (m : Nat) (v : List Nat)
    (hv : ∀ b ∈ v, b < 256) :
    (match feed tbl m { n := 0, cur := 0, cbits := 0, sbits := 0, out := [] } v with
      | .error e => .error e
      | .ok st =>
        match drainTail tbl m 8 st with
        | .error e => .error e
        | .ok st => finishDecode st) = decodeAux root m root [] [] (bytesToBits v) := by
  have hf := feed_sim hT m v _ root [] [] hv (inv_root hT 0 0 [] [] rfl ⟨[], rfl⟩) (Nat.zero_lt_succ 7)
  revert hf
  cases feed tbl m { n := 0, cur := 0, cbits := 0, sbits := 0, out := [] } v with
  | error e => exact fun hf => hf.symm
  | ok st' =>
    rintro ⟨t', pend', W', inv', hc', heq⟩
    rw [List.nil_append, List.append_nil] at heq
    rw [heq]
    exact tail_sim hT m 8 st' t' pend' W' inv' hc' hc'

end NetVerif.Proofs.Lemmas.HuffmanStride
