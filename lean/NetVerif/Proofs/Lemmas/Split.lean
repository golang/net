/-!
`strings.Split` / `strings.Join` for a one-byte separator, once for every separator. Two copies are
proved equal to `splitOn sep` / `joinOn sep` and reasoned about through these lemmas: `DavPath.splitSlash`
/ `joinSlash` (C45) and the specification's `elements` / `joinComma` (C55). The model's other copies
(`NetIP.splitComma`, `FS.splitSlash`, `H2Norm.splitOn`) are related to it by no theorem.
-/
namespace NetVerif.Proofs.Lemmas.Split

theorem append_sep_inj {α : Type _} {sep : α} {x x' r r' : List α} (hx : sep ∉ x) (hx' : sep ∉ x')
    (h : x ++ sep :: r = x' ++ sep :: r') : x = x' ∧ r = r' := by
  induction x generalizing x' with
  | nil =>
    cases x' with
    | nil => exact ⟨rfl, (List.cons.inj h).2⟩
    | cons c x' => exact absurd ((List.cons.inj h).1 ▸ List.mem_cons_self) hx'
  | cons b x ih =>
    cases x' with
    | nil => exact absurd ((List.cons.inj h).1 ▸ List.mem_cons_self) hx
    | cons c x' =>
      obtain ⟨hb, ht⟩ := List.cons.inj h
      obtain ⟨e, er⟩ := ih (fun m => hx (List.mem_cons_of_mem _ m)) (fun m => hx' (List.mem_cons_of_mem _ m)) ht
      exact ⟨by rw [hb, e], er⟩

def splitOn (sep : Nat) : List Nat → List (List Nat)
  | [] => [[]]
  | c :: cs =>
    if c = sep then [] :: splitOn sep cs
    else match splitOn sep cs with
      | [] => [[c]]
      | h :: t => (c :: h) :: t

def joinOn (sep : Nat) : List (List Nat) → List Nat
  | [] => []
  | [x] => x
  | x :: xs => x ++ sep :: joinOn sep xs

variable (sep : Nat)

theorem splitOn_ne_nil (s : List Nat) : splitOn sep s ≠ [] := by
  cases s with
  | nil => exact List.cons_ne_nil _ _
  | cons c cs =>
    rw [splitOn]
    split
    · exact List.cons_ne_nil _ _
    · split <;> exact List.cons_ne_nil _ _

theorem splitOn_sep (r : List Nat) : splitOn sep (sep :: r) = [] :: splitOn sep r := by
  rw [splitOn, if_pos rfl]

theorem splitOn_cons (c : Nat) (r : List Nat) (hc : c ≠ sep) :
    ∃ h t, splitOn sep r = h :: t ∧ splitOn sep (c :: r) = (c :: h) :: t := by
  cases e : splitOn sep r with
  | nil => exact absurd e (splitOn_ne_nil sep r)
  | cons h t => exact ⟨h, t, rfl, by rw [splitOn, if_neg hc, e]⟩

theorem splitOn_no_sep (s : List Nat) : ∀ c ∈ splitOn sep s, sep ∉ c := by
  induction s with
  | nil => simp [splitOn]
  | cons b r ih =>
    by_cases hb : b = sep
    · rw [hb, splitOn_sep]
      exact List.forall_mem_cons.2 ⟨List.not_mem_nil, ih⟩
    · obtain ⟨h, t, e, e'⟩ := splitOn_cons sep b r hb
      rw [e, List.forall_mem_cons] at ih
      rw [e']
      exact List.forall_mem_cons.2 ⟨fun hm => (List.mem_cons.1 hm).elim (fun e => hb e.symm) ih.1, ih.2⟩

theorem splitOn_append (a b : List Nat) :
    splitOn sep (a ++ sep :: b) = splitOn sep a ++ splitOn sep b := by
  induction a with
  | nil => rw [List.nil_append, splitOn_sep]; rfl
  | cons x r ih =>
    by_cases hx : x = sep
    · rw [hx, List.cons_append, splitOn_sep, splitOn_sep, ih, List.cons_append]
    · obtain ⟨h, t, e, e'⟩ := splitOn_cons sep x r hx
      obtain ⟨h', t', f, f'⟩ := splitOn_cons sep x (r ++ sep :: b) hx
      rw [ih, e, List.cons_append] at f
      rw [List.cons_append, f', e', ← (List.cons.inj f).1, ← (List.cons.inj f).2, List.cons_append]

theorem splitOn_single (c : List Nat) (h : sep ∉ c) : splitOn sep c = [c] := by
  induction c with
  | nil => rfl
  | cons x r ih =>
    rw [List.mem_cons, not_or] at h
    rw [splitOn, if_neg (Ne.symm h.1), ih h.2]

theorem joinOn_cons (c : List Nat) (cs : List (List Nat)) (h : cs ≠ []) :
    joinOn sep (c :: cs) = c ++ sep :: joinOn sep cs := by
  cases cs with
  | nil => exact absurd rfl h
  | cons _ _ => rfl

/-- `Split` undoes `Join` on separator-free components (there must be one: `Join [] = Join [""]`). -/
theorem splitOn_joinOn (cs : List (List Nat)) (hne : cs ≠ []) (h : ∀ c ∈ cs, sep ∉ c) :
    splitOn sep (joinOn sep cs) = cs := by
  induction cs with
  | nil => exact absurd rfl hne
  | cons c rest ih =>
    rw [List.forall_mem_cons] at h
    cases rest with
    | nil => exact splitOn_single sep c h.1
    | cons c2 rest2 =>
      rw [joinOn_cons sep c _ (List.cons_ne_nil _ _), splitOn_append, splitOn_single sep c h.1,
        ih (List.cons_ne_nil _ _) h.2]
      rfl

theorem joinOn_splitOn (s : List Nat) : joinOn sep (splitOn sep s) = s := by
  induction s with
  | nil => rfl
  | cons b r ih =>
    by_cases hb : b = sep
    · rw [hb, splitOn_sep, joinOn_cons sep _ _ (splitOn_ne_nil sep r), ih]; rfl
    · obtain ⟨h, t, e, e'⟩ := splitOn_cons sep b r hb
      rw [e']
      rw [e] at ih
      -- `Join` of `(b :: h) :: t` is `b ::` that of `h :: t`, whether or not `t` is empty
      cases t <;> exact congrArg (b :: ·) ih

end NetVerif.Proofs.Lemmas.Split
