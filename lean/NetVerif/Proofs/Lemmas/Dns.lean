import NetVerif.Model.Dns
import NetVerif.Proofs.Lemmas.Split
/-!
Shared by C36 and C37. Reader: one iteration of the `Name.unpack` loop (`unpackLoop_cases`), results that
are neither `Err.fuel` nor `Err.panic` (`Genuine`), and `Decodes`: what `Name.unpack` and
`compressionDepth` compute at an offset that holds a name. Writer: `Name.pack` on label lists
(`packLabels`); one call writes bytes that decode to the labels and adds only `Good` entries to the map
(`packLabels_spec`), which is what keeps the compression invariant `CompInv` from one name to the next.
-/
namespace NetVerif.Proofs.Dns
open NetVerif.Model.Dns

/-- presentation form of a label list: every label followed by '.' -/
def textOf : List Bytes → Bytes
  | [] => []
  | l :: ls => l ++ 46 :: textOf ls

def LabelOK (l : Bytes) : Prop := 0 < l.length ∧ l.length < 64 ∧ 46 ∉ l

def LabelsOK (ls : List Bytes) : Prop := ∀ l ∈ ls, LabelOK l

theorem textOf_append (a b : List Bytes) : textOf (a ++ b) = textOf a ++ textOf b := by
  induction a with
  | nil => simp [textOf]
  | cons l ls ih => simp [textOf, ih]

theorem labelsOK_append {a b : List Bytes} (ha : LabelsOK a) (hb : LabelsOK b) : LabelsOK (a ++ b) := by
  intro l hl
  rcases List.mem_append.mp hl with h | h
  · exact ha l h
  · exact hb l h

/-- The shape C37 promises for a decoded name. -/
def NameShape (n : Bytes) : Prop :=
  n = [46] ∨ ∃ ls, ls ≠ [] ∧ LabelsOK ls ∧ n = textOf ls

theorem u16At_bound {msg : Bytes} {off v o : Nat} (h : u16At msg off = .ok (v, o)) :
    o = off + 2 ∧ off + 2 ≤ msg.length := by
  unfold u16At at h
  split at h
  · rename_i a b rest hd
    have := congrArg List.length hd
    simp at this h
    omega
  · cases h

theorem u32At_bound {msg : Bytes} {off v o : Nat} (h : u32At msg off = .ok (v, o)) :
    o = off + 4 ∧ off + 4 ≤ msg.length := by
  unfold u32At at h
  split at h
  · rename_i a b c d rest hd
    have := congrArg List.length hd
    simp at this h
    omega
  · cases h

theorem skip16_ok {msg : Bytes} {off o : Nat} :
    skip16 msg off = .ok o ↔ o = off + 2 ∧ off + 2 ≤ msg.length := by
  unfold skip16
  split <;> simp <;> omega

theorem skip32_ok {msg : Bytes} {off o : Nat} :
    skip32 msg off = .ok o ↔ o = off + 4 ∧ off + 4 ≤ msg.length := by
  unfold skip32
  split <;> simp <;> omega

/-- `Err.fuel` and `Err.panic` are outcomes of the model (a loop given too little fuel; an index out
of range in the checked twin), not errors of dnsmessage. A result is genuine when it is neither. -/
def Genuine {α : Type} (r : Except Err α) : Prop := r ≠ .error .fuel ∧ r ≠ .error .panic

theorem genuine_ok {α : Type} (x : α) : Genuine (.ok x : Except Err α) :=
  ⟨fun h => (nomatch h), fun h => (nomatch h)⟩

theorem genuine_err {α : Type} {e : Err} (h : e ≠ .fuel ∧ e ≠ .panic := by decide) :
    Genuine (.error e : Except Err α) :=
  ⟨fun h' => h.1 (Except.error.inj h'), fun h' => h.2 (Except.error.inj h')⟩

theorem Genuine.of_error {α β : Type} {r : Except Err α} {e : Err} (h : Genuine r) (he : r = .error e) :
    Genuine (.error e : Except Err β) :=
  genuine_err ⟨fun hf => h.1 (hf ▸ he), fun hp => h.2 (hp ▸ he)⟩

theorem Genuine.map {α β : Type} {r : Except Err α} (f : α → β) (h : Genuine r) : Genuine (r.map f) := by
  cases r with
  | error e => exact h.of_error rfl
  | ok x => exact genuine_ok _

/-- `name` as `Name.unpack` finishes it: the empty name is the root. -/
def rootIfEmpty (name : Bytes) : Bytes := if name.isEmpty then [46] else name

theorem drop_cons_length {msg : Bytes} {cur c : Nat} {rest : Bytes} (h : msg.drop cur = c :: rest) :
    cur + 1 + rest.length = msg.length := by
  have := congrArg List.length h
  simp only [List.length_drop, List.length_cons] at this
  omega

theorem unpackLoop_zero {msg : Bytes} {cur : Nat} {rest : Bytes} (hd : msg.drop cur = 0 :: rest)
    {ptr : Nat} {name : Bytes} {newOff : Nat} (fuel : Nat) :
    unpackLoop msg (fuel + 1) cur ptr name newOff = .ok (rootIfEmpty name, if ptr = 0 then cur + 1 else newOff) := by
  simp only [unpackLoop, hd, rootIfEmpty, Nat.zero_div, if_true]

theorem unpackLoop_label {msg : Bytes} {cur c : Nat} {rest : Bytes} (hd : msg.drop cur = c :: rest)
    (h0 : 0 < c) (h64 : c < 64) (hc : c ≤ rest.length) (hdot : 46 ∉ rest.take c)
    {name : Bytes} (hn : name.length + c < 254) {ptr newOff : Nat} (fuel : Nat) :
    unpackLoop msg (fuel + 1) cur ptr name newOff =
      unpackLoop msg fuel (cur + 1 + c) ptr (name ++ rest.take c ++ [46]) newOff := by
  have hdot' : ¬ (rest.take c).contains 46 = true := by simpa using hdot
  simp only [unpackLoop, hd, Nat.div_eq_of_lt h64, Nat.ne_of_gt h0, Nat.not_lt.mpr hc, hdot',
    Nat.not_le.mpr hn, Bool.false_eq_true, if_true, if_false]

theorem unpackLoop_pointer {msg : Bytes} {cur c c1 : Nat} {rest : Bytes} (hd : msg.drop cur = c :: c1 :: rest)
    (h3 : c / 64 = 3) {ptr : Nat} (hp : ptr < 10) {name : Bytes} {newOff : Nat} (fuel : Nat) :
    unpackLoop msg (fuel + 1) cur ptr name newOff =
      unpackLoop msg fuel (c % 64 * 256 + c1) (ptr + 1) name (if ptr = 0 then cur + 2 else newOff) := by
  have hp' : ¬ ptr + 1 > 10 := by omega
  simp only [unpackLoop, hd, h3, hp', Nat.reduceEqDiff, if_true, if_false]

/-- One iteration of the loop of `Name.unpack`, whatever the fuel: it fails with a dnsmessage error,
stops at the zero octet, takes a label, or follows a pointer. -/
theorem unpackLoop_cases (msg : Bytes) (cur ptr : Nat) (name : Bytes) (newOff : Nat) :
    (∃ e, e ≠ .fuel ∧ e ≠ .panic ∧ ∀ fuel, unpackLoop msg (fuel + 1) cur ptr name newOff = .error e) ∨
    (∃ rest, msg.drop cur = 0 :: rest ∧ ∀ fuel, unpackLoop msg (fuel + 1) cur ptr name newOff =
        .ok (rootIfEmpty name, if ptr = 0 then cur + 1 else newOff)) ∨
    (∃ c rest, msg.drop cur = c :: rest ∧ 0 < c ∧ c < 64 ∧ c ≤ rest.length ∧ 46 ∉ rest.take c ∧
      name.length + c < 254 ∧ ∀ fuel, unpackLoop msg (fuel + 1) cur ptr name newOff =
        unpackLoop msg fuel (cur + 1 + c) ptr (name ++ rest.take c ++ [46]) newOff) ∨
    (∃ c c1 rest, msg.drop cur = c :: c1 :: rest ∧ c / 64 = 3 ∧ ptr < 10 ∧
      ∀ fuel, unpackLoop msg (fuel + 1) cur ptr name newOff =
        unpackLoop msg fuel (c % 64 * 256 + c1) (ptr + 1) name (if ptr = 0 then cur + 2 else newOff)) := by
  cases hd : msg.drop cur with
  | nil => exact .inl ⟨.baseLen, by decide, by decide, fun _ => by simp only [unpackLoop, hd]⟩
  | cons c rest =>
    by_cases hc : c / 64 = 0
    · by_cases hz : c = 0
      · subst hz
        exact .inr (.inl ⟨rest, rfl, unpackLoop_zero hd⟩)
      by_cases hl : rest.length < c
      · exact .inl ⟨.calcLen, by decide, by decide, fun _ => by
          simp only [unpackLoop, hd, hc, hz, hl, if_true, if_false]⟩
      by_cases hdot : (rest.take c).contains 46 = true
      · exact .inl ⟨.invalidName, by decide, by decide, fun _ => by
          simp only [unpackLoop, hd, hc, hz, hl, hdot, if_true, if_false]⟩
      by_cases hn : name.length + c ≥ 254
      · exact .inl ⟨.nameTooLong, by decide, by decide, fun _ => by
          simp only [unpackLoop, hd, hc, hz, hl, hdot, hn, Bool.false_eq_true, if_true, if_false]⟩
      · have h64 : c < 64 := by omega
        have hdot' : 46 ∉ rest.take c := by simpa using hdot
        exact .inr (.inr (.inl ⟨c, rest, rfl, by omega, h64, by omega, hdot', by omega,
          unpackLoop_label hd (by omega) h64 (by omega) hdot' (by omega)⟩))
    by_cases h3 : c / 64 = 3
    · cases rest with
      | nil => exact .inl ⟨.invalidPtr, by decide, by decide, fun _ => by
          simp only [unpackLoop, hd, h3, Nat.reduceEqDiff, if_true, if_false]⟩
      | cons c1 rest =>
        by_cases hp : ptr + 1 > 10
        · exact .inl ⟨.tooManyPtr, by decide, by decide, fun _ => by
            simp only [unpackLoop, hd, h3, hp, Nat.reduceEqDiff, if_true, if_false]⟩
        · exact .inr (.inr (.inr ⟨c, c1, rest, rfl, h3, by omega, unpackLoop_pointer hd h3 (by omega)⟩))
    · exact .inl ⟨.reserved, by decide, by decide, fun _ => by simp only [unpackLoop, hd, hc, h3, if_false]⟩

/-- The accumulator of the loop is always `textOf` of the labels read so far. -/
theorem unpackLoop_shape (msg : Bytes) :
    ∀ (fuel cur ptr : Nat) (ls0 : List Bytes) (newOff : Nat) (n : Bytes) (o : Nat),
      LabelsOK ls0 → (textOf ls0).length ≤ 254 →
      unpackLoop msg fuel cur ptr (textOf ls0) newOff = .ok (n, o) →
      n.length ≤ 254 ∧
      ((ls0 = [] ∧ n = [46]) ∨ ∃ ls, ls ≠ [] ∧ LabelsOK ls ∧ n = textOf ls) := by
  intro fuel
  induction fuel with
  | zero => intro cur ptr ls0 newOff n o _ _ h; simp [unpackLoop] at h
  | succ fuel ih =>
    intro cur ptr ls0 newOff n o hok hlen h
    rcases unpackLoop_cases msg cur ptr (textOf ls0) newOff with ⟨e, _, _, he⟩ | ⟨_, _, he⟩ |
      ⟨c, rest, _, h0, h64, hc, hdot, hn, he⟩ | ⟨_, _, _, _, _, _, he⟩ <;> rw [he] at h
    · cases h
    · simp only [Except.ok.injEq, Prod.mk.injEq] at h
      rw [← h.1]
      cases ls0 with
      | nil => exact ⟨by decide, .inl ⟨rfl, rfl⟩⟩
      | cons l ls =>
        exact ⟨by simpa [rootIfEmpty, textOf] using hlen, .inr ⟨l :: ls, by simp, hok, by simp [rootIfEmpty, textOf]⟩⟩
    · have heq : textOf ls0 ++ rest.take c ++ [46] = textOf (ls0 ++ [rest.take c]) := by
        simp [textOf_append, textOf]
      have hl : LabelOK (rest.take c) := ⟨by simp; omega, by simp; omega, hdot⟩
      rw [heq] at h
      have := ih _ _ _ _ _ _ (labelsOK_append hok (by intro l hl'; simp at hl'; subst hl'; exact hl))
        (by rw [← heq]; simp; omega) h
      exact ⟨this.1, .inr (this.2.resolve_left (by simp))⟩
    · exact ih _ _ _ _ _ _ hok hlen h

/-- Termination: the fuel never runs out when it exceeds the remaining name capacity plus the
remaining pointer budget. -/
theorem unpackLoop_genuine (msg : Bytes) :
    ∀ (fuel cur ptr : Nat) (name : Bytes) (newOff : Nat),
      name.length ≤ 254 → ptr ≤ 10 → (254 - name.length) + (10 - ptr) < fuel →
      Genuine (unpackLoop msg fuel cur ptr name newOff) := by
  intro fuel
  induction fuel with
  | zero => intro cur ptr name newOff _ _ h; omega
  | succ fuel ih =>
    intro cur ptr name newOff hlen hptr hf
    rcases unpackLoop_cases msg cur ptr name newOff with ⟨e, hf, hp, he⟩ | ⟨_, _, he⟩ |
      ⟨c, rest, _, h0, h64, hc, hdot, hn, he⟩ | ⟨_, _, _, _, _, hp, he⟩ <;> rw [he]
    · exact genuine_err ⟨hf, hp⟩
    · exact genuine_ok _
    · exact ih _ _ _ _ (by simp; omega) hptr (by simp; omega)
    · exact ih _ _ _ _ hlen (by omega) (by omega)

theorem unpackName_genuine (msg : Bytes) (off : Nat) : Genuine (unpackName msg off) :=
  unpackLoop_genuine msg _ _ _ _ _ (by simp) (by omega) (by simp [unpackFuel])

/-- Once a pointer has been followed, the offset returned is the one noted at the first pointer. -/
theorem unpackLoop_newOff (msg : Bytes) : ∀ (fuel cur ptr : Nat) (name : Bytes) (newOff : Nat) (n : Bytes) (o : Nat),
    ptr ≠ 0 → unpackLoop msg fuel cur ptr name newOff = .ok (n, o) → o = newOff := by
  intro fuel
  induction fuel with
  | zero => intro cur ptr name newOff n o _ h; simp [unpackLoop] at h
  | succ fuel ih =>
    intro cur ptr name newOff n o hp h
    rcases unpackLoop_cases msg cur ptr name newOff with ⟨_, _, _, he⟩ | ⟨_, _, he⟩ |
      ⟨_, _, _, _, _, _, _, _, he⟩ | ⟨_, _, _, _, _, _, he⟩ <;> rw [he] at h
    · cases h
    · simp only [hp, if_false, Except.ok.injEq, Prod.mk.injEq] at h
      exact h.2.symm
    · exact ih _ _ _ _ _ _ hp h
    · simpa only [hp, if_false] using ih _ _ _ _ _ _ (Nat.succ_ne_zero _) h

theorem unpackLoop_offset (msg : Bytes) : ∀ (fuel cur : Nat) (name : Bytes) (newOff : Nat) (n : Bytes) (o : Nat),
    unpackLoop msg fuel cur 0 name newOff = .ok (n, o) → cur < o ∧ o ≤ msg.length := by
  intro fuel
  induction fuel with
  | zero => intro cur name newOff n o h; simp [unpackLoop] at h
  | succ fuel ih =>
    intro cur name newOff n o h
    rcases unpackLoop_cases msg cur 0 name newOff with ⟨_, _, _, he⟩ | ⟨_, hd, he⟩ |
      ⟨_, _, hd, _, _, _, _, _, he⟩ | ⟨_, _, _, hd, _, _, he⟩ <;> rw [he] at h
    · cases h
    · simp only [if_true, Except.ok.injEq, Prod.mk.injEq] at h
      have := drop_cons_length hd
      omega
    · have := ih _ _ _ _ _ h
      have := drop_cons_length hd
      omega
    · have := unpackLoop_newOff msg _ _ _ _ _ _ _ (Nat.succ_ne_zero _) h
      have hlen := drop_cons_length hd
      simp only [if_true, List.length_cons] at this hlen
      omega

theorem unpackLoop_fuel_mono (msg : Bytes) : ∀ (fuel cur ptr : Nat) (name : Bytes) (newOff : Nat),
    unpackLoop msg fuel cur ptr name newOff ≠ .error .fuel →
    ∀ k, unpackLoop msg (fuel + k) cur ptr name newOff = unpackLoop msg fuel cur ptr name newOff := by
  intro fuel
  induction fuel with
  | zero => intro cur ptr name newOff h; exact absurd rfl h
  | succ fuel ih =>
    intro cur ptr name newOff h k
    rw [Nat.add_right_comm]
    rcases unpackLoop_cases msg cur ptr name newOff with ⟨_, _, _, he⟩ | ⟨_, _, he⟩ |
      ⟨_, _, _, _, _, _, _, _, he⟩ | ⟨_, _, _, _, _, _, he⟩ <;> rw [he (fuel + k), he fuel]
    -- an error or the zero octet is the same answer on both sides, which `rw` closes; a label or a
    -- pointer leaves the statement for the call that follows
    · exact ih _ _ _ _ (by rwa [he fuel] at h) k
    · exact ih _ _ _ _ (by rwa [he fuel] at h) k

theorem unpackName_of_fuel (msg : Bytes) (off fuel : Nat)
    (h : unpackLoop msg fuel off 0 [] off ≠ .error .fuel) :
    unpackName msg off = unpackLoop msg fuel off 0 [] off := by
  unfold unpackName
  have hnf : unpackLoop msg unpackFuel off 0 [] off ≠ .error .fuel := (unpackName_genuine msg off).1
  by_cases hle : fuel ≤ unpackFuel
  · have := unpackLoop_fuel_mono msg fuel off 0 [] off h (unpackFuel - fuel)
    rwa [show fuel + (unpackFuel - fuel) = unpackFuel by omega] at this
  · have := unpackLoop_fuel_mono msg unpackFuel off 0 [] off hnf (fuel - unpackFuel)
    rw [show unpackFuel + (fuel - unpackFuel) = fuel by omega] at this
    exact this.symm

/-- every entry `(key, size, valueOff)` of the first pass of `unpackSVCBResource` was read by two
`unpackUint16` -/
theorem svcbPass1_mem {msg : Bytes} {e : Nat} (fuel off : Nat) (prev : Option Nat) :
    ∀ l, svcbPass1 msg e fuel off prev = .ok l →
    ∀ x ∈ l, ∃ o, u16At msg o = .ok (x.1, o + 2) ∧ u16At msg (o + 2) = .ok (x.2.1, x.2.2) := by
  fun_induction svcbPass1 msg e fuel off prev with
  | case6 fuel off prev _ key off1 h1 _ size off2 h2 _ ps hrec ih =>
    rintro _ ⟨⟩ x hx
    obtain rfl := (u16At_bound h1).1
    rcases List.mem_cons.mp hx with rfl | hx
    · exact ⟨off, h1, h2⟩
    · exact ih _ hrec x hx
  | case9 => rintro _ ⟨⟩ _ ⟨⟩ -- the end of the record: no entry
  | _ => nofun

theorem unpackQuestion_ok {msg : Bytes} {off : Nat} {q : Question} {o : Nat}
    (h : unpackQuestion msg off = .ok (q, o)) :
    ∃ o1, unpackName msg off = .ok (q.name, o1) ∧ u16At msg o1 = .ok (q.typ, o1 + 2) ∧
      u16At msg (o1 + 2) = .ok (q.cls, o) ∧ o = o1 + 4 := by
  revert h
  fun_cases unpackQuestion msg off
  case case4 n o1 h1 t o2 h2 c o3 h3 =>
    rintro ⟨⟩
    obtain rfl := (u16At_bound h2).1
    exact ⟨o1, h1, h2, h3, (u16At_bound h3).1⟩
  all_goals nofun

theorem unpackRHeader_ok {msg : Bytes} {off : Nat} {hd : RHeader} {o : Nat}
    (h : unpackRHeader msg off = .ok (hd, o)) :
    ∃ o1, unpackName msg off = .ok (hd.name, o1) ∧ u16At msg o1 = .ok (hd.typ, o1 + 2) ∧
      u16At msg (o1 + 2) = .ok (hd.cls, o1 + 4) ∧ u32At msg (o1 + 4) = .ok (hd.ttl, o1 + 8) ∧
      u16At msg (o1 + 8) = .ok (hd.length, o) ∧ o = o1 + 10 ∧ o + hd.length ≤ msg.length := by
  revert h
  fun_cases unpackRHeader msg off
  case case7 n o1 h1 t o2 h2 c o3 h3 ttl o4 h4 len o5 h5 hin =>
    rintro ⟨⟩
    obtain rfl := (u16At_bound h2).1
    obtain rfl := (u16At_bound h3).1
    obtain rfl := (u32At_bound h4).1
    exact ⟨o1, h1, h2, h3, h4, h5, (u16At_bound h5).1, Nat.le_of_not_gt hin⟩
  all_goals nofun

theorem unpackResource_ok {msg : Bytes} {off : Nat} {r : Resource} {o : Nat}
    (h : unpackResource msg off = .ok (r, o)) :
    ∃ o1, unpackRHeader msg off = .ok (r.hdr, o1) ∧
      unpackBody msg o1 r.hdr.typ r.hdr.length = .ok r.body ∧ o = o1 + r.hdr.length := by
  revert h
  fun_cases unpackResource msg off
  case case3 hd o1 h1 b h2 =>
    rintro ⟨⟩
    exact ⟨o1, h1, h2, rfl⟩
  all_goals nofun

theorem unpackQuestions_ok {msg : Bytes} {k off : Nat} {qs : List Question} {o : Nat}
    (h : unpackQuestions msg (k + 1) off = .ok (qs, o)) :
    ∃ q o1 qs', unpackQuestion msg off = .ok (q, o1) ∧ unpackQuestions msg k o1 = .ok (qs', o) ∧
      qs = q :: qs' := by
  unfold unpackQuestions at h
  split at h
  · cases h
  · rename_i q o1 h1
    split at h
    · cases h
    · rename_i qs' o2 h2
      simp only [Except.ok.injEq, Prod.mk.injEq] at h
      obtain ⟨rfl, rfl⟩ := h
      exact ⟨q, o1, qs', h1, h2, rfl⟩

theorem unpackResources_ok {msg : Bytes} {k off : Nat} {rs : List Resource} {o : Nat}
    (h : unpackResources msg (k + 1) off = .ok (rs, o)) :
    ∃ r o1 rs', unpackResource msg off = .ok (r, o1) ∧ unpackResources msg k o1 = .ok (rs', o) ∧
      rs = r :: rs' := by
  unfold unpackResources at h
  split at h
  · cases h
  · rename_i r o1 h1
    split at h
    · cases h
    · rename_i rs' o2 h2
      simp only [Except.ok.injEq, Prod.mk.injEq] at h
      obtain ⟨rfl, rfl⟩ := h
      exact ⟨r, o1, rs', h1, h2, rfl⟩

theorem unpackMessageOff_ok {msg : Bytes} {m : Message} {o : Nat} (h : unpackMessageOff msg = .ok (m, o)) :
    ∃ w o1 o2 o3, unpackWireHeader msg = .ok w ∧ m.hdr = headerOfBits w.id w.bits ∧
      unpackQuestions msg w.nq 12 = .ok (m.questions, o1) ∧
      unpackResources msg w.na o1 = .ok (m.answers, o2) ∧
      unpackResources msg w.nu o2 = .ok (m.authorities, o3) ∧
      unpackResources msg w.nr o3 = .ok (m.additionals, o) := by
  revert h
  fun_cases unpackMessageOff msg
  case case6 w hw qs o1 h1 an o2 h2 au o3 h3 ad o4 h4 =>
    rintro ⟨⟩
    exact ⟨w, o1, o2, o3, hw, rfl, h1, h2, h3, h4⟩
  all_goals nofun

/-- `Decodes msg off ls d e`: reading a name at `off` yields the labels `ls`, following `d`
compression pointers; `e` is the offset just after the part stored at `off` (the terminator or
the first pointer). No pointer leads below offset `k` (12 = past the header, for the Builder,
which writes the header last). -/
inductive Decodes (k : Nat) (msg : Bytes) : Nat → List Bytes → Nat → Nat → Prop
  | nil {off : Nat} {rest : Bytes} : msg.drop off = 0 :: rest → Decodes k msg off [] 0 (off + 1)
  | label {off : Nat} {l : Bytes} {ls : List Bytes} {d e : Nat} {rest : Bytes} :
      msg.drop off = l.length :: (l ++ rest) → LabelOK l →
      Decodes k msg (off + 1 + l.length) ls d e → Decodes k msg off (l :: ls) d e
  | ptr {off p : Nat} {ls : List Bytes} {d e : Nat} {rest : Bytes} :
      msg.drop off = (192 + p / 256) :: (p % 256) :: rest → p < 16384 → k ≤ p →
      Decodes k msg p ls d e → Decodes k msg off ls (d + 1) (off + 2)

variable {k : Nat}

/-- the two octets of a compression pointer to `p`, as `Name.unpack` tests and reassembles them -/
theorem ptr_fields {p : Nat} (hp : p < 16384) :
    (192 + p / 256) / 64 = 3 ∧ (192 + p / 256) % 64 * 256 + p % 256 = p := by omega

theorem unpackLoop_of_decodes {msg : Bytes} {off : Nat} {ls : List Bytes} {d e : Nat}
    (hd : Decodes k msg off ls d e) :
    ∀ (fuel ptr : Nat) (acc : Bytes) (newOff : Nat),
      acc.length + (textOf ls).length ≤ 254 → ptr ≤ 10 → ls.length + d < fuel →
      unpackLoop msg fuel off ptr acc newOff =
        if ptr + d ≤ 10 then .ok (rootIfEmpty (acc ++ textOf ls), if ptr = 0 then e else newOff)
        else .error .tooManyPtr := by
  induction hd with
  | nil h =>
    intro fuel ptr acc newOff _ hp hf
    cases fuel with
    | zero => omega
    | succ fuel =>
      rw [unpackLoop_zero h]
      simp [textOf, hp]
  | @label off l ls d e rest h hl _ ih =>
    intro fuel ptr acc newOff hlen hp hf
    cases fuel with
    | zero => omega
    | succ fuel =>
      rcases hl with ⟨h0, h64, hdot⟩
      rw [textOf, List.length_append, List.length_cons] at hlen
      have ht : (l ++ rest).take l.length = l := List.take_left' rfl
      rw [unpackLoop_label h h0 h64 (by simp) (by rw [ht]; exact hdot) (by omega), ht,
        ih fuel ptr (acc ++ l ++ [46]) newOff (by simp; omega) hp (by simp at hf; omega)]
      simp [textOf]
  | @ptr off p ls d e rest h hp hkp _ ih =>
    intro fuel ptr acc newOff hlen hp10 hf
    cases fuel with
    | zero => omega
    | succ fuel =>
      obtain ⟨h2, h4⟩ := ptr_fields hp
      by_cases h3 : ptr < 10
      · rw [unpackLoop_pointer h h2 h3, h4, ih fuel (ptr + 1) acc _ hlen (by omega) (by omega)]
        simp [Nat.add_assoc, Nat.add_comm 1 d]
      · have h10 : ptr + 1 > 10 := by omega
        have : ¬ ptr + (d + 1) ≤ 10 := by omega
        simp only [unpackLoop, h, h2, h10, this, Nat.reduceEqDiff, if_true, if_false]

/-- `Decodes` only looks at `msg` through `drop`, so it survives appending. -/
theorem Decodes.append {msg : Bytes} {off : Nat} {ls : List Bytes} {d e : Nat}
    (hd : Decodes k msg off ls d e) (ext : Bytes) : Decodes k (msg ++ ext) off ls d e := by
  have key : ∀ {off : Nat} {x : Nat} {xs : Bytes}, msg.drop off = x :: xs →
      (msg ++ ext).drop off = x :: (xs ++ ext) := by
    intro off x xs h
    have hle : off ≤ msg.length := by
      apply Nat.le_of_lt
      apply Nat.lt_of_not_le
      intro hge
      rw [List.drop_eq_nil_of_le hge] at h
      cases h
    rw [List.drop_append_of_le_length hle, h]
    rfl
  induction hd with
  | nil h => exact Decodes.nil (key h)
  | @label _ _ _ _ _ rest h hl _ ih =>
    refine Decodes.label (rest := rest ++ ext) ?_ hl ih
    rw [key h, List.append_assoc]
  | @ptr _ _ _ _ _ rest h hp hkp _ ih =>
    refine Decodes.ptr (rest := rest ++ ext) ?_ hp hkp ih
    rw [key h]
    rfl

theorem decodes_unpackName {msg : Bytes} {off : Nat} {ls : List Bytes} {d e : Nat}
    (hd : Decodes k msg off ls d e) (hlen : (textOf ls).length ≤ 254) (hdepth : d ≤ 10) :
    unpackName msg off = .ok (rootIfEmpty (textOf ls), e) := by
  have := unpackLoop_of_decodes hd (ls.length + d + 1) 0 [] off (by simpa using hlen) (by omega) (by omega)
  simp only [Nat.zero_add, hdepth, if_true, List.nil_append] at this
  rw [unpackName_of_fuel msg off _ (by rw [this]; exact fun h => nomatch h), this]

theorem decodes_unpackName_deep {msg : Bytes} {off : Nat} {ls : List Bytes} {d e : Nat}
    (hd : Decodes k msg off ls d e) (hlen : (textOf ls).length ≤ 254) (hdepth : 10 < d) :
    unpackName msg off = .error .tooManyPtr := by
  have := unpackLoop_of_decodes hd (ls.length + d + 1) 0 [] off (by simpa using hlen) (by omega) (by omega)
  simp only [Nat.zero_add, Nat.not_le.mpr hdepth, if_false] at this
  rw [unpackName_of_fuel msg off _ (by rw [this]; exact fun h => nomatch h), this]

theorem labels_le_text : ∀ (ls : List Bytes), LabelsOK ls → 2 * ls.length ≤ (textOf ls).length := by
  intro ls
  induction ls with
  | nil => intro _; simp
  | cons l ls ih =>
    intro hok
    have := (hok l (by simp)).1
    have := ih (fun x hx => hok x (by simp [hx]))
    simp [textOf]; omega

theorem depthLoop_of_decodes {buf : Bytes} {off : Nat} {ls : List Bytes} {d e : Nat}
    (hd : Decodes k buf off ls d e) :
    ∀ (fuel acc : Nat), ls.length + d < fuel → acc + d ≤ 10 → depthLoop buf fuel off acc = acc + d := by
  induction hd with
  | nil h =>
    intro fuel acc hf _
    cases fuel with
    | zero => omega
    | succ fuel => simp [depthLoop, h]
  | @label off l ls d e rest h hl _ ih =>
    intro fuel acc hf hacc
    cases fuel with
    | zero => omega
    | succ fuel =>
      rcases hl with ⟨h0, h64, _⟩
      unfold depthLoop
      simp only [h]
      have h1 : l.length / 64 = 0 := by omega
      have h2 : ¬ l.length = 0 := by omega
      simp only [h1, h2, if_true, if_false]
      exact ih fuel acc (by simp at hf; omega) hacc
  | @ptr off p ls d e rest h hp hkp _ ih =>
    intro fuel acc hf hacc
    cases fuel with
    | zero => omega
    | succ fuel =>
      obtain ⟨h2, h4⟩ := ptr_fields hp
      unfold depthLoop
      simp only [h, h2, h4, Nat.reduceEqDiff, reduceIte]
      by_cases hcap : acc + 1 ≥ 10
      · simp [hcap]; omega
      · simp only [hcap, if_false]
        rw [ih fuel (acc + 1) (by omega) (by omega)]
        omega

theorem compressionDepth_of_decodes {buf : Bytes} {off : Nat} {ls : List Bytes} {d e : Nat}
    (hd : Decodes k buf off ls d e) (hok : LabelsOK ls) (hlen : (textOf ls).length ≤ 254) (h10 : d ≤ 10) :
    compressionDepth buf off = d := by
  have := labels_le_text ls hok
  -- the model's fuel for `compressionDepth`; enough since `ls` has at most 127 labels and `d ≤ 10`
  have := depthLoop_of_decodes hd (11 * (buf.length + 2) + 140) 0 (by omega) (by omega)
  simpa [compressionDepth] using this

/-- The definition on a non-empty input with its `let`s inlined, so that `rw` takes exactly one step. -/
theorem packLoop_cons (buf : Bytes) (c : Nat) (rest lab out : Bytes) (comp : Option CompMap) :
    packLoop buf (c :: rest) lab out comp =
    if c = 46 then
      if lab.length ≥ 64 then .error .segTooLong
      else if lab.length = 0 then .error .zeroSegLen
      else packLoop buf rest [] (out ++ lab.length :: lab) comp
    else if lab.isEmpty then
      match comp with
      | some m =>
        match lookup (c :: rest) m with
        | some p =>
          if compressionDepth (buf ++ out) p < 10 then .ok (out ++ ptrBytes p, some m)
          else packLoop buf rest [c] out
            (some (if buf.length + out.length ≤ 16383 then (c :: rest, buf.length + out.length) :: m else m))
        | none =>
          packLoop buf rest [c] out
            (some (if buf.length + out.length ≤ 16383 then (c :: rest, buf.length + out.length) :: m else m))
      | none => packLoop buf rest [c] out none
    else packLoop buf rest (lab ++ [c]) out comp := by
  conv => lhs; unfold packLoop
  rfl

/-- Inside a label the loop runs on to the next dot and emits the label there. -/
theorem packLoop_mid (pos : Bytes) : ∀ (l lab rest out : Bytes) (comp : Option CompMap),
    46 ∉ l → lab ≠ [] →
    packLoop pos (l ++ 46 :: rest) lab out comp =
      if (lab ++ l).length ≥ 64 then .error .segTooLong
      else packLoop pos rest [] (out ++ (lab ++ l).length :: (lab ++ l)) comp := by
  intro l
  induction l with
  | nil =>
    intro lab rest out comp _ hlab
    have : lab.length ≠ 0 := by
      intro h; exact hlab (List.eq_nil_of_length_eq_zero h)
    rw [List.nil_append, packLoop_cons]
    simp [this]
  | cons c l ih =>
    intro lab rest out comp hdot hlab
    have hc : c ≠ 46 := by intro h; apply hdot; simp [h]
    have hl : 46 ∉ l := by intro h; apply hdot; simp [h]
    have hemp : lab.isEmpty = false := by cases lab <;> simp at hlab ⊢
    simp only [List.cons_append]
    rw [packLoop_cons]
    simp only [hc, if_false, hemp]
    rw [ih (lab ++ [c]) rest out comp hl (by simp)]
    simp

/-- the map entry a suffix may be compressed against: present, and not already stored behind
`maxCompressionPointers` pointers; without a map there is none -/
def usable (buf key : Bytes) (c : Option CompMap) : Option Nat :=
  c.bind fun m => (lookup key m).filter fun p => decide (compressionDepth buf p < 10)

/-- `Name.pack` records the suffix `key` written at `pos` (if a pointer can reach it) -/
def enter (pos : Nat) (key : Bytes) (c : Option CompMap) : Option CompMap :=
  c.map fun m => if pos ≤ 16383 then (key, pos) :: m else m

/-- `Name.pack` on a label list (functional form of the loop), with or without a compression map. -/
def packLabels (buf : Bytes) : List Bytes → Bytes → Option CompMap → Bytes × Option CompMap
  | [], out, c => (out ++ [0], c)
  | l :: ls, out, c =>
    match usable (buf ++ out) (textOf (l :: ls)) c with
    | some p => (out ++ ptrBytes p, c)
    | none => packLabels buf ls (out ++ l.length :: l) (enter (buf.length + out.length) (textOf (l :: ls)) c)

theorem packLoop_labels (buf : Bytes) : ∀ (ls : List Bytes) (out : Bytes) (c : Option CompMap),
    LabelsOK ls → packLoop buf (textOf ls) [] out c = .ok (packLabels buf ls out c) := by
  intro ls
  induction ls with
  | nil => intro out c _; simp [textOf, packLoop, packLabels]
  | cons l ls ih =>
    intro out c hok
    have hls : LabelsOK ls := fun x hx => hok x (by simp [hx])
    obtain ⟨h0, h64, hdot⟩ := hok l (by simp)
    cases l with
    | nil => simp at h0
    | cons b l' =>
      have hb : b ≠ 46 := by intro h; apply hdot; simp [h]
      have hl' : 46 ∉ l' := by intro h; apply hdot; simp [h]
      have h64' : ¬ ([b] ++ l').length ≥ 64 := by simp at h64 ⊢; omega
      have hcont : ∀ c', packLoop buf (l' ++ 46 :: textOf ls) [b] out c' =
          .ok (packLabels buf ls (out ++ (b :: l').length :: (b :: l')) c') := by
        intro c'
        rw [packLoop_mid buf l' [b] (textOf ls) out _ hl' (by simp), if_neg h64', ih _ _ hls]
        rfl
      have htext : textOf ((b :: l') :: ls) = b :: (l' ++ 46 :: textOf ls) := by simp [textOf]
      rw [packLabels, htext, packLoop_cons]
      simp only [hb, if_false, List.isEmpty_nil, if_true]
      cases c with
      | none => exact hcont none
      | some m =>
        simp only [usable, enter, Option.bind_some, Option.map_some]
        cases hlook : lookup (b :: (l' ++ 46 :: textOf ls)) m with
        | none => exact hcont _
        | some p =>
          by_cases hdep : compressionDepth (buf ++ out) p < 10
          · simp [Option.filter, hdep]
          · simp only [Option.filter, hdep, if_false, decide_false]
            exact hcont _

theorem textOf_inj : ∀ (a b : List Bytes), LabelsOK a → LabelsOK b → textOf a = textOf b → a = b := by
  intro a
  induction a with
  | nil =>
    intro b _ _ h
    cases b with
    | nil => rfl
    | cons l ls => simp [textOf] at h
  | cons l ls ih =>
    intro b ha hb h
    cases b with
    | nil => simp [textOf] at h
    | cons l' ls' =>
      simp only [textOf] at h
      have := Lemmas.Split.append_sep_inj (ha l (by simp)).2.2 (hb l' (by simp)).2.2 h
      rw [this.1, ih ls' (fun x hx => ha x (by simp [hx])) (fun x hx => hb x (by simp [hx])) this.2]

/-- A map entry `key ↦ p` is good for `msg`: unpacking at `p` yields the labels of `key`, following
at most `maxCompressionPointers` pointers, none of which leads below offset `k`.
`p < 16384`: a pointer holds 14 bits, and `Name.pack` stores no offset above `maxPtr` = 16383. -/
def Good (k : Nat) (msg : Bytes) (key : Bytes) (p : Nat) : Prop :=
  k ≤ p ∧ p < 16384 ∧ ∃ ls d e, key = textOf ls ∧ LabelsOK ls ∧ Decodes k msg p ls d e ∧ d ≤ 10

/-- "every map entry points at an offset where unpacking yields that suffix" -/
def CompInv (k : Nat) (msg : Bytes) (m : CompMap) : Prop :=
  ∀ key p, lookup key m = some p → Good k msg key p

theorem Good.append {k : Nat} {msg key p} (h : Good k msg key p) (ext : Bytes) : Good k (msg ++ ext) key p := by
  rcases h with ⟨hk, hp, ls, d, e, hkey, hok, hd, h10⟩
  exact ⟨hk, hp, ls, d, e, hkey, hok, hd.append ext, h10⟩

theorem CompInv.append {k : Nat} {msg m} (h : CompInv k msg m) (ext : Bytes) : CompInv k (msg ++ ext) m :=
  fun key p hl => (h key p hl).append ext

theorem compInv_nil (k : Nat) (msg : Bytes) : CompInv k msg [] := by
  intro key p h; simp [lookup] at h

/-- `CompInv` for the keys of at most `n` bytes. Inside one `Name.pack` the loop enters a suffix before
its bytes are complete, so the invariant fails for that key for a while; but the loop only looks up
the shorter suffixes that are still to come. -/
def CompInvUpTo (k n : Nat) (msg : Bytes) (c : Option CompMap) : Prop :=
  ∀ m key p, c = some m → key.length ≤ n → lookup key m = some p → Good k msg key p

theorem compInvUpTo_none {k n : Nat} {msg : Bytes} : CompInvUpTo k n msg none :=
  fun _ _ _ h => nomatch h

theorem usable_eq_some {buf key : Bytes} {c : Option CompMap} {p : Nat} :
    usable buf key c = some p ↔ ∃ m, c = some m ∧ lookup key m = some p ∧ compressionDepth buf p < 10 := by
  cases c with
  | none => exact ⟨nofun, fun ⟨_, h, _⟩ => nomatch h⟩
  | some m =>
    refine Option.filter_eq_some_iff.trans ⟨fun ⟨hl, hd⟩ => ⟨m, rfl, hl, of_decide_eq_true hd⟩, ?_⟩
    rintro ⟨_, ⟨⟩, hl, hd⟩
    exact ⟨hl, decide_eq_true hd⟩

theorem lookup_enter {pos p : Nat} {key key' : Bytes} {c : Option CompMap} {m1 : CompMap}
    (hm : enter pos key' c = some m1) (hl : lookup key m1 = some p) :
    (key' = key ∧ p = pos ∧ pos ≤ 16383) ∨ ∃ m, c = some m ∧ lookup key m = some p := by
  cases c with
  | none => cases hm
  | some m =>
    obtain rfl := Option.some.inj hm
    split at hl
    · rename_i hpos
      simp only [lookup] at hl
      split at hl
      · exact .inl ⟨‹_›, (Option.some.inj hl).symm, hpos⟩
      · exact .inr ⟨m, rfl, hl⟩
    · exact .inr ⟨m, rfl, hl⟩

theorem compInvUpTo_step {k : Nat} {pre out l : Bytes} {ls : List Bytes} {c : Option CompMap}
    (hinv : CompInvUpTo k (textOf (l :: ls)).length (pre ++ out) c) :
    CompInvUpTo k (textOf ls).length (pre ++ (out ++ l.length :: l))
      (enter (pre.length + out.length) (textOf (l :: ls)) c) := by
  intro m1 key p hm1 hkl hlk
  rcases lookup_enter hm1 hlk with ⟨rfl, -, -⟩ | ⟨m, rfl, hl⟩
  · -- the entry just made is for a longer key than any still to be looked up
    simp [textOf] at hkl
    omega
  · have := (hinv m key p rfl (by simp [textOf]; omega) hl).append (l.length :: l)
    rwa [List.append_assoc] at this

/-- One `Name.pack` of the labels `ls` behind `pre ++ out`: the bytes written decode to `ls` within the
pointer budget (without a map, without any pointer), and every entry of the new map is an old one or
good for the extended buffer. -/
theorem packLabels_spec {k : Nat} (pre : Bytes) (hk : k ≤ pre.length) :
    ∀ (ls : List Bytes) (out : Bytes) (c : Option CompMap),
    LabelsOK ls → (textOf ls).length ≤ 254 → CompInvUpTo k (textOf ls).length (pre ++ out) c →
    ∃ d e x, (packLabels pre ls out c).1 = out ++ x ∧
      Decodes k (pre ++ out ++ x) (pre ++ out).length ls d e ∧ e = (pre ++ out ++ x).length ∧ d ≤ 10 ∧
      (c = none → d = 0) ∧
      ∀ m' key p, (packLabels pre ls out c).2 = some m' → lookup key m' = some p →
        (∃ m, c = some m ∧ lookup key m = some p) ∨ Good k (pre ++ out ++ x) key p := by
  intro ls
  induction ls with
  | nil =>
    intro out c _ _ _
    refine ⟨0, (pre ++ out).length + 1, [0], rfl, Decodes.nil (rest := []) (by simp), by simp; omega, Nat.zero_le _,
      fun _ => rfl, fun m' key p h1 h2 => .inl ⟨m', h1, h2⟩⟩
  | cons l ls ih =>
    intro out c hok hlen hinv
    have hl : LabelOK l := hok l (by simp)
    have hls : LabelsOK ls := fun x hx => hok x (by simp [hx])
    have hlen' : (textOf ls).length ≤ 254 := by simp [textOf] at hlen; omega
    rw [packLabels]
    cases hlook : usable (pre ++ out) (textOf (l :: ls)) c with
    | some p =>
      -- a pointer to an earlier copy of the suffix, which by the invariant decodes to `l :: ls`
      obtain ⟨m, rfl, hlk, hdep⟩ := usable_eq_some.mp hlook
      obtain ⟨hkp, hp, ls', d, e, hkey, hok', hd, h10⟩ := hinv m _ p rfl (Nat.le_refl _) hlk
      obtain rfl : ls' = l :: ls := (textOf_inj _ _ hok hok' hkey).symm
      rw [compressionDepth_of_decodes hd hok hlen h10] at hdep
      refine ⟨d + 1, (pre ++ out).length + 2, ptrBytes p, rfl, ?_, by simp [ptrBytes]; omega, hdep,
        nofun, fun m' key q h1 h2 => .inl ⟨m', h1, h2⟩⟩
      refine Decodes.ptr (rest := []) ?_ hp hkp (hd.append (ptrBytes p))
      rw [List.drop_left, ptrBytes, Nat.mod_eq_of_lt (by omega : p / 256 < 64)]
    | none =>
      obtain ⟨d, e, x, hx, hd, he, h10, h0, hmap⟩ := ih (out ++ l.length :: l) _ hls hlen' (compInvUpTo_step hinv)
      have hlist : pre ++ out ++ (l.length :: l ++ x) = pre ++ (out ++ l.length :: l) ++ x := by simp
      have hdl : Decodes k (pre ++ out ++ (l.length :: l ++ x)) (pre ++ out).length (l :: ls) d e := by
        refine Decodes.label (rest := x) ?_ hl ?_
        · rw [List.drop_left]; rfl
        · rw [hlist, show (pre ++ out).length + 1 + l.length = (pre ++ (out ++ l.length :: l)).length by
            simp only [List.length_append, List.length_cons]; omega]
          exact hd
      refine ⟨d, e, l.length :: l ++ x, by simp only [hx, List.append_assoc], hdl, by rw [he, hlist],
        h10, fun h => h0 (by rw [h]; rfl), fun m' key p h1 h2 => ?_⟩
      rcases hmap m' key p h1 h2 with ⟨m1, hm1, hlk⟩ | hg
      · rcases lookup_enter hm1 hlk with ⟨rfl, rfl, hpos⟩ | hold
        · exact .inr ⟨by omega, by omega, l :: ls, d, e, rfl, hok, by simpa only [List.length_append] using hdl, h10⟩
        · exact .inl hold
      · exact .inr (by rwa [hlist])

theorem packLabels_none (b1 b2 : Bytes) : ∀ (ls : List Bytes) (out : Bytes),
    packLabels b1 ls out none = ((packLabels b2 ls out none).1, none)
  | [], _ => rfl
  | _ :: ls, _ => packLabels_none b1 b2 ls _

theorem packLabels_isSome (buf : Bytes) : ∀ (ls : List Bytes) (out : Bytes) (c : Option CompMap),
    (packLabels buf ls out c).2.isSome = c.isSome
  | [], _, _ => rfl
  | l :: ls, out, c => by
    rw [packLabels]
    split
    · rfl
    · rw [packLabels_isSome]; cases c <;> rfl

/-- for the Builder's buffer, with its zero header and with the real one that `Finish` writes -/
def SameFrom (k : Nat) (b1 b2 : Bytes) : Prop := b1.length = b2.length ∧ b1.drop k = b2.drop k

theorem SameFrom.drop {k : Nat} {b1 b2 : Bytes} (h : SameFrom k b1 b2) {off : Nat} (ho : k ≤ off) :
    b1.drop off = b2.drop off := by
  have e : off = k + (off - k) := by omega
  rw [e, ← List.drop_drop, ← List.drop_drop, h.2]

theorem SameFrom.append {k : Nat} {b1 b2 : Bytes} (h : SameFrom k b1 b2) (x : Bytes) :
    SameFrom k (b1 ++ x) (b2 ++ x) := by
  refine ⟨by simp [h.1], ?_⟩
  rw [List.drop_append, List.drop_append, h.2, h.1]

theorem Decodes.transfer {k : Nat} {b1 b2 : Bytes} (hs : SameFrom k b1 b2) {off : Nat} {ls : List Bytes}
    {d e : Nat} (hd : Decodes k b1 off ls d e) (ho : k ≤ off) : Decodes k b2 off ls d e := by
  induction hd with
  | nil h => exact Decodes.nil (by rw [← hs.drop ho]; exact h)
  | label h hl _ ih => exact Decodes.label (by rw [← hs.drop ho]; exact h) hl (ih (by omega))
  | ptr h hp hkp _ ih => exact Decodes.ptr (by rw [← hs.drop ho]; exact h) hp hkp (ih hkp)

theorem Good.transfer {k : Nat} {b1 b2 key : Bytes} {p : Nat} (hs : SameFrom k b1 b2) (h : Good k b1 key p) :
    Good k b2 key p := by
  rcases h with ⟨hk, hp, ls, d, e, hkey, hok, hd, h10⟩
  exact ⟨hk, hp, ls, d, e, hkey, hok, hd.transfer hs hk, h10⟩

end NetVerif.Proofs.Dns
