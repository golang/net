import NetVerif.Model.FS
/-! Path-prefix and filter lemmas for the filesystem model (used by C44 and C46). -/
namespace NetVerif.Proofs.Lemmas.FS
open NetVerif.Model.FS

theorem under_iff {p q : Path} : under p q = true ↔ p <+: q := by
  simp [under]

theorem under_refl (p : Path) : under p p = true := by simp [under_iff]

theorem under_trans {a b c : Path} (h1 : under a b = true) (h2 : under b c = true) : under a c = true := by
  rw [under_iff] at *; exact List.IsPrefix.trans h1 h2

theorem under_append (p x : Path) : under p (p ++ x) = true := by
  rw [under_iff]; exact List.prefix_append p x

theorem under_nil (p : Path) : under [] p = true := by simp [under_iff]

theorem under_comparable {a b c : Path} (h1 : under a c = true) (h2 : under b c = true) :
    under a b = true ∨ under b a = true := by
  simp only [under_iff] at *
  exact List.prefix_or_prefix_of_prefix h1 h2

theorem not_under_of_incomparable {s d p : Path} (h1 : under d s = false) (h2 : under s d = false)
    (hp : under s p = true) : under d p = false := by
  cases h : under d p with
  | false => rfl
  | true =>
    rcases under_comparable hp h with h' | h'
    · rw [h'] at h2; cases h2
    · rw [h'] at h1; cases h1

theorem outside_append (p : Path) (a b : Tree) : outside p (a ++ b) = outside p a ++ outside p b := by
  simp [outside]

theorem sub_append (a b : Tree) (p : Path) : sub (a ++ b) p = sub a p ++ sub b p := by
  simp [sub]

theorem outside_outside_of_under {d0 d : Path} (h : under d0 d = true) (t : Tree) :
    outside d0 (outside d t) = outside d0 t := by
  unfold outside
  rw [List.filter_filter]
  apply List.filter_congr
  intro e _
  cases hd : under d e.1 with
  | false => simp
  | true => simp [under_trans h hd]

theorem outside_snoc_under {d0 d : Path} (h : under d0 d = true) (t : Tree) (e : Entry) :
    outside d0 (t ++ [(d, e)]) = outside d0 t := by
  rw [outside_append]
  simp [outside, h]

theorem outside_map_replace {d0 p : Path} (h : under d0 p = true) (t : Tree) (e : Entry) :
    outside d0 (t.map (fun x => if x.1 = p then (p, e) else x)) = outside d0 t := by
  unfold outside
  induction t with
  | nil => rfl
  | cons x xs ih =>
    simp only [List.map_cons, List.filter_cons]
    by_cases hx : x.1 = p
    · rw [ih]; simp [hx, h]
    · rw [ih]; simp [hx]

theorem outside_setEntry {d0 p : Path} (h : under d0 p = true) (t : Tree) (e : Entry) :
    outside d0 (setEntry t p e) = outside d0 t := by
  unfold setEntry
  split
  · exact outside_map_replace h t e
  · exact outside_snoc_under h t e

theorem sub_outside_incomparable {s d : Path} (h1 : under d s = false) (h2 : under s d = false) (t : Tree) :
    sub (outside d t) s = sub t s := by
  unfold sub outside
  rw [List.filter_filter]
  apply List.filter_congr
  intro e _
  cases hs : under s e.1 with
  | false => simp
  | true => simp [not_under_of_incomparable h1 h2 hs]

theorem sub_outside_self (s : Path) (t : Tree) : sub (outside s t) s = [] := by
  unfold sub outside
  rw [List.filter_filter, List.filter_eq_nil_iff]
  intro e _
  cases under s e.1 <;> simp

theorem sub_rebase_dst (a b : Path) (es : Tree) : sub (rebase a b es) b = rebase a b es := by
  unfold sub rebase
  rw [List.filter_eq_self]
  intro e he
  simp only [List.mem_map] at he
  obtain ⟨x, _, rfl⟩ := he
  exact under_append b _

theorem sub_rebase_incomparable {a b : Path} (h1 : under b a = false) (h2 : under a b = false) (es : Tree) :
    sub (rebase a b es) a = [] := by
  unfold sub rebase
  rw [List.filter_eq_nil_iff]
  intro e he
  simp only [List.mem_map] at he
  obtain ⟨x, _, rfl⟩ := he
  have := not_under_of_incomparable (s := b) (d := a) (p := b ++ List.drop a.length x.1) h2 h1 (under_append b _)
  simp [this]

end NetVerif.Proofs.Lemmas.FS
