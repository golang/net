import NetVerif.Model.QuicStream
import NetVerif.Proofs.C24
import NetVerif.Proofs.Lemmas.RangesetBounds
import NetVerif.Proofs.Lemmas.IfCases
/-! Send side of one QUIC stream: the bookkeeping invariant `SInv`, read through `SI` as a fact about four values
that the operations move in four ways; the relation `Keeps` that every operation other than a packet build
satisfies; and what a run of the STREAM loop guarantees (`LoopPost`). -/
namespace NetVerif.Proofs.Lemmas.QuicSendPath
open NetVerif.Model NetVerif.Model.QuicStream
open NetVerif.Model.Rangeset (RS Rg)
open NetVerif.Proofs.C24 (Mem WF Chain mem_add_all wf_add_all mem_sub_all wf_sub_all chain_head_le)
open NetVerif.Proofs.Lemmas.RangesetBounds
open NetVerif.Proofs.Lemmas (ite_ind)

/-- the flushed, permitted prefix of the stream -/
def lim (s : Stream) : Int := imin s.outflushed s.outwin

/-- Send-side invariant of a stream that has not been reset. -/
structure SInv (s : Stream) : Prop where
  bound : s.outmaxsent ≤ lim s
  uRP : AllRP (lim s) (lim s) s.outunsent
  uWF : WF s.outunsent
  uNew : ∀ x, s.outmaxsent ≤ x → x < lim s → Mem s.outunsent x    -- never-sent permitted bytes are unsent
  -- only what was sent is acknowledged: a frame's fate concerns a range with `en ≤ outmaxsent` (`SI.ack`)
  aRP : AllRP s.outmaxsent s.outmaxsent s.outacked
  -- the pipe is discarded only up to the end of the first acked range (`keeps_acked`), which `aRP` bounds
  start : s.out.start ≤ s.outmaxsent
  flushed : s.outflushed ≤ s.out.stop

theorem imin_le_left (a b : Int) : imin a b ≤ a := by unfold imin; split <;> omega
theorem imin_le_right (a b : Int) : imin a b ≤ b := by unfold imin; split <;> omega
theorem le_imin {a b c : Int} (h1 : c ≤ a) (h2 : c ≤ b) : c ≤ imin a b := by unfold imin; split <;> omega
theorem imin_eq (a b : Int) : imin a b = (if b ≤ a then b else a) := by
  unfold imin; split <;> split <;> omega

/-- `for _, a := range s.outacked { s.outunsent.sub(a.start, a.end) }` removes exactly the acked offsets. -/
theorem foldl_sub_mem (acked : List Rg) : ∀ (u : RS), WF u →
    WF (acked.foldl (fun u a => Rangeset.sub u a.s a.e) u) ∧
    ∀ x, Mem (acked.foldl (fun u a => Rangeset.sub u a.s a.e) u) x ↔ (Mem u x ∧ ¬ Mem acked x) := by
  induction acked with
  | nil => intro u hu; exact ⟨hu, fun x => ⟨fun h => ⟨h, fun ⟨_, hr, _⟩ => nomatch hr⟩, fun h => h.1⟩⟩
  | cons a rest ih =>
    intro u hu
    have := ih (Rangeset.sub u a.s a.e) (wf_sub_all u a.s a.e hu)
    refine ⟨this.1, fun x => ?_⟩
    rw [List.foldl_cons, this.2 x, mem_sub_all u a.s a.e hu x, NetVerif.Proofs.C24.mem_cons, not_or, and_assoc]

/-- What `SInv` says of the highest offset sent `ms`, the permitted prefix `L` and the two range sets. -/
def SI (ms L : Int) (u a : RS) : Prop :=
  ms ≤ L ∧ AllRP L L u ∧ WF u ∧ (∀ x, ms ≤ x → x < L → Mem u x) ∧ AllRP ms ms a

theorem SInv_iff (s : Stream) : SInv s ↔
    SI s.outmaxsent (lim s) s.outunsent s.outacked ∧ s.out.start ≤ s.outmaxsent ∧ s.outflushed ≤ s.out.stop :=
  ⟨fun h => ⟨⟨h.bound, h.uRP, h.uWF, h.uNew, h.aRP⟩, h.start, h.flushed⟩,
    fun ⟨⟨a, b, c, d, e⟩, f, g⟩ => ⟨a, b, c, d, e, f, g⟩⟩

section Moves
variable {ms L : Int} {u a : RS}

/-- The permitted prefix grows (a flush, or a larger MAX_STREAM_DATA) and exactly the new part joins `unsent`. -/
theorem SI.grow (h : SI ms L u a) {L' : Int} (hl : L ≤ L') : SI ms L' (Rangeset.add u L L') a :=
  ⟨Int.le_trans h.1 hl, add_rp (allRP_mono h.2.1 hl hl) hl hl (Int.le_refl _), wf_add_all _ _ _ h.2.2.1,
    fun x hx hxl => (mem_add_all _ _ _ h.2.2.1 x).2 <| (Int.lt_or_le x L).imp (h.2.2.2.1 x hx) fun hc => ⟨hc, hxl⟩,
    h.2.2.2.2⟩

/-- `[off, e)` goes out in a frame: it leaves `unsent`, and `ms` moves up to cover it. -/
theorem SI.take (h : SI ms L u a) {off e ms' : Int} (he : e ≤ ms') (h1 : ms ≤ ms') (h2 : ms' ≤ L) :
    SI ms' L (Rangeset.sub u off e) a :=
  ⟨h2, sub_rp h.2.1 (Int.le_trans he h2), wf_sub_all _ _ _ h.2.2.1,
    fun x hx hxl => (mem_sub_all _ _ _ h.2.2.1 x).2 ⟨h.2.2.2.1 x (Int.le_trans h1 hx) hxl, by omega⟩,
    allRP_mono h.2.2.2.2 h1 h1⟩

theorem SI.ack (h : SI ms L u a) {off e : Int} (hoe : off ≤ e) (he : e ≤ ms) :
    SI ms L (Rangeset.sub u off e) (Rangeset.add a off e) :=
  have t := h.take (off := off) he (Int.le_refl _) h.1
  ⟨t.1, t.2.1, t.2.2.1, t.2.2.2.1, add_rp h.2.2.2.2 hoe (Int.le_trans hoe he) he⟩

/-- A sent range is lost: it is unsent again, apart from what has been acknowledged since. -/
theorem SI.lose (h : SI ms L u a) {off e : Int} (hoe : off ≤ e) (he : e ≤ ms) :
    SI ms L (a.foldl (fun u r => Rangeset.sub u r.s r.e) (Rangeset.add u off e)) a := by
  have haa : ∀ r ∈ a, r.e ≤ ms := fun r hr => (h.2.2.2.2 r hr).2.2
  have hk := foldl_sub_mem a _ (wf_add_all u off e h.2.2.1)
  have hb := h.1
  refine ⟨hb, foldl_sub_rp _ _ (add_rp h.2.1 hoe (by omega) (by omega)) fun r hr => Int.le_trans (haa r hr) hb,
    hk.1, fun x hx hxl => ?_, h.2.2.2.2⟩
  rw [hk.2 x, mem_add_all _ _ _ h.2.2.1]
  exact ⟨Or.inl (h.2.2.2.1 x hx hxl), fun ⟨r, hr, _, hlt⟩ => by have := haa r hr; omega⟩

end Moves

theorem ptoEnd_bounds (start e : Int) (acked : List Rg) (hse : start ≤ e) (ha : ∀ r ∈ acked, r.s ≤ e) :
    0 ≤ ptoEnd start e acked ∧ start + ptoEnd start e acked ≤ e := by
  induction acked with
  | nil => simp [ptoEnd]; omega
  | cons r rest ih =>
    unfold ptoEnd
    have hr := ha r (by simp)
    by_cases h : r.s > start
    · simp only [h, if_true]; omega
    · simp only [h, if_false]; exact ih (fun x hx => ha x (by simp [hx]))

theorem dataToSend_facts (s : Stream) (h : SInv s) (pto : Bool) :
    let d := dataToSend (imin s.out.start s.outwin) (lim s) s.outunsent s.outacked pto
    d.1 ≤ s.outmaxsent ∧ 0 ≤ d.2 ∧ d.1 + d.2 ≤ lim s := by
  unfold dataToSend
  by_cases hp : pto = true
  · simp only [hp, if_true]
    have h1 : imin s.out.start s.outwin ≤ s.outmaxsent := Int.le_trans (imin_le_left _ _) h.start
    have hb := ptoEnd_bounds (imin s.out.start s.outwin) (lim s) s.outacked (Int.le_trans h1 h.bound)
      (fun r hr => by have := h.aRP r hr; unfold RP at this; have := h.bound; omega)
    exact ⟨h1, hb.1, hb.2⟩
  · have hp' : pto = false := by simpa using hp
    subst hp'
    simp only [Bool.false_eq_true, if_false]
    cases hu : s.outunsent with
    | nil =>
      simp only []
      have : lim s ≤ s.outmaxsent := by
        apply Int.not_lt.1
        intro hlt
        have := h.uNew s.outmaxsent (Int.le_refl _) hlt
        rw [hu] at this; simp at this
      refine ⟨this, Int.le_refl _, by omega⟩
    | cons r0 rest =>
      simp only []
      have hr0 := h.uRP r0 (by rw [hu]; simp)
      unfold RP at hr0
      refine ⟨?_, by omega, by omega⟩
      by_cases hlt : s.outmaxsent < lim s
      · have hm := h.uNew s.outmaxsent (Int.le_refl _) hlt
        rw [hu] at hm
        obtain ⟨b, hb⟩ := h.uWF
        rw [hu] at hb
        exact chain_head_le hb hm
      · omega

theorem lim_congr {s t : Stream} (hfl : t.outflushed = s.outflushed) (hwin : t.outwin = s.outwin) : lim t = lim s := by
  unfold lim; rw [hfl, hwin]

/-- The invariant reads `outflushed` and `outwin` only through `lim`. -/
theorem SInv_congr {s t : Stream} (h : SInv s) (hms : t.outmaxsent = s.outmaxsent) (hl : lim t = lim s)
    (hu : t.outunsent = s.outunsent) (ha : t.outacked = s.outacked) (hst : t.out.start = s.out.start)
    (hfl : t.outflushed ≤ t.out.stop) : SInv t := by
  rw [SInv_iff] at h ⊢
  rw [hms, hl, hu, ha, hst]
  exact ⟨h.1, h.2.1, hfl⟩

theorem SInv_grow {s t : Stream} (h : SInv s) (hms : t.outmaxsent = s.outmaxsent) (hl : lim s ≤ lim t)
    (hu : t.outunsent = Rangeset.add s.outunsent (lim s) (lim t)) (ha : t.outacked = s.outacked)
    (hst : t.out.start = s.out.start) (hfl : t.outflushed ≤ t.out.stop) : SInv t := by
  rw [SInv_iff] at h ⊢
  rw [hms, hu, ha, hst]
  exact ⟨h.1.grow hl, h.2.1, hfl⟩

/-- the fields the invariant reads, the pipe window aside -/
def sendView (s : Stream) :=
  (s.id, s.outmaxsent, s.outflushed, s.outwin, s.outunsent, s.outacked, s.outreset)

structure SameSend (s t : Stream) : Prop where
  view : sendView t = sendView s
  start : t.out.start = s.out.start
  stop : s.out.stop ≤ t.out.stop

theorem SameSend.fields {s t : Stream} (e : SameSend s t) :
    t.id = s.id ∧ t.outmaxsent = s.outmaxsent ∧ t.outflushed = s.outflushed ∧ t.outwin = s.outwin ∧
      t.outunsent = s.outunsent ∧ t.outacked = s.outacked ∧ t.outreset = s.outreset := by
  simpa only [sendView, Prod.mk.injEq] using e.view

/-- What every operation other than a packet build guarantees: `outmaxsent` and `outreset` untouched, `outwin`
not lowered, and the invariant kept if it held (after a reset it need not hold any more). -/
structure Keeps (s t : Stream) : Prop where
  ms : t.outmaxsent = s.outmaxsent
  win : s.outwin ≤ t.outwin
  rs : t.outreset = s.outreset
  inv : SInv s → SInv t

theorem Keeps.refl (s : Stream) : Keeps s s := ⟨rfl, Int.le_refl _, rfl, id⟩

theorem Keeps.trans {s t u : Stream} (a : Keeps s t) (b : Keeps t u) : Keeps s u :=
  ⟨by rw [b.ms, a.ms], Int.le_trans a.win b.win, by rw [b.rs, a.rs], fun h => b.inv (a.inv h)⟩

theorem Keeps.ite {P : Prop} [Decidable P] {s a b : Stream} (ha : Keeps s a) (hb : Keeps s b) :
    Keeps s (if P then a else b) :=
  ite_ind (Keeps s) (fun _ => ha) (fun _ => hb)

theorem keeps_same {s t : Stream} (e : SameSend s t) : Keeps s t := by
  obtain ⟨_, hms, hfl, hwin, hun, hak, hrs⟩ := e.fields
  exact ⟨hms, by rw [hwin]; exact Int.le_refl _, hrs, fun h => SInv_congr h hms (lim_congr hfl hwin) hun hak e.start
    (by rw [hfl]; exact Int.le_trans h.flushed e.stop)⟩

theorem flushFast_same (s : Stream) : SameSend s (flushFast s) := by
  unfold flushFast
  split
  · exact ⟨rfl, rfl, Int.le_refl _⟩
  · exact ⟨rfl, rfl, Int.le_add_of_nonneg_right (Int.natCast_nonneg _)⟩

theorem flushLocked_inv (s : Stream) : Keeps s (flushLocked s) ∧ (flushLocked s).outwin = s.outwin := by
  have hf := flushFast_same s
  suffices h : Keeps (flushFast s) (flushLocked s) ∧ (flushLocked s).outwin = (flushFast s).outwin from
    ⟨(keeps_same hf).trans h.1, h.2.trans hf.fields.2.2.2.1⟩
  unfold flushLocked
  simp only []
  generalize flushFast s = t
  by_cases hlt : t.outflushed < t.outwin
  · rw [if_pos hlt]
    have h1 : lim t = t.outflushed := by unfold lim imin; rw [if_pos (Int.le_of_lt hlt)]
    refine ⟨⟨rfl, Int.le_refl _, rfl, fun h => SInv_grow h rfl ?_ ?_ rfl rfl (Int.le_refl _)⟩, rfl⟩
    · rw [h1]; exact le_imin h.flushed (Int.le_of_lt hlt)
    · show Rangeset.add t.outunsent t.outflushed _ = Rangeset.add t.outunsent (lim t) (imin t.out.stop t.outwin)
      rw [h1, imin_eq]
  · rw [if_neg hlt]
    refine ⟨⟨rfl, Int.le_refl _, rfl, fun h => SInv_congr h rfl ?_ rfl rfl rfl (Int.le_refl _)⟩, rfl⟩
    have := h.flushed
    show imin t.out.stop t.outwin = imin t.outflushed t.outwin
    unfold imin
    split <;> split <;> omega

theorem handleMaxStreamData_inv (s : Stream) (v : Int) : Keeps s (handleMaxStreamData s v) := by
  unfold handleMaxStreamData
  by_cases hv : v ≤ s.outwin
  · rw [if_pos hv]; exact Keeps.refl s
  · rw [if_neg hv]
    simp only []
    refine Keeps.trans ?_ (Keeps.ite (keeps_same ⟨rfl, rfl, Int.le_refl _⟩) (keeps_same ⟨rfl, rfl, Int.le_refl _⟩))
    by_cases hc : s.outflushed > s.outwin
    · rw [if_pos hc]
      have h1 : lim s = s.outwin := by unfold lim imin; rw [if_neg (by omega)]
      refine ⟨rfl, by show s.outwin ≤ v; omega, rfl, fun h => SInv_grow h rfl ?_ ?_ rfl rfl h.flushed⟩
      · show lim s ≤ imin s.outflushed v
        rw [h1]; exact le_imin (by omega) (by omega)
      · show Rangeset.add s.outunsent s.outwin _ = Rangeset.add s.outunsent (lim s) (imin s.outflushed v)
        rw [h1, imin_eq]
    · rw [if_neg hc]
      refine ⟨rfl, by show s.outwin ≤ v; omega, rfl, fun h => SInv_congr h rfl ?_ rfl rfl rfl h.flushed⟩
      show imin s.outflushed v = imin s.outflushed s.outwin
      unfold imin
      split <;> split <;> omega

/-- what `ackOrLossData` does to a sent range `[st,en)` on a stream that is not reset -/
structure Fate (s t : Stream) (st en : Int) (acked : Bool) : Prop where
  view : sendView t = (s.id, s.outmaxsent, s.outflushed, s.outwin,
    (if acked then Rangeset.sub s.outunsent st en
     else s.outacked.foldl (fun u a => Rangeset.sub u a.s a.e) (Rangeset.add s.outunsent st en)),
    (if acked then Rangeset.add s.outacked st en else s.outacked), s.outreset)
  out : t.out = s.out ∨ (acked = true ∧ ∃ r0 ∈ Rangeset.add s.outacked st en, t.out = Pipe.discardBefore s.out r0.e)

theorem ackOrLossData_fate (s : Stream) (pn st en : Int) (fin acked : Bool) (hr : s.outreset.isSet = false) :
    Fate s (ackOrLossData s pn st en fin acked) st en acked := by
  unfold ackOrLossData
  cases acked
  · cases fin <;> simp only [hr, Bool.false_eq_true, if_false, if_true] <;> exact ⟨rfl, Or.inl rfl⟩
  -- acked; the two values of `fin` differ in `outclosed`, which `Fate` does not read
  cases fin <;> simp only [hr, Bool.false_eq_true, if_false, if_true]
  all_goals
    by_cases hc : Rangeset.contains (Rangeset.add s.outacked st en) s.out.start = true
    · rw [if_pos hc]
      split
      · rename_i r0 _ heq
        exact ⟨rfl, Or.inr ⟨rfl, r0, by rw [heq]; exact List.mem_cons_self, rfl⟩⟩
      · exact ⟨rfl, Or.inl rfl⟩
    · rw [if_neg hc]; exact ⟨rfl, Or.inl rfl⟩

theorem ackOrLossData_sets (s : Stream) (pn st en : Int) (fin acked : Bool) (hr : s.outreset.isSet = false) :
    (ackOrLossData s pn st en fin acked).outacked = (if acked then Rangeset.add s.outacked st en else s.outacked) ∧
    (ackOrLossData s pn st en fin acked).outunsent =
      (if acked then Rangeset.sub s.outunsent st en
       else s.outacked.foldl (fun u a => Rangeset.sub u a.s a.e) (Rangeset.add s.outunsent st en)) := by
  have hv := (ackOrLossData_fate s pn st en fin acked hr).view
  simp only [sendView, Prod.mk.injEq] at hv
  exact ⟨hv.2.2.2.2.2.1, hv.2.2.2.2.1⟩

theorem keeps_acked {s t : Stream} {st en : Int} (hse : st ≤ en) (hen : en ≤ s.outmaxsent)
    (hf : Fate s t st en true) : Keeps s t := by
  have hv := hf.view
  simp only [sendView, Prod.mk.injEq, if_true] at hv
  obtain ⟨_, hms, hfl, hwin, hun, hak, hrs⟩ := hv
  refine ⟨hms, Int.le_of_eq hwin.symm, hrs, fun h => ?_⟩
  obtain ⟨hi, hst, hfd⟩ := (SInv_iff s).1 h
  have hi' := hi.ack hse hen
  rw [SInv_iff, lim_congr hfl hwin, hms, hun, hak, hfl]
  -- the head of the pipe is dropped up to the end of the first acked range, if that range covers it
  rcases hf.out with ho | ⟨_, r0, hr0, ho⟩ <;> rw [ho]
  · exact ⟨hi', hst, hfd⟩
  · refine ⟨hi', (hi'.2.2.2.2 r0 hr0).2.2, ?_⟩
    show s.outflushed ≤ (if s.out.stop > r0.e then s.out.stop else r0.e); split <;> omega

theorem keeps_lost {s t : Stream} {st en : Int} (hse : st ≤ en) (hen : en ≤ s.outmaxsent)
    (hf : Fate s t st en false) : Keeps s t := by
  have hv := hf.view
  simp only [sendView, Prod.mk.injEq, Bool.false_eq_true, if_false] at hv
  obtain ⟨_, hms, hfl, hwin, hun, hak, hrs⟩ := hv
  have ho : t.out = s.out := hf.out.resolve_right (fun h => Bool.false_ne_true h.1)
  refine ⟨hms, Int.le_of_eq hwin.symm, hrs, fun h => ?_⟩
  rw [SInv_iff] at h ⊢
  rw [lim_congr hfl hwin, hms, hun, hak, hfl, ho]
  exact ⟨h.1.lose hse hen, h.2⟩

theorem ackOrLossData_reset (s : Stream) (pn st en : Int) (fin acked : Bool) (hr : s.outreset.isSet = true) :
    SameSend s (ackOrLossData s pn st en fin acked) := by
  unfold ackOrLossData
  cases fin <;> simp only [Bool.false_eq_true, if_false, if_true, hr] <;> exact ⟨rfl, rfl, Int.le_refl _⟩

theorem ackOrLossData_fields (s : Stream) (pn st en : Int) (fin acked : Bool) :
    (ackOrLossData s pn st en fin acked).outmaxsent = s.outmaxsent ∧
    (ackOrLossData s pn st en fin acked).outwin = s.outwin ∧
    (ackOrLossData s pn st en fin acked).outreset = s.outreset := by
  cases hr : s.outreset.isSet
  · have hv := (ackOrLossData_fate s pn st en fin acked hr).view
    simp only [sendView, Prod.mk.injEq] at hv
    exact ⟨hv.2.1, hv.2.2.2.1, hv.2.2.2.2.2.2⟩
  · obtain ⟨_, hms, _, hwin, _, _, hrs⟩ := (ackOrLossData_reset s pn st en fin acked hr).fields
    exact ⟨hms, hwin, hrs⟩

theorem frm_ackOrLossData (s : Stream) (pn st en : Int) (fin acked : Bool) :
    (ackOrLossData s pn st en fin acked).outmaxsent = s.outmaxsent ∧
    s.outwin ≤ (ackOrLossData s pn st en fin acked).outwin ∧
    (ackOrLossData s pn st en fin acked).outreset = s.outreset :=
  have h := ackOrLossData_fields s pn st en fin acked
  ⟨h.1, Int.le_of_eq h.2.1.symm, h.2.2⟩

theorem ackOrLossData_inv (s : Stream) (pn st en : Int) (fin acked : Bool) (hse : st ≤ en) (hen : en ≤ s.outmaxsent) :
    Keeps s (ackOrLossData s pn st en fin acked) := by
  cases hr : s.outreset.isSet
  · have hf := ackOrLossData_fate s pn st en fin acked hr
    cases acked
    · exact keeps_lost hse hen hf
    · exact keeps_acked hse hen hf
  · exact keeps_same (ackOrLossData_reset s pn st en fin acked hr)

theorem pipe_writeLoop_bounds (c : Nat) (st sp : Int) (bufs : List Pipe.Buf) (b : List Nat) (off : Int) :
    (Pipe.writeLoop c st sp bufs b off).1.start = st ∧ (Pipe.writeLoop c st sp bufs b off).1.stop = sp := by
  unfold Pipe.writeLoop
  split
  · exact ⟨rfl, rfl⟩
  · split <;> split <;> exact ⟨rfl, rfl⟩

theorem pipeWrite_bounds (p : Pipe.Pipe) (b : List Nat) (off : Int) :
    (pipeWrite p b off).1.start = p.start ∧ p.stop ≤ (pipeWrite p b off).1.stop := by
  unfold pipeWrite Pipe.writeAt
  simp only []
  by_cases h : off + (b.length : Int) ≤ p.stop ∧ off + (b.length : Int) ≤ p.start
  · rw [if_pos h]; exact ⟨rfl, Int.le_refl _⟩
  · rw [if_neg h, (pipe_writeLoop_bounds _ _ _ _ _ _).1, (pipe_writeLoop_bounds _ _ _ _ _ _).2]
    exact ⟨rfl, by split <;> omega⟩

theorem writeLoop_keeps : ∀ (fuel : Nat) (s : Stream) (b : List Nat) (n : Nat) (cw : Bool),
    Keeps s (writeLoop fuel s b n cw).1 := by
  intro fuel
  induction fuel with
  | zero => intro s b n cw; exact Keeps.refl s
  | succ k ih =>
    intro s b n cw
    rw [writeLoop]
    simp -zeta only [apply_ite Prod.fst]
    refine Keeps.ite (Keeps.refl s) (Keeps.ite (Keeps.refl s) (Keeps.ite (Keeps.refl s) ?_))
    -- append to the pipe, maybe flush, maybe mark blocked, go round again
    refine Keeps.trans ?_ (ih _ _ _ _)
    refine Keeps.trans ?_ (Keeps.ite ?_ (Keeps.refl _))
    · refine Keeps.trans ?_ (Keeps.ite (flushLocked_inv _).1 (Keeps.refl _))
      exact keeps_same ⟨rfl, (pipeWrite_bounds _ _ _).1, (pipeWrite_bounds _ _ _).2⟩
    · exact keeps_same ⟨rfl, rfl, Int.le_refl _⟩

theorem pokeTail_bounds (p : Pipe.Pipe) (pos : Int) (b : List Nat) :
    (pokeTail p pos b).start = p.start ∧ (pokeTail p pos b).stop = p.stop := by
  unfold pokeTail; split <;> exact ⟨rfl, rfl⟩

theorem write_keeps (s : Stream) (b : List Nat) : Keeps s (write s b).1 := by
  rw [write]
  simp only [apply_ite Prod.fst]
  refine Keeps.ite (Keeps.refl s) (Keeps.ite ?_ ?_)
  · exact keeps_same ⟨rfl, (pokeTail_bounds _ _ _).1, Int.le_of_eq (pokeTail_bounds _ _ _).2.symm⟩
  · refine ((keeps_same (flushFast_same s)).trans (writeLoop_keeps _ _ _ _ _)).trans
      (Keeps.ite (Keeps.refl _) (Keeps.ite ?_ (Keeps.refl _)))
    split <;> exact keeps_same ⟨rfl, rfl, Int.le_refl _⟩

theorem frm_write (s : Stream) (b : List Nat) :
    (write s b).1.outmaxsent = s.outmaxsent ∧ s.outwin ≤ (write s b).1.outwin ∧ (write s b).1.outreset = s.outreset :=
  have k := write_keeps s b
  ⟨k.ms, k.win, k.rs⟩

theorem flush_keeps (s : Stream) : Keeps s (flush s).1 := by
  unfold flush
  split
  · exact Keeps.refl s
  · split
    · exact Keeps.refl s
    · exact (flushLocked_inv s).1

theorem closeWrite_keeps (s : Stream) : Keeps s (closeWrite s) := by
  unfold closeWrite
  refine Keeps.ite (Keeps.refl s) (Keeps.trans ?_ (flushLocked_inv _).1)
  exact keeps_same ⟨rfl, rfl, Int.le_refl _⟩

theorem SInv_sent (s : Stream) (h : SInv s) (off e ms' : Int) (he : e ≤ ms') (h1 : s.outmaxsent ≤ ms')
    (h2 : ms' ≤ lim s) : SInv { s with outmaxsent := ms', outunsent := Rangeset.sub s.outunsent off e } :=
  (SInv_iff _).2 ⟨((SInv_iff s).1 h).1.take he h1 h2, Int.le_trans h.start h1, h.flushed⟩

theorem clamp_within {off size ms av : Int} (hs : 0 ≤ size) (hav : 0 ≤ av) (hoff : off ≤ ms) :
    0 ≤ clampSize off size ms av ∧ clampSize off size ms av ≤ size ∧ off + clampSize off size ms av ≤ ms + av := by
  unfold clampSize
  by_cases h : off + size > ms
  · -- `max(min(end, outmaxsent + avail), off) - off`
    rw [if_pos h]
    have h1 := imin_le_left (off + size) (ms + av)
    have h2 := imin_le_right (off + size) (ms + av)
    generalize imin (off + size) (ms + av) = m at h1 h2 ⊢
    unfold QuicStream.imax
    split <;> omega
  · rw [if_neg h]; omega

/-- `appendStreamFrame` either truncates the frame (and then clears the FIN bit) or takes it whole -/
theorem fit_cases {a id off size : Int} {fin : Bool} {n : Int} {wf : Bool}
    (h : streamFrameFit a id off size fin = some (n, wf)) :
    (0 ≤ n ∧ n < size ∧ wf = false) ∨ (n = size ∧ wf = fin) := by
  unfold streamFrameFit at h
  simp only [] at h
  generalize (if off ≠ 0 then szv off else 0) = o at h
  by_cases h1 : (a - 1 - szv id - o - szv size < 0 ∨ (a - 1 - szv id - o - szv size = 0 ∧ size > 0))
  · rw [if_pos h1] at h; exact nomatch h
  · rw [if_neg h1] at h
    by_cases h2 : a - 1 - szv id - o - szv size < size
    · rw [if_pos h2] at h
      simp only [Option.some.injEq, Prod.mk.injEq] at h
      exact Or.inl ⟨by omega, by omega, h.2.symm⟩
    · rw [if_neg h2] at h
      simp only [Option.some.injEq, Prod.mk.injEq] at h
      exact Or.inr ⟨h.1.symm, h.2.symm⟩

theorem fit_le {a id off size : Int} {fin : Bool} {n : Int} {wf : Bool}
    (h : streamFrameFit a id off size fin = some (n, wf)) (hs : 0 ≤ size) : 0 ≤ n ∧ n ≤ size := by
  rcases fit_cases h with ⟨h1, h2, _⟩ | ⟨h1, _⟩ <;> omega

theorem charge_facts (oused omax ms e : Int) (hinv : oused ≤ omax) (he : e ≤ ms + avail omax oused) :
    (charge oused ms e).1 ≤ omax ∧ (charge oused ms e).1 - oused = (charge oused ms e).2 - ms ∧
      (charge oused ms e).2 = (if e > ms then e else ms) ∧ ms ≤ (charge oused ms e).2 := by
  unfold avail at he
  unfold charge consume
  by_cases h : e > ms
  · rw [if_pos h, if_pos h]; dsimp only; omega
  · rw [if_neg h, if_neg h]; dsimp only; omega

/-- What any number of iterations of the STREAM loop (`outLoop`) do, from `(c, s, w)` to `(c', s', w')`. `charged`:
connection credit is taken for the advance of `outmaxsent` and for nothing else, so retransmissions are free; `recs`:
every record added is a STREAM record of this stream that ends at or below the new `outmaxsent`. -/
structure LoopPost (c c' : Conn) (s s' : Stream) (w w' : Writer) : Prop where
  omax : c'.omax = c.omax
  used : c'.oused ≤ c'.omax
  inv : SInv s'
  charged : c'.oused - c.oused = s'.outmaxsent - s.outmaxsent
  mono : s.outmaxsent ≤ s'.outmaxsent
  win : s'.outwin = s.outwin
  reset : s'.outreset = s.outreset
  sid : s'.id = s.id
  recs : ∀ r ∈ w'.recs, r ∈ w.recs ∨ ∃ a e f, r = Rec.stream s.id a e f ∧ a ≤ e ∧ e ≤ s'.outmaxsent

theorem LoopPost.refl (c : Conn) (s : Stream) (w : Writer) (hc : c.oused ≤ c.omax) (hs : SInv s) :
    LoopPost c c s s w w :=
  ⟨rfl, hc, hs, by omega, Int.le_refl _, rfl, rfl, rfl, fun r hr => Or.inl hr⟩

theorem LoopPost.trans {c c1 c2 : Conn} {s s1 s2 : Stream} {w w1 w2 : Writer}
    (h1 : LoopPost c c1 s s1 w w1) (h2 : LoopPost c1 c2 s1 s2 w1 w2) : LoopPost c c2 s s2 w w2 := by
  refine ⟨by rw [h2.omax, h1.omax], h2.used, h2.inv, ?_, Int.le_trans h1.mono h2.mono, by rw [h2.win, h1.win],
    by rw [h2.reset, h1.reset], by rw [h2.sid, h1.sid], ?_⟩
  · have := h1.charged; have := h2.charged; omega
  · intro r hr
    rcases h2.recs r hr with h | ⟨a, e, f, h, h3, h4⟩
    · rcases h1.recs r h with h | ⟨a, e, f, h, h3, h4⟩
      · exact Or.inl h
      · exact Or.inr ⟨a, e, f, h, h3, Int.le_trans h4 h2.mono⟩
    · exact Or.inr ⟨a, e, f, by rw [h, h1.sid], h3, h4⟩

theorem same_opens {s t : Stream} (h : SameSend s t) (pn : Int) : SameSend s (frameOpensStream t pn) := by
  unfold frameOpensStream
  split
  · exact ⟨h.view, h.start, h.stop⟩
  · exact h

theorem sent_same (t : Stream) (pn : Int) (wireFin : Bool) : SameSend t (markFin (frameOpensStream t pn) wireFin pn) := by
  unfold markFin frameOpensStream
  split <;> split <;> exact ⟨rfl, rfl, Int.le_refl _⟩

theorem step_post (c : Conn) (s : Stream) (w : Writer) (pn : Int) (hc : c.oused ≤ c.omax) (hs : SInv s)
    (off size n : Int) (wireFin : Bool) (data : List Nat)
    (hoff : off ≤ s.outmaxsent) (hsz : 0 ≤ size) (hlim : off + size ≤ lim s)
    (hn : 0 ≤ n) (hn2 : n ≤ clampSize off size s.outmaxsent (avail c.omax c.oused)) :
    LoopPost c { c with oused := (charge c.oused s.outmaxsent (off + n)).1 } s
      (markFin (frameOpensStream
        { s with outmaxsent := (charge c.oused s.outmaxsent (off + n)).2,
                 outunsent := Rangeset.sub s.outunsent off (off + n) } pn) wireFin pn)
      w (w.put (streamFrameCost s.id off n) (.stream s.id off data wireFin) (.stream s.id off (off + n) wireFin)) := by
  have hav : 0 ≤ avail c.omax c.oused := by unfold avail; omega
  have hcl := clamp_within hsz hav hoff
  have hch := charge_facts c.oused c.omax s.outmaxsent (off + n) hc (by omega)
  have hge : off + n ≤ (charge c.oused s.outmaxsent (off + n)).2 ∧ (charge c.oused s.outmaxsent (off + n)).2 ≤ lim s := by
    rw [hch.2.2.1]; have := hs.bound; split <;> omega
  have hf := sent_same ({ s with outmaxsent := (charge c.oused s.outmaxsent (off + n)).2, outunsent := Rangeset.sub s.outunsent off (off + n) } : Stream) pn wireFin
  obtain ⟨hid, hms, _, hwin, _, _, hrs⟩ := hf.fields
  refine ⟨rfl, hch.1, (keeps_same hf).inv (SInv_sent s hs off _ _ hge.1 hch.2.2.2 hge.2), by rw [hms]; exact hch.2.1,
    by rw [hms]; exact hch.2.2.2, hwin, hrs, hid, fun r hr => ?_⟩
  rcases List.mem_append.1 hr with hr | hr
  · exact Or.inl hr
  · exact Or.inr ⟨off, off + n, wireFin, List.mem_singleton.1 hr, by omega, by rw [hms]; exact hge.1⟩

/-- `LoopPost` of a result tuple: one occurrence of the result, so that its `if`s can be peeled one by one -/
def LoopRes (c : Conn) (s : Stream) (w : Writer) (r : Conn × Stream × Writer × Bool) : Prop :=
  LoopPost c r.1 s r.2.1 w r.2.2.1

theorem outLoop_post : ∀ (fuel : Nat) (c : Conn) (s : Stream) (w : Writer) (pn : Int) (pto : Bool),
    c.oused ≤ c.omax → SInv s →
    LoopPost c (outLoop fuel c s w pn pto).1 s (outLoop fuel c s w pn pto).2.1 w (outLoop fuel c s w pn pto).2.2.1 := by
  intro fuel
  induction fuel with
  | zero => intro c s w pn pto hc hs; exact LoopPost.refl c s w hc hs
  | succ k ih =>
    intro c s w pn pto hc hs
    have hd := dataToSend_facts s hs pto
    unfold lim at hd
    show LoopRes c s w (outLoop (k + 1) c s w pn pto)
    unfold outLoop
    generalize dataToSend (imin s.out.start s.outwin) (imin s.outflushed s.outwin) s.outunsent s.outacked pto = d at hd ⊢
    obtain ⟨off, size⟩ := d
    simp only [] at hd ⊢
    have hav : 0 ≤ avail c.omax c.oused := by unfold avail; omega
    have hcl := clamp_within hd.2.1 hav hd.1
    refine ite_ind (LoopRes c s w) (fun _ => LoopPost.refl c s w hc hs) (fun _ => ?_)
    split
    · exact LoopPost.refl c s w hc hs
    · rename_i n wireFin hfit
      have hn := fit_le hfit hcl.1
      split
      · -- Pipe.copy failed (a Go panic): only the `panicked` flag changes
        exact ⟨rfl, hc, SInv_congr hs rfl rfl rfl rfl rfl hs.flushed,
          (by omega : c.oused - c.oused = s.outmaxsent - s.outmaxsent), Int.le_refl _, rfl, rfl, rfl, fun r hr => Or.inl hr⟩
      · rename_i data hcopy
        have hstep := step_post c s w pn hc hs off size n wireFin data hd.1 hd.2.1 hd.2.2 hn.1 hn.2
        exact ite_ind (LoopRes c s w) (fun _ => hstep) fun _ => ite_ind _ (fun _ => hstep) fun _ =>
          LoopPost.trans hstep (ih _ _ _ pn pto hstep.used hstep.inv)

theorem resetInternal_fields (s : Stream) (code : Int) (u : Bool) :
    (resetInternal s code u).outmaxsent = s.outmaxsent ∧ (resetInternal s code u).outwin = s.outwin ∧
    (s.readOnly = true → resetInternal s code u = s) ∧
    (s.readOnly = false → (resetInternal s code u).outreset.isSet = true ∧
      (s.outreset.isSet = false → (resetInternal s code u).outunsent = [])) := by
  unfold resetInternal
  -- `u` only decides whether `outclosed` is set first; what matters is whether the stream was reset before
  generalize ht : (if u = true then { s with outclosed := s.outclosed.set } else s) = t
  obtain ⟨hr, hm, hw⟩ : t.outreset = s.outreset ∧ t.outmaxsent = s.outmaxsent ∧ t.outwin = s.outwin := by
    subst ht; cases u <;> exact ⟨rfl, rfl, rfl⟩
  dsimp only
  cases hro : s.readOnly
  · rw [if_neg Bool.false_ne_true]
    cases hs : t.outreset.isSet
    · exact ⟨hm, hw, nofun, fun _ => ⟨rfl, fun _ => rfl⟩⟩
    · exact ⟨hm, hw, nofun, fun _ => ⟨hs, fun h => by rw [← hr, hs] at h; exact nomatch h⟩⟩
  · exact ⟨rfl, rfl, fun _ => rfl, nofun⟩

theorem resetInternal_frm (s : Stream) (code : Int) (u : Bool) :
    (resetInternal s code u).outmaxsent = s.outmaxsent ∧ (resetInternal s code u).outwin = s.outwin ∧
    ((resetInternal s code u).outreset.isSet = true ∨ resetInternal s code u = s) := by
  obtain ⟨h1, h2, h3, h4⟩ := resetInternal_fields s code u
  cases hro : s.readOnly
  · exact ⟨h1, h2, Or.inl (h4 hro).1⟩
  · exact ⟨h1, h2, Or.inr (h3 hro)⟩

end NetVerif.Proofs.Lemmas.QuicSendPath
