import NetVerif.Model.QueueSem
import NetVerif.Proofs.Lemmas.GateInv
/-!
One step of one goroutine on the quic queue (C29), summed up as `QStep`.  Two analyses of the
continuation are carried along: the flow check `safe` (`QWf`, `QFacts`) and what the gate holder
knows about `err`/`q` (`wp`, `QK`).  A step either moves the gate machine (`qstep_gate`) or executes
a statement that is no gate call (`qstep_data`: it goes on, `qstep_next`, or returns, `qstep_ret`);
`qstep_both` only decides which.
-/
namespace NetVerif.Proofs.QueueInv
open NetVerif.Model.ChanSem NetVerif.Proofs.GateInv

/-- Per-goroutine invariant of a queue user: the gate machine's invariant, and the flow check `safe` passes
the continuation, between gate calls with the ownership the goroutine has, inside a gate call with the
ownership each result the call can have gives.  Inside `unlock` the argument is the recomputed condition. -/
def QWf (sh : QShared) (qg : QG) : Prop :=
  GG.wf qg.g ∧
  (qg.g.cont = [] →
     (qg.qcont = [] ∧ qg.g.owns = false ∧ qg.deferred = false) ∨
     safe qg.g.owns qg.deferred (decide (qg.g.last = some .err)) qg.qcont = true) ∧
  (qg.g.cont ≠ [] →
     (qg.g.meth = .lock ∧ safe true qg.deferred false qg.qcont = true) ∨
     (qg.g.meth = .waitAndLock ∧ safe true qg.deferred false qg.qcont = true ∧
        safe false qg.deferred true qg.qcont = true) ∨
     (qg.g.meth = .unlock ∧ safe false qg.deferred false qg.qcont = true ∧ qg.g.arg = condVal sh))

/-- What the global invariant `QInv` needs of one step of one queue user: the first four fields of
`StepFacts` again, and what the step does to the shared fields. -/
structure QFacts (σ : Store GCh) (sh : QShared) (qg : QG) (σ' : Store GCh) (sh' : QShared) (qg' : QG) : Prop where
  swf : SWf σ'
  wf : QWf sh' qg'
  cons : tokens σ' + b2n qg'.g.holding = tokens σ + b2n qg.g.holding
  frame : qg'.g.holding = qg.g.holding → σ' = σ
  /-- `err`/`q` are touched only by the goroutine that holds the gate, between gate calls -/
  excl : sh' ≠ sh → qg.g.holding = true ∧ qg.g.cont = [] ∧ qg'.g.holding = true ∧ qg'.g.cont = []
  /-- the gate is released with the recomputed condition -/
  release : qg.g.holding = true → qg'.g.holding = false →
    sh' = sh ∧ (σ' .set).len = (σ .set).len + b2n (condVal sh) ∧
    (σ' .unset).len = (σ .unset).len + b2n (!condVal sh)
  fifo : sh.accepted = sh.delivered ++ sh.q → sh'.accepted = sh'.delivered ++ sh'.q
  closed : sh.err = true → sh'.err = true

theorem safe_bodies (f : Bool) (m : QMeth) : safe false false f (queue.body m ++ [.ret .unit]) = true := by
  cases f <;> cases m <;> decide

theorem safe_unlock (f : Bool) (v : QRet) : safe true false f (queue.unlock ++ [.ret v]) = true := by
  cases f <;> cases v <;> decide

theorem instantiate_ne_nil (m : GMeth) (b : Bool) : instantiate (gate.body m) b ≠ [] := by
  cases m <;> cases b <;> simp [GateSrc.body, gate, instantiate]

/-- `BExp.eval` on the abstraction (err, len q). -/
def evalA (e : Bool) (n : Nat) : BExp → Bool
  | .lit b => b
  | .errSet => e
  | .nonEmpty => decide (0 < n)
  | .or a b => evalA e n a || evalA e n b
  | .not a => !evalA e n a

theorem evalA_eq (c : BExp) (sh : QShared) : c.eval sh = evalA sh.err sh.q.length c := by
  induction c with
  | lit b => rfl
  | errSet => rfl
  | nonEmpty => cases h : sh.q <;> simp [BExp.eval, evalA, h]
  | or a b iha ihb => simp [BExp.eval, evalA, iha, ihb]
  | not a ih => simp [BExp.eval, evalA, ih]

/-- Weakest precondition, on (err, len q), for the holder's continuation up to its next gate
call: a pop needs an open, non-empty queue; an append needs an open queue. -/
def wp : List QStmt → Bool → Nat → Bool
  | [], _, _ => true
  | s :: k, e, n =>
    match s with
    | .popFront => !e && decide (0 < n) && wp k e (n - 1)
    | .append => !e && wp k e (n + 1)
    | .setErrIfNil => wp k true n
    | .retIf c _ => evalA e n c || wp k e n
    | .deferUnlock => wp k e n
    | .retIfGateErr _ => wp k e n
    | .gate _ _ => true
    | .ret _ => true

/-- Static check: right after every `lock` the continuation is fine in any state, right after
every `waitAndLock` in any state satisfying the gate condition. -/
def wpS : List QStmt → Prop
  | [] => True
  | s :: k =>
    (match s with
     | .gate .lock none => ∀ e n, wp k e n = true
     | .gate .waitAndLock none => ∀ e n, (e = true ∨ 0 < n) → wp k e n = true
     | _ => True) ∧ wpS k

theorem wpS_tail {s : QStmt} {k : List QStmt} (h : wpS (s :: k)) : wpS k := h.2

theorem wpS_bodies (m : QMeth) : wpS (queue.body m ++ [.ret .unit]) := by
  cases m <;> simp [QueueSrc.body, queue, wpS, wp, evalA]

theorem wpS_unlock (v : QRet) : wpS (queue.unlock ++ [.ret v]) := by
  simp [queue, wpS]

/-- What a goroutine knows about `err`/`q`.  `own`: the owner between gate calls knows they satisfy the
precondition of its continuation.  `lock`, `wait`: inside a locking call the continuation is fine in every
state the call can return in (`wpS` at the call that was made).  `stat`: `wpS` for the calls still ahead. -/
structure QK (sh : QShared) (qg : QG) : Prop where
  own : qg.g.cont = [] → qg.g.owns = true → wp qg.qcont sh.err sh.q.length = true
  stat : wpS qg.qcont
  lock : qg.g.cont ≠ [] → qg.g.meth = .lock → ∀ e n, wp qg.qcont e n = true
  wait : qg.g.cont ≠ [] → qg.g.meth = .waitAndLock → ∀ e n, (e = true ∨ 0 < n) → wp qg.qcont e n = true
  nopanic : qg.panicked = false

theorem condVal_iff (sh : QShared) : condVal sh = true ↔ (sh.err = true ∨ 0 < sh.q.length) := by
  cases h : sh.q <;> simp [condVal, h]

/-- What a step may do to the shared fields: nothing, set `err`, or one FIFO operation with its ghost
record (`accepted`, `delivered`). -/
def StepKind (sh sh' : QShared) : Prop :=
  sh' = sh ∨ sh' = { sh with err := true } ∨
  (∃ x, sh' = { sh with q := sh.q ++ [x], accepted := sh.accepted ++ [x] }) ∨
  (∃ x r, sh.q = x :: r ∧ sh' = { sh with q := r, delivered := sh.delivered ++ [x] })

theorem StepKind.fifo {sh sh' : QShared} (h : StepKind sh sh')
    (hf : sh.accepted = sh.delivered ++ sh.q) : sh'.accepted = sh'.delivered ++ sh'.q := by
  rcases h with rfl | rfl | ⟨x, rfl⟩ | ⟨x, r, hx, rfl⟩
  · exact hf
  · exact hf
  · simp [hf]
  · simp [hf, hx]

theorem wp_unlock (v : QRet) (e : Bool) (n : Nat) : wp (queue.unlock ++ [.ret v]) e n = true := by
  simp [queue, wp]

theorem condExp_eval (sh : QShared) : condExp.eval sh = condVal sh := rfl

/-- Everything the global invariant `QInvK` needs of one step. -/
structure QStep (σ : Store GCh) (sh : QShared) (qg : QG) (σ' : Store GCh) (sh' : QShared) (qg' : QG) : Prop where
  facts : QFacts σ sh qg σ' sh' qg'
  know : QK sh' qg'
  frozen : sh.err = true → sh' = sh
  kind : StepKind sh sh'

/-- If the step is the send that gives the token back, `unlock` was called with the recomputed
condition (last clause of `QWf`). -/
theorem qstep_gate {σ σ' : Store GCh} {sh : QShared} {qg qg' : QG} (hw : QWf sh qg)
    (F : StepFacts σ qg.g σ' qg'.g) (hw' : QWf sh qg') (hk' : QK sh qg') : QStep σ sh qg σ' sh qg' where
  facts :=
    { swf := F.swf, wf := hw', cons := F.cons, frame := F.frame, excl := fun h => absurd rfl h
      release := fun hh hh' => by
        obtain ⟨hm, hne, _, _, h1, h2⟩ := F.release hh hh'
        rcases hw.2.2 hne with ⟨hm', _⟩ | ⟨hm', _⟩ | ⟨_, _, harg⟩
        · cases hm.symm.trans hm'
        · cases hm.symm.trans hm'
        · rw [harg] at h1 h2; exact ⟨rfl, h1, h2⟩
      fifo := id, closed := id }
  know := hk'
  frozen _ := rfl
  kind := Or.inl rfl

/-- A statement that is no gate call leaves the channels and the gate machine alone.  What is left
to show is about the continuation `qg'.qcont`: the flow check passes it, and if the goroutine owns
the gate the new shared fields satisfy its precondition. -/
theorem qstep_data {σ : Store GCh} {sh sh' : QShared} {qg qg' : QG} (hσ : SWf σ) (hw : QWf sh qg)
    (hgc : qg.g.cont = []) (hg' : qg'.g = qg.g) (hp' : qg'.panicked = false)
    (hidle : (qg'.qcont = [] ∧ qg.g.owns = false ∧ qg'.deferred = false) ∨
       safe qg.g.owns qg'.deferred (decide (qg.g.last = some .err)) qg'.qcont = true)
    (hst : wpS qg'.qcont) (hkind : StepKind sh sh') (ho : sh' ≠ sh → qg.g.owns = true)
    (hwp : qg.g.owns = true → wp qg'.qcont sh'.err sh'.q.length = true ∧ (sh.err = true → sh' = sh)) :
    QStep σ sh qg σ sh' qg' :=
  have frozen : sh.err = true → sh' = sh := fun he =>
    Decidable.byContradiction fun hne => hne ((hwp (ho hne)).2 he)
  { facts :=
    { swf := hσ
      wf := ⟨hg' ▸ hw.1, fun _ => hg' ▸ hidle, fun hne => absurd (hg' ▸ hgc) hne⟩
      cons := by rw [hg']
      frame := fun _ => rfl
      excl := fun hne => by
        have hh := (wf_idle hw.1 hgc).symm.trans (ho hne)
        exact ⟨hh, hgc, hg' ▸ hh, hg' ▸ hgc⟩
      release := fun h1 h2 => by rw [hg', h1] at h2; cases h2
      fifo := hkind.fifo
      closed := fun he => frozen he ▸ he }
    know := ⟨fun _ h => (hwp (hg' ▸ h)).1, hst, fun hne => absurd (hg' ▸ hgc) hne,
      fun hne => absurd (hg' ▸ hgc) hne, hp'⟩
    frozen := frozen
    kind := hkind }

theorem qstep_next {σ : Store GCh} {sh sh' : QShared} {qg qg' : QG} {s : QStmt} {rest : List QStmt}
    (hσ : SWf σ) (hw : QWf sh qg) (hk : QK sh qg) (hgc : qg.g.cont = []) (hq : qg.qcont = s :: rest)
    (hg' : qg'.g = qg.g) (hq' : qg'.qcont = rest) (hp' : qg'.panicked = false)
    (hs : safe qg.g.owns qg'.deferred (decide (qg.g.last = some .err)) rest = true)
    (hkind : StepKind sh sh') (ho : sh' ≠ sh → qg.g.owns = true)
    (hwp : wp (s :: rest) sh.err sh.q.length = true →
      wp rest sh'.err sh'.q.length = true ∧ (sh.err = true → sh' = sh)) :
    QStep σ sh qg σ sh' qg' :=
  qstep_data hσ hw hgc hg' hp' (Or.inr (hq' ▸ hs)) (hq' ▸ (hq ▸ hk.stat).2) hkind ho
    fun h => hq' ▸ hwp (hq ▸ hk.own hgc h)

/-- `return v` where the flow check allows it: with a deferred unlock pending iff the gate is owned. -/
theorem qstep_ret {σ : Store GCh} {sh : QShared} {qg : QG} (hσ : SWf σ) (hw : QWf sh qg)
    (hgc : qg.g.cont = []) (hp : qg.panicked = false) (v : QRet) (h : qg.g.owns = qg.deferred) :
    QStep σ sh qg σ sh (retNow queue qg v) := by
  cases hd : qg.deferred <;> rw [hd] at h <;> simp only [retNow, hd, Bool.false_eq_true, if_false, if_true]
  · exact qstep_data hσ hw hgc rfl hp (Or.inl ⟨rfl, h, rfl⟩) trivial (Or.inl rfl) (fun h => absurd rfl h)
      fun _ => ⟨rfl, fun _ => rfl⟩
  · exact qstep_data hσ hw hgc rfl hp (Or.inr (by rw [h]; exact safe_unlock _ v)) (wpS_unlock v) (Or.inl rfl)
      (fun h => absurd rfl h) fun _ => ⟨wp_unlock v _ _, fun _ => rfl⟩

theorem qwf_safe {qg : QG} {s : QStmt} {rest : List QStmt}
    (h : (qg.qcont = [] ∧ qg.g.owns = false ∧ qg.deferred = false) ∨
         safe qg.g.owns qg.deferred (decide (qg.g.last = some .err)) qg.qcont = true)
    (hq : qg.qcont = s :: rest) :
    safe qg.g.owns qg.deferred (decide (qg.g.last = some .err)) (s :: rest) = true := by
  rcases h with ⟨hq', _⟩ | hs
  · rw [hq] at hq'; cases hq'
  · rwa [hq] at hs

theorem safe_gate {o d f : Bool} {m : GMeth} {arg : Option BExp} {k : List QStmt}
    (h : safe o d f (.gate m arg :: k) = true) (hst : wpS (.gate m arg :: k)) :
    ((m = .lock ∧ safe true d false k = true) ∨
     (m = .waitAndLock ∧ safe true d false k = true ∧ safe false d true k = true) ∨
     (m = .unlock ∧ safe false d false k = true ∧ arg = some condExp)) ∧
    (m = .lock → ∀ e n, wp k e n = true) ∧
    (m = .waitAndLock → ∀ e n, (e = true ∨ 0 < n) → wp k e n = true) := by
  cases m <;> cases arg <;> simp [safe] at h
  · exact ⟨.inl ⟨rfl, h.2⟩, fun _ => hst.1, nofun⟩
  · exact ⟨.inr (.inl ⟨rfl, h.1.2, h.2⟩), nofun, fun _ => hst.1⟩
  · exact ⟨.inr (.inr ⟨rfl, h.2, by rw [h.1.2]⟩), nofun, nofun⟩

theorem qstep_both {σ σ' : Store GCh} {sh sh' : QShared} {qg qg' : QG} {a : QAct}
    (hσ : SWf σ) (hw : QWf sh qg) (hk : QK sh qg)
    (hcond : qg.g.holding = false → 0 < (σ .set).len → condVal sh = true)
    (h : qg.step queue gate σ sh a = some (σ', sh', qg')) : QStep σ sh qg σ' sh' qg' := by
  have ⟨hg, hidle, hrun⟩ := hw
  cases a with
  | call m v =>
    simp only [QG.step] at h
    split at h
    · rename_i hc
      simp at hc
      obtain ⟨⟨hq, hgc⟩, hp⟩ := hc
      cases h
      have ho : qg.g.owns = false := by
        rcases hidle hgc with ⟨_, ho, _⟩ | hs
        · exact ho
        · simp [hq, safe] at hs
      exact qstep_gate hw (stepFacts_quiet hσ hg rfl rfl fun hne => absurd hgc hne)
        ⟨hg, fun _ => Or.inr (ho ▸ safe_bodies _ m), fun hne => absurd hgc hne⟩
        ⟨fun _ h1 => absurd (ho.symm.trans h1) nofun, wpS_bodies m, fun hne => absurd hgc hne,
          fun hne => absurd hgc hne, hp⟩
    · cases h
  | gate a =>
    cases a with
    | call m b => simp [QG.step] at h
    | cancel =>
      simp only [QG.step, Option.map_eq_some_iff] at h
      obtain ⟨⟨σ1, g1⟩, hs, he⟩ := h
      cases he
      have F := step_local hσ hg hs
      obtain ⟨rfl, rfl⟩ := cancel_step hs
      exact qstep_gate hw F ⟨F.wf, hidle, hrun⟩ ⟨hk.own, hk.stat, hk.lock, hk.wait, hk.nopanic⟩
    | run p =>
      simp only [QG.step, Option.map_eq_some_iff] at h
      obtain ⟨⟨σ1, g1⟩, hs, he⟩ := h
      cases he
      obtain ⟨F, herr⟩ := step_local_err hσ hg hs
      have hne : qg.g.cont ≠ [] := by
        intro hc; simp [GG.step, hc] at hs
      have hr := hrun hne
      obtain ⟨hm, ha⟩ := F.same hne
      -- the gate call completed: its result decides how the continuation goes on, and what the
      -- caller knows if it now owns the gate
      have hdone : g1.cont = [] →
          safe g1.owns qg.deferred (decide (g1.last = some .err)) qg.qcont = true ∧
          (g1.owns = true → wp qg.qcont sh.err sh.q.length = true) := by
        intro hd
        have hown := wf_idle F.wf hd
        have hl : qg.g.meth ≠ .waitAndLock → decide (g1.last = some .err) = false :=
          fun hn => decide_eq_false fun hl => hn (herr hne hd hl)
        rcases hr with ⟨hml, hs1⟩ | ⟨hmw, hs1, hs2⟩ | ⟨hmu, hs1, _⟩
        · rw [hown, (F.lockDone hml hne hd).2, hl (hml ▸ nofun)]
          exact ⟨hs1, fun _ => hk.lock hne hml _ _⟩
        · rcases F.wait hmw hne hd with ⟨h1, h2, _, hpos⟩ | ⟨h1, _, h3, _⟩
          · rw [hown, h2, h1]
            exact ⟨hs1, fun _ => hk.wait hne hmw _ _
              ((condVal_iff sh).mp (hcond ((wf_running hg hne).2 (hmw ▸ nofun)) hpos))⟩
          · rw [hown, h3, h1]
            exact ⟨hs2, nofun⟩
        · rw [hown, (F.unl hmu hne hd).2, hl (hmu ▸ nofun)]
          exact ⟨hs1, nofun⟩
      exact qstep_gate hw F ⟨F.wf, fun hd => Or.inr (hdone hd).1, fun _ => by rw [hm, ha]; exact hr⟩
        ⟨fun hd => (hdone hd).2, hk.stat, fun _ hml => hk.lock hne (hm ▸ hml),
          fun _ hmw => hk.wait hne (hm ▸ hmw), hk.nopanic⟩
  | stmt =>
    simp only [QG.step] at h
    split at h
    · cases h
    · rename_i hc
      simp at hc
      obtain ⟨hgc, hp⟩ := hc
      have hown := wf_idle hg hgc
      have hsafe := hidle hgc
      -- in each case `hs` becomes `safe`'s clause for the statement in front: the ownership it asks for
      -- (`hs.1`) and the check of the rest (`hs.2`)
      split at h
      · cases h
      · -- q.gate.m(arg)
        rename_i m arg rest hq
        simp only [Option.map_eq_some_iff] at h
        obtain ⟨⟨σ1, g1⟩, hs, he⟩ := h
        cases he
        have F := step_local hσ hg hs
        obtain ⟨-, -, rfl, rfl⟩ := call_step hs
        have hstat := hk.stat
        rw [hq] at hstat
        have hnn := instantiate_ne_nil m ((arg.map (·.eval sh)).getD false)
        obtain ⟨hsg, hl, hwt⟩ := safe_gate (qwf_safe hsafe hq) hstat
        exact qstep_gate hw F
          ⟨F.wf, fun hcn => absurd hcn hnn, fun _ =>
            hsg.imp id (.imp id fun ⟨hm, h1, ha⟩ => ⟨hm, h1, by rw [ha]; rfl⟩)⟩
          ⟨fun hcn => absurd hcn hnn, hstat.2, fun _ => hl, fun _ => hwt, hp⟩
      · -- defer q.unlock()
        rename_i rest hq
        cases h
        have hs := qwf_safe hsafe hq
        simp [safe] at hs
        exact qstep_next hσ hw hk hgc hq rfl rfl hp hs.2 (.inl rfl) (fun h => absurd rfl h)
          fun h => ⟨h, fun _ => rfl⟩
      · -- if err != nil { return zero, err }
        rename_i v rest hq
        have hs := qwf_safe hsafe hq
        split at h
        · rename_i hl
          cases h
          simp [safe, hl] at hs
          exact qstep_ret hσ hw hgc hp v (hs.1.trans hs.2.symm)
        · rename_i hl
          cases h
          simp [safe, hl] at hs
          exact qstep_next hσ hw hk hgc hq rfl rfl hp (by simpa [hl] using hs) (.inl rfl)
            (fun h => absurd rfl h) fun h => ⟨h, fun _ => rfl⟩
      · -- if c { return v }
        rename_i c v rest hq
        have hs := qwf_safe hsafe hq
        simp [safe] at hs
        split at h
        · cases h
          exact qstep_ret hσ hw hgc hp v (hs.1.1.trans hs.1.2.symm)
        · rename_i hev
          cases h
          rw [evalA_eq] at hev
          exact qstep_next hσ hw hk hgc hq rfl rfl hp hs.2 (.inl rfl) (fun h => absurd rfl h)
            fun h => ⟨by simpa [wp, hev] using h, fun _ => rfl⟩
      · -- if q.err == nil { q.err = err }
        rename_i rest hq
        cases h
        have hs := qwf_safe hsafe hq
        simp [safe] at hs
        exact qstep_next hσ hw hk hgc hq rfl rfl hp hs.2 (.inr (.inl rfl)) (fun _ => hs.1)
          fun h => ⟨h, fun he => by cases sh; cases he; rfl⟩
      · -- q.q = append(q.q, v): the holder knows the queue is open
        rename_i rest hq
        cases h
        have hs := qwf_safe hsafe hq
        simp [safe] at hs
        refine qstep_next hσ hw hk hgc hq rfl rfl hp hs.2 (.inr (.inr (.inl ⟨_, rfl⟩))) (fun _ => hs.1)
          fun h => ?_
        simp [wp] at h
        exact ⟨by simpa using h.2, fun he => by simp [he] at h⟩
      · -- pop: the holder knows the queue is open and non-empty
        rename_i rest hq
        have hs := qwf_safe hsafe hq
        simp [safe] at hs
        have hw0 := hk.own hgc hs.1
        simp [hq, wp] at hw0
        split at h
        · rename_i hx
          simp [hx] at hw0
        · rename_i x r hx
          cases h
          exact qstep_next hσ hw hk hgc hq rfl rfl hp hs.2 (.inr (.inr (.inr ⟨x, r, hx, rfl⟩)))
            (fun _ => hs.1) fun _ => ⟨by simpa [hx] using hw0.2, fun he => by simp [he] at hw0⟩
      · -- return v
        rename_i v rest hq
        cases h
        have hs := qwf_safe hsafe hq
        simp [safe] at hs
        refine qstep_ret hσ hw hgc hp v ?_
        cases hd : qg.deferred <;> simpa [hd] using hs

end NetVerif.Proofs.QueueInv
