import NetVerif.Model.SendWin
import NetVerif.Gen.C08
/-! T-tie for C08/C09: constants, `Setting.Valid`, the `allowed` computation of
`FrameWriteRequest.Consume`, the `take` computation of `awaitFlowControl` and the `outflow` operations of flow.go,
regenerated from the Go source on every check, equal the model. -/
namespace NetVerif.Proofs.SendWinGen
open NetVerif.Model.SendWin NetVerif.Model.Flow

theorem gen_initialMaxFrameSize_eq : NetVerif.Gen.C08.initialMaxFrameSize = initialMaxFrame := rfl
theorem gen_initialWindowSize_eq : NetVerif.Gen.C08.initialWindowSize = initialWindow := rfl
theorem gen_minMaxFrameSize_eq : NetVerif.Gen.C08.minMaxFrameSize = minMaxFrame := rfl
theorem gen_maxFrameSize_eq : NetVerif.Gen.C08.maxFrameSize = maxMaxFrame := rfl

theorem gen_settingValid_mfs (v : Int) :
    NetVerif.Gen.C08.settingValid NetVerif.Gen.C08.settingMaxFrameSize v =
      some (if validMfs v then 0 else NetVerif.Gen.C08.errCodeProtocol) := by
  unfold NetVerif.Gen.C08.settingValid NetVerif.Gen.C08.settingMaxFrameSize NetVerif.Gen.C08.errCodeProtocol
    validMfs minMaxFrame maxMaxFrame
  by_cases h : 16384 ≤ v ∧ v ≤ 16777215
  · simp [h]
  · simp [h]

/-- The value is a uint32 in Go, hence `h0`. -/
theorem gen_settingValid_iw (v : Int) (h0 : 0 ≤ v) :
    NetVerif.Gen.C08.settingValid NetVerif.Gen.C08.settingInitialWindowSize v =
      some (if validIw v then 0 else NetVerif.Gen.C08.errCodeFlowControl) := by
  unfold NetVerif.Gen.C08.settingValid NetVerif.Gen.C08.settingInitialWindowSize NetVerif.Gen.C08.errCodeFlowControl
    validIw maxWindow
  by_cases h : v ≤ 2147483647
  · simp [h, h0]
  · simp [h]

/-- the `allowed` value of `Consume` as the model computes it -/
def allowedOf (available limit maxFrame : Int) : Int :=
  if maxFrame < (if limit < available then limit else available) then maxFrame
  else (if limit < available then limit else available)

theorem gen_consumeAllowed_eq (available limit maxFrame : Int) :
    NetVerif.Gen.C08.consumeAllowed available limit maxFrame = some (allowedOf available limit maxFrame) := by
  unfold NetVerif.Gen.C08.consumeAllowed allowedOf
  by_cases h1 : limit < available <;> simp only [h1, if_true, if_false] <;> split <;> rfl

/-- `Send.consume` is the Go control flow around the regenerated `allowed` computation. -/
theorem consume_eq_gen (s : Send) (sid len : Nat) (limit a : Int) (ea : tget s.wins sid = some a) (hl : len ≠ 0) :
    s.consume sid len limit =
      match NetVerif.Gen.C08.consumeAllowed (s.flow a).available limit s.maxFrame with
      | none => none
      | some allowed =>
        if allowed ≤ 0 then none
        else if (len : Int) > allowed then (s.take sid a allowed).map (fun s' => (allowed.toNat, s'))
        else (s.take sid a len).map (fun s' => (len, s')) := by
  rw [gen_consumeAllowed_eq]
  unfold Send.consume allowedOf
  simp only [ea, hl, if_false]

/-- the `take` value of `awaitFlowControl` as the model computes it -/
def awaitTakeOf (a maxBytes maxFrame : Int) : Int :=
  if (if a > maxBytes then maxBytes else a) > maxFrame then maxFrame else (if a > maxBytes then maxBytes else a)

theorem gen_awaitTake_eq (a maxBytes maxFrame : Int) :
    NetVerif.Gen.C08.awaitTake a maxBytes maxFrame = some (awaitTakeOf a maxBytes maxFrame) := by
  unfold NetVerif.Gen.C08.awaitTake awaitTakeOf
  by_cases h1 : a > maxBytes <;> simp only [h1, if_true, if_false] <;> split <;> rfl

theorem await_eq_gen (s : Send) (sid maxBytes : Nat) (a : Int) (ea : tget s.wins sid = some a) :
    s.await sid maxBytes =
      if (s.flow a).available > 0 then
        match NetVerif.Gen.C08.awaitTake (s.flow a).available maxBytes s.maxFrame with
        | none => none
        | some t => (s.take sid a t).map (fun s' => (t.toNat, s'))
      else none := by
  rw [gen_awaitTake_eq]
  unfold Send.await awaitTakeOf
  simp only [ea]

theorem gen_wrap32_eq (x : Int) : NetVerif.Gen.C08.Flow.wrap32 x = wrap32 x := rfl

/-- Encoding of `outflow.conn` for the translated functions: flag and counter. From here on the text is that of
`Lemmas/Flow`, there against `Gen.Flow`: the C08/C09 checks and the C10/C11 checks each regenerate their own copy of
flow.go, and each tie is proved against the copy its check writes. -/
def connFlag (f : Outflow) : Int := match f.conn with | some _ => 1 | none => 0
def connN (f : Outflow) : Int := match f.conn with | some c => c | none => 0

theorem gen_outflowAvailable_eq (f : Outflow) :
    NetVerif.Gen.C08.Flow.outflowAvailable f.n (connFlag f) (connN f) = some f.available := by
  unfold NetVerif.Gen.C08.Flow.outflowAvailable Outflow.available connFlag connN
  cases hc : f.conn with
  | none => simp
  | some c =>
    by_cases h : c < f.n <;> simp [h]

theorem gen_outflowTake_eq (f : Outflow) (n : Int) :
    NetVerif.Gen.C08.Flow.outflowTake f.n (connFlag f) (connN f) n =
      (f.take n).map (fun g => (g.n, connFlag g, connN g)) := by
  unfold NetVerif.Gen.C08.Flow.outflowTake NetVerif.Gen.C08.Flow.outflowAvailableD
  rw [gen_outflowAvailable_eq]
  unfold Outflow.take
  by_cases h : n > f.available
  · simp [h]
  · simp only [Option.getD_some, h, if_false, Option.map_some]
    unfold connFlag connN
    cases hc : f.conn with
    | none => simp [gen_wrap32_eq]
    | some c => simp [gen_wrap32_eq]

theorem gen_outflowAdd_eq (f : Outflow) (n : Int) :
    NetVerif.Gen.C08.Flow.outflowAdd f.n (connFlag f) (connN f) n =
      some ((f.add n).1, (f.add n).2.n, connFlag (f.add n).2, connN (f.add n).2) := by
  unfold NetVerif.Gen.C08.Flow.outflowAdd Outflow.add
  rw [gen_wrap32_eq]
  by_cases h : (decide (wrap32 (f.n + n) > n)) = (decide (f.n > 0))
  · simp only [h, if_true]
    rfl
  · simp only [h, if_false]

end NetVerif.Proofs.SendWinGen
