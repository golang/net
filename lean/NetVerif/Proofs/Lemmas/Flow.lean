import NetVerif.Model.Flow
import NetVerif.Gen.Flow
import NetVerif.Proofs.Lemmas.SendWinFlow
/-!
The T-tie `Gen.Flow.* = Model.Flow.*` against the functions regenerated from flow.go, `inflow` and `outflow`; single-step
facts of `inflow.add/take` and `takeInflows` for C10/C11; last, the `outflow.*` statements of `Lemmas/SendWinFlow` under
this namespace.
-/
namespace NetVerif.Proofs.Flow
open NetVerif.Model.Flow

theorem gen_inflowMinRefresh_eq : NetVerif.Gen.Flow.inflowMinRefresh = inflowMinRefresh := rfl
theorem gen_initialWindowSize_eq : NetVerif.Gen.Flow.initialWindowSize = initialWindowSize := rfl

theorem gen_wrap32_eq (x : Int) : NetVerif.Gen.Flow.wrap32 x = wrap32 x := rfl

theorem gen_inflowInit_eq (f : Inflow) (n : Int) :
    NetVerif.Gen.Flow.inflowInit f.avail f.unsent n = some ((f.init n).avail, (f.init n).unsent) := rfl

theorem gen_inflowAdd_eq (f : Inflow) (n : Int) :
    NetVerif.Gen.Flow.inflowAdd f.avail f.unsent n =
      (f.add n).map (fun r => (r.1, r.2.avail, r.2.unsent)) := by
  unfold NetVerif.Gen.Flow.inflowAdd Inflow.add maxWindow inflowMinRefresh
  by_cases h1 : n < 0
  · simp [h1]
  · simp only [h1, if_false]
    by_cases h2 : f.unsent + n + f.avail > 2147483647
    · have : f.unsent + n + f.avail > 1 * 2147483648 - 1 := by omega
      simp [h2]
    · have : ¬ f.unsent + n + f.avail > 1 * 2147483648 - 1 := by omega
      simp only [h2, this, if_false]
      by_cases h3 : f.unsent + n < 4096 ∧ f.unsent + n < f.avail
      · simp [h3]
      · simp [h3]

/-- Go tests `n > uint32(f.avail)`; the cast is the identity on a non-negative int32, hence the hypotheses. -/
theorem gen_inflowTake_eq (f : Inflow) (n : Int) (h0 : 0 ≤ f.avail) (h1 : f.avail ≤ maxWindow) :
    NetVerif.Gen.Flow.inflowTake f.avail f.unsent n =
      some ((f.take n).1, (f.take n).2.avail, (f.take n).2.unsent) := by
  unfold maxWindow at h1
  have e : Int.emod f.avail 4294967296 = f.avail := by
    show f.avail % 4294967296 = f.avail
    omega
  unfold NetVerif.Gen.Flow.inflowTake Inflow.take
  rw [e]
  by_cases h : n > f.avail <;> simp [h]

theorem gen_takeInflows_eq (f1 f2 : Inflow) (n : Int)
    (h1 : 0 ≤ f1.avail ∧ f1.avail ≤ maxWindow) (h2 : 0 ≤ f2.avail ∧ f2.avail ≤ maxWindow) :
    NetVerif.Gen.Flow.takeInflows f1.avail f2.avail n =
      some ((takeInflows f1 f2 n).1, (takeInflows f1 f2 n).2.1.avail, (takeInflows f1 f2 n).2.2.avail) := by
  unfold maxWindow at h1 h2
  have e1 : Int.emod f1.avail 4294967296 = f1.avail := by
    show f1.avail % 4294967296 = f1.avail
    omega
  have e2 : Int.emod f2.avail 4294967296 = f2.avail := by
    show f2.avail % 4294967296 = f2.avail
    omega
  unfold NetVerif.Gen.Flow.takeInflows takeInflows
  rw [e1, e2]
  by_cases h : n > f1.avail ∨ n > f2.avail <;> simp [h]

/-- Encoding of `outflow.conn` for the translated functions: flag and counter. From here to `gen_outflowAdd_eq` the
text is that of `Lemmas/SendWinGen`, there against `Gen.C08.Flow`: the C08/C09 checks and the C10/C11 checks each
regenerate their own copy of flow.go, and each tie is proved against the copy its check writes. -/
def connFlag (f : Outflow) : Int := match f.conn with | some _ => 1 | none => 0
def connN (f : Outflow) : Int := match f.conn with | some c => c | none => 0

theorem gen_outflowAvailable_eq (f : Outflow) :
    NetVerif.Gen.Flow.outflowAvailable f.n (connFlag f) (connN f) = some f.available := by
  unfold NetVerif.Gen.Flow.outflowAvailable Outflow.available connFlag connN
  cases hc : f.conn with
  | none => simp
  | some c =>
    by_cases h : c < f.n <;> simp [h]

theorem gen_outflowTake_eq (f : Outflow) (n : Int) :
    NetVerif.Gen.Flow.outflowTake f.n (connFlag f) (connN f) n =
      (f.take n).map (fun g => (g.n, connFlag g, connN g)) := by
  unfold NetVerif.Gen.Flow.outflowTake NetVerif.Gen.Flow.outflowAvailableD
  rw [gen_outflowAvailable_eq]
  unfold Outflow.take
  by_cases h : n > f.available
  · simp [h]
  · simp only [Option.getD_some, h, if_false, Option.map_some]
    unfold connFlag connN
    cases hc : f.conn with
    | none => simp [gen_wrap32_eq]
    | some c => simp [gen_wrap32_eq]

theorem gen_outflowAdd_eq (f : Outflow) (n : Int) :
    NetVerif.Gen.Flow.outflowAdd f.n (connFlag f) (connN f) n =
      some ((f.add n).1, (f.add n).2.n, connFlag (f.add n).2, connN (f.add n).2) := by
  unfold NetVerif.Gen.Flow.outflowAdd Outflow.add
  rw [gen_wrap32_eq]
  by_cases h : (decide (wrap32 (f.n + n) > n)) = (decide (f.n > 0))
  · simp only [h, if_true]
    rfl
  · simp only [h, if_false]

/-- `r` is the WINDOW_UPDATE increment `inflow.add` returns: 0 while the credit is batched, otherwise all that is pending. -/
theorem add_spec (f f' : Inflow) (n r : Int) (h : f.add n = some (r, f')) :
    0 ≤ n ∧
    f'.avail + f'.unsent = f.avail + f.unsent + n ∧
    f'.avail + f'.unsent ≤ maxWindow ∧
    f'.avail = f.avail + r ∧
    ((r = 0 ∧ f'.unsent = f.unsent + n ∧ f'.unsent < inflowMinRefresh ∧ f'.unsent < f'.avail) ∨
     (r = f.unsent + n ∧ f'.unsent = 0 ∧ ¬ (r < inflowMinRefresh ∧ r < f.avail))) := by
  unfold Inflow.add at h
  by_cases h1 : n < 0
  · simp [h1] at h
  · by_cases h2 : f.unsent + n + f.avail > maxWindow
    · simp [h1, h2] at h
    · simp only [h1, h2, if_false] at h
      by_cases h3 : f.unsent + n < inflowMinRefresh ∧ f.unsent + n < f.avail
      · simp only [h3, and_self, if_true, Option.some.injEq, Prod.mk.injEq] at h
        obtain ⟨hr, hf⟩ := h
        subst hr; subst hf
        dsimp only
        omega
      · simp only [h3, if_false, Option.some.injEq, Prod.mk.injEq] at h
        obtain ⟨hr, hf⟩ := h
        subst hr; subst hf
        dsimp only
        omega

/-- C10: the only credit ever withheld is the batching residue. -/
theorem add_residue (f f' : Inflow) (n r : Int) (h : f.add n = some (r, f')) :
    f'.unsent = 0 ∨ (f'.unsent < inflowMinRefresh ∧ f'.unsent < f'.avail) := by
  rcases (add_spec f f' n r h).2.2.2.2 with h1 | h1
  · exact Or.inr ⟨h1.2.2.1, h1.2.2.2⟩
  · exact Or.inl h1.2.1

theorem add_wf (f f' : Inflow) (n r : Int) (hw : f.WF) (h : f.add n = some (r, f')) :
    f'.WF ∧ 0 ≤ r ∧ r ≤ maxWindow := by
  have s := add_spec f f' n r h
  unfold Inflow.WF at *
  rcases s.2.2.2.2 with h1 | h1 <;> omega

theorem take_spec (f : Inflow) (n : Int) :
    ((f.take n).1 = true ↔ n ≤ f.avail) ∧
    ((f.take n).1 = true → (f.take n).2 = { f with avail := f.avail - n }) ∧
    ((f.take n).1 = false → (f.take n).2 = f) := by
  unfold Inflow.take
  by_cases h : n > f.avail <;> simp [h] <;> omega

theorem take_wf (f : Inflow) (n : Int) (hn : 0 ≤ n) (hw : f.WF) : (f.take n).2.WF := by
  unfold Inflow.take Inflow.WF at *
  by_cases h : n > f.avail <;> simp [h] <;> omega

theorem takeInflows_eq_takes (f1 f2 : Inflow) (n : Int) :
    (takeInflows f1 f2 n).1 = ((f1.take n).1 && (f2.take n).1) ∧
    ((takeInflows f1 f2 n).1 = true → (takeInflows f1 f2 n).2 = ((f1.take n).2, (f2.take n).2)) := by
  unfold takeInflows Inflow.take
  by_cases h1 : n > f1.avail <;> by_cases h2 : n > f2.avail <;> simp [h1, h2]

-- The `outflow.*` statements of `Lemmas/SendWinFlow.lean`, under this namespace for the audit of the C10 check; no C10/C11
-- proof uses them.

theorem wrap32_range (x : Int) : IsInt32 (wrap32 x) := SendWinFlow.wrap32_range x

theorem outflow_add_spec (f : Outflow) (n : Int) (hf : IsInt32 f.n) (hn : IsInt32 n) :
    ((f.add n).1 = true ↔ IsInt32 (f.n + n)) ∧
    ((f.add n).1 = true → (f.add n).2 = { f with n := f.n + n }) ∧
    ((f.add n).1 = false → (f.add n).2 = f) := SendWinFlow.outflow_add_spec f n hf hn

theorem outflow_available_spec (f : Outflow) :
    f.available ≤ f.n ∧ (∀ c, f.conn = some c → f.available ≤ c ∧ (f.available = c ∨ f.available = f.n)) ∧
    (f.conn = none → f.available = f.n) := SendWinFlow.outflow_available_spec f

theorem outflow_take_spec (f : Outflow) (n : Int) (hn : 0 ≤ n) (hf : IsInt32 f.n)
    (hc : ∀ c, f.conn = some c → IsInt32 c) :
    (f.take n = none ↔ n > f.available) ∧
    (∀ g, f.take n = some g → g.n = f.n - n ∧ g.conn = f.conn.map (· - n) ∧ 0 ≤ g.available - (f.available - n)
        ∧ g.available = f.available - n) := SendWinFlow.outflow_take_spec f n hn hf hc

end NetVerif.Proofs.Flow
