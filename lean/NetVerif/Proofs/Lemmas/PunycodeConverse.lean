import NetVerif.Proofs.Lemmas.PunycodeString
/-! `encode (decode a) = a` up to ASCII case: a monotone insertion sequence is determined by its result
(`replay_inj`), so the deltas the decoder read are the deltas the encoder emits for the result. -/

namespace NetVerif.Proofs.Lemmas.PunycodeConverse
open NetVerif.Model.Punycode NetVerif.Proofs.Lemmas.Punycode NetVerif.Proofs.Lemmas.PunycodeString

/-- What the decoder's insertions keep: the cursor is inside the output, the current code point `n` bounds
the output, and strictly bounds what lies at or after the cursor (so the insertion order is monotone). -/
def CursorInv (d : DecSt) : Prop :=
  d.i ≤ d.out.length ∧ (∀ x ∈ d.out, x ≤ d.n) ∧ (∀ x ∈ d.out.drop d.i, x < d.n)

theorem mem_insertAt {x p n : Nat} {l : List Nat} (h : x ∈ insertAt p n l) : x = n ∨ x ∈ l := by
  rcases List.mem_append.1 h with h | h
  · exact Or.inr (List.mem_of_mem_take h)
  · exact (List.mem_cons.1 h).imp_right List.mem_of_mem_drop

theorem drop_insertAt (p n : Nat) (l : List Nat) (hp : p ≤ l.length) :
    (insertAt p n l).drop (p + 1) = l.drop p := by
  unfold insertAt
  have hA : (l.take p).length = p := by rw [List.length_take]; omega
  rw [List.drop_append, List.drop_eq_nil_of_le (by omega), hA]
  simp

/-- The element a round inserts is at least every old element and strictly above everything to its right. -/
theorem step_facts (d : DecSt) (delta : Nat) (hs : CursorInv d) :
    (d.i + delta) % (d.out.length + 1) ≤ d.out.length ∧
    (∀ x ∈ d.out, x ≤ d.n + (d.i + delta) / (d.out.length + 1)) ∧
    (∀ x ∈ d.out.drop ((d.i + delta) % (d.out.length + 1)),
      x < d.n + (d.i + delta) / (d.out.length + 1)) := by
  obtain ⟨h1, h2, h3⟩ := hs
  have hx : 0 < d.out.length + 1 := by omega
  have hp : (d.i + delta) % (d.out.length + 1) < d.out.length + 1 := Nat.mod_lt _ hx
  refine ⟨by omega, fun x hx' => Nat.le_trans (h2 x hx') (Nat.le_add_right _ _), ?_⟩
  intro x hx'
  by_cases hq : (d.i + delta) / (d.out.length + 1) = 0
  · have hlt : d.i + delta < d.out.length + 1 := by
      rcases Nat.div_eq_zero_iff.mp hq with h | h <;> omega
    rw [Nat.mod_eq_of_lt hlt] at hx'
    have : d.out.drop (d.i + delta) = (d.out.drop d.i).drop delta := by rw [List.drop_drop]
    rw [this] at hx'
    have := h3 x (List.mem_of_mem_drop hx')
    omega
  · have := h2 x (List.mem_of_mem_drop hx')
    have : 0 < (d.i + delta) / (d.out.length + 1) := Nat.pos_of_ne_zero hq
    omega

theorem cursorInv_step (d : DecSt) (delta : Nat) (hs : CursorInv d) : CursorInv (stepD d delta) := by
  obtain ⟨hp, hle, hlt⟩ := step_facts d delta hs
  refine ⟨?_, ?_, ?_⟩
  · simp only [stepD]; rw [insertAt_length _ _ _ hp]; omega
  · intro x hx
    rcases mem_insertAt hx with e | hx
    · exact Nat.le_of_eq e
    · exact hle x hx
  · intro x hx
    simp only [stepD] at hx ⊢
    rw [drop_insertAt _ _ _ hp] at hx
    exact hlt x hx

theorem replay_length : ∀ (ds : List Nat) (d : DecSt), (replay d ds).out.length = d.out.length + ds.length
  | [], _ => rfl
  | x :: xs, d => by
    rw [replay, replay_length xs, stepD_length, List.length_cons, Nat.add_assoc, Nat.add_comm 1]

/-- A list determines its split `A ++ n :: B` with `A ≤ n` and `B < n`: `n` is the maximum, at its last
occurrence. -/
theorem split_max_unique (A B A' B' : List Nat) (n n' : Nat) (h : A ++ n :: B = A' ++ n' :: B')
    (hB : ∀ x ∈ B, x < n) (hA' : ∀ x ∈ A', x ≤ n') (hB' : ∀ x ∈ B', x < n') (hA : ∀ x ∈ A, x ≤ n) :
    A = A' ∧ n = n' ∧ B = B' := by
  -- a longer left part on one side would contain the other side's middle element
  have key : ∀ (A B A' B' : List Nat) (n n' : Nat) (C : List Nat), A' = A ++ C → n :: B = C ++ n' :: B' →
      (∀ x ∈ B, x < n) → (∀ x ∈ A', x ≤ n') → C = [] := by
    intro A B A' B' n n' C e1 e2 hB hA'
    cases C with
    | nil => rfl
    | cons c C =>
      rw [List.cons_append, List.cons.injEq] at e2
      have h1 := hA' n (by rw [e1, e2.1]; exact List.mem_append_right _ List.mem_cons_self)
      have h2 := hB n' (by rw [e2.2]; exact List.mem_append_right _ List.mem_cons_self)
      omega
  rcases List.append_eq_append_iff.1 h with ⟨C, e1, e2⟩ | ⟨C, e1, e2⟩
  · have := key A B A' B' n n' C e1 e2 hB hA'
    subst this
    rw [List.nil_append, List.cons.injEq] at e2
    exact ⟨by rw [e1, List.append_nil], e2⟩
  · have := key A' B' A B n' n C e1 e2 hB' hA
    subst this
    rw [List.nil_append, List.cons.injEq] at e2
    exact ⟨by rw [e1, List.append_nil], e2.1.symm, e2.2.symm⟩

theorem last_insert_unique (l l' : List Nat) (p p' n n' : Nat)
    (h : insertAt p n l = insertAt p' n' l') (hp : p ≤ l.length) (hp' : p' ≤ l'.length)
    (hle : ∀ x ∈ l, x ≤ n) (hd : ∀ x ∈ l.drop p, x < n) (hle' : ∀ x ∈ l', x ≤ n')
    (hd' : ∀ x ∈ l'.drop p', x < n') : p = p' ∧ n = n' ∧ l = l' := by
  obtain ⟨e1, e2, e3⟩ := split_max_unique _ _ _ _ n n' h hd (fun x hx => hle' x (List.mem_of_mem_take hx)) hd'
    (fun x hx => hle x (List.mem_of_mem_take hx))
  have := congrArg List.length e1
  rw [List.length_take, List.length_take] at this
  exact ⟨by omega, e2, by rw [← List.take_append_drop p l, ← List.take_append_drop p' l', e1, e3]⟩

theorem replay_inj (d : DecSt) (hs : CursorInv d) : ∀ (k : Nat) (xs ys : List Nat),
    xs.length = k → (replay d xs).out = (replay d ys).out → xs = ys
  | 0, xs, ys, hx, h => by
    have hl := congrArg List.length h
    rw [replay_length, replay_length, hx] at hl
    rw [List.length_eq_zero_iff.mp hx, List.length_eq_zero_iff.mp (Nat.add_left_cancel hl).symm]
  | k + 1, xs, ys, hx, h => by
    have hl := congrArg List.length h
    rw [replay_length, replay_length, hx] at hl
    rcases List.eq_nil_or_concat xs with rfl | ⟨xs0, x, rfl⟩
    · simp at hx
    rcases List.eq_nil_or_concat ys with rfl | ⟨ys0, y, rfl⟩
    · simp at hl
    simp only [List.concat_eq_append] at h ⊢
    rw [(run_append _ _ _).2.1, (run_append _ _ _).2.1] at h
    obtain ⟨hp, hle, hlt⟩ := step_facts (replay d xs0) x (replay_inv cursorInv_step xs0 d hs)
    obtain ⟨hp', hle', hlt'⟩ := step_facts (replay d ys0) y (replay_inv cursorInv_step ys0 d hs)
    obtain ⟨e1, e2, e3⟩ := last_insert_unique _ _ _ _ _ _ h hp hp' hle hlt hle' hlt'
    have h0 := replay_inj d hs k xs0 ys0 (by simpa using hx) e3
    subst h0
    -- same position and same value: same remainder and same quotient of `i + delta`
    have hxy : (replay d xs0).i + x = (replay d xs0).i + y := by
      rw [← Nat.div_add_mod ((replay d xs0).i + x) ((replay d xs0).out.length + 1), e1, Nat.add_left_cancel e2,
        Nat.div_add_mod]
    rw [Nat.add_left_cancel hxy]

theorem replay_facts : ∀ (ds : List Nat) (d : DecSt), stepsOK d ds → 128 ≤ d.n →
    (∀ x ∈ d.out, x ≤ maxRune) → d.out.length ≤ maxOutput →
    (∀ x ∈ (replay d ds).out, x ≤ maxRune) ∧ (replay d ds).out.length ≤ maxOutput ∧
      (replay d ds).out.filter (fun r => decide (r < 128)) = d.out.filter (fun r => decide (r < 128))
  | [], _, _, _, h1, h2 => ⟨h1, h2, rfl⟩
  | y :: ys, d, hok, hn, h1, _ => by
    have hn' : 128 ≤ (stepD d y).n := Nat.le_trans hn (Nat.le_add_right _ _)
    obtain ⟨a, b, c⟩ := replay_facts ys (stepD d y) hok.2.2 hn'
      (fun x hx => (mem_insertAt hx).elim (fun e => e ▸ hok.2.1) (h1 x))
      (by rw [stepD_length]; exact hok.1)
    refine ⟨a, b, c.trans ?_⟩
    simp only [stepD, insertAt, List.filter_append, List.filter_cons]
    rw [if_neg (by simpa [stepD] using hn'), ← List.filter_append, List.take_append_drop]

theorem splitLast_some : ∀ (a b D : List Nat), splitLast a = some (b, D) → a = b ++ hyphen :: D
  | [], _, _, h => by simp [splitLast] at h
  | c :: cs, b, D, h => by
    unfold splitLast at h
    cases hs : splitLast cs with
    | some r =>
      obtain ⟨b', D'⟩ := r
      simp only [hs, Option.some.injEq, Prod.mk.injEq] at h
      rw [← h.1, ← h.2, splitLast_some cs b' D' hs]; rfl
    | none =>
      simp only [hs] at h
      split at h
      · rename_i hc
        simp only [Option.some.injEq, Prod.mk.injEq] at h
        rw [← h.1, ← h.2, hc]; rfl
      · simp at h

theorem lowerAscii_idem (c : Nat) : lowerAscii (lowerAscii c) = lowerAscii c := by
  unfold lowerAscii
  by_cases h : 65 ≤ c ∧ c ≤ 90
  · rw [if_pos h, if_neg (by omega)]
  · rw [if_neg h, if_neg h]

/-- Reverse direction on a run of the delta loop: the run replays some deltas to `u`, the encoder's output on
`u` carries deltas that replay to `u` too, hence the same deltas and the same canonical digits. -/
theorem converse_run (lit D u : List Nat) (hlit : ∀ c ∈ lit, c < 128) (hD : D ≠ [])
    (hrun : decodeAll D (start lit) = some u) :
    ∃ E, encode [] u = some (lit ++ (if lit.length > 0 then [hyphen] else []) ++ E) ∧
      E.map lowerAscii = D.map lowerAscii := by
  obtain ⟨ds, hc, hr, hok⟩ := run_of_decode D.length D (start lit) u hrun
  have hs0 : CursorInv (start lit) :=
    ⟨Nat.zero_le _, fun x hx => Nat.le_of_lt (hlit x hx), fun x hx => hlit x hx⟩
  obtain ⟨x, xs, rfl⟩ := List.exists_cons_of_ne_nil fun hds : ds = [] => hD (List.map_eq_nil_iff.mp (hds ▸ hc))
  obtain ⟨hsu, hlu, hfil⟩ := replay_facts _ _ hok (Nat.le_refl 128)
    (fun x hx => Nat.le_trans (Nat.le_of_lt (hlit x hx)) (by decide)) (Nat.le_of_lt hok.1)
  rw [hr] at hsu hlu hfil
  replace hfil : u.filter (fun r => decide (r < 128)) = lit :=
    hfil.trans (List.filter_eq_self.mpr fun x hx => decide_eq_true (hlit x hx))
  obtain ⟨ds', henc, -, hr'⟩ := encode_run [] u hsu hlu
  rw [hfil] at henc hr'
  cases replay_inj _ hs0 _ (x :: xs) ds' rfl (hr.trans hr'.symm)
  exact ⟨_, henc, by rw [← hc, List.map_map]; exact List.map_congr_left fun c _ => lowerAscii_idem c⟩

theorem encode_decodeRunes (a u : List Nat) (h : decodeRunes a = some u) :
    ∃ a', encode [] u = some a' ∧ a'.map lowerAscii = a.map lowerAscii := by
  unfold decodeRunes at h
  by_cases ha : a = []
  · rw [if_pos ha] at h
    cases h
    exact ⟨[], (decode_encode_ascii [] fun _ hx => nomatch hx).1, by rw [ha]⟩
  · rw [if_neg ha] at h
    cases hsl : splitLast a with
    | none =>
      rw [hsl] at h
      obtain ⟨E, henc, hE⟩ := converse_run [] a u (fun _ hx => nomatch hx) ha h
      exact ⟨_, henc, hE⟩
    | some r =>
      obtain ⟨b, D⟩ := r
      have hspl := splitLast_some a b D hsl
      rw [hsl] at h
      simp only at h
      by_cases hb : b = []
      · rw [if_pos hb] at h; cases h
      · rw [if_neg hb] at h
        cases hasc : isAscii b with
        | false => rw [hasc] at h; cases h
        | true =>
          rw [hasc, if_neg (by decide)] at h
          have hlit : ∀ c ∈ b, c < 128 := fun c hc => of_decide_eq_true (List.all_eq_true.mp hasc c hc)
          by_cases hD : D = []
          · rw [if_pos hD] at h
            cases h
            have := (decode_encode_ascii u hlit).1
            rw [if_neg hb] at this
            exact ⟨u ++ [hyphen], this, by rw [hspl, hD]⟩
          · rw [if_neg hD] at h
            obtain ⟨E, henc, hE⟩ := converse_run b D u hlit hD h
            refine ⟨_, henc, ?_⟩
            rw [hspl, if_pos (List.length_pos_iff.mpr hb), List.append_assoc, List.singleton_append,
              List.map_append, List.map_append, List.map_cons, List.map_cons, hE]

end NetVerif.Proofs.Lemmas.PunycodeConverse
