import NetVerif.Proofs.Lemmas.Huffman
/-!
Arithmetic behind the 64-bit registers of `AppendHuffmanString` (`x`) and `huffmanDecode` (`cur`):
big-endian bytes, the shift-or step modulo 2^64, and `Low cur W`: the bits `W` are the low end of
everything shifted into the register `cur`, from which both functions read them back.
-/
namespace NetVerif.Proofs.Lemmas.HuffmanAcc
open NetVerif.Model.Huffman
open NetVerif.Proofs.Lemmas.Huffman

theorem bitsToNat_ones (k : Nat) : bitsToNat (List.replicate k true) = 2 ^ k - 1 := by
  induction k with
  | zero => rfl
  | succ k ih =>
    simp only [List.replicate_succ, bitsToNat, List.length_replicate, ih, ↓reduceIte, Nat.pow_succ]
    have : 0 < 2 ^ k := Nat.two_pow_pos k
    omega

theorem natToBits_ones (k : Nat) : natToBits k (2 ^ k - 1) = List.replicate k true := by
  have := natToBits_bitsToNat (List.replicate k true)
  rwa [List.length_replicate, bitsToNat_ones] at this

theorem bitsToNat_all_ones (W : List Bool) : bitsToNat W = 2 ^ W.length - 1 ↔ W.all id = true := by
  rw [List.all_eq_true]
  constructor
  · intro h b hb
    have e := natToBits_bitsToNat W
    rw [h, natToBits_ones] at e
    rw [← e] at hb
    exact (List.mem_replicate.mp hb).2
  · intro h
    have e : W = List.replicate W.length true := List.eq_replicate_iff.mpr ⟨rfl, h⟩
    rw [e, bitsToNat_ones, List.length_replicate]

theorem pow8 (k : Nat) : 2 ^ (8 * (k + 1)) = 256 * 2 ^ (8 * k) := by
  rw [Nat.mul_succ, Nat.pow_add]; omega

theorem beBytes_mod (k a r : Nat) : beBytes k (a * 2 ^ (8 * k) + r) = beBytes k r := by
  induction k generalizing a with
  | zero => rfl
  | succ k ih =>
    simp only [beBytes]
    have hp : 0 < 2 ^ (8 * k) := Nat.two_pow_pos _
    have e : a * 2 ^ (8 * (k + 1)) + r = r + (a * 256) * 2 ^ (8 * k) := by
      rw [pow8, Nat.mul_assoc, Nat.mul_comm 256, Nat.add_comm]
    congr 1
    · rw [e, Nat.add_mul_div_right _ _ hp, Nat.add_mul_mod_self_right]
    · rw [e, Nat.add_comm]
      exact ih (a * 256)

theorem packBits_eq_beBytes (k : Nat) (q : List Bool) (hq : q.length = 8 * k) :
    packBits q = beBytes k (bitsToNat q) := by
  fun_induction packBits q generalizing k with
  | case1 b0 b1 b2 b3 b4 b5 b6 b7 rest ih =>
    obtain ⟨k, rfl⟩ : ∃ k', k = k' + 1 := ⟨k - 1, by simp at hq; omega⟩
    have hr : rest.length = 8 * k := by simp at hq; omega
    have hB : bitsToNat [b0, b1, b2, b3, b4, b5, b6, b7] < 256 := by
      simpa using bitsToNat_lt [b0, b1, b2, b3, b4, b5, b6, b7]
    have hR := bitsToNat_lt rest
    have happ := bitsToNat_append [b0, b1, b2, b3, b4, b5, b6, b7] rest
    rw [hr] at hR happ
    have hd : (bitsToNat [b0, b1, b2, b3, b4, b5, b6, b7] * 2 ^ (8 * k) + bitsToNat rest) / 2 ^ (8 * k) % 256 =
        bitsToNat [b0, b1, b2, b3, b4, b5, b6, b7] := by
      rw [Nat.add_comm, Nat.add_mul_div_right _ _ (Nat.two_pow_pos _), Nat.div_eq_of_lt hR, Nat.zero_add,
        Nat.mod_eq_of_lt hB]
    rw [show bitsToNat (b0 :: b1 :: b2 :: b3 :: b4 :: b5 :: b6 :: b7 :: rest) = _ from happ, beBytes, hd,
      beBytes_mod, ih k hr]
  | case2 q hne =>
    have := length_lt_8 hne
    rw [show k = 0 by omega]
    rfl

/-- A field of `w` bits lying `n` bits above the low end of the register is read back by `>>> n` and
`% 2^w`, whatever was shifted in before it (`D`), as long as it is still within the 64 bits kept. -/
theorem extract (D W R n w : Nat) (hn : w + n ≤ 64) (hW : W < 2 ^ w) (hR : R < 2 ^ n) :
    ((((D * 2 ^ w + W) * 2 ^ n + R) % 2 ^ 64) >>> n) % 2 ^ w = W := by
  rw [Nat.shiftRight_eq_div_pow]
  have h64 : (2 : Nat) ^ 64 = 2 ^ n * 2 ^ (64 - n) := by
    rw [← Nat.pow_add]; congr 1; omega
  rw [h64, Nat.mod_mul_right_div_self]
  have hd : (2 : Nat) ^ w ∣ 2 ^ (64 - n) := Nat.pow_dvd_pow 2 (by omega)
  rw [Nat.mod_mod_of_dvd _ hd]
  have hp : 0 < 2 ^ n := Nat.two_pow_pos n
  rw [Nat.add_comm, Nat.add_mul_div_right _ _ hp, Nat.div_eq_of_lt hR, Nat.zero_add,
    Nat.add_comm, Nat.add_mul_mod_self_right, Nat.mod_eq_of_lt hW]

theorem beBytes_mod_pow (k j x : Nat) (h : 8 * k ≤ j) : beBytes k (x % 2 ^ j) = beBytes k x := by
  have hj : (2 : Nat) ^ j = 2 ^ (j - 8 * k) * 2 ^ (8 * k) := by
    rw [← Nat.pow_add]; congr 1; omega
  have e : x = (x / 2 ^ j * 2 ^ (j - 8 * k)) * 2 ^ (8 * k) + x % 2 ^ j := by
    rw [Nat.mul_assoc, ← hj, Nat.mul_comm]
    exact (Nat.div_add_mod x (2 ^ j)).symm
  conv => rhs; rw [e]
  rw [beBytes_mod]

theorem beBytes_snoc (k x : Nat) : beBytes (k + 1) x = beBytes k (x / 256) ++ [x % 256] := by
  induction k with
  | zero => simp [beBytes]
  | succ k ih =>
    rw [beBytes, ih, beBytes, List.cons_append, Nat.div_div_eq_div_mul, ← pow8, Nat.mul_comm 8]

/-- `W` is the low end of the bits shifted into the 64-bit register `cur` so far (`A`: the older ones,
of which the register has kept at most `64 - W.length`). -/
def Low (cur : Nat) (W : List Bool) : Prop := ∃ A, cur = bitsToNat (A ++ W) % 2 ^ 64

variable {cur : Nat} {W : List Bool}

theorem Low.drop (h : Low cur W) (k : Nat) : Low cur (W.drop k) := by
  obtain ⟨A, h⟩ := h
  exact ⟨A ++ W.take k, by rw [List.append_assoc, List.take_append_drop]; exact h⟩

/-- `cur<<L | code` appends the `L` bits of `code`. -/
theorem Low.shift_or (h : Low cur W) (L code : Nat) (hL : L < 64)
    (hc : code < 2 ^ L) : Low (((cur <<< L) % 2 ^ 64) ||| code) (W ++ natToBits L code) := by
  obtain ⟨A, rfl⟩ := h
  refine ⟨A, ?_⟩
  have hc64 : code < 2 ^ 64 := Nat.lt_of_lt_of_le hc (Nat.pow_le_pow_right (by decide) (Nat.le_of_lt hL))
  rw [← List.append_assoc, bitsToNat_append _ (natToBits L code), natToBits_length, bitsToNat_natToBits,
    Nat.mod_eq_of_lt hc, ← Nat.shiftLeft_eq, Nat.shiftLeft_add_eq_or_of_lt hc, Nat.or_mod_two_pow,
    Nat.mod_eq_of_lt hc64, Nat.shiftLeft_eq, Nat.shiftLeft_eq, Nat.mod_mul_mod]

theorem Low.bits {P Q : List Bool} (h : Low cur (P ++ Q)) (hl : P.length + Q.length ≤ 64) :
    (cur >>> Q.length) % 2 ^ P.length = bitsToNat P := by
  obtain ⟨A, rfl⟩ := h
  rw [← List.append_assoc, bitsToNat_append, bitsToNat_append]
  exact extract _ _ _ _ _ hl (bitsToNat_lt P) (bitsToNat_lt Q)

theorem Low.mod (h : Low cur W) (hl : W.length ≤ 64) :
    cur % 2 ^ W.length = bitsToNat W :=
  Low.bits (Q := []) (by rwa [List.append_nil]) hl

theorem Low.beBytes (h : Low cur W) (k : Nat) (hk : W.length = 8 * k) (h8 : k ≤ 8) :
    beBytes k cur = packBits W := by
  obtain ⟨A, rfl⟩ := h
  rw [beBytes_mod_pow _ _ _ (by omega), bitsToNat_append, hk, beBytes_mod, packBits_eq_beBytes k W hk]

/-- `byte(cur >> (cbits-8))` is the first 8 bits of the look-ahead. -/
theorem Low.idx (h : Low cur W) (hc : 8 ≤ W.length) (hl : W.length ≤ 64) :
    natToBits 8 ((cur >>> (W.length - 8)) % 256) = W.take 8 := by
  have htl : (W.take 8).length = 8 := by rw [List.length_take]; omega
  have hb := Low.bits (P := W.take 8) (Q := W.drop 8) (by rwa [List.take_append_drop])
    (by rw [htl, List.length_drop]; omega)
  have hn := natToBits_bitsToNat (W.take 8)
  rw [htl] at hb hn
  rw [List.length_drop] at hb
  rw [show (256 : Nat) = 2 ^ 8 from rfl, hb, hn]

theorem natToBits_zero (k : Nat) : natToBits k 0 = List.replicate k false := by
  induction k with
  | zero => rfl
  | succ k ih => simp [natToBits, List.replicate_succ, ih]

/-- `byte(cur << (8-cbits))`: the look-ahead padded with zero bits. -/
theorem Low.pad (h : Low cur W) (hc : W.length ≤ 8) :
    natToBits 8 (((cur <<< (8 - W.length)) % 2 ^ 64) % 256) = W ++ List.replicate (8 - W.length) false := by
  have h' := h.shift_or (8 - W.length) 0 (by omega) (Nat.two_pow_pos _)
  rw [Nat.or_zero, natToBits_zero] at h'
  have hl : (W ++ List.replicate (8 - W.length) false).length = 8 := by
    rw [List.length_append, List.length_replicate]; omega
  have hb := h'.mod (by omega)
  have hn := natToBits_bitsToNat (W ++ List.replicate (8 - W.length) false)
  rw [hl] at hb hn
  rw [show (256 : Nat) = 2 ^ 8 from rfl, hb, hn]

end NetVerif.Proofs.Lemmas.HuffmanAcc
