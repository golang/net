import NetVerif.Proofs.Lemmas.WriteSched7540
/-!
RFC 7540 scheduler: the walk of `Pop` over the priority tree (`walk_spec`), `Pop` itself, and "`Pop` returns
nothing only if nothing is sendable" for states in which every mapped node is reachable from the root (`ReachInv`).
`Push`, `Pop` and `OpenStream` keep such states (`reachInv_push`, `reachInv_pop`, `reachInv_open`); `CloseStream` and
`AdjustStream` are left to `C12.CloseKeepsReach` and `C12.AdjustKeepsReach`.
-/
namespace NetVerif.Proofs.WriteSched7540
open NetVerif.Model.WriteSched NetVerif.Model.WriteSched.P7540 NetVerif.Proofs.WriteSchedLemmas
  NetVerif.Proofs.WriteSchedSpec NetVerif.Proofs.WriteSchedRefine

/-- `t` is reachable from `n` through `kids` links in at most `d` steps. -/
inductive ReachD (s : P7540) : Nat → Nat → Nat → Prop
  | self {d n} : ReachD s d n n
  | step {d n k t} : k ∈ (s.node n).kids → ReachD s d k t → ReachD s (d + 1) n t

/-- Every mapped node can be reached from the root through `kids` links (within the walk's fuel). -/
def ReachInv (s : P7540) : Prop := ∀ id n, s.lookup id = some n → ReachD s s.store.length 0 n

theorem ReachD.mono {s : P7540} {d d' n t : Nat} (h : ReachD s d n t) (hd : d ≤ d') : ReachD s d' n t := by
  induction h generalizing d' with
  | self => exact ReachD.self
  | step hk _ ih =>
    cases d' with
    | zero => omega
    | succ d'' => exact ReachD.step hk (ih (by omega))

theorem reach_mono_kids {s s' : P7540} (h : ∀ i k, k ∈ (s.node i).kids → k ∈ (s'.node i).kids) {d n t : Nat}
    (hr : ReachD s d n t) : ReachD s' d n t := by
  induction hr with
  | self => exact ReachD.self
  | step hk _ ih => exact ReachD.step (h _ _ hk) ih

theorem mem_bubble (lt : Nat → Nat → Bool) (x : Nat) (l : List Nat) (y : Nat) : y ∈ bubble lt x l ↔ y = x ∨ y ∈ l := by
  induction l with
  | nil => simp [bubble]
  | cons p rp ih =>
    simp only [bubble]
    split
    · simp only [List.mem_cons, ih, or_left_comm]
    · simp only [List.mem_cons]

theorem mem_insertionSort (lt : Nat → Nat → Bool) (l : List Nat) (y : Nat) : y ∈ insertionSort lt l ↔ y ∈ l := by
  unfold insertionSort
  rw [List.mem_reverse]
  have : ∀ (l acc : List Nat), y ∈ l.foldl (fun rp x => bubble lt x rp) acc ↔ y ∈ l ∨ y ∈ acc := by
    intro l
    induction l with
    | nil => intro acc; simp
    | cons a l ih => intro acc; simp only [List.foldl_cons, ih, mem_bubble, List.mem_cons, or_assoc, or_left_comm]
  rw [this]; simp

theorem kids_sort (s : P7540) (n : Nat) (lt : Nat → Nat → Bool) {l : List Nat} (hl : (s.node n).kids = l) (i k : Nat) :
    k ∈ ((s.modNode n fun nn => { nn with kids := insertionSort lt l }).node i).kids ↔ k ∈ (s.node i).kids := by
  rcases node_modNode_cases s n (fun nn => { nn with kids := insertionSort lt l }) i with h | ⟨rfl, h⟩
  · rw [h]
  · rw [h, hl]; exact mem_insertionSort lt l k

/-- the head of the queue cannot be written (or the queue is empty) -/
def Unsend (e : Env) (s : P7540) (t : Nat) : Prop := sendable e (s.node t).q = false

theorem unsend_same {e : Env} {s s' : P7540} (h : Same s s') (t : Nat) : Unsend e s' t ↔ Unsend e s t := by
  simp only [Unsend, (h.nd t).1]

theorem unsend_of_consume_none {e e' : Env} {q q' : WQ} {limit : Int} (hpos : 0 < limit)
    (h : q.consume e limit = (e', q', none)) : sendable e q = false := by
  cases hl : q.toList with
  | nil => exact sendable_false_of_nil e hl
  | cons f rest =>
    rcases wq_consume_cons e limit hl with ⟨e1, h1, _⟩ | ⟨e1, q1, _, h2, _⟩ | ⟨e1, c, r, _, h2, _⟩
    · obtain ⟨_, sid, tag, off, len, fin, last, rfl, hlen, hal⟩ := consume_none h1
      have hal' := (allowed_nonpos_iff e sid limit hpos).1 hal
      apply (sendable_false_iff e).2
      right
      refine ⟨_, rest, e, hl, ?_⟩
      have hne : len ≠ 0 := by omega
      simp [Frame.consume, hne, hal']
    · rw [h2] at h; cases h
    · rw [h2] at h; cases h

theorem walkFold_some (fuel : Nat) (op : Bool) (l : List Nat) (e : Env) (s : P7540) (f : Frame) :
    (l.foldl (fun (acc : Env × P7540 × Option Frame) k =>
      match acc with
      | (_, _, some _) => acc
      | (e', s', none) => walk fuel e' s' k op) (e, s, some f)) = (e, s, some f) :=
  Lemmas.foldl_inv _ (· = (e, s, some f)) (fun _ _ h => by rw [h]) l _ rfl

/-- What `ReachInv` reads of a state.  It is `SameK` without `Fields` and the limit, so it also holds of a walk that
serves a node, whose queue changes (`walk_keq`). -/
structure KEq (s s' : P7540) : Prop where
  len : s'.store.length = s.store.length
  nodes : s'.nodes = s.nodes
  kids : ∀ i k, k ∈ (s'.node i).kids ↔ k ∈ (s.node i).kids

theorem KEq.refl (s : P7540) : KEq s s := ⟨rfl, rfl, fun _ _ => Iff.rfl⟩
theorem KEq.trans {a b c : P7540} (h1 : KEq a b) (h2 : KEq b c) : KEq a c :=
  ⟨h2.len.trans h1.len, h2.nodes.trans h1.nodes, fun i k => (h2.kids i k).trans (h1.kids i k)⟩

theorem keq_modNode (s : P7540) (a : Nat) {f : Node → Node} (hf : ∀ m, (f m).kids = m.kids) :
    KEq s (s.modNode a f) :=
  ⟨length_modNode s a f, rfl, fun i k => by rw [kids_modNode s a hf]⟩

theorem SameK.toKEq {s s' : P7540} (h : SameK s s') : KEq s s' := ⟨h.same.len, h.same.nodes, h.kids⟩

/-- A walk from the nodes `ns` either only sorts siblings, and then (the limit being positive) everything within
`fuel` below `ns` was unsendable; or it serves one node `nid`, and no child set changes.  The positive limit is asked
for inside each case and not by `walk_spec`, because `walk_keq` needs the `SameK` / `KEq` part whatever the limit. -/
inductive WalkRes (e : Env) (s : P7540) (fuel : Nat) (ns : List Nat) : Env → P7540 → Option Frame → Prop
  | none {s'} : SameK s s' → (0 < s.limit → ∀ n ∈ ns, ∀ d t, d < fuel → ReachD s d n t → Unsend e s t) →
      WalkRes e s fuel ns e s' none
  | some {e' s' nid limit q' f} : KEq s s' →
      (0 < s.limit → 0 < limit ∧ nid < s.store.length ∧ (s.node nid).q.toList ≠ [] ∧
        (s.node nid).q.consume e limit = (e', q', some f) ∧ Edit s s' nid q' (s.node nid).state ∧ 0 < s'.limit) →
      WalkRes e s fuel ns e' s' (some f)

theorem walkRes_of_sameK {e : Env} {s s1 : P7540} {fuel : Nat} {ns : List Nat} (h : SameK s s1) {e' : Env}
    {s' : P7540} {r : Option Frame} (hw : WalkRes e s1 fuel ns e' s' r) : WalkRes e s fuel ns e' s' r := by
  cases hw with
  | none h2 hall =>
    exact .none (h.trans h2) fun hl n hn d t hd hr =>
      (unsend_same h.same t).1 (hall (h.limit ▸ hl) n hn d t hd (reach_mono_kids (fun i k hk => (h.kids i k).2 hk) hr))
  | some hk hs =>
    rename_i nid limit q' f
    refine .some (nid := nid) (limit := limit) (q' := q') (h.toKEq.trans hk) fun hl => ?_
    obtain ⟨hpos, hn, hq, hc, hsq, hl'⟩ := hs (h.limit ▸ hl)
    have hqeq := (h.same.nd nid).1
    exact ⟨hpos, h.same.len ▸ hn, hqeq ▸ hq, hqeq ▸ hc, (h.same.nd nid).2.1 ▸ hsq.of_same_left h.same, hl'⟩

theorem walkRes_some {e : Env} {s : P7540} {fuel fuel' : Nat} {ns ns' : List Nat} {e' : Env} {s' : P7540} {f : Frame}
    (h : WalkRes e s fuel ns e' s' (Option.some f)) : WalkRes e s fuel' ns' e' s' (Option.some f) := by
  cases h with
  | some hk hs => exact .some hk hs

theorem walkRes_cons {e : Env} {s s1 : P7540} {fuel x : Nat} {xs : List Nat} {e' : Env} {s' : P7540}
    {r : Option Frame} (h1 : WalkRes e s fuel [x] e s1 Option.none) (h2 : WalkRes e s fuel xs e' s' r) :
    WalkRes e s fuel (x :: xs) e' s' r := by
  cases h2 with
  | some hk hs => exact .some hk hs
  | none hsm hall =>
    cases h1 with
    | none _ hx =>
      refine .none hsm fun hl n hn => ?_
      rcases List.mem_cons.1 hn with rfl | hn
      · exact hx hl n (List.mem_singleton.2 rfl)
      · exact hall hl n hn

theorem walkRes_up {e : Env} {s : P7540} {fu n : Nat} {e' : Env} {s' : P7540} {r : Option Frame}
    (hun : 0 < s.limit → Unsend e s n) (hw : WalkRes e s fu (s.node n).kids e' s' r) :
    WalkRes e s (fu + 1) [n] e' s' r := by
  cases hw with
  | some hk hs => exact .some hk hs
  | none hsm hall =>
    refine .none hsm fun hl m hm d t hd hr => ?_
    cases List.mem_singleton.1 hm
    cases hr with
    | self => exact hun hl
    | step hmem hrest => exact hall hl _ hmem _ t (by omega) hrest

theorem visitLimit_pos (s : P7540) (op : Bool) (hl : 0 < s.limit) : 0 < s.visitLimit op := by
  unfold visitLimit; split
  · exact hl
  · decide

theorem afterVisit_spec (t : P7540) (op : Bool) :
    Same t (t.afterVisit op) ∧ KEq t (t.afterVisit op) ∧ (0 < t.limit → 0 < (t.afterVisit op).limit) := by
  have hlim : ∀ l, Same t { t with limit := l } ∧ KEq t { t with limit := l } := fun l =>
    ⟨⟨rfl, fun _ => ⟨rfl, rfl, rfl⟩, rfl, rfl, rfl, rfl, rfl⟩, rfl, rfl, fun _ _ => Iff.rfl⟩
  unfold afterVisit
  split
  · refine ⟨(hlim _).1, (hlim _).2, fun _ => ?_⟩
    simp only; split
    · decide
    · omega
  · split
    · exact ⟨(hlim _).1, (hlim _).2, fun _ => by simp⟩
    · exact ⟨Same.refl t, KEq.refl t, id⟩

theorem visit_some {e e' : Env} {s : P7540} {n : Nat} {op : Bool} {f : Frame} {q' : WQ}
    (hn : n < s.store.length) (hcons : (s.node n).q.consume e (s.visitLimit op) = (e', q', some f)) :
    ∃ s', visit e s n op = (e', s', some f) ∧ KEq s s' ∧ Edit s s' n q' (s.node n).state ∧
      (0 < s.limit → 0 < s'.limit) := by
  have hb := sameK_addBytes (s.modNode n fun nn => { nn with q := q' }) n f.dataSize
  obtain ⟨h1, h2, h3⟩ := afterVisit_spec ((s.modNode n fun nn => { nn with q := q' }).addBytes n f.dataSize) op
  exact ⟨_, by simp [visit, hcons],
    ((keq_modNode s n (f := fun nn => { nn with q := q' }) fun _ => rfl).trans hb.toKEq).trans h2,
    ((edit_modNode s hn (fun nn => { nn with q := q' }) fun _ => rfl).of_same_right hb.same).of_same_right h1,
    fun hl => h3 (hb.limit ▸ hl)⟩

theorem walk_self {e : Env} {s : P7540} {n : Nat} {op : Bool} {R : Env × P7540 × Option Frame}
    (hR : (if (s.node n).q.isEmpty = true then (e, s, none) else visit e s n op) = R) :
    (∃ f, R.2.2 = some f ∧ ∀ fuel ns, WalkRes e s fuel ns R.1 R.2.1 (some f)) ∨
      (R = (e, s, none) ∧ (0 < s.limit → Unsend e s n)) := by
  by_cases he : (s.node n).q.isEmpty = true
  · rw [if_pos he] at hR
    exact Or.inr ⟨hR.symm, fun _ => sendable_false_of_nil e ((isEmpty_iff _).1 he)⟩
  · rw [if_neg he] at hR
    have hq : (s.node n).q.toList ≠ [] := fun hh => he ((isEmpty_iff _).2 hh)
    have hn : n < s.store.length := by
      apply Classical.byContradiction; intro hge
      rw [node_of_ge s (by omega)] at hq; exact hq rfl
    rcases hc : (s.node n).q.consume e (s.visitLimit op) with ⟨e', q', r⟩
    cases r with
    | none =>
      have hv : visit e s n op = (e, s, none) := by simp [visit, hc]
      exact Or.inr ⟨hR.symm.trans hv, fun hl => unsend_of_consume_none (visitLimit_pos s op hl) hc⟩
    | some f =>
      obtain ⟨s', hv, hk, hsq, hl'⟩ := visit_some hn hc
      rw [← hR, hv]
      exact Or.inl ⟨f, rfl, fun _ _ => .some hk fun hl => ⟨visitLimit_pos s op hl, hn, hq, hc, hsq, hl' hl⟩⟩

theorem walk_spec (fuel : Nat) : ∀ (e : Env) (s : P7540) (n : Nat) (op : Bool),
    WalkRes e s fuel [n] (walk fuel e s n op).1 (walk fuel e s n op).2.1 (walk fuel e s n op).2.2 := by
  induction fuel with
  | zero =>
    intro e s n op; unfold walk
    exact .none (SameK.refl s) fun _ _ _ d _ hd => absurd hd (by omega)
  | succ fu ih =>
    intro e s n op
    unfold walk
    generalize hR : (if (s.node n).q.isEmpty = true then (e, s, (none : Option Frame)) else visit e s n op) = R
    rcases walk_self hR with ⟨f, hf, hw⟩ | ⟨hr, hun⟩
    · obtain ⟨e1, s1, r1⟩ := R
      cases hf
      exact hw _ _
    · rw [hr]
      simp only
      cases hk : (s.node n).kids with
      | nil =>
        simp only
        exact walkRes_up hun (hk ▸ .none (SameK.refl s) (fun _ _ hm => nomatch hm))
      | cons k0 ks =>
        simp only
        generalize hs2 : (if (ks.any fun k => (s.node k).weight != (s.node k0).weight) = true then
            s.modNode n fun nn => { nn with kids := insertionSort (fun a b => less (s.node a) (s.node b)) (k0 :: ks) }
          else s) = s2
        have hsk2 : SameK s s2 := by
          rw [← hs2]; split
          · exact ⟨same_modNode s n, kids_sort s n _ hk, rfl⟩
          · exact SameK.refl s
        generalize (if (s.node n).id != 0 then op || (s.node n).state == 0 else op) = op'
        -- The fold over the children, from any state `sa` the walk may have sorted its way to: a child's walk either
        -- serves a node, and the rest of the fold hands that on (`walkFold_some`), or it tried all below the child and
        -- left `SameK`, and `walkRes_cons` adds the child to what the rest of the fold tries.
        have hloop : ∀ (l : List Nat) (sa : P7540), SameK s2 sa → ∀ A,
            A = l.foldl (fun (acc : Env × P7540 × Option Frame) k =>
                match acc with
                | (_, _, some _) => acc
                | (e', s', none) => walk fu e' s' k op') (e, sa, none) →
            WalkRes e s2 fu l A.1 A.2.1 A.2.2 := by
          intro l
          induction l with
          | nil => intro sa hsa A hA; rw [hA]; exact .none hsa (fun _ _ hm => nomatch hm)
          | cons x xs ihl =>
            intro sa hsa A hA
            simp only [List.foldl_cons] at hA
            have hw := walkRes_of_sameK hsa (ih e sa x op')
            rcases hwx : walk fu e sa x op' with ⟨e1, s1, r1⟩
            rw [hwx] at hw hA
            cases r1 with
            | some f =>
              rw [walkFold_some] at hA
              rw [hA]
              exact walkRes_some hw
            | none =>
              cases hw with
              | none hsm hx => exact walkRes_cons (.none hsm hx) (ihl s1 hsm A hA)
        exact walkRes_of_sameK hsk2 (walkRes_up (fun hl => (unsend_same hsk2.same n).2 (hun (hsk2.limit ▸ hl)))
          (hloop (s2.node n).kids s2 (SameK.refl s2) _ rfl))

theorem walk_none (fuel : Nat) : ∀ (e : Env) (s : P7540) (n : Nat) (op : Bool), 0 < s.limit →
    (walk fuel e s n op).2.2 = none →
    (walk fuel e s n op).1 = e ∧ SameK s (walk fuel e s n op).2.1 ∧
      ∀ d t, d < fuel → ReachD s d n t → Unsend e s t := by
  intro e s n op hl hnone
  have hw := walk_spec fuel e s n op
  rw [hnone] at hw
  generalize (walk fuel e s n op).1 = e1 at hw ⊢
  cases hw with
  | none hsm hall => exact ⟨rfl, hsm, hall hl n (List.mem_singleton.2 rfl)⟩

theorem walk_keq (fuel : Nat) : ∀ (e : Env) (s : P7540) (n : Nat) (op : Bool), KEq s (walk fuel e s n op).2.1 := by
  intro e s n op
  have hw := walk_spec fuel e s n op
  rcases hx : walk fuel e s n op with ⟨e1, s1, r1⟩
  rw [hx] at hw
  cases hw with
  | none hsm _ => exact hsm.toKEq
  | some hk _ => exact hk

theorem ctl_consume {f : Frame} (hf : f.isControl = true) (e : Env) (n : Int) : f.consume e n = (e, .whole f) := by
  rcases consume_cases e n f with ⟨h1, _⟩ | ⟨sid, tag, off, len, fin, last, rfl, _, _⟩
  · exact h1
  · simp [Frame.isControl] at hf

theorem p7_pop {s : P7540} {opn ever : Nat → Bool} (e : Env) (hc : CoreInv s opn ever) (hli : ListInv s)
    (hwf : AbsWF (absP7 s) opn) :
    ∃ e' s' r, s.pop e = (e', s', r) ∧ PopSpec False e (absP7 s) r e' (absP7 s') ∧ CoreInv s' opn ever ∧ ListInv s' := by
  cases hroot : (s.node 0).q.toList with
  | cons f rest =>
    -- the root's queue is the control queue, and a control frame is always consumed whole
    have hf := hwf.ctl f (by simp [absP7, hroot])
    rcases wq_consume_cons e (s.visitLimit false) hroot with ⟨e1, h1, _⟩ | ⟨e1, q1, h1, h2, h3⟩ | ⟨e1, c, r, h1, _, _⟩
    · rw [ctl_consume hf.1] at h1; cases h1
    · rw [ctl_consume hf.1] at h1; cases h1
      obtain ⟨s', hv, _, hsq, hl'⟩ := visit_some (op := false) hc.rootlen h2
      have hne : (s.node 0).q.isEmpty = false := by
        cases hh : (s.node 0).q.isEmpty with
        | false => rfl
        | true => rw [(isEmpty_iff _).1 hh] at hroot; cases hroot
      refine ⟨e, s', .frame f, ?_, ?_, core_sameC hc hsq.toC_root (hl' hc.lim), list_chg hli (edit_chg hc hsq hc.root) (hli.not_mem hc.rootst)⟩
      · unfold P7540.pop walk
        simp [hne, hv]
      · rw [abs_edit_root hc hsq, h3]
        exact PopSpec.ctl (a := absP7 s) (by simp [absP7, hroot])
    · rw [ctl_consume hf.1] at h1; cases h1
  | nil =>
    have hctl : (absP7 s).ctl = [] := by simp [absP7, hroot]
    have hw := walk_spec (s.store.length + 1) e s 0 false
    rcases hp : walk (s.store.length + 1) e s 0 false with ⟨e', s', r⟩
    rw [hp] at hw
    dsimp only at hw
    cases hw with
    | none hs =>
      refine ⟨e, s', .none, by simp [P7540.pop, hp], ?_, core_same hc hs.same (hs.limit ▸ hc.lim), list_same hli hs.same⟩
      rw [abs_same hs.same]
      exact PopSpec.none hctl (fun h => h.elim)
    | some hk hs =>
      rename_i nid limit q' f
      obtain ⟨hpos, hn, hq, hcons, hsq, hl'⟩ := hs hc.lim
      have hn0 : nid ≠ 0 := by intro hh; subst hh; exact hq hroot
      obtain ⟨id, hlk, hst⟩ := hc.emp nid hn0 hq
      have hid : id ≠ 0 := fun hh => hn0 ((hc.zero_iff hlk).2 hh)
      refine ⟨e', s', .frame f, by simp [P7540.pop, hp], ?_, hc.of_edit_open hsq hl' hlk hid hst,
        list_chg hli (edit_chg hc hsq hlk) (hli.not_mem hst)⟩
      rw [abs_edit hc hlk hid hsq, hctl]
      exact popSpec_of_consume hctl (by simp [absP7, hid, hlk]) hpos hcons

/-- The C12 clause "`Pop` returns nothing only if nothing is sendable" for RFC 7540, for a state in which every
mapped node is reachable from the root. -/
theorem p7_pop_none_sendable {s s' : P7540} {opn ever : Nat → Bool} {e e' : Env} (hc : CoreInv s opn ever)
    (hr : ReachInv s) (hp : s.pop e = (e', s', .none)) :
    ∀ id f rest, (absP7 s).q id = f :: rest → ∃ e1, f.consume e maxInt32 = (e1, .none) := by
  have hw : (walk (s.store.length + 1) e s 0 false).2.2 = none := by
    unfold P7540.pop at hp
    rcases hh : walk (s.store.length + 1) e s 0 false with ⟨e1, s1, r1⟩
    rw [hh] at hp
    cases r1 with
    | none => rfl
    | some f => simp at hp
  obtain ⟨_, _, hall⟩ := walk_none (s.store.length + 1) e s 0 false hc.lim hw
  intro id f rest hq
  simp only [absP7] at hq
  split at hq
  · cases hq
  · cases hl : s.lookup id with
    | none => rw [hl] at hq; cases hq
    | some n =>
      rw [hl] at hq; simp only at hq
      have hun := hall s.store.length n (by omega) (hr id n hl)
      rcases (sendable_false_iff e).1 hun with h0 | ⟨f', rest', e1, h1, h2⟩
      · rw [h0] at hq; cases hq
      · rw [hq] at h1; cases h1; exact ⟨e1, h2⟩

theorem PopSpec.strengthen {e e' : Env} {a a' : Abs} {r : Res} (h : PopSpec False e a r e' a')
    (hn : r = .none → ∀ id f rest, a.q id = f :: rest → ∃ e1, f.consume e maxInt32 = (e1, .none)) :
    PopSpec True e a r e' a' :=
  h.mono fun _ => hn

theorem p7_pop_strict {s : P7540} {opn ever : Nat → Bool} (e : Env) (hc : CoreInv s opn ever) (hli : ListInv s)
    (hwf : AbsWF (absP7 s) opn) (hr : ReachInv s) :
    ∃ e' s' r, s.pop e = (e', s', r) ∧ PopSpec True e (absP7 s) r e' (absP7 s') ∧ CoreInv s' opn ever ∧ ListInv s' := by
  obtain ⟨e', s', r, h1, h2, h3, h4⟩ := p7_pop e hc hli hwf
  refine ⟨e', s', r, h1, PopSpec.strengthen h2 ?_, h3, h4⟩
  intro hrn; subst hrn
  exact p7_pop_none_sendable hc hr h1

theorem reach_snoc {s : P7540} {d a b c : Nat} (hr : ReachD s d a b) (hc : c ∈ (s.node b).kids) : ReachD s (d + 1) a c := by
  induction hr with
  | self => exact ReachD.step hc ReachD.self
  | step hk _ ih => exact ReachD.step hk (ih hc)

theorem reachInv_keq {s s' : P7540} (h : KEq s s') (hr : ReachInv s) : ReachInv s' := by
  intro id n hl
  rw [lookup_of_nodes h.nodes] at hl
  rw [h.len]
  exact reach_mono_kids (fun i k hk => (h.kids i k).2 hk) (hr id n hl)

theorem reachInv_pop {s : P7540} (e : Env) (hr : ReachInv s) : ReachInv (s.pop e).2.1 := by
  have h := walk_keq (s.store.length + 1) e s 0 false
  unfold P7540.pop
  rcases hw : walk (s.store.length + 1) e s 0 false with ⟨e1, s1, r1⟩
  rw [hw] at h
  cases r1 <;> exact reachInv_keq h hr

theorem reachInv_push {s : P7540} (f : Frame) (hr : ReachInv s) : ReachInv (s.push f).1 := by
  unfold P7540.push
  simp only
  split
  · exact hr
  · simp only
    apply reachInv_keq ?_ hr
    exact keq_modNode _ _ (fun _ => rfl)

theorem setParent!_fresh {s : P7540} {n p : Nat} (hpar : (s.node n).parent = none) (hne : n ≠ p)
    (hp : p < s.store.length) :
    (∀ i k, k ∈ (s.node i).kids → k ∈ ((s.setParent! n (some p)).node i).kids) ∧
      n ∈ ((s.setParent! n (some p)).node p).kids := by
  have h1 : ¬ (some n = some p) := by intro hh; cases hh; exact hne rfl
  have h2 : ¬ ((s.node n).parent = some p) := by rw [hpar]; intro hh; cases hh
  unfold setParent! setParent
  rw [if_neg h1, if_neg h2, hpar]
  simp only [Option.getD_some]
  have hk1 := keq_modNode s n (f := fun nn => { nn with parent := some p }) (fun _ => rfl)
  have hself := node_modNode_self (s.modNode n fun nn => { nn with parent := some p })
    (fun pn => { pn with kids := n :: pn.kids }) (by rw [length_modNode]; exact hp)
  refine ⟨fun i k hk => ?_, by rw [hself]; simp⟩
  have hk' := (hk1.kids i k).2 hk
  by_cases hi : i = p
  · subst hi; rw [hself]; exact List.mem_cons_of_mem _ hk'
  · rw [node_modNode_ne _ _ hi]; exact hk'

theorem reachInv_open {s : P7540} {opn ever : Nat → Bool} {id pusher : Nat} (hc : CoreInv s opn ever)
    (hr : ReachInv s) : ReachInv (s.openStream id pusher).1 := by
  unfold openStream
  cases hl : s.lookup id with
  | some cur =>
    simp only
    split
    · exact hr
    · -- the result also takes `cur` off `idleL`, which `KEq` does not read
      have h1 := keq_modNode s cur (f := fun n => { n with state := 0 }) (fun _ => rfl)
      exact reachInv_keq ⟨h1.len, h1.nodes, h1.kids⟩ hr
  | none =>
    simp only
    obtain ⟨hpl, hpr⟩ : (s.lookup pusher).getD 0 < s.store.length ∧
        ReachD s s.store.length 0 ((s.lookup pusher).getD 0) := by
      cases hp : s.lookup pusher with
      | none => exact ⟨hc.rootlen, ReachD.self⟩
      | some p => exact ⟨(hc.map pusher p hp).1, hr pusher p hp⟩
    generalize (s.lookup pusher).getD 0 = par at hpl hpr
    -- the new node becomes a child of `par`; every other child edge stays
    obtain ⟨b3, b4⟩ := setParent!_fresh (s := (s.newNode id 0).1) (n := s.store.length) (p := par)
      (by rw [node_newNode_new]) (by omega) (by simp [newNode, poolGet]; omega)
    have hkids : ∀ i k, k ∈ (s.node i).kids → k ∈ ((s.addNode id 0 par).1.node i).kids := by
      intro i k hk
      refine b3 i k ?_
      by_cases hi : i < s.store.length
      · rw [node_newNode_lt s id 0 hi]; exact hk
      · rw [node_of_ge s (by omega)] at hk; cases hk
    have htr : ∀ {d t}, ReachD s d 0 t → ReachD (s.addNode id 0 par).1 d 0 t := reach_mono_kids hkids
    -- the result is `(s.addNode id 0 par).1` with a new `maxID`, which `KEq` does not read
    refine reachInv_keq (s := (s.addNode id 0 par).1) ⟨rfl, rfl, fun _ _ => Iff.rfl⟩ fun id' m hlk => ?_
    rw [lookup_addNode] at hlk
    rw [length_addNode]
    split at hlk
    · cases hlk; exact reach_snoc (htr hpr) b4
    · exact ReachD.mono (htr (hr id' m hlk)) (by omega)

end NetVerif.Proofs.WriteSched7540
