import NetVerif.Proofs.Lemmas.WriteSchedRefine
import NetVerif.Proofs.Lemmas.Fold
import NetVerif.Model.WriteSched7540
/-!
Refinement of the RFC 7540 priority scheduler model to the C12 FIFO specification: the invariant and
every call but `Pop` (the walk and `Pop` are in `WriteSched7540Reach`).

The priority tree decides only WHICH ready node `Pop` serves; what C12 needs does not depend on its shape.
Tree surgery (`setParent`, `addBytes`, sorting, re-linking) never touches a node's queue, state or id, nor the
id ↦ node map (`Same`).  `Push`, `Pop`, `CloseStream` and re-opening an idle node change queue and state of one
mapped node (`Edit`).  Only mapped open nodes and the root ever have a non-empty queue (`CoreInv.emp`); nodes
enter the map empty (`addNode_chg`) and leave it closed or idle (`removeNode_chg`).  Each of these changes is
confined to one stream id and its node (`Chg`), and the invariant is local in the id (`core_chg`, `abs_chg`,
`list_chg`): only the clauses about that id have to be shown again.
-/
namespace NetVerif.Proofs.WriteSched7540
open NetVerif.Model.WriteSched NetVerif.Model.WriteSched.P7540 NetVerif.Proofs.WriteSchedLemmas
  NetVerif.Proofs.WriteSchedSpec NetVerif.Proofs.WriteSchedRefine

theorem length_modNode (s : P7540) (a : Nat) (f : Node → Node) : (s.modNode a f).store.length = s.store.length := by
  simp [modNode, setNode]

theorem node_modNode_ne (s : P7540) {a b : Nat} (f : Node → Node) (h : b ≠ a) : (s.modNode a f).node b = s.node b := by
  simp only [modNode, setNode, node, List.getD_eq_getElem?_getD]
  rw [List.getElem?_set]
  have : ¬ a = b := fun hh => h hh.symm
  simp [this]

theorem node_modNode_self (s : P7540) {a : Nat} (f : Node → Node) (h : a < s.store.length) :
    (s.modNode a f).node a = f (s.node a) := by
  simp only [modNode, setNode, node, List.getD_eq_getElem?_getD]
  rw [List.getElem?_set]
  simp [h]

theorem node_of_ge (s : P7540) {a : Nat} (h : s.store.length ≤ a) : s.node a = {} := by
  simp only [node, List.getD_eq_getElem?_getD]
  rw [List.getElem?_eq_none h]; rfl

theorem node_modNode_cases (s : P7540) (a : Nat) (f : Node → Node) (i : Nat) :
    (s.modNode a f).node i = s.node i ∨ (i = a ∧ (s.modNode a f).node i = f (s.node a)) := by
  by_cases hi : i = a
  · subst hi
    by_cases hl : i < s.store.length
    · exact Or.inr ⟨rfl, node_modNode_self s f hl⟩
    · -- outside the store both sides read the default node
      exact Or.inl (by rw [node_of_ge s (by omega), node_of_ge _ (by rw [length_modNode]; omega)])
  · exact Or.inl (node_modNode_ne s f hi)

/-- A node update that C12 cannot see. -/
def Keeps (f : Node → Node) : Prop := ∀ n, (f n).q = n.q ∧ (f n).state = n.state ∧ (f n).id = n.id

/-- All that the invariant and the abstraction read of a node. -/
def Fields (n m : Node) : Prop := m.q = n.q ∧ m.state = n.state ∧ m.id = n.id

theorem fields_modNode (s : P7540) (a : Nat) {f : Node → Node} (hf : Keeps f) (i : Nat) :
    Fields (s.node i) ((s.modNode a f).node i) := by
  rcases node_modNode_cases s a f i with h | ⟨rfl, h⟩
  · rw [h]; exact ⟨rfl, rfl, rfl⟩
  · rw [h]; exact hf _

/-- `s'` differs from `s` only in tree links, weights, byte counters, the throttle limit. -/
structure Same (s s' : P7540) : Prop where
  len : s'.store.length = s.store.length
  nd : ∀ i, Fields (s.node i) (s'.node i)
  nodes : s'.nodes = s.nodes
  closedL : s'.closedL = s.closedL
  idleL : s'.idleL = s.idleL
  maxClosed : s'.maxClosed = s.maxClosed
  maxIdle : s'.maxIdle = s.maxIdle

theorem Same.refl (s : P7540) : Same s s := ⟨rfl, fun _ => ⟨rfl, rfl, rfl⟩, rfl, rfl, rfl, rfl, rfl⟩

theorem Fields.trans {a b c : Node} (h1 : Fields a b) (h2 : Fields b c) : Fields a c :=
  ⟨h2.1.trans h1.1, h2.2.1.trans h1.2.1, h2.2.2.trans h1.2.2⟩

theorem Same.trans {a b c : P7540} (h1 : Same a b) (h2 : Same b c) : Same a c :=
  ⟨h2.len.trans h1.len, fun i => (h1.nd i).trans (h2.nd i),
   h2.nodes.trans h1.nodes, h2.closedL.trans h1.closedL, h2.idleL.trans h1.idleL,
   h2.maxClosed.trans h1.maxClosed, h2.maxIdle.trans h1.maxIdle⟩

/-- `Keeps f` holds by `rfl` for every concrete record update of the other fields. -/
theorem same_modNode (s : P7540) (a : Nat) {f : Node → Node} (hf : Keeps f := by exact fun _ => ⟨rfl, rfl, rfl⟩) :
    Same s (s.modNode a f) :=
  ⟨length_modNode s a f, fields_modNode s a hf, rfl, rfl, rfl, rfl, rfl⟩

/-- `Same`, and the write-throttle limit stays (`CoreInv.lim`): what `setParent` and all that is built from it preserve. -/
structure SameL (s s' : P7540) : Prop where
  same : Same s s'
  limit : s'.limit = s.limit

theorem SameL.refl (s : P7540) : SameL s s := ⟨Same.refl s, rfl⟩

theorem SameL.trans {a b c : P7540} (h1 : SameL a b) (h2 : SameL b c) : SameL a c :=
  ⟨h1.same.trans h2.same, h2.limit.trans h1.limit⟩

theorem sameL_modNode (s : P7540) (a : Nat) {f : Node → Node} (hf : Keeps f := by exact fun _ => ⟨rfl, rfl, rfl⟩) :
    SameL s (s.modNode a f) :=
  ⟨same_modNode s a hf, rfl⟩

theorem sameL_setParent {s s' : P7540} {n : Nat} {p : Option Nat} (h : s.setParent n p = some s') : SameL s s' := by
  unfold setParent at h
  split at h
  · cases h
  · split at h
    · cases h; exact SameL.refl s
    · have k1 : SameL s (match (s.node n).parent with
          | some p => s.modNode p fun pn => { pn with kids := pn.kids.erase n }
          | none => s) := by
        split
        · exact sameL_modNode s _
        · exact SameL.refl s
      have k2 := k1.trans (sameL_modNode _ n (f := fun nn => { nn with parent := p }))
      cases p with
      | none => simp only at h; cases h; exact k2
      | some pp => simp only at h; cases h; exact k2.trans (sameL_modNode _ _)

theorem sameL_setParent! (s : P7540) (n : Nat) (p : Option Nat) : SameL s (s.setParent! n p) := by
  unfold setParent!
  cases h : s.setParent n p with
  | none => exact SameL.refl s
  | some s' => exact sameL_setParent h

/-- `SameL`, and every node keeps its children as a set: what sorting siblings, `addBytes` and the walk's own
changes preserve; the walk's completeness (`walk_none`) is about `kids`-reachability. -/
structure SameK (s s' : P7540) : Prop where
  same : Same s s'
  kids : ∀ i k, k ∈ (s'.node i).kids ↔ k ∈ (s.node i).kids
  limit : s'.limit = s.limit

theorem SameK.refl (s : P7540) : SameK s s := ⟨Same.refl s, fun _ _ => Iff.rfl, rfl⟩

theorem SameK.trans {a b c : P7540} (h1 : SameK a b) (h2 : SameK b c) : SameK a c :=
  ⟨h1.same.trans h2.same, fun i k => (h2.kids i k).trans (h1.kids i k), h2.limit.trans h1.limit⟩

theorem kids_modNode (s : P7540) (a : Nat) {f : Node → Node} (hf : ∀ m, (f m).kids = m.kids) (i : Nat) :
    ((s.modNode a f).node i).kids = (s.node i).kids := by
  rcases node_modNode_cases s a f i with h | ⟨rfl, h⟩
  · rw [h]
  · rw [h]; exact hf _

theorem sameK_modNode (s : P7540) (a : Nat) {f : Node → Node} (hf : Keeps f := by exact fun _ => ⟨rfl, rfl, rfl⟩)
    (hk : ∀ m, (f m).kids = m.kids := by exact fun _ => rfl) : SameK s (s.modNode a f) :=
  ⟨same_modNode s a hf, fun i k => by rw [kids_modNode s a hk], rfl⟩

theorem sameK_addBytes_up (b : Int) (fuel : Nat) : ∀ (s : P7540) (x : Option Nat), SameK s (addBytes.up b fuel s x) := by
  induction fuel with
  | zero => intro s x; unfold addBytes.up; exact SameK.refl s
  | succ k ih =>
    intro s x
    cases x with
    | none => unfold addBytes.up; exact SameK.refl s
    | some x =>
      unfold addBytes.up
      apply SameK.trans ?_ (ih _ _)
      exact sameK_modNode _ _

theorem sameK_addBytes (s : P7540) (n : Nat) (b : Int) : SameK s (s.addBytes n b) := by
  unfold addBytes
  apply SameK.trans ?_ (sameK_addBytes_up b _ _ _)
  exact sameK_modNode _ _

/-- `s'` is `s` with queue and state of node `n` replaced by `q'` and `st'` (plus invisible changes). -/
structure Edit (s s' : P7540) (n : Nat) (q' : WQ) (st' : Nat) : Prop where
  len : s'.store.length = s.store.length
  self : (s'.node n).q = q' ∧ (s'.node n).state = st' ∧ (s'.node n).id = (s.node n).id
  nd : ∀ i, i ≠ n → Fields (s.node i) (s'.node i)
  nodes : s'.nodes = s.nodes
  closedL : s'.closedL = s.closedL
  idleL : s'.idleL = s.idleL

theorem Edit.of_same_left {a b c : P7540} {n st' : Nat} {q' : WQ} (h1 : Same a b) (h2 : Edit b c n q' st') :
    Edit a c n q' st' :=
  ⟨h2.len.trans h1.len, ⟨h2.self.1, h2.self.2.1, h2.self.2.2.trans (h1.nd n).2.2⟩,
   fun i hi => (h1.nd i).trans (h2.nd i hi),
   h2.nodes.trans h1.nodes, h2.closedL.trans h1.closedL, h2.idleL.trans h1.idleL⟩

theorem Edit.of_same_right {a b c : P7540} {n st' : Nat} {q' : WQ} (h1 : Edit a b n q' st') (h2 : Same b c) :
    Edit a c n q' st' :=
  ⟨h2.len.trans h1.len,
   ⟨(h2.nd n).1.trans h1.self.1, (h2.nd n).2.1.trans h1.self.2.1, (h2.nd n).2.2.trans h1.self.2.2⟩,
   fun i hi => (h1.nd i hi).trans (h2.nd i),
   h2.nodes.trans h1.nodes, h2.closedL.trans h1.closedL, h2.idleL.trans h1.idleL⟩

theorem Edit.trans {a b c : P7540} {n st1 st2 : Nat} {q1 q2 : WQ} (h1 : Edit a b n q1 st1) (h2 : Edit b c n q2 st2) :
    Edit a c n q2 st2 :=
  ⟨h2.len.trans h1.len, ⟨h2.self.1, h2.self.2.1, h2.self.2.2.trans h1.self.2.2⟩,
   fun i hi => (h1.nd i hi).trans (h2.nd i hi),
   h2.nodes.trans h1.nodes, h2.closedL.trans h1.closedL, h2.idleL.trans h1.idleL⟩

theorem Edit.cast {s s' : P7540} {n st st' : Nat} {q q' : WQ} (h : Edit s s' n q st) (hq : q = q') (hs : st = st') :
    Edit s s' n q' st' :=
  hq ▸ hs ▸ h

theorem edit_modNode (s : P7540) {n : Nat} (hn : n < s.store.length) (f : Node → Node) (hf : ∀ m, (f m).id = m.id) :
    Edit s (s.modNode n f) n (f (s.node n)).q (f (s.node n)).state :=
  ⟨length_modNode _ _ _, by rw [node_modNode_self s _ hn]; exact ⟨rfl, rfl, hf _⟩,
   fun i hi => by rw [node_modNode_ne s _ hi]; exact ⟨rfl, rfl, rfl⟩, rfl, rfl, rfl⟩

def absP7 (s : P7540) : Abs :=
  ⟨(s.node 0).q.toList, fun id => if id = 0 then [] else
      match s.lookup id with
      | some n => (s.node n).q.toList
      | none => []⟩

/-- Map/queue part of the invariant (`opn`: open streams, `ever`: ids ever opened). -/
structure CoreInv (s : P7540) (opn ever : Nat → Bool) : Prop where
  root : s.lookup 0 = some 0
  rootlen : 0 < s.store.length
  rootid : (s.node 0).id = 0
  rootst : (s.node 0).state = 0
  map : ∀ id n, s.lookup id = some n → n < s.store.length ∧ (s.node n).id = id
  opn : ∀ id, opn id = true ↔ (id ≠ 0 ∧ ∃ n, s.lookup id = some n ∧ (s.node n).state = 0)
  emp : ∀ n, n ≠ 0 → (s.node n).q.toList ≠ [] → ∃ id, s.lookup id = some n ∧ (s.node n).state = 0
  ever : ∀ id n, id ≠ 0 → s.lookup id = some n → (s.node n).state ≠ 2 → ever id = true
  lim : 0 < s.limit

structure ListInv (s : P7540) : Prop where
  closedL : ∀ x ∈ s.closedL, (s.node x).state = 1 ∧ s.lookup (s.node x).id = some x
  idleL : ∀ x ∈ s.idleL, (s.node x).state = 2 ∧ s.lookup (s.node x).id = some x
  closedNodup : s.closedL.Nodup
  idleNodup : s.idleL.Nodup

theorem CoreInv.zero_iff {s : P7540} {opn ever : Nat → Bool} (h : CoreInv s opn ever) {id n : Nat}
    (hl : s.lookup id = some n) : n = 0 ↔ id = 0 := by
  constructor
  · intro hn; subst hn; have := (h.map id 0 hl).2; rw [h.rootid] at this; exact this.symm
  · intro hi; subst hi; rw [h.root] at hl; cases hl; rfl

theorem CoreInv.inj {s : P7540} {opn ever : Nat → Bool} (h : CoreInv s opn ever) {a b n : Nat}
    (ha : s.lookup a = some n) (hb : s.lookup b = some n) : a = b := by
  rw [← (h.map a n ha).2, ← (h.map b n hb).2]

theorem lookup_of_nodes {s s' : P7540} (h : s'.nodes = s.nodes) (id : Nat) : s'.lookup id = s.lookup id := by
  simp [lookup, h]

/-- `s'` agrees with `s` on what `CoreInv` reads of nodes and map (not the root's queue), so that a new root
queue, a new closed or idle list or a new `maxID` carry the invariant over as well (`core_sameC`). -/
structure SameC (s s' : P7540) : Prop where
  len : s'.store.length = s.store.length
  st : ∀ i, (s'.node i).state = (s.node i).state
  id : ∀ i, (s'.node i).id = (s.node i).id
  q : ∀ i, i ≠ 0 → (s'.node i).q = (s.node i).q
  nodes : s'.nodes = s.nodes

theorem Same.toC {s s' : P7540} (h : Same s s') : SameC s s' :=
  ⟨h.len, fun i => (h.nd i).2.1, fun i => (h.nd i).2.2, fun i _ => (h.nd i).1, h.nodes⟩

theorem sameC_fields {s s' : P7540} (h1 : s'.store = s.store) (h2 : s'.nodes = s.nodes) : SameC s s' := by
  have : ∀ i, s'.node i = s.node i := fun i => by simp only [node, h1]
  exact ⟨by rw [h1], fun i => by rw [this], fun i => by rw [this], fun i _ => by rw [this], h2⟩

theorem abs_same {s s' : P7540} (h : Same s s') : absP7 s' = absP7 s := by
  refine Abs.ext' (congrArg WQ.toList (h.nd 0).1) fun id => ?_
  simp only [absP7, lookup_of_nodes h.nodes]
  split
  · rfl
  · split
    · rename_i n _; rw [(h.nd n).1]
    · rfl

theorem core_sameC {s s' : P7540} {opn ever : Nat → Bool} (hi : CoreInv s opn ever) (h : SameC s s')
    (hl : 0 < s'.limit) : CoreInv s' opn ever := by
  have hlk := lookup_of_nodes h.nodes
  refine { root := by rw [hlk]; exact hi.root, rootlen := by rw [h.len]; exact hi.rootlen,
           rootid := by rw [h.id]; exact hi.rootid, rootst := by rw [h.st]; exact hi.rootst,
           map := ?map, opn := ?opn, emp := ?emp, ever := ?ever, lim := hl }
  case map => intro id n hn; rw [hlk] at hn; rw [h.len, h.id]; exact hi.map id n hn
  case opn => intro id; rw [hi.opn id]; simp only [hlk, h.st]
  case emp => intro n hn hq; rw [h.q n hn] at hq; simp only [hlk, h.st]; exact hi.emp n hn hq
  case ever => intro id n h0 h1 h2; rw [hlk] at h1; rw [h.st] at h2; exact hi.ever id n h0 h1 h2

theorem core_same {s s' : P7540} {opn ever : Nat → Bool} (hi : CoreInv s opn ever) (h : Same s s')
    (hl : 0 < s'.limit) : CoreInv s' opn ever :=
  core_sameC hi h.toC hl

theorem linv_transfer {s s' : P7540} (st : Nat) (l : List Nat)
    (hf : ∀ x ∈ l, (s'.node x).state = (s.node x).state ∧ (s'.node x).id = (s.node x).id)
    (hlk : ∀ x ∈ l, s.lookup (s.node x).id = some x → s'.lookup (s.node x).id = some x)
    (hl : ∀ x ∈ l, (s.node x).state = st ∧ s.lookup (s.node x).id = some x) :
    ∀ x ∈ l, (s'.node x).state = st ∧ s'.lookup (s'.node x).id = some x := by
  intro x hx
  rw [(hf x hx).1, (hf x hx).2]; exact ⟨(hl x hx).1, hlk x hx (hl x hx).2⟩

theorem SameC.linv {s s' : P7540} (h : SameC s s') (st : Nat) (l : List Nat)
    (hl : ∀ x ∈ l, (s.node x).state = st ∧ s.lookup (s.node x).id = some x) :
    ∀ x ∈ l, (s'.node x).state = st ∧ s'.lookup (s'.node x).id = some x :=
  linv_transfer st l (fun x _ => ⟨h.st x, h.id x⟩) (fun _ _ hx => lookup_of_nodes h.nodes _ ▸ hx) hl

theorem list_sameC {s s' : P7540} (hi : ListInv s) (h : SameC s s') (hc : s'.closedL = s.closedL)
    (hd : s'.idleL = s.idleL) : ListInv s' :=
  ⟨hc ▸ h.linv 1 _ hi.closedL, hd ▸ h.linv 2 _ hi.idleL, hc ▸ hi.closedNodup, hd ▸ hi.idleNodup⟩

theorem list_same {s s' : P7540} (hi : ListInv s) (h : Same s s') : ListInv s' :=
  list_sameC hi h.toC h.closedL h.idleL

theorem ListInv.not_mem {s : P7540} (hi : ListInv s) {n : Nat} (h : (s.node n).state = 0) :
    n ∉ s.closedL ∧ n ∉ s.idleL := by
  constructor <;> intro hm
  · have := (hi.closedL n hm).1; rw [h] at this; cases this
  · have := (hi.idleL n hm).1; rw [h] at this; cases this

theorem Edit.id_eq {s s' : P7540} {n st' : Nat} {q' : WQ} (h : Edit s s' n q' st') (i : Nat) :
    (s'.node i).id = (s.node i).id := by
  by_cases hi : i = n
  · rw [hi]; exact h.self.2.2
  · exact (h.nd i hi).2.2

theorem Edit.toC_root {s s' : P7540} {q' : WQ} (h : Edit s s' 0 q' (s.node 0).state) : SameC s s' :=
  ⟨h.len, fun i => by
      by_cases hi : i = 0
      · rw [hi]; exact h.self.2.1
      · exact (h.nd i hi).2.1,
    h.id_eq, fun i hi => (h.nd i hi).1, h.nodes⟩

theorem abs_edit_root {s s' : P7540} {opn ever : Nat → Bool} {q' : WQ} {st' : Nat} (hi : CoreInv s opn ever)
    (h : Edit s s' 0 q' st') : absP7 s' = ⟨q'.toList, (absP7 s).q⟩ := by
  refine Abs.ext' (congrArg WQ.toList h.self.1) fun id => ?_
  simp only [absP7, lookup_of_nodes h.nodes]
  split
  · rfl
  · rename_i hid
    cases hl : s.lookup id with
    | none => rfl
    | some n => exact congrArg WQ.toList (h.nd n fun hh => hid ((hi.zero_iff hl).1 hh)).1

/-- `s'` differs from `s`, in what C12 can see, only in the map entry of stream `id` and in node `n`, which is the
node of `id` (before, after or both) and of no other stream. -/
structure Chg (s s' : P7540) (id n : Nat) : Prop where
  len : s.store.length ≤ s'.store.length
  nd : ∀ i, i ≠ n → Fields (s.node i) (s'.node i)
  lookup : ∀ a, a ≠ id → s'.lookup a = s.lookup a
  old : ∀ m, s.lookup id = some m → m = n
  new : ∀ m, s'.lookup id = some m → m = n ∧ n < s'.store.length ∧ (s'.node n).id = id
  other : ∀ a, a ≠ id → s.lookup a ≠ some n
  closedL : s'.closedL = s.closedL
  idleL : s'.idleL = s.idleL

theorem core_chg {s s' : P7540} {opn ever opn' ever' : Nat → Bool} {id n : Nat} (hc : CoreInv s opn ever)
    (h : Chg s s' id n) (hid : id ≠ 0) (hl : 0 < s'.limit)
    (hopn : ∀ a, a ≠ id → opn' a = opn a) (hever : ∀ a, a ≠ id → ever' a = ever a)
    (hq : (s'.node n).q.toList ≠ [] → s'.lookup id = some n ∧ (s'.node n).state = 0)
    (hb : opn' id = true ↔ s'.lookup id = some n ∧ (s'.node n).state = 0)
    (he : s'.lookup id = some n → (s'.node n).state ≠ 2 → ever' id = true) : CoreInv s' opn' ever' := by
  have hn0 : n ≠ 0 := fun hh => h.other 0 (Ne.symm hid) (hh ▸ hc.root)
  have hoff : ∀ {a m}, a ≠ id → s.lookup a = some m → Fields (s.node m) (s'.node m) :=
    fun ha hm => h.nd _ fun hh => h.other _ ha (hh ▸ hm)
  have h0 := h.nd 0 (Ne.symm hn0)
  refine { root := by rw [h.lookup 0 (Ne.symm hid)]; exact hc.root, rootlen := Nat.lt_of_lt_of_le hc.rootlen h.len,
           rootid := h0.2.2.trans hc.rootid, rootst := h0.2.1.trans hc.rootst, map := fun a m hm => ?map,
           opn := fun a => ?opn, emp := fun m hm0 hqm => ?emp, ever := fun a m ha0 hm hst => ?ever, lim := hl }
  case map =>
    by_cases ha : a = id
    · subst ha; obtain ⟨rfl, h1, h2⟩ := h.new m hm; exact ⟨h1, h2⟩
    · rw [h.lookup a ha] at hm
      exact ⟨Nat.lt_of_lt_of_le (hc.map a m hm).1 h.len, (hoff ha hm).2.2.trans (hc.map a m hm).2⟩
  case opn =>
    by_cases ha : a = id
    · subst ha; rw [hb]
      exact ⟨fun hs => ⟨hid, n, hs⟩, fun ⟨_, m, h1, h2⟩ => by obtain ⟨rfl, _⟩ := h.new m h1; exact ⟨h1, h2⟩⟩
    · rw [hopn a ha, hc.opn a, h.lookup a ha]
      constructor
      · rintro ⟨h0, m, h1, h2⟩; exact ⟨h0, m, h1, (hoff ha h1).2.1.trans h2⟩
      · rintro ⟨h0, m, h1, h2⟩; exact ⟨h0, m, h1, (hoff ha h1).2.1.symm.trans h2⟩
  case emp =>
    by_cases hmn : m = n
    · subst hmn; exact ⟨id, hq hqm⟩
    · rw [(h.nd m hmn).1] at hqm
      obtain ⟨a, h1, h2⟩ := hc.emp m hm0 hqm
      have ha : a ≠ id := fun hh => hmn (h.old m (hh ▸ h1))
      exact ⟨a, by rw [h.lookup a ha]; exact h1, (h.nd m hmn).2.1.trans h2⟩
  case ever =>
    by_cases ha : a = id
    · subst ha; obtain ⟨rfl, _⟩ := h.new m hm; exact he hm hst
    · rw [h.lookup a ha] at hm; rw [(hoff ha hm).2.1] at hst
      rw [hever a ha]; exact hc.ever a m ha0 hm hst

theorem abs_chg {s s' : P7540} {opn ever : Nat → Bool} {id n : Nat} {l : List Frame} (hc : CoreInv s opn ever)
    (h : Chg s s' id n) (hid : id ≠ 0) (hl : (absP7 s').q id = l) :
    absP7 s' = ⟨(absP7 s).ctl, upd (absP7 s).q id l⟩ := by
  have hn0 : n ≠ 0 := fun hh => h.other 0 (Ne.symm hid) (hh ▸ hc.root)
  refine Abs.ext' (congrArg WQ.toList (h.nd 0 (Ne.symm hn0)).1) fun x => ?_
  by_cases hx : x = id
  · simp [upd, hx, hl]
  · simp only [upd, hx, if_false, absP7, h.lookup x hx]
    split
    · rfl
    · cases hlx : s.lookup x with
      | none => rfl
      | some m => exact congrArg WQ.toList (h.nd m fun hh => h.other x hx (hh ▸ hlx)).1

theorem abs_chg_same {s s' : P7540} {opn ever : Nat → Bool} {id n : Nat} (hc : CoreInv s opn ever)
    (h : Chg s s' id n) (hid : id ≠ 0) (hl : (absP7 s').q id = (absP7 s).q id) : absP7 s' = absP7 s := by
  rw [abs_chg hc h hid hl, upd_eq_self _ rfl]

theorem Chg.linv {s s' : P7540} {id n : Nat} (h : Chg s s' id n) (st : Nat) (l : List Nat) (hn : n ∉ l)
    (hl : ∀ x ∈ l, (s.node x).state = st ∧ s.lookup (s.node x).id = some x) :
    ∀ x ∈ l, (s'.node x).state = st ∧ s'.lookup (s'.node x).id = some x := by
  refine linv_transfer st l (fun x hx => ?_) (fun x hx h2 => ?_) hl
  · have := h.nd x fun hh => hn (hh ▸ hx); exact ⟨this.2.1, this.2.2⟩
  · rw [h.lookup _ fun hh => hn (h.old x (hh ▸ h2) ▸ hx)]; exact h2

theorem list_chg {s s' : P7540} {id n : Nat} (hi : ListInv s) (h : Chg s s' id n)
    (hn : n ∉ s.closedL ∧ n ∉ s.idleL) : ListInv s' :=
  ⟨h.closedL ▸ h.linv 1 _ hn.1 hi.closedL, h.idleL ▸ h.linv 2 _ hn.2 hi.idleL, h.closedL ▸ hi.closedNodup,
   h.idleL ▸ hi.idleNodup⟩

theorem edit_chg {s s' : P7540} {opn ever : Nat → Bool} {q' : WQ} {id n st' : Nat} (hc : CoreInv s opn ever)
    (h : Edit s s' n q' st') (hlk : s.lookup id = some n) : Chg s s' id n := by
  have hlk' := lookup_of_nodes h.nodes
  refine { len := Nat.le_of_eq h.len.symm, nd := h.nd, lookup := fun a _ => hlk' a, old := fun m hm => ?old,
           new := fun m hm => ?new, other := fun a ha hm => ha (hc.inj hm hlk), closedL := h.closedL, idleL := h.idleL }
  case old => rw [hlk] at hm; cases hm; rfl
  case new =>
    rw [hlk', hlk] at hm; cases hm
    exact ⟨rfl, h.len ▸ (hc.map id n hlk).1, h.self.2.2.trans (hc.map id n hlk).2⟩

theorem abs_edit {s s' : P7540} {opn ever : Nat → Bool} {q' : WQ} {id n st' : Nat} (hi : CoreInv s opn ever)
    (hl : s.lookup id = some n) (hid : id ≠ 0) (h : Edit s s' n q' st') :
    absP7 s' = ⟨(absP7 s).ctl, upd (absP7 s).q id q'.toList⟩ :=
  abs_chg hi (edit_chg hi h hl) hid (by simp [absP7, hid, lookup_of_nodes h.nodes, hl, h.self.1])

theorem core_edit {s s' : P7540} {opn ever : Nat → Bool} {q' : WQ} {id n st' : Nat} (hi : CoreInv s opn ever)
    (h : Edit s s' n q' st') (hl : 0 < s'.limit) (hlk : s.lookup id = some n) (hid : id ≠ 0)
    (hq : q'.toList ≠ [] → st' = 0) {b : Bool} (hb : b = true ↔ st' = 0) :
    CoreInv s' (upd opn id b) (upd ever id true) := by
  have hlk' : s'.lookup id = some n := by rw [lookup_of_nodes h.nodes, hlk]
  refine core_chg hi (edit_chg hi h hlk) hid hl (fun a ha => upd_other _ _ ha) (fun a ha => upd_other _ _ ha)
    (fun hh => ⟨hlk', h.self.2.1.trans (hq (h.self.1 ▸ hh))⟩) ?_ (fun _ _ => upd_same _ _ _)
  rw [upd_same, hb, h.self.2.1]; exact ⟨fun hh => ⟨hlk', hh⟩, fun hh => hh.2⟩

theorem CoreInv.of_edit_open {s s' : P7540} {opn ever : Nat → Bool} {q' : WQ} {id n : Nat} (hi : CoreInv s opn ever)
    (h : Edit s s' n q' (s.node n).state) (hl : 0 < s'.limit) (hlk : s.lookup id = some n) (hid : id ≠ 0)
    (hst : (s.node n).state = 0) : CoreInv s' opn ever := by
  have := core_edit hi h hl hlk hid (fun _ => hst) (b := true) ⟨fun _ => hst, fun _ => rfl⟩
  rwa [upd_eq_self opn ((hi.opn id).2 ⟨hid, n, hlk, hst⟩),
    upd_eq_self ever (hi.ever id n hid hlk (by rw [hst]; decide))] at this

theorem p7_push {s : P7540} {opn ever : Nat → Bool} {f : Frame} (hc : CoreInv s opn ever) (hli : ListInv s)
    (hok : pushOK opn f) :
    ∃ s', s.push f = (s', .ok) ∧ absP7 s' = (absP7 s).applyOp (.push f) ∧ CoreInv s' opn ever ∧ ListInv s' := by
  by_cases hctl : f.isControl = true
  · have hsq := edit_modNode s hc.rootlen (fun nn => { nn with q := nn.q.push f }) (fun _ => rfl)
    refine ⟨_, by simp [P7540.push, hctl], ?_, core_sameC hc hsq.toC_root hc.lim, list_chg hli (edit_chg hc hsq hc.root) (hli.not_mem hc.rootst)⟩
    rw [abs_edit_root hc hsq]
    simp [Abs.applyOp, hctl, push_toList, absP7]
  · have hctl' : f.isControl = false := by simpa using hctl
    have hopen := open_of_pushOK hok hctl'
    obtain ⟨hid, n, hl, hst⟩ := (hc.opn _).1 hopen
    have hsq := edit_modNode s (hc.map _ n hl).1 (fun nn => { nn with q := nn.q.push f }) (fun _ => rfl)
    refine ⟨_, by simp [P7540.push, hctl', hl], ?_, hc.of_edit_open hsq hc.lim hl hid hst, list_chg hli (edit_chg hc hsq hl) (hli.not_mem hst)⟩
    rw [abs_edit hc hl hid hsq, push_toList]
    simp only [Abs.applyOp, hctl', Bool.false_eq_true, if_false]
    have : (absP7 s).q f.streamID = (s.node n).q.toList := by simp [absP7, hid, hl]
    rw [this]

theorem removeNode_kidsLoop (x : Nat) (fuel : Nat) : ∀ s : P7540, SameL s (removeNode.kidsLoop x fuel s) := by
  induction fuel with
  | zero => intro s; unfold removeNode.kidsLoop; exact SameL.refl s
  | succ k ih =>
    intro s
    unfold removeNode.kidsLoop
    split
    · exact SameL.refl s
    · exact (sameL_setParent! _ _ _).trans (ih _)

theorem lookup_filter (l : List (Nat × Nat)) (k a : Nat) :
    (l.filter fun p => p.1 != k).lookup a = if a = k then none else l.lookup a := by
  induction l with
  | nil => simp
  | cons p l ih =>
    obtain ⟨pk, pv⟩ := p
    by_cases hk : pk = k
    · subst hk
      simp only [List.filter, bne_self_eq_false, ih]
      by_cases ha : a = pk
      · simp [ha]
      · have : (a == pk) = false := by simpa using ha
        simp [List.lookup, this, ha]
    · have hk' : (pk != k) = true := by simpa using hk
      simp only [List.filter, hk', List.lookup]
      by_cases ha : a = pk
      · subst ha; simp [hk]
      · have : (a == pk) = false := by simpa using ha
        simp only [this, ih]

theorem removeNode_eq (s : P7540) (x : Nat) : ∃ s1, SameL s s1 ∧
    s.removeNode x = { s1 with nodes := s.nodes.filter fun p => p.1 != (s.node x).id } := by
  have h := (removeNode_kidsLoop x (s.store.length + 1) s).trans (sameL_setParent! _ x none)
  exact ⟨_, h, by simp only [removeNode, h.same.nodes, (h.same.nd x).2.2]⟩

theorem removeNode_chg {s : P7540} {opn ever : Nat → Bool} {x : Nat} (hc : CoreInv s opn ever)
    (hlk : s.lookup (s.node x).id = some x) :
    Chg s (s.removeNode x) (s.node x).id x ∧ (s.removeNode x).lookup (s.node x).id = none ∧
      (s.removeNode x).limit = s.limit ∧ ((s.removeNode x).node x).q = (s.node x).q := by
  obtain ⟨s1, h, heq⟩ := removeNode_eq s x
  have hl : ∀ a, (s.removeNode x).lookup a = if a = (s.node x).id then none else s.lookup a := fun a => by
    rw [heq]; exact lookup_filter s.nodes _ a
  rw [heq] at hl ⊢
  refine ⟨{ len := Nat.le_of_eq h.same.len.symm, nd := fun i _ => h.same.nd i, lookup := fun a ha => by rw [hl, if_neg ha],
            old := fun m hm => ?old, new := fun m hm => ?new, other := fun a ha hm => ha (hc.inj hm hlk),
            closedL := h.same.closedL, idleL := h.same.idleL }, by rw [hl, if_pos rfl], h.limit, (h.same.nd x).1⟩
  case old => rw [hlk] at hm; cases hm; rfl
  case new => rw [hl, if_pos rfl] at hm; cases hm

/-- Removing a mapped node that is not open (closed or idle, hence with an empty queue). -/
theorem core_removed {s : P7540} {opn ever : Nat → Bool} {x : Nat} (hc : CoreInv s opn ever)
    (hx0 : x ≠ 0) (hst : (s.node x).state ≠ 0) (hlk : s.lookup (s.node x).id = some x) :
    CoreInv (s.removeNode x) opn ever ∧ absP7 (s.removeNode x) = absP7 s := by
  obtain ⟨hg, hnone, hlim, hqx⟩ := removeNode_chg hc hlk
  have hid : (s.node x).id ≠ 0 := fun hh => hx0 ((hc.zero_iff hlk).2 hh)
  have hq : (s.node x).q.toList = [] := by
    apply Classical.byContradiction; intro hq
    exact hst (hc.emp x hx0 hq).choose_spec.2
  constructor
  · refine core_chg hc hg hid (hlim ▸ hc.lim) (fun _ _ => rfl) (fun _ _ => rfl)
      (fun hh => absurd (hqx ▸ hq) hh) ?_ (fun hh => by rw [hnone] at hh; cases hh)
    rw [hnone, hc.opn]
    exact ⟨fun ⟨_, m, h1, h2⟩ => by rw [hlk] at h1; cases h1; exact absurd h2 hst, fun hh => nomatch hh.1⟩
  · exact abs_chg_same hc hg hid (by simp [absP7, hid, hnone, hlk, hq])

/-- the `state` of the nodes on the closed list (`true`) and on the idle list (`false`) -/
def stOf (c : Bool) : Nat := if c then 1 else 2

/-- `ListInv`, one list at a time: `addClosedOrIdleNode` treats the two lists alike. -/
def LInv (s : P7540) (c : Bool) : Prop :=
  (∀ x ∈ s.getList c, (s.node x).state = stOf c ∧ s.lookup (s.node x).id = some x) ∧ (s.getList c).Nodup

theorem ListInv.linv {s : P7540} (h : ListInv s) (c : Bool) : LInv s c ∧ LInv s (!c) := by
  cases c
  · exact ⟨⟨h.idleL, h.idleNodup⟩, ⟨h.closedL, h.closedNodup⟩⟩
  · exact ⟨⟨h.closedL, h.closedNodup⟩, ⟨h.idleL, h.idleNodup⟩⟩

theorem listInv_setList {s : P7540} (c : Bool) {l : List Nat} (h2 : LInv s (!c)) (hnd : l.Nodup)
    (hl : ∀ x ∈ l, (s.node x).state = stOf c ∧ s.lookup (s.node x).id = some x) : ListInv (s.setList c l) := by
  cases c
  · exact ⟨h2.1, hl, h2.2, hnd⟩
  · exact ⟨hl, h2.1, hnd, h2.2⟩

theorem core_setList {s : P7540} {opn ever : Nat → Bool} (hc : CoreInv s opn ever) (c : Bool) (l : List Nat) :
    CoreInv (s.setList c l) opn ever ∧ absP7 (s.setList c l) = absP7 s := by
  cases c
  · exact ⟨core_sameC hc (sameC_fields rfl rfl) hc.lim, rfl⟩
  · exact ⟨core_sameC hc (sameC_fields rfl rfl) hc.lim, rfl⟩

theorem getList_setList (s : P7540) (c : Bool) (l : List Nat) : (s.setList c l).getList c = l := by
  cases c <;> rfl

theorem setList_setList (s : P7540) (c : Bool) (l l' : List Nat) : (s.setList c l).setList c l' = s.setList c l' := by
  cases c <;> rfl

theorem stOf_ne (c : Bool) : stOf c ≠ stOf (!c) := by cases c <;> decide
theorem stOf_ne_zero (c : Bool) : stOf c ≠ 0 := by cases c <;> decide

theorem evictHead_cases (s : P7540) (c : Bool) :
    s.evictHead c = s ∨ ∃ x rest, s.getList c = x :: rest ∧ s.evictHead c = (s.removeNode x).setList c rest := by
  unfold evictHead
  by_cases hfull : (s.getList c).length = (if c = true then s.maxClosed else s.maxIdle)
  · rw [if_pos hfull]
    cases s.getList c with
    | nil => exact Or.inl rfl
    | cons x rest => exact Or.inr ⟨x, rest, rfl, rfl⟩
  · exact Or.inl (if_neg hfull)

theorem addCOI_spec {s : P7540} {opn ever : Nat → Bool} (c : Bool) (n : Nat) (hc : CoreInv s opn ever)
    (hli : ListInv s) (hnst : (s.node n).state = stOf c) (hnlk : s.lookup (s.node n).id = some n)
    (hnin : n ∉ s.getList c) :
    CoreInv (s.addClosedOrIdle c n) opn ever ∧ ListInv (s.addClosedOrIdle c n) ∧
      absP7 (s.addClosedOrIdle c n) = absP7 s := by
  obtain ⟨h1, h2⟩ := hli.linv c
  unfold addClosedOrIdle
  by_cases hmax : (if c = true then s.maxClosed else s.maxIdle) = 0
  · rw [if_pos hmax]; exact ⟨hc, hli, rfl⟩
  · rw [if_neg hmax]
    simp only
    -- whatever part `l` of list `c` the eviction leaves, `l ++ [n]` takes the list's place in one go (`setList_setList`),
    -- so the state between eviction and append needs no invariant of its own
    have hnew : ∀ l : List Nat, l.Sublist (s.getList c) → (l ++ [n]).Nodup ∧
        ∀ y ∈ l ++ [n], (s.node y).state = stOf c ∧ s.lookup (s.node y).id = some y := fun l hl =>
      ⟨List.nodup_append.2 ⟨hl.nodup h1.2, by simp, fun a ha b hb hab =>
          hnin (hl.subset (List.mem_singleton.1 hb ▸ hab ▸ ha))⟩,
        fun y hy => (List.mem_append.1 hy).elim (fun hy => h1.1 y (hl.subset hy))
          fun hy => List.mem_singleton.1 hy ▸ ⟨hnst, hnlk⟩⟩
    rcases evictHead_cases s c with hs | ⟨x, rest, hg, hs⟩
    · rw [hs]
      obtain ⟨hnd, hl⟩ := hnew _ (List.Sublist.refl _)
      exact ⟨(core_setList hc c _).1, listInv_setList c h2 hnd hl, (core_setList hc c _).2⟩
    · rw [hs, getList_setList, setList_setList]
      -- `removeNode x` is a change confined to `x`, which is on neither list afterwards
      obtain ⟨hxs, hxl⟩ := h1.1 x (hg ▸ List.mem_cons_self)
      have hxst : (s.node x).state ≠ 0 := hxs ▸ stOf_ne_zero c
      obtain ⟨hch, _⟩ := removeNode_chg hc hxl
      obtain ⟨hcore, habs⟩ := core_removed hc (fun hh => hxst (hh ▸ hc.rootst)) hxst hxl
      obtain ⟨hnd, hl⟩ := hnew rest (hg ▸ List.sublist_cons_self x rest)
      have hx : x ∉ rest ++ [n] := fun hm => (List.mem_append.1 hm).elim (List.nodup_cons.1 (hg ▸ h1.2)).1
        fun hm => hnin (List.mem_singleton.1 hm ▸ hg ▸ List.mem_cons_self)
      have h2' : LInv (s.removeNode x) (!c) := by
        have hl2 : (s.removeNode x).getList (!c) = s.getList (!c) := by
          cases c <;> simp [getList, hch.closedL, hch.idleL]
        rw [LInv, hl2]
        exact ⟨hch.linv _ _ (fun hm => stOf_ne c (hxs ▸ (h2.1 x hm).1)) h2.1, h2.2⟩
      exact ⟨(core_setList hcore c _).1, listInv_setList c h2' hnd (hch.linv _ _ hx hl),
        (core_setList hcore c _).2.trans habs⟩

theorem closeMark_spec (s : P7540) {n : Nat} (hn : n < s.store.length) :
    Edit s (s.closeMark n) n {} 1 ∧ (s.closeMark n).limit = s.limit := by
  have h1 := edit_modNode s hn (fun nn => { nn with state := 1 }) (fun _ => rfl)
  have h2 := sameK_addBytes (s.modNode n fun nn => { nn with state := 1 }) n
    (-((s.modNode n fun nn => { nn with state := 1 }).node n).bytes)
  have h12 := h1.of_same_right h2.same
  have h3 := edit_modNode _ (h12.len ▸ hn) (fun nn => { nn with q := ({} : WQ) }) (fun _ => rfl)
  have hp : ∀ (t : P7540) (k : Nat), Same t { t with poolN := k } := fun t k =>
    ⟨rfl, fun _ => ⟨rfl, rfl, rfl⟩, rfl, rfl, rfl, rfl, rfl⟩
  exact ⟨((h12.trans h3).of_same_right (hp _ _)).cast rfl h12.self.2.1, h2.limit⟩

theorem p7_close {s : P7540} {opn ever : Nat → Bool} {id : Nat} (hc : CoreInv s opn ever) (hli : ListInv s)
    (hok : opn id = true) :
    ∃ s', s.closeStream id = (s', .ok) ∧ absP7 s' = (absP7 s).applyOp (.closeS id) ∧
      CoreInv s' (upd opn id false) ever ∧ ListInv s' := by
  obtain ⟨hid, n, hl, hst⟩ := (hc.opn id).1 hok
  have hn0 : n ≠ 0 := fun hh => hid ((hc.zero_iff hl).1 hh)
  obtain ⟨hm, hlim⟩ := closeMark_spec s (hc.map id n hl).1
  obtain ⟨hnc, hni⟩ := hli.not_mem hst
  have hcore : CoreInv (s.closeMark n) (upd opn id false) ever := by
    have := core_edit hc hm (hlim ▸ hc.lim) hl hid (fun h => absurd rfl h) (b := false) ⟨nofun, nofun⟩
    rwa [upd_eq_self ever (hc.ever id n hid hl (by rw [hst]; decide))] at this
  have habs : absP7 (s.closeMark n) = (absP7 s).applyOp (.closeS id) := abs_edit hc hl hid hm
  have hlist := list_chg hli (edit_chg hc hm hl) ⟨hnc, hni⟩
  have hnlk : (s.closeMark n).lookup ((s.closeMark n).node n).id = some n := by
    rw [hm.self.2.2, lookup_of_nodes hm.nodes, (hc.map id n hl).2]; exact hl
  have hunf : s.closeStream id = (if (s.closeMark n).maxClosed > 0 then ((s.closeMark n).addClosedOrIdle true n, Res.ok)
      else ((s.closeMark n).removeNode n, Res.ok)) := by
    simp [closeStream, hid, hl, hst]
  rw [hunf]
  by_cases hmc : (s.closeMark n).maxClosed > 0
  · rw [if_pos hmc]
    obtain ⟨h1, h2, h3⟩ := addCOI_spec true n hcore hlist hm.self.2.1 hnlk
      (by show n ∉ (s.closeMark n).closedL; rw [hm.closedL]; exact hnc)
    exact ⟨_, rfl, by rw [h3, habs], h1, h2⟩
  · rw [if_neg hmc]
    obtain ⟨h1, h3⟩ := core_removed hcore hn0 (by rw [hm.self.2.1]; decide) hnlk
    exact ⟨_, rfl, by rw [h3, habs], h1,
      list_chg hlist (removeNode_chg hcore hnlk).1 ⟨hm.closedL ▸ hnc, hm.idleL ▸ hni⟩⟩

theorem node_newNode_lt (s : P7540) (id st : Nat) {i : Nat} (hi : i < s.store.length) :
    (s.newNode id st).1.node i = s.node i := by
  simp only [newNode, node, poolGet, List.getD_eq_getElem?_getD]
  rw [List.getElem?_append_left hi]

theorem node_newNode_new (s : P7540) (id st : Nat) :
    (s.newNode id st).1.node s.store.length = { id := id, q := {}, weight := 15, state := st } := by
  simp only [newNode, node, poolGet, List.getD_eq_getElem?_getD, List.getElem?_concat_length]
  rfl

theorem addNode_eq (s : P7540) (id st parent : Nat) : ∃ s2, SameL (s.newNode id st).1 s2 ∧
    s.addNode id st parent = ({ s2 with nodes := (id, s.store.length) :: s.nodes }, s.store.length) :=
  have h := sameL_setParent! (s.newNode id st).1 s.store.length (some parent)
  ⟨_, h, by simp only [addNode, show (s.newNode id st).2 = s.store.length from rfl, h.same.nodes]; rfl⟩

theorem length_addNode (s : P7540) (id st parent : Nat) :
    (s.addNode id st parent).1.store.length = s.store.length + 1 := by
  obtain ⟨s2, h, heq⟩ := addNode_eq s id st parent
  rw [heq]; exact h.same.len.trans (by simp [newNode, poolGet])

theorem lookup_addNode (s : P7540) (id st parent a : Nat) :
    (s.addNode id st parent).1.lookup a = if a = id then some s.store.length else s.lookup a := by
  obtain ⟨s2, _, heq⟩ := addNode_eq s id st parent
  rw [heq]
  simp only [lookup, List.lookup]
  by_cases ha : a = id
  · subst ha; simp
  · have : (a == id) = false := by simpa using ha
    simp [this, ha]

theorem addNode_chg {s : P7540} {opn ever : Nat → Bool} (hc : CoreInv s opn ever) (id st parent : Nat)
    (hnone : s.lookup id = none) :
    Chg s (s.addNode id st parent).1 id s.store.length ∧ (s.addNode id st parent).1.limit = s.limit ∧
      Fields { id := id, state := st } ((s.addNode id st parent).1.node s.store.length) := by
  have hlen := length_addNode s id st parent
  have hl := lookup_addNode s id st parent
  obtain ⟨s2, h, heq⟩ := addNode_eq s id st parent
  rw [heq] at hlen hl ⊢
  have hnew : Fields { id := id, state := st } (s2.node s.store.length) := by
    have := h.same.nd s.store.length; rwa [node_newNode_new] at this
  refine ⟨{ len := by rw [hlen]; omega, nd := fun i hi => ?nd, lookup := fun a ha => by rw [hl, if_neg ha],
            old := fun m hm => (by rw [hnone] at hm; cases hm), new := fun m hm => ?new,
            other := fun a _ hm => Nat.lt_irrefl _ (hc.map a _ hm).1, closedL := h.same.closedL, idleL := h.same.idleL },
    h.limit, hnew⟩
  case nd =>
    by_cases hlt : i < s.store.length
    · have := h.same.nd i; rwa [node_newNode_lt s id st hlt] at this
    · rw [node_of_ge s (by omega), node_of_ge _ (by rw [hlen]; omega)]; exact ⟨rfl, rfl, rfl⟩
  case new =>
    rw [hl, if_pos rfl] at hm; cases hm
    exact ⟨rfl, by rw [hlen]; omega, hnew.2.2⟩

theorem core_added {s : P7540} {opn ever : Nat → Bool} {id st : Nat} (hc : CoreInv s opn ever) (parent : Nat)
    (hnone : s.lookup id = none) (hid : id ≠ 0) (hst : st = 0 ∨ st = 2) :
    CoreInv (s.addNode id st parent).1 (if st = 0 then upd opn id true else opn)
      (if st = 0 then upd ever id true else ever) ∧ absP7 (s.addNode id st parent).1 = absP7 s := by
  obtain ⟨hg, hlim, hnew⟩ := addNode_chg hc id st parent hnone
  have hlk : (s.addNode id st parent).1.lookup id = some s.store.length := by rw [lookup_addNode, if_pos rfl]
  have hopnid : opn id = false := by
    cases ho : opn id with
    | false => rfl
    | true => obtain ⟨_, m, h1, _⟩ := (hc.opn id).1 ho; rw [hnone] at h1; cases h1
  constructor
  · refine core_chg hc hg hid (hlim ▸ hc.lim) (fun a ha => by split <;> simp [upd, ha])
      (fun a ha => by split <;> simp [upd, ha]) (fun hh => absurd (by rw [hnew.1]; rfl) hh) ?_ ?_
    · rw [hnew.2.1]; rcases hst with rfl | rfl <;> simp [upd, hlk, hopnid]
    · rw [hnew.2.1]; rcases hst with rfl | rfl <;> simp [upd]
  · exact abs_chg_same hc hg hid (by simp [absP7, hid, hlk, hnone, hnew.1, empty_toList])

theorem list_added {s : P7540} {opn ever : Nat → Bool} (hc : CoreInv s opn ever) (hli : ListInv s)
    (id st parent : Nat) (hnone : s.lookup id = none) : ListInv (s.addNode id st parent).1 :=
  have hn : ∀ stt l, (∀ x ∈ l, (s.node x).state = stt ∧ s.lookup (s.node x).id = some x) → s.store.length ∉ l :=
    fun _ _ hl0 hm => Nat.lt_irrefl _ (hc.map _ _ (hl0 _ hm).2).1
  list_chg hli (addNode_chg hc id st parent hnone).1 ⟨hn 1 _ hli.closedL, hn 2 _ hli.idleL⟩

theorem p7_open {s : P7540} {opn ever : Nat → Bool} {id pusher : Nat} (hc : CoreInv s opn ever) (hli : ListInv s)
    (hid : id ≠ 0) (hopn : opn id = false) (hfresh : ever id = false) :
    ∃ s', s.openStream id pusher = (s', .ok) ∧ absP7 s' = absP7 s ∧
      CoreInv s' (upd opn id true) (upd ever id true) ∧ ListInv s' := by
  cases hl : s.lookup id with
  | some cur =>
    -- the node exists: it can only be an idle node created by AdjustStream
    have hst2 : (s.node cur).state = 2 := by
      apply Classical.byContradiction; intro hne
      have := hc.ever id cur hid hl hne; rw [hfresh] at this; cases this
    have hT := edit_modNode s (hc.map id cur hl).1 (fun n => { n with state := 0 }) (fun _ => rfl)
    have hTcore := core_edit hc hT hc.lim hl hid (fun _ => rfl) (b := true) ⟨fun _ => rfl, fun _ => rfl⟩
    have hTabs : absP7 (s.modNode cur fun n => { n with state := 0 }) = absP7 s := by
      have : (absP7 s).q id = (s.node cur).q.toList := by simp [absP7, hid, hl]
      rw [abs_edit hc hl hid hT, upd_eq_self _ this]
    have hnc : cur ∉ s.closedL := fun hm => by have := (hli.closedL cur hm).1; rw [hst2] at this; cases this
    exact ⟨{ (s.modNode cur fun n => { n with state := 0 }) with idleL := s.idleL.erase cur },
      by simp [openStream, hl, hst2], hTabs, (core_setList hTcore false _).1,
      listInv_setList false ⟨(edit_chg hc hT hl).linv 1 _ hnc hli.closedL, hli.closedNodup⟩ (hli.idleNodup.erase cur)
        ((edit_chg hc hT hl).linv 2 _ hli.idleNodup.not_mem_erase fun x hx => hli.idleL x (List.mem_of_mem_erase hx))⟩
  | none =>
    obtain ⟨h1, h2⟩ := core_added hc ((s.lookup pusher).getD 0) hl hid (Or.inl rfl)
    have h3 := list_added hc hli id 0 ((s.lookup pusher).getD 0) hl
    simp only [if_true] at h1
    rcases hA : s.addNode id 0 ((s.lookup pusher).getD 0) with ⟨s1, nid⟩
    rw [hA] at h1 h2 h3
    simp only at h1 h2 h3
    have hsc : SameC s1 { s1 with maxID := if id > s1.maxID then id else s1.maxID } := sameC_fields rfl rfl
    exact ⟨{ s1 with maxID := if id > s1.maxID then id else s1.maxID }, by simp [openStream, hl, hA], h2,
      core_sameC h1 hsc h1.lim, list_sameC h3 hsc rfl rfl⟩

theorem adjustLink_spec (s : P7540) (n dep : Nat) (excl : Bool) (w : Nat) :
    SameL s (s.adjustLink n dep excl w).1 ∧ (s.adjustLink n dep excl w).2 = .ok := by
  unfold adjustLink
  cases s.lookup dep with
  | none =>
    simp only
    exact ⟨(sameL_setParent! _ _ _).trans (sameL_modNode _ _), trivial⟩
  | some parent =>
    simp only
    by_cases hnp : n = parent
    · rw [if_pos hnp]; exact ⟨SameL.refl s, rfl⟩
    · rw [if_neg hnp]
      simp only
      -- the new parent is moved out of `n`'s subtree if need be
      have hA : SameL s (if isAncestor s n (s.store.length + 1) (s.node parent).parent = true
          then s.setParent! parent (s.node n).parent else s) := by
        split
        · exact sameL_setParent! _ _ _
        · exact SameL.refl s
      -- exclusive: the parent's other children move under `n`
      have hB : ∀ t : P7540, SameL t (if excl = true then
            (t.node parent).kids.foldl (fun s k => if (k != n) = true then s.setParent! k (some n) else s) t else t) := by
        intro t; split
        · refine Lemmas.foldl_rel _ SameL SameL.refl (fun _ _ _ => SameL.trans) (fun u k => ?_) _ t
          split
          · exact sameL_setParent! _ _ _
          · exact SameL.refl u
        · exact SameL.refl t
      exact ⟨((hA.trans (hB _)).trans (sameL_setParent! _ _ _)).trans (sameL_modNode _ _),
        trivial⟩

theorem p7_adjust {s : P7540} {opn ever : Nat → Bool} {id dep w : Nat} {excl : Bool} (hc : CoreInv s opn ever)
    (hli : ListInv s) (hid : id ≠ 0) :
    ∃ s', s.adjustStream id dep excl w = (s', .ok) ∧ absP7 s' = absP7 s ∧ CoreInv s' opn ever ∧ ListInv s' := by
  have hfind : s.adjustFind id = none ∨ ∃ s1 n, s.adjustFind id = some (s1, n) ∧ absP7 s1 = absP7 s ∧
      CoreInv s1 opn ever ∧ ListInv s1 := by
    unfold adjustFind
    cases hl : s.lookup id with
    | some n => right; exact ⟨s, n, rfl, rfl, hc, hli⟩
    | none =>
      simp only
      by_cases hcond : id ≤ s.maxID ∨ s.maxIdle = 0
      · left; rw [if_pos hcond]
      · right
        rw [if_neg hcond]
        have hsc0 : SameC s { s with maxID := id } := sameC_fields rfl rfl
        have hc0 := core_sameC hc hsc0 hc.lim
        have hli0 : ListInv { s with maxID := id } := list_sameC hli hsc0 rfl rfl
        have hl0 : ({ s with maxID := id } : P7540).lookup id = none := hl
        obtain ⟨hg, _, hnew⟩ := addNode_chg hc0 id 2 0 hl0
        obtain ⟨h1, h2⟩ := core_added hc0 0 hl0 hid (Or.inr rfl)
        have h3 := list_added hc0 hli0 id 2 0 hl0
        simp only [show ¬ (2 = 0) by decide, if_false] at h1
        have hnin : s.store.length ∉ (({ s with maxID := id } : P7540).addNode id 2 0).1.getList false := by
          show _ ∉ P7540.idleL _
          rw [hg.idleL]
          exact fun hm => Nat.lt_irrefl _ (hc0.map _ _ (hli0.idleL _ hm).2).1
        obtain ⟨c1, c2, c3⟩ := addCOI_spec false _ h1 h3 hnew.2.1
          (by rw [hnew.2.2, lookup_addNode, if_pos rfl]) hnin
        exact ⟨_, _, rfl, c3.trans h2, c1, c2⟩
  unfold adjustStream
  rw [if_neg hid]
  rcases hfind with hnone | ⟨s1, n, hsome, ha, hc1, hl1⟩
  · rw [hnone]; exact ⟨s, rfl, rfl, hc, hli⟩
  · rw [hsome]
    simp only
    obtain ⟨hs, hok⟩ := adjustLink_spec s1 n dep excl w
    exact ⟨(s1.adjustLink n dep excl w).1, by rw [← hok], by rw [abs_same hs.same, ha],
      core_same hc1 hs.same (hs.limit ▸ hc1.lim), list_same hl1 hs.same⟩

end NetVerif.Proofs.WriteSched7540
