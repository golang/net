import NetVerif.Model.DnsChecked
import NetVerif.Proofs.Lemmas.Dns
/-!
The checked twin (`Model/DnsChecked.lean`) is the model: every checked access sits behind a guard
that makes it succeed, so each `fC` equals `f` - for all byte strings and offsets. The primitives and the
loops that index or slice come first; the functions above them are copies of the model's text (`simp only`
with the equalities below them, `rfl`). `optLoopC_eq` and `unpackSVCBC_eq` need more: that the offsets the
twin slices at, which earlier reads returned, lie inside the message (`u16At_bound`, `unpackLoop_offset`,
`svcbPass1_mem`).
-/
namespace NetVerif.Proofs.DnsChecked
open NetVerif.Model.Dns NetVerif.Proofs.Dns

theorem getC_ok {msg : Bytes} {i : Nat} (h : i < msg.length) : getC msg i = .ok msg[i] := by
  simp [getC, h]

theorem sliceC_ok {msg : Bytes} {a b : Nat} (h1 : a ≤ b) (h2 : b ≤ msg.length) :
    sliceC msg a b = .ok ((msg.drop a).take (b - a)) := by
  simp [sliceC, h1, h2]

/-- `msg[a:]` -/
theorem sliceC_end {msg : Bytes} {a : Nat} (h : a ≤ msg.length) : sliceC msg a msg.length = .ok (msg.drop a) := by
  rw [sliceC_ok h (Nat.le_refl _), List.take_of_length_le (by simp)]

/-- the model's guard "fewer than `c` bytes follow the length octet" is Go's `cur + 1 + c > len(msg)` -/
theorem rest_lt_iff {msg : Bytes} {cur : Nat} (h : cur < msg.length) (c : Nat) :
    ((msg.drop (cur + 1)).length < c) = (cur + 1 + c > msg.length) := by
  simp only [List.length_drop, gt_iff_lt, eq_iff_iff]
  omega

theorem u16AtC_eq (msg : Bytes) (off : Nat) : u16AtC msg off = u16At msg off := by
  unfold u16AtC u16At
  by_cases h : off + 2 > msg.length
  · simp only [h, if_true]
    split
    · rename_i a b r hd
      have := congrArg List.length hd
      simp at this; omega
    · rfl
  · have h0 : off < msg.length := by omega
    have h1 : off + 1 < msg.length := by omega
    simp only [h, if_false, getC_ok h0, getC_ok h1]
    rw [List.drop_eq_getElem_cons h0, List.drop_eq_getElem_cons h1]

theorem u32AtC_eq (msg : Bytes) (off : Nat) : u32AtC msg off = u32At msg off := by
  unfold u32AtC u32At
  by_cases h : off + 4 > msg.length
  · simp only [h, if_true]
    split
    · rename_i a b c d r hd
      have := congrArg List.length hd
      simp at this; omega
    · rfl
  · have h0 : off < msg.length := by omega
    have h1 : off + 1 < msg.length := by omega
    have h2 : off + 2 < msg.length := by omega
    have h3 : off + 3 < msg.length := by omega
    simp only [h, if_false, getC_ok h0, getC_ok h1, getC_ok h2, getC_ok h3]
    rw [List.drop_eq_getElem_cons h0, List.drop_eq_getElem_cons h1, List.drop_eq_getElem_cons h2, List.drop_eq_getElem_cons h3]

theorem bytesAtC_eq (msg : Bytes) (off n : Nat) : bytesAtC msg off n = bytesAt msg off n := by
  unfold bytesAtC bytesAt
  by_cases h : off + n > msg.length
  · simp [h]
  · simp only [h, if_false]
    rw [sliceC_ok (by omega) (by omega)]
    simp

theorem textAtC_eq (msg : Bytes) (off : Nat) : textAtC msg off = textAt msg off := by
  unfold textAtC textAt
  by_cases h : off ≥ msg.length
  · simp [h, List.drop_eq_nil_of_le h]
  · have h0 : off < msg.length := by omega
    simp only [h, if_false, getC_ok h0]
    rw [List.drop_eq_getElem_cons h0]
    simp only [rest_lt_iff h0]
    split
    · rfl
    · rw [sliceC_ok (by omega) (by omega)]
      simp

theorem unpackLoopC_eq (msg : Bytes) : ∀ (fuel cur ptr : Nat) (name : Bytes) (newOff : Nat),
    unpackLoopC msg fuel cur ptr name newOff = unpackLoop msg fuel cur ptr name newOff := by
  intro fuel
  induction fuel with
  | zero => intro cur ptr name newOff; rfl
  | succ fuel ih =>
    intro cur ptr name newOff
    unfold unpackLoopC unpackLoop
    by_cases h : cur ≥ msg.length
    · simp [h, List.drop_eq_nil_of_le h]
    · have h0 : cur < msg.length := by omega
      simp only [h, if_false, getC_ok h0]
      rw [List.drop_eq_getElem_cons h0]
      simp only [rest_lt_iff h0]
      by_cases hc : msg[cur] / 64 = 0
      · simp only [hc, if_true]
        by_cases hz : msg[cur] = 0
        · simp [hz]
        · simp only [hz, if_false]
          split
          · rfl
          · rw [sliceC_ok (by omega) (by omega)]
            have e : cur + 1 + msg[cur] - (cur + 1) = msg[cur] := by omega
            simp only [e, ih]
      · simp only [hc, if_false]
        by_cases h3 : msg[cur] / 64 = 3
        · simp only [h3, if_true]
          by_cases hp : cur + 1 ≥ msg.length
          · simp [hp, List.drop_eq_nil_of_le hp]
          · have h1 : cur + 1 < msg.length := by omega
            simp only [hp, if_false, getC_ok h1]
            rw [List.drop_eq_getElem_cons h1]
            simp only [ih]
        · simp [h3]

theorem unpackNameC_eq (msg : Bytes) (off : Nat) : unpackNameC msg off = unpackName msg off :=
  unpackLoopC_eq msg _ _ _ _ _

theorem skipLoopC_eq (msg : Bytes) : ∀ (fuel cur : Nat), skipLoopC msg fuel cur = skipLoop msg fuel cur := by
  intro fuel
  induction fuel with
  | zero => intro cur; rfl
  | succ fuel ih =>
    intro cur
    unfold skipLoopC skipLoop
    by_cases h : cur ≥ msg.length
    · simp [h, List.drop_eq_nil_of_le h]
    · have h0 : cur < msg.length := by omega
      simp only [h, if_false, getC_ok h0]
      rw [List.drop_eq_getElem_cons h0]
      -- with the one guard that is spelt differently rewritten, the two bodies are the same text
      simp only [rest_lt_iff h0, ih]

theorem skipNameC_eq (msg : Bytes) (off : Nat) : skipNameC msg off = skipName msg off :=
  skipLoopC_eq msg _ _

theorem optLoopC_eq (msg : Bytes) (e : Nat) : ∀ (fuel off : Nat), optLoopC msg e fuel off = optLoop msg e fuel off := by
  intro fuel
  induction fuel with
  | zero => intro off; rfl
  | succ fuel ih =>
    intro off
    unfold optLoopC optLoop
    simp only [u16AtC_eq]
    split
    · cases h1 : u16At msg off with
      | error e1 => rfl
      | ok r1 =>
        rcases r1 with ⟨code, off1⟩
        simp only []
        cases h2 : u16At msg off1 with
        | error e2 => rfl
        | ok r2 =>
          rcases r2 with ⟨l, off2⟩
          simp only []
          have b2 := u16At_bound h2
          split
          · rfl
          · rw [sliceC_end (by omega)]
            simp only [List.length_drop, ih]
            split
            · rfl
            · cases optLoop msg e fuel (off2 + l) <;> rfl
    · rfl

theorem svcbPass2C_eq (msg : Bytes) : ∀ (l : List (Nat × Nat × Nat)), (∀ x ∈ l, x.2.2 ≤ msg.length) →
    svcbPass2C msg l = svcbPass2 msg l := by
  intro l
  induction l with
  | nil => intro _; rfl
  | cons x l ih =>
    intro hl
    rcases x with ⟨key, size, voff⟩
    have hv : voff ≤ msg.length := hl (key, size, voff) (by simp)
    unfold svcbPass2C svcbPass2
    rw [sliceC_end hv]
    simp only [List.length_drop]
    split
    · rfl
    · rename_i hs
      rw [sliceC_ok (Nat.zero_le _) (by rw [List.length_drop]; omega)]
      simp only [List.drop_zero, Nat.sub_zero, ih (fun y hy => hl y (by simp [hy]))]
      cases svcbPass2 msg l <;> rfl

theorem targetCompressedC_eq (msg : Bytes) : ∀ (fuel i stop : Nat), stop ≤ msg.length →
    targetCompressedC msg fuel i stop = .ok (targetCompressed msg fuel i stop) := by
  intro fuel
  induction fuel with
  | zero => intro i stop _; rfl
  | succ fuel ih =>
    intro i stop hs
    unfold targetCompressedC targetCompressed
    split
    · rename_i hi
      have h0 : i < msg.length := by omega
      rw [getC_ok h0, List.drop_eq_getElem_cons h0]
      simp only []
      split
      · rfl
      · exact ih _ _ hs
    · rfl

theorem nameOnlyC_eq (msg : Bytes) (off : Nat) : nameOnlyC msg off = nameOnly msg off := by
  unfold nameOnlyC nameOnly
  simp only [unpackNameC_eq]
  rfl

theorem txtLoopC_eq (msg : Bytes) (len : Nat) : ∀ (fuel off n : Nat), txtLoopC msg len fuel off n = txtLoop msg len fuel off n := by
  intro fuel
  induction fuel with
  | zero => intro off n; rfl
  | succ fuel ih =>
    intro off n
    unfold txtLoopC txtLoop
    simp only [textAtC_eq, ih]
    rfl

theorem svcbPass1C_eq (msg : Bytes) (e : Nat) : ∀ (fuel off : Nat) (prev : Option Nat),
    svcbPass1C msg e fuel off prev = svcbPass1 msg e fuel off prev := by
  intro fuel
  induction fuel with
  | zero => intro off prev; rfl
  | succ fuel ih =>
    intro off prev
    unfold svcbPass1C svcbPass1
    simp only [u16AtC_eq, ih]
    rfl

theorem unpackSVCBC_eq (msg : Bytes) (off len : Nat) : unpackSVCBC msg off len = unpackSVCB msg off len := by
  unfold unpackSVCBC unpackSVCB
  simp only [u16AtC_eq, unpackNameC_eq, svcbPass1C_eq]
  cases h1 : u16At msg off with
  | error e => rfl
  | ok r1 =>
    rcases r1 with ⟨prio, off1⟩
    simp only []
    cases h2 : unpackName msg off1 with
    | error e => rfl
    | ok r2 =>
      rcases r2 with ⟨t, off2⟩
      simp only []
      rw [targetCompressedC_eq msg _ _ _ (unpackLoop_offset msg _ _ _ _ _ _ h2).2]
      cases targetCompressed msg (off2 + 1) off1 off2 with
      | true => rfl
      | false =>
        simp only []
        cases h3 : svcbPass1 msg (off + len) (msg.length + 1) off2 none with
        | error e => rfl
        | ok l =>
          simp only [Bool.false_eq_true, if_false]
          rw [svcbPass2C_eq msg l fun x hx => by
            obtain ⟨o, -, g2⟩ := svcbPass1_mem _ _ _ l h3 x hx
            exact (u16At_bound g2).1 ▸ (u16At_bound g2).2]
          rfl

theorem unpackBodyC_eq (msg : Bytes) (off typ len : Nat) : unpackBodyC msg off typ len = unpackBody msg off typ len := by
  unfold unpackBodyC unpackBody
  simp only [bytesAtC_eq, nameOnlyC_eq, unpackNameC_eq, u16AtC_eq, u32AtC_eq, txtLoopC_eq, unpackSVCBC_eq, optLoopC_eq]
  rfl

theorem unpackQuestionC_eq (msg : Bytes) (off : Nat) : unpackQuestionC msg off = unpackQuestion msg off := by
  unfold unpackQuestionC unpackQuestion
  simp only [unpackNameC_eq, u16AtC_eq]
  rfl

theorem unpackRHeaderC_eq (msg : Bytes) (off : Nat) : unpackRHeaderC msg off = unpackRHeader msg off := by
  unfold unpackRHeaderC unpackRHeader
  simp only [unpackNameC_eq, u16AtC_eq, u32AtC_eq]
  rfl

theorem unpackResourceC_eq (msg : Bytes) (off : Nat) : unpackResourceC msg off = unpackResource msg off := by
  unfold unpackResourceC unpackResource
  simp only [unpackRHeaderC_eq, unpackBodyC_eq]
  rfl

theorem skipQuestionC_eq (msg : Bytes) (off : Nat) : skipQuestionC msg off = skipQuestion msg off := by
  unfold skipQuestionC skipQuestion
  simp only [skipNameC_eq]
  rfl

theorem skipResourceC_eq (msg : Bytes) (off : Nat) : skipResourceC msg off = skipResource msg off := by
  unfold skipResourceC skipResource
  simp only [skipNameC_eq, u16AtC_eq]
  rfl

theorem unpackQuestionsC_eq (msg : Bytes) : ∀ (k off : Nat), unpackQuestionsC msg k off = unpackQuestions msg k off := by
  intro k
  induction k with
  | zero => intro off; rfl
  | succ k ih =>
    intro off
    unfold unpackQuestionsC unpackQuestions
    simp only [unpackQuestionC_eq, ih]
    rfl

theorem unpackResourcesC_eq (msg : Bytes) : ∀ (k off : Nat), unpackResourcesC msg k off = unpackResources msg k off := by
  intro k
  induction k with
  | zero => intro off; rfl
  | succ k ih =>
    intro off
    unfold unpackResourcesC unpackResources
    simp only [unpackResourceC_eq, ih]
    rfl

theorem skipQuestionsC_eq (msg : Bytes) : ∀ (k off : Nat), skipQuestionsC msg k off = skipQuestions msg k off := by
  intro k
  induction k with
  | zero => intro off; rfl
  | succ k ih =>
    intro off
    unfold skipQuestionsC skipQuestions
    simp only [skipQuestionC_eq, ih]
    rfl

theorem skipResourcesC_eq (msg : Bytes) : ∀ (k off : Nat), skipResourcesC msg k off = skipResources msg k off := by
  intro k
  induction k with
  | zero => intro off; rfl
  | succ k ih =>
    intro off
    unfold skipResourcesC skipResources
    simp only [skipResourceC_eq, ih]
    rfl

theorem unpackWireHeaderC_eq (msg : Bytes) : unpackWireHeaderC msg = unpackWireHeader msg := by
  unfold unpackWireHeaderC unpackWireHeader
  simp only [u16AtC_eq, u16At]
  -- by the number of bytes: with 0 to 11 both answer `baseLen`, with 12 and a rest both read the same six words
  rcases msg with _ | ⟨a0, _ | ⟨a1, _ | ⟨b0, _ | ⟨b1, _ | ⟨c0, _ | ⟨c1, _ | ⟨d0, _ | ⟨d1, _ | ⟨e0, _ | ⟨e1, _ |
    ⟨f0, _ | ⟨f1, r⟩⟩⟩⟩⟩⟩⟩⟩⟩⟩⟩⟩
  all_goals rfl

theorem unpackMessageOffC_eq (msg : Bytes) : unpackMessageOffC msg = unpackMessageOff msg := by
  unfold unpackMessageOffC unpackMessageOff
  simp only [unpackWireHeaderC_eq, unpackQuestionsC_eq, unpackResourcesC_eq]
  rfl

theorem unpackMessageC_eq (msg : Bytes) : unpackMessageC msg = unpackMessage msg := by
  unfold unpackMessageC unpackMessage
  simp only [unpackMessageOffC_eq]
  rfl

theorem skipMessageC_eq (msg : Bytes) : skipMessageC msg = skipMessage msg := by
  unfold skipMessageC skipMessage
  simp only [unpackWireHeaderC_eq, skipQuestionsC_eq, skipResourcesC_eq]
  rfl

theorem walkQuestionC_eq (msg : Bytes) (off : Nat) (s : Step) : walkQuestionC msg off s = walkQuestion msg off s := by
  cases s <;> simp only [walkQuestionC, walkQuestion, unpackQuestionC_eq, skipQuestionC_eq]
  all_goals rfl

theorem walkResourceC_eq (msg : Bytes) (off : Nat) (s : Step) : walkResourceC msg off s = walkResource msg off s := by
  cases s <;>
    simp only [walkResourceC, walkResource, unpackResourceC_eq, skipResourceC_eq, unpackRHeaderC_eq, unpackBodyC_eq]
  all_goals rfl

theorem walkSectionC_eq (one one' : Bytes → Nat → Step → Except Err (Item × Nat)) (h : ∀ m o s, one m o s = one' m o s)
    (msg : Bytes) : ∀ (n off : Nat) (sc : List Step), walkSectionC one msg n off sc = walkSection one' msg n off sc := by
  intro n
  induction n with
  | zero => intro off sc; rfl
  | succ n ih =>
    intro off sc
    unfold walkSectionC walkSection
    simp only [h, ih]
    rfl

theorem walkMessageC_eq (msg : Bytes) (sc : List Step) : walkMessageC msg sc = walkMessage msg sc := by
  unfold walkMessageC walkMessage
  simp only [unpackWireHeaderC_eq, walkSectionC_eq _ _ walkQuestionC_eq, walkSectionC_eq _ _ walkResourceC_eq]
  rfl

end NetVerif.Proofs.DnsChecked
