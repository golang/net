import NetVerif.Model.QuicStream
import NetVerif.Proofs.C24
import NetVerif.Proofs.C30
/-! Receive side of a QUIC stream: byte-level refinement through the chunked pipe (C19).
Invariant `RI w s spec`: the stream's pipe refines the byte map `spec` (C30), and every received,
not yet discarded offset holds the sender's byte `w[x]`. -/
namespace NetVerif.Proofs.Lemmas.QuicRecv
open NetVerif.Model NetVerif.Model.QuicStream
open NetVerif.Model.Rangeset (RS Rg)
open NetVerif.Proofs.C24 (Mem WF mem_add wf_add mem_add_all)
open NetVerif.Proofs.C30 (Spec Inv Rel specWrite specDiscard writeAt_refines discard_refines read_returns_written
  peek_prefix byteAt specWrite_facts)

/-- FLOW_CONTROL_ERROR beyond the window; otherwise FINAL_SIZE_ERROR exactly for the three contradictions. -/
theorem checkStreamBounds_eq (inwin insize inEnd e : Int) (fin : Bool) :
    checkStreamBounds inwin insize inEnd e fin =
      if e > inwin then errFlowControl else
      if (insize ≠ -1 ∧ e > insize) ∨ (fin = true ∧ insize ≠ -1 ∧ e ≠ insize) ∨ (fin = true ∧ e < inEnd)
      then errFinalSize else 0 := by
  unfold checkStreamBounds
  by_cases h0 : e > inwin
  · rw [if_pos h0, if_pos h0]
  · rw [if_neg h0, if_neg h0]
    by_cases h1 : insize ≠ -1 ∧ e > insize
    · rw [if_pos h1, if_pos (Or.inl h1)]
    · rw [if_neg h1]
      by_cases h2 : fin = true ∧ insize ≠ -1 ∧ e ≠ insize
      · rw [if_pos h2, if_pos (Or.inr (Or.inl h2))]
      · rw [if_neg h2]
        by_cases h3 : fin = true ∧ e < inEnd
        · rw [if_pos h3, if_pos (Or.inr (Or.inr h3))]
        · rw [if_neg h3, if_neg (fun h => h.elim h1 (fun h => h.elim h2 h3))]

theorem checkStreamBounds_ok {inwin insize inEnd e : Int} {fin : Bool}
    (h : checkStreamBounds inwin insize inEnd e fin = 0) :
    e ≤ inwin ∧ (insize ≠ -1 → e ≤ insize ∧ (fin = true → e = insize)) ∧ (fin = true → inEnd ≤ e) := by
  rw [checkStreamBounds_eq] at h
  by_cases h1 : e > inwin
  · rw [if_pos h1] at h; exact absurd h (by decide)
  · rw [if_neg h1] at h
    by_cases h2 : (insize ≠ -1 ∧ e > insize) ∨ (fin = true ∧ insize ≠ -1 ∧ e ≠ insize) ∨ (fin = true ∧ e < inEnd)
    · rw [if_pos h2] at h; exact absurd h (by decide)
    · exact ⟨Int.not_lt.1 h1, fun hz => ⟨Int.not_lt.1 fun hlt => h2 (Or.inl ⟨hz, hlt⟩),
        fun hf => Classical.byContradiction fun hne => h2 (Or.inr (Or.inl ⟨hf, hz, hne⟩))⟩,
        fun hf => Int.not_lt.1 fun hlt => h2 (Or.inr (Or.inr ⟨hf, hlt⟩))⟩

/-- the sender's byte at stream offset `x` -/
def wAt (w : List Nat) (x : Int) : Option Nat := if 0 ≤ x then w[x.toNat]? else none

/-- a STREAM frame that carries a slice of the sender's byte sequence -/
def FrameOf (w : List Nat) (off : Int) (b : List Nat) : Prop :=
  0 ≤ off ∧ off + b.length ≤ w.length ∧ ∀ i : Nat, i < b.length → b[i]? = wAt w (off + i)

structure RI (w : List Nat) (s : Stream) (spec : Spec) : Prop where
  inv : Inv chunk s.inp
  rel : Rel s.inp spec
  wf : WF s.inset
  cov : ∀ x, Mem s.inset x → 0 ≤ x ∧ x < s.inp.stop ∧ x < w.length
  dat : ∀ x, s.inp.start ≤ x → Mem s.inset x → spec.data x = wAt w x
  st0 : 0 ≤ s.inp.start
  -- `inbuf`, what the slow path of `Read` parked for the lock-free path, is a copy of the pipe's first bytes (the
  -- next slow `Read` discards them from the pipe, `prep`); `inbufoff` of them have been handed out
  buf : ∀ i : Nat, i < s.inbuf.length → s.inbuf[i]? = wAt w (s.inp.start + i)
  bufcov : ∀ x, s.inp.start ≤ x → x < s.inp.start + s.inbuf.length → Mem s.inset x
  off : s.inbufoff ≤ s.inbuf.length

theorem FrameOf.drop {w : List Nat} {off : Int} {b : List Nat} (hf : FrameOf w off b) (k : Nat) (hk : k ≤ b.length) :
    FrameOf w (off + k) (b.drop k) := by
  refine ⟨by have := hf.1; omega, by have := hf.2.1; rw [List.length_drop]; omega, fun i hi => ?_⟩
  rw [List.length_drop] at hi
  rw [List.getElem?_drop, hf.2.2 (k + i) (by omega)]
  congr 1; omega

/-- the duplicate trim of `handleData`: the bytes it writes and where -/
def trim (s : Stream) (off e : Int) (b : List Nat) : List Nat × Int :=
  match s.inset with
  | r0 :: _ =>
    if r0.s ≤ off ∧ off < r0.e then
      let newOff := if e ≤ r0.e then e else r0.e
      (b.drop (newOff - off).toNat, newOff)
    else (b, off)
  | [] => (b, off)

theorem trim_facts (s : Stream) (off e : Int) (b : List Nat) (hoe : off ≤ e) :
    off ≤ (trim s off e b).2 ∧ (trim s off e b).2 ≤ e ∧ (∀ x, off ≤ x → x < (trim s off e b).2 → Mem s.inset x) ∧
      (trim s off e b).1 = b.drop ((trim s off e b).2 - off).toNat := by
  have h0 : off ≤ off ∧ off ≤ e ∧ (∀ x, off ≤ x → x < off → Mem s.inset x) ∧ b = b.drop (off - off).toNat :=
    ⟨Int.le_refl _, hoe, fun x h1 h2 => by omega, by rw [Int.sub_self]; rfl⟩
  unfold trim
  split
  · rename_i r0 _ hs
    by_cases hc : r0.s ≤ off ∧ off < r0.e
    · rw [if_pos hc]
      refine ⟨?_, ?_, fun x h1 h2 => ⟨r0, by rw [hs]; exact List.mem_cons_self, by omega, ?_⟩, rfl⟩
      · show off ≤ if e ≤ r0.e then e else r0.e
        split <;> omega
      · show (if e ≤ r0.e then e else r0.e) ≤ e
        split <;> omega
      · have h2' : x < if e ≤ r0.e then e else r0.e := h2
        split at h2' <;> omega
    · rw [if_neg hc]; exact h0
  · exact h0

theorem handleData_ok_bounds {c : Conn} {s : Stream} {off : Int} {b : List Nat} {fin : Bool}
    (h0 : (handleData c s off b fin).2.2 = 0) :
    checkStreamBounds s.inwin s.insize s.inp.stop (off + b.length) fin = 0 ∧
    (¬ (s.inclosed.isSet = true ∨ s.inresetcode ≠ -1) → s.insize = -1 ∧ off + b.length > s.inp.stop →
      (bytesReceived c.usedLimit c.sentLimit (off + b.length - s.inp.stop)).1 = 0) := by
  unfold handleData at h0
  by_cases h1 : checkStreamBounds s.inwin s.insize s.inp.stop (off + b.length) fin = 0
  · refine ⟨h1, fun ho hA => Classical.byContradiction fun h5 => ?_⟩
    simp only [h1, ho, if_pos hA, h5, ne_eq, not_true_eq_false, not_false_eq_true, if_false, if_true] at h0
  · simp only [h1, ne_eq, not_false_eq_true, if_true] at h0

theorem handleData_accepted {c : Conn} {s : Stream} {off : Int} {b : List Nat} {fin : Bool}
    (h0 : (handleData c s off b fin).2.2 = 0) (hopen : ¬ (s.inclosed.isSet = true ∨ s.inresetcode ≠ -1)) :
    (handleData c s off b fin).2.1 =
      let tr := trim s off (off + b.length) b
      let w := pipeWrite s.inp tr.1 tr.2
      let t := { s with inp := w.1, panicked := s.panicked || w.2, inset := Rangeset.add s.inset tr.2 (off + b.length) }
      if fin then { t with insize := off + b.length, insendmax := .unset } else t := by
  obtain ⟨h1, h5⟩ := handleData_ok_bounds h0
  unfold handleData
  by_cases hA : s.insize = -1 ∧ off + (b.length : Int) > s.inp.stop
  · simp only [h1, hopen, if_pos hA, h5 hopen hA, ne_eq, not_true_eq_false, if_false]
    rfl
  · simp only [h1, hopen, if_neg hA, ne_eq, not_true_eq_false, if_false]
    rfl

theorem handleData_shape {c : Conn} {s : Stream} {off : Int} {b : List Nat} {fin : Bool}
    (h0 : (handleData c s off b fin).2.2 = 0) (hopen : ¬ (s.inclosed.isSet = true ∨ s.inresetcode ≠ -1)) :
    let t := (handleData c s off b fin).2.1
    let tr := trim s off (off + b.length) b
    t.inp = (pipeWrite s.inp tr.1 tr.2).1 ∧ t.inset = Rangeset.add s.inset tr.2 (off + b.length) ∧
    t.inbuf = s.inbuf ∧ t.inbufoff = s.inbufoff ∧ t.inclosed = s.inclosed ∧ t.inresetcode = s.inresetcode ∧
    t.insize = (if fin then off + b.length else s.insize) ∧
    t.panicked = (s.panicked || (pipeWrite s.inp tr.1 tr.2).2) := by
  rw [handleData_accepted h0 hopen]
  cases fin <;> exact ⟨rfl, rfl, rfl, rfl, rfl, rfl, rfl, rfl⟩

/-- what the duplicate trim leaves out was there already -/
theorem handleData_mem {c : Conn} {s : Stream} {off : Int} {b : List Nat} {fin : Bool} (hwf : WF s.inset)
    (h0 : (handleData c s off b fin).2.2 = 0) (hopen : ¬ (s.inclosed.isSet = true ∨ s.inresetcode ≠ -1)) (x : Int) :
    Mem (handleData c s off b fin).2.1.inset x ↔ (Mem s.inset x ∨ (off ≤ x ∧ x < off + b.length)) := by
  rw [(handleData_shape h0 hopen).2.1, mem_add_all _ _ _ hwf]
  obtain ⟨h1, _, h3, _⟩ := trim_facts s off (off + b.length) b (by omega)
  refine ⟨fun h => h.imp id fun h => ⟨Int.le_trans h1 h.1, h.2⟩, fun h => h.elim Or.inl fun h => ?_⟩
  by_cases hx : x < (trim s off (off + b.length) b).2
  · exact Or.inl (h3 x h.1 hx)
  · exact Or.inr ⟨Int.not_lt.1 hx, h.2⟩

theorem write_RI {w : List Nat} {s t : Stream} {spec : Spec} {o : Int} {b : List Nat} (h : RI w s spec)
    (hf : FrameOf w o b) (hinp : t.inp = (pipeWrite s.inp b o).1)
    (hset : t.inset = Rangeset.add s.inset o (o + b.length)) (hbuf : t.inbuf = s.inbuf)
    (hoff : t.inbufoff = s.inbufoff) :
    RI w t (specWrite spec b o) ∧ t.inp.start = s.inp.start ∧ (pipeWrite s.inp b o).2 = false := by
  obtain ⟨hp, hinv', hrel'⟩ := writeAt_refines chunk (by decide) s.inp spec b o h.inv h.rel
  obtain ⟨hstart, hstop, hend, hdata⟩ := specWrite_facts spec b o
  have hoe : o ≤ o + (b.length : Int) := Int.le_add_of_nonneg_right (Int.natCast_nonneg _)
  have r1 := h.rel.1
  have hst : t.inp.start = s.inp.start := by rw [hinp]; exact hrel'.1.trans (hstart.trans r1.symm)
  have hsp : t.inp.stop = (specWrite spec b o).stop := by rw [hinp]; exact hrel'.2.1
  have hstop' : s.inp.stop ≤ (specWrite spec b o).stop := by rw [h.rel.2.1]; exact hstop
  have hstart' : spec.start ≤ (specWrite spec b o).stop := by rw [← r1]; exact Int.le_trans h.inv.1 hstop'
  have hmem : ∀ x, Mem t.inset x ↔ (Mem s.inset x ∨ (o ≤ x ∧ x < o + b.length)) := fun x => by
    rw [hset]; exact mem_add _ _ _ h.wf hoe x
  refine ⟨⟨by rw [hinp]; exact hinv', by rw [hinp]; exact hrel', by rw [hset]; exact wf_add _ _ _ h.wf hoe,
    ?_, ?_, by rw [hst]; exact h.st0, ?_, ?_, by rw [hbuf, hoff]; exact h.off⟩, hst, hp⟩
  · intro x hx
    rw [hsp]
    rcases (hmem x).1 hx with hx | hx
    · have := h.cov x hx; exact ⟨this.1, Int.lt_of_lt_of_le this.2.1 hstop', this.2.2⟩
    · exact ⟨Int.le_trans hf.1 hx.1,
        Int.lt_of_lt_of_le hx.2 (hend.elim (fun h1 => Int.le_trans h1 hstart') id),
        Int.lt_of_lt_of_le hx.2 hf.2.1⟩
  · intro x hx hm
    rw [hst] at hx
    simp only [hdata x, show spec.start ≤ x from r1 ▸ hx, true_and]
    by_cases hin : o ≤ x ∧ x < o + b.length
    · rw [if_pos hin, hf.2.2 (x - o).toNat (by omega)]
      congr 1; omega
    · rw [if_neg hin]
      exact h.dat x hx (((hmem x).1 hm).resolve_right hin)
  · intro i hi; rw [hbuf] at hi ⊢; rw [hst]; exact h.buf i hi
  · intro x h1 h2
    rw [hst] at h1 h2; rw [hbuf] at h2
    exact (hmem x).2 (Or.inl (h.bufcov x h1 h2))

theorem handleData_RI (w : List Nat) (c : Conn) (s : Stream) (spec : Spec) (off : Int) (b : List Nat) (fin : Bool)
    (h : RI w s spec) (hf : FrameOf w off b)
    (h0 : (handleData c s off b fin).2.2 = 0) (hopen : ¬ (s.inclosed.isSet = true ∨ s.inresetcode ≠ -1)) :
    ∃ spec', RI w (handleData c s off b fin).2.1 spec' ∧ (handleData c s off b fin).2.1.inp.start = s.inp.start ∧
      (handleData c s off b fin).2.1.panicked = s.panicked := by
  obtain ⟨e1, e2, e3, e4, _, _, _, e8⟩ := handleData_shape h0 hopen
  obtain ⟨t1, t2, _, t4⟩ := trim_facts s off (off + b.length) b (by omega)
  generalize trim s off (off + b.length) b = tr at e1 e2 e8 t1 t2 t4
  -- the trimmed frame is itself a slice of `w`, ending where the frame ends
  have hf' := hf.drop (tr.2 - off).toNat (by omega)
  have ho : off + ((tr.2 - off).toNat : Int) = tr.2 := by omega
  have hlen : tr.2 + (tr.1.length : Int) = off + b.length := by rw [t4, List.length_drop]; omega
  rw [← t4, ho] at hf'
  obtain ⟨hri, hst, hp⟩ := write_RI h hf' e1 (by rw [e2, hlen]) e3 e4
  exact ⟨_, hri, hst, by rw [e8, hp, Bool.or_false]⟩

theorem RI.byte {w : List Nat} {s : Stream} {spec : Spec} (h : RI w s spec) {x : Int} (hx : s.inp.start ≤ x)
    (hm : Mem s.inset x) : ∃ v, wAt w x = some v ∧ spec.data x = some v := by
  have hc := h.cov x hm
  refine ⟨w[x.toNat]'(by omega), ?_, ?_⟩
  · unfold wAt; rw [if_pos hc.1]; exact List.getElem?_eq_getElem (by omega)
  · rw [h.dat x hx hm]; unfold wAt; rw [if_pos hc.1]; exact List.getElem?_eq_getElem (by omega)

theorem copy_bytes (w : List Nat) (s : Stream) (spec : Spec) (h : RI w s spec) (k : Nat)
    (hk : ∀ x, s.inp.start ≤ x → x < s.inp.start + k → Mem s.inset x) :
    ∃ bytes, Pipe.copy s.inp s.inp.start k = some bytes ∧ bytes.length = k ∧
      ∀ i : Nat, i < k → bytes[i]? = wAt w (s.inp.start + i) := by
  have hstop : s.inp.start + k ≤ s.inp.stop := by
    by_cases h0 : k = 0
    · subst h0; have := h.inv.1; simpa using this
    · have := (h.cov (s.inp.start + k - 1) (hk _ (by omega) (by omega))).2.1; omega
  have r1 := h.rel.1; have r2 := h.rel.2.1
  obtain ⟨cs, e1, e2, e3⟩ := read_returns_written chunk (by decide) s.inp spec s.inp.start k h.inv h.rel
    (by omega) (Int.natCast_nonneg _) (by omega)
  refine ⟨cs.flatten, by unfold Pipe.copy; rw [e1]; rfl, by omega, ?_⟩
  intro i hi
  obtain ⟨v, hv, hd⟩ := h.byte (by omega) (hk (s.inp.start + i) (by omega) (by omega))
  rw [hv]
  exact e3 i v (by omega) hd

/-- position of the reader: bytes consumed from the pipe plus bytes consumed from the fast-path buffer -/
def pos (s : Stream) : Int := s.inp.start + s.inbufoff

def bytesOf : ReadRes → List Nat
  | .data b _ => b
  | _ => []

theorem read_eq_fast {c : Conn} {s : Stream} {n : Nat} (hw : s.writeOnly = false) (hf : s.inbuf.length > s.inbufoff) :
    QuicStream.read c s n = (c, { s with inbufoff := s.inbufoff + min n (s.inbuf.length - s.inbufoff) },
      .data ((s.inbuf.drop s.inbufoff).take (min n (s.inbuf.length - s.inbufoff))) false) := by
  unfold QuicStream.read
  rw [if_neg (by rw [hw]; exact Bool.false_ne_true), if_pos hf]

theorem read_fast (w : List Nat) (c : Conn) (s : Stream) (spec : Spec) (n : Nat) (h : RI w s spec)
    (hw : s.writeOnly = false) (hf : s.inbuf.length > s.inbufoff) :
    let r := QuicStream.read c s n
    RI w r.2.1 spec ∧ pos r.2.1 = pos s + (bytesOf r.2.2).length ∧
    (bytesOf r.2.2).length = min n (s.inbuf.length - s.inbufoff) ∧
    (∀ i : Nat, i < (bytesOf r.2.2).length → (bytesOf r.2.2)[i]? = wAt w (pos s + i)) ∧ r.2.2 ≠ .panic := by
  rw [read_eq_fast hw hf]
  simp only [bytesOf]
  have hlen : ((s.inbuf.drop s.inbufoff).take (min n (s.inbuf.length - s.inbufoff))).length =
      min n (s.inbuf.length - s.inbufoff) := by
    rw [List.length_take, List.length_drop]; omega
  refine ⟨⟨h.inv, h.rel, h.wf, h.cov, h.dat, h.st0, h.buf, h.bufcov, ?_⟩, ?_, hlen, ?_, ReadRes.noConfusion⟩
  · show s.inbufoff + min n (s.inbuf.length - s.inbufoff) ≤ s.inbuf.length; omega
  · unfold pos; simp only []; rw [hlen]; omega
  · intro i hi
    rw [hlen] at hi
    rw [List.getElem?_take_of_lt (by omega), List.getElem?_drop, h.buf (s.inbufoff + i) (by omega)]
    unfold pos; congr 1; omega

theorem discard_RI {w : List Nat} {s t : Stream} {spec : Spec} (h : RI w s spec) {x : Int} (hx : s.inp.start ≤ x)
    (h1 : t.inp = Pipe.discardBefore s.inp x) (h2 : t.inset = s.inset) (h3 : t.inbuf = []) (h4 : t.inbufoff = 0) :
    RI w t (specDiscard spec x) := by
  have hd := discard_refines chunk s.inp spec x h.inv h.rel (by rw [← h.rel.1]; exact hx)
  have hstop : s.inp.stop ≤ (Pipe.discardBefore s.inp x).stop := by
    show s.inp.stop ≤ if s.inp.stop > x then s.inp.stop else x
    split <;> omega
  refine ⟨by rw [h1]; exact hd.1, by rw [h1]; exact hd.2, by rw [h2]; exact h.wf, ?_, ?_,
    by rw [h1]; exact Int.le_trans h.st0 hx, ?_, ?_, by rw [h3, h4]; exact Nat.le_refl 0⟩
  · intro y hy
    rw [h2] at hy; rw [h1]
    have := h.cov y hy
    exact ⟨this.1, Int.lt_of_lt_of_le this.2.1 hstop, this.2.2⟩
  · intro y hy hm
    rw [h1] at hy; rw [h2] at hm
    exact h.dat y (Int.le_trans hx hy) hm
  · intro i hi; rw [h3] at hi; exact absurd hi (Nat.not_lt_zero _)
  · intro y a b
    rw [h3] at b
    exact absurd b (Int.not_lt.2 (by simpa using a))

theorem peek_bytes (w : List Nat) (s : Stream) (spec : Spec) (h : RI w s spec) (m : Int) (hm : 0 ≤ m)
    (hcov : ∀ x, s.inp.start ≤ x → x < s.inp.start + m → Mem s.inset x) :
    ∃ pb, Pipe.peek s.inp m = some pb ∧ (pb.length : Int) ≤ m ∧
      ∀ i : Nat, i < pb.length → pb[i]? = wAt w (s.inp.start + i) := by
  obtain ⟨pb, e1, e2, e3⟩ := peek_prefix chunk s.inp m h.inv hm
  refine ⟨pb, e1, e2, fun i hi => ?_⟩
  rw [e3 i hi]
  have hmem := hcov (s.inp.start + i) (by omega) (by omega)
  obtain ⟨v, hv, hd⟩ := h.byte (by omega) hmem
  rw [hv]
  exact h.rel.2.2.1 _ v (by have := NetVerif.Proofs.C30.headOff_le_start chunk s.inp h.inv; omega)
    (by rw [← h.rel.2.1]; exact (h.cov _ hmem).2.1) hd

theorem fresh_RI (w : List Nat) (s : Stream) (h1 : s.inp = Pipe.empty) (h2 : s.inset = []) (h3 : s.inbuf = [])
    (h4 : s.inbufoff = 0) : RI w s Spec.empty := by
  refine ⟨by rw [h1]; exact NetVerif.Proofs.C30.inv_empty chunk, by rw [h1]; exact NetVerif.Proofs.C30.rel_empty,
    by rw [h2]; exact ⟨0, trivial⟩, ?_, ?_, by rw [h1]; decide, ?_, ?_, by rw [h3, h4]; simp⟩
  · intro x hx; rw [h2] at hx; simp at hx
  · intro x _ hx; rw [h2] at hx; simp at hx
  · intro i hi; rw [h3] at hi; simp at hi
  · intro x a b; rw [h3] at b; simp at b; omega

/-- deliver one frame (a refused frame aborts the connection: the state is kept) -/
def feed (cs : Conn × Stream) (f : Int × List Nat × Bool) : Conn × Stream :=
  let r := handleData cs.1 cs.2 f.1 f.2.1 f.2.2
  if r.2.2 = 0 then (r.1, r.2.1) else cs

def isOpen (s : Stream) : Prop := ¬ (s.inclosed.isSet = true ∨ s.inresetcode ≠ -1)

/-- everything before the read position (consumed or parked) has been received -/
def Pre (s : Stream) : Prop := ∀ x, 0 ≤ x → x < s.inp.start + s.inbuf.length → Mem s.inset x

/-- a recorded final size bounds everything received -/
def FinInv (s : Stream) : Prop := s.insize ≠ -1 → ∀ x, Mem s.inset x → x < s.insize

/-- One delivered frame, accepted or refused: all that a history needs of it in one statement, so that `handleData`
is opened once. `feed_post` and `feed_fin` name the parts `C19.rstep_inv` uses, `frames_RI` folds the rest. -/
theorem feed_step (w : List Nat) (c : Conn) (s : Stream) (spec : Spec) (f : Int × List Nat × Bool)
    (h : RI w s spec) (ho : isOpen s) (hf : FrameOf w f.1 f.2.1) :
    (∃ spec', RI w (feed (c, s) f).2 spec') ∧ isOpen (feed (c, s) f).2 ∧ (Pre s → Pre (feed (c, s) f).2) ∧
    (FinInv s → FinInv (feed (c, s) f).2) ∧ (s.insize ≠ -1 → (feed (c, s) f).2.insize = s.insize) ∧
    (feed (c, s) f).2.inp.start = s.inp.start ∧ (feed (c, s) f).2.panicked = s.panicked ∧
    (feed (c, s) f).2.inbuf = s.inbuf ∧ (feed (c, s) f).2.inbufoff = s.inbufoff := by
  unfold feed
  by_cases h0 : (handleData c s f.1 f.2.1 f.2.2).2.2 = 0
  · rw [if_pos h0]
    obtain ⟨spec1, h1, hs1, hp1⟩ := handleData_RI w c s spec f.1 f.2.1 f.2.2 h hf h0 ho
    obtain ⟨_, _, e3, e4, e5, e6, e7, _⟩ := handleData_shape h0 ho
    obtain ⟨_, hz, hfin⟩ := checkStreamBounds_ok (handleData_ok_bounds h0).1
    have hmem := handleData_mem h.wf h0 ho
    -- a FIN records the frame end; with a final size recorded before, that is the same size
    have hsz : s.insize ≠ -1 → (handleData c s f.1 f.2.1 f.2.2).2.1.insize = s.insize := fun hne => by
      rw [e7]; split
      · exact (hz hne).2 ‹_›
      · rfl
    refine ⟨⟨spec1, h1⟩, by unfold isOpen; rw [e5, e6]; exact ho,
      fun hp x hx hx2 => (hmem x).2 (Or.inl (hp x hx (by rw [← hs1, ← e3]; exact hx2))), fun hfi hne x hx => ?_,
      hsz, hs1, hp1, e3, e4⟩
    show x < (handleData c s f.1 f.2.1 f.2.2).2.1.insize
    by_cases hs : s.insize = -1
    · -- no final size so far: this frame carries the FIN, and it ends at or above everything received
      rw [e7] at hne ⊢
      have hfin' : f.2.2 = true := Classical.byContradiction fun hn => hne (by rw [if_neg hn]; exact hs)
      rw [if_pos hfin']
      rcases (hmem x).1 hx with h1 | h1
      · have := (h.cov x h1).2.1; have := hfin hfin'; omega
      · exact h1.2
    · rw [hsz hs]
      exact ((hmem x).1 hx).elim (hfi hs x) fun h1 => by have := (hz hs).1; omega
  · rw [if_neg h0]; exact ⟨⟨spec, h⟩, ho, id, id, fun _ => rfl, rfl, rfl, rfl, rfl⟩

theorem feed_post (w : List Nat) (c : Conn) (s : Stream) (spec : Spec) (f : Int × List Nat × Bool)
    (h : RI w s spec) (hp : Pre s) (ho : isOpen s) (hf : FrameOf w f.1 f.2.1) :
    (∃ spec', RI w (feed (c, s) f).2 spec') ∧ Pre (feed (c, s) f).2 ∧ isOpen (feed (c, s) f).2 ∧
      pos (feed (c, s) f).2 = pos s := by
  obtain ⟨a1, a2, a3, _, _, a6, _, _, a9⟩ := feed_step w c s spec f h ho hf
  exact ⟨a1, a3 hp, a2, by unfold pos; rw [a6, a9]⟩

theorem feed_fin (w : List Nat) (c : Conn) (s : Stream) (spec : Spec) (f : Int × List Nat × Bool)
    (h : RI w s spec) (hfi : FinInv s) (ho : isOpen s) (hf : FrameOf w f.1 f.2.1) :
    FinInv (feed (c, s) f).2 ∧ (s.insize ≠ -1 → (feed (c, s) f).2.insize = s.insize) :=
  have a := feed_step w c s spec f h ho hf
  ⟨a.2.2.2.1 hfi, a.2.2.2.2.1⟩

/-- C19, all arrival orders: any sequence of frames that carry slices of one `w` (in order, reordered, duplicated,
overlapping, across chunk boundaries). `panicked` is as it was: no `writeAt` failed. -/
theorem frames_RI (w : List Nat) (frames : List (Int × List Nat × Bool))
    (hf : ∀ f ∈ frames, FrameOf w f.1 f.2.1) :
    ∀ (c : Conn) (s : Stream) (spec : Spec), RI w s spec → isOpen s →
      ∃ spec', RI w (frames.foldl feed (c, s)).2 spec' ∧ isOpen (frames.foldl feed (c, s)).2 ∧
        (frames.foldl feed (c, s)).2.inp.start = s.inp.start ∧ (frames.foldl feed (c, s)).2.panicked = s.panicked ∧
        (frames.foldl feed (c, s)).2.inbuf = s.inbuf ∧ (frames.foldl feed (c, s)).2.inbufoff = s.inbufoff := by
  intro c s spec h ho
  exact Lemmas.foldl_inv_mem feed (fun cs => ∃ spec', RI w cs.2 spec' ∧ isOpen cs.2 ∧ cs.2.inp.start = s.inp.start ∧
      cs.2.panicked = s.panicked ∧ cs.2.inbuf = s.inbuf ∧ cs.2.inbufoff = s.inbufoff) frames
    (fun cs f hfm ⟨spec1, h1, ho1, a3, a4, a5, a6⟩ => by
      obtain ⟨⟨spec', h'⟩, ho', _, _, _, b1, b2, b3, b4⟩ := feed_step w cs.1 cs.2 spec1 f h1 ho1 (hf f hfm)
      exact ⟨spec', h', ho', b1.trans a3, b2.trans a4, b3.trans a5, b4.trans a6⟩)
    (c, s) ⟨spec, h, ho, rfl, rfl, rfl, rfl⟩

/-! The slow path of `Read`, cut into its steps (`read_eq_slow`: put together they are `Read`). -/

/-- drop what the fast path consumed -/
def prep (s : Stream) : Stream :=
  if s.inbufoff > 0 then
    { s with inp := Pipe.discardBefore s.inp (s.inp.start + s.inbufoff), inbufoff := 0, inbuf := [] }
  else s

/-- after the copy: park the rest of the head chunk's readable bytes in `inbuf` -/
def park (s : Stream) (r0 : Rg) : Stream × Int :=
  if r0.s ≤ s.inp.start ∧ r0.e > s.inp.start then
    match Pipe.peek s.inp (r0.e - s.inp.start) with
    | some pb => ({ s with inbuf := pb }, (pb.length : Int))
    | none => ({ s with panicked := true }, 0)
  else (s, 0)

/-- … and schedule a MAX_STREAM_DATA update if the window has moved enough -/
def winUpdate (s : Stream) : Stream :=
  if s.insize = -1 ∨ s.insize > s.inwin then
    let newWindow := s.inp.start + s.inbuf.length + s.inmaxbuf
    if shouldUpdateFlowControl s.inmaxbuf (newWindow - s.inwin) then { s with insendmax := .unsent } else s
  else s

/-- hand out up to `n` bytes of the first received range `r0` -/
def deliver (c : Conn) (s : Stream) (r0 : Rg) (n : Nat) : Conn × Stream × ReadRes :=
  let size := r0.e - s.inp.start
  let n' : Int := if size < n then size else n
  let start := s.inp.start
  let e := start + n'
  match Pipe.copy s.inp start n'.toNat with
  | none => (c, { s with panicked := true }, .panic)
  | some bytes =>
    let s := { s with inp := Pipe.discardBefore s.inp e }
    if e = s.insize then (c.bytesReadOffLoop n', s, .data bytes true) else
    let (s, extra) := park s r0
    let s := winUpdate s
    (c.bytesReadOffLoop (n' + extra), s, .data bytes false)

def slowBody (c : Conn) (s : Stream) (n : Nat) : Conn × Stream × ReadRes :=
  if s.inresetcode ≠ -1 then (c, s, .errReset) else
  if s.inclosed.isSet then (c, s, .errClosed) else
  if s.insize = s.inp.start then (c, s, .eof) else
  match s.inset with
  | [] => (c, { s with panicked := true }, .panic)
  | r0 :: _ =>
    if r0.s ≠ 0 ∨ r0.e ≤ s.inp.start then (c, { s with panicked := true }, .panic) else deliver c s r0 n

theorem read_eq_slow {c : Conn} {s : Stream} {n : Nat} (hw : s.writeOnly = false)
    (hnf : ¬ s.inbuf.length > s.inbufoff) :
    QuicStream.read c s n = if !s.canRead then (c, s, .blocked) else slowBody c (prep s) n := by
  unfold QuicStream.read
  rw [if_neg (by rw [hw]; exact Bool.false_ne_true), if_neg hnf]
  rfl

theorem read_closed {c : Conn} {s : Stream} {n : Nat} (hw : s.writeOnly = false)
    (hnf : ¬ s.inbuf.length > s.inbufoff) (hc : s.inclosed.isSet = true ∨ s.inresetcode ≠ -1) :
    (QuicStream.read c s n).2.2 = if s.inresetcode ≠ -1 then .errReset else .errClosed := by
  have hcan : s.canRead = true := by
    unfold Stream.canRead
    rcases hc with h | h
    · simp only [h, Bool.or_true]
    · simp only [decide_eq_true h, Bool.or_true, Bool.true_or]
  have hp : (prep s).inresetcode = s.inresetcode ∧ (prep s).inclosed = s.inclosed := by
    unfold prep; split <;> exact ⟨rfl, rfl⟩
  rw [read_eq_slow hw hnf, hcan]
  show (slowBody c (prep s) n).2.2 = _
  unfold slowBody
  rw [hp.1, hp.2]
  by_cases hr : s.inresetcode ≠ -1
  · rw [if_pos hr, if_pos hr]
  · rw [if_neg hr, if_neg hr, if_pos (hc.resolve_right hr)]

/-- the receive-side fields the invariants read -/
def recvView (s : Stream) := (s.inp, s.inset, s.inbuf, s.inbufoff, s.inclosed, s.inresetcode, s.insize)

theorem winUpdate_view (s : Stream) : recvView (winUpdate s) = recvView s := by
  unfold winUpdate
  split
  · dsimp only; split <;> rfl
  · rfl

theorem park_post (w : List Nat) (s : Stream) (spec : Spec) (r0 : Rg) (h : RI w s spec) (hb : s.inbuf = [])
    (hcov : ∀ x, s.inp.start ≤ x → x < r0.e → Mem s.inset x) (hle : s.inp.start ≤ r0.e) :
    ∃ pb : List Nat,
      recvView (park s r0).1 = (s.inp, s.inset, pb, s.inbufoff, s.inclosed, s.inresetcode, s.insize) ∧
      (∀ i : Nat, i < pb.length → pb[i]? = wAt w (s.inp.start + i)) ∧ s.inp.start + pb.length ≤ r0.e := by
  unfold park
  by_cases hm : r0.s ≤ s.inp.start ∧ r0.e > s.inp.start
  · rw [if_pos hm]
    obtain ⟨pb, p1, p2, p3⟩ := peek_bytes w s spec h (r0.e - s.inp.start) (by omega) (fun x h1 h2 => hcov x h1 (by omega))
    rw [p1]
    exact ⟨pb, rfl, p3, by omega⟩
  · rw [if_neg hm]
    exact ⟨[], by rw [recvView, hb], fun i hi => absurd hi (Nat.not_lt_zero _), by simpa using hle⟩

theorem prep_RI (w : List Nat) (s : Stream) (spec : Spec) (h : RI w s spec) (hp : Pre s)
    (hnf : ¬ s.inbuf.length > s.inbufoff) :
    ∃ spec1, RI w (prep s) spec1 ∧ (prep s).inbuf = [] ∧ (prep s).inbufoff = 0 ∧ (prep s).inp.start = pos s ∧
      Pre (prep s) ∧ (prep s).inset = s.inset ∧ (prep s).insize = s.insize ∧ (prep s).inclosed = s.inclosed ∧
      (prep s).inresetcode = s.inresetcode ∧ (prep s).panicked = s.panicked := by
  have hoff := h.off
  have hlen : s.inbuf.length = s.inbufoff := by omega
  unfold prep
  by_cases h0 : s.inbufoff > 0
  · rw [if_pos h0]
    refine ⟨_, discard_RI h (Int.le_add_of_nonneg_right (Int.natCast_nonneg _)) rfl rfl rfl rfl, rfl, rfl, rfl, ?_, rfl, rfl,
      rfl, rfl, rfl⟩
    intro x hx hx2
    have hx2' : x < s.inp.start + s.inbufoff + ((([] : List Nat).length : Nat) : Int) := hx2
    simp at hx2'
    exact hp x hx (by omega)
  · rw [if_neg h0]
    have hnil : s.inbuf = [] := List.eq_nil_of_length_eq_zero (by omega)
    exact ⟨spec, h, hnil, by omega, by unfold pos; omega, hp, rfl, rfl, rfl, rfl, rfl⟩

structure ReadPost (w : List Nat) (p0 : Int) (t : Stream) (res : ReadRes) : Prop where
  ri : ∃ spec', RI w t spec'
  pre : Pre t
  adv : pos t = p0 + (bytesOf res).length
  bytes : ∀ i : Nat, i < (bytesOf res).length → (bytesOf res)[i]? = wAt w (p0 + i)
  nopanic : res ≠ .panic
  opn : isOpen t

/-- `Read` reported io.EOF (alone, or together with the last bytes) -/
def isEOF (res : ReadRes) : Prop := res = .eof ∨ ∃ b, res = .data b true

theorem isEOF_data (b : List Nat) (fl : Bool) : isEOF (.data b fl) ↔ fl = true :=
  ⟨fun h => h.elim (fun h => nomatch h) (fun ⟨_, h⟩ => (ReadRes.data.inj h).2), fun h => Or.inr ⟨b, by rw [h]⟩⟩

/-- the result of the slow path at position `p` with final size `z` -/
def SlowShape (p z : Int) (n : Nat) (res : ReadRes) : Prop :=
  (isEOF res ↔ p + (bytesOf res).length = z) ∧ (z = p → bytesOf res = []) ∧
    (z ≠ p → (0 < (bytesOf res).length ↔ 0 < n))

structure SlowPost (w : List Nat) (s : Stream) (n : Nat) (r : Conn × Stream × ReadRes) : Prop where
  post : ReadPost w s.inp.start r.2.1 r.2.2
  shape : SlowShape s.inp.start s.insize n r.2.2
  insize : r.2.1.insize = s.insize
  inset : r.2.1.inset = s.inset

theorem deliver_post (w : List Nat) (c : Conn) (s : Stream) (spec : Spec) (n : Nat) (r0 : Rg) (h : RI w s spec)
    (hb : s.inbuf = []) (hbo : s.inbufoff = 0) (ho : isOpen s) (hz : s.insize ≠ s.inp.start)
    (hlt : s.inp.start < r0.e) (hr0 : ∀ x, 0 ≤ x → x < r0.e → Mem s.inset x) :
    SlowPost w s n (deliver c s r0 n) := by
  have hst0 := h.st0
  unfold deliver
  simp only []
  generalize hn' : (if r0.e - s.inp.start < (n : Int) then r0.e - s.inp.start else (n : Int)) = n'
  have hn'0 : 0 ≤ n' ∧ s.inp.start + n' ≤ r0.e ∧ (0 < n' ↔ 0 < n) := by rw [← hn']; split <;> omega
  have hk : (n'.toNat : Int) = n' := Int.toNat_of_nonneg hn'0.1
  have hs0 : 0 ≤ s.inp.start + n' := Int.add_nonneg hst0 hn'0.1
  obtain ⟨bytes, e1, e2, e3⟩ := copy_bytes w s spec h n'.toNat
    (fun x h1 h2 => hr0 x (Int.le_trans hst0 h1) (Int.lt_of_lt_of_le (hk ▸ h2) hn'0.2.1))
  simp only [e1]
  have hlenpos : 0 < bytes.length ↔ 0 < n := by rw [e2]; omega
  have hS : RI w { s with inp := Pipe.discardBefore s.inp (s.inp.start + n') } (specDiscard spec (s.inp.start + n')) :=
    discard_RI h (Int.le_add_of_nonneg_right hn'0.1) rfl rfl hb hbo
  -- every way out: the pipe discarded up to `start + n'`, valid bytes `pb` parked
  have exit : ∀ (c' : Conn) (t : Stream) (pb : List Nat) (fl : Bool),
      recvView t = (Pipe.discardBefore s.inp (s.inp.start + n'), s.inset, pb, s.inbufoff, s.inclosed, s.inresetcode,
        s.insize) →
      (∀ i : Nat, i < pb.length → pb[i]? = wAt w (s.inp.start + n' + i)) → s.inp.start + n' + pb.length ≤ r0.e →
      fl = decide (s.inp.start + (bytes.length : Int) = s.insize) → SlowPost w s n (c', t, .data bytes fl) := by
    intro c' t pb fl hv hpb hle hfl
    simp only [recvView, Prod.mk.injEq] at hv
    obtain ⟨v1, v2, v3, v4, v5, v6, v7⟩ := hv
    have hst : t.inp.start = s.inp.start + n' := by rw [v1]; rfl
    refine ⟨⟨⟨_, ⟨by rw [v1]; exact hS.inv, by rw [v1]; exact hS.rel, by rw [v2]; exact h.wf,
        by rw [v2, v1]; exact hS.cov, by rw [v1, v2]; exact hS.dat, by rw [v1]; exact hS.st0,
        by rw [v3, v1]; exact hpb, ?_, by rw [v4, hbo]; exact Nat.zero_le _⟩⟩, ?_, ?_,
        fun i hi => e3 i (by rw [← e2]; exact hi), ReadRes.noConfusion, by unfold isOpen; rw [v5, v6]; exact ho⟩,
      ⟨by rw [isEOF_data, hfl, decide_eq_true_eq]; rfl, fun h => absurd h hz, fun _ => hlenpos⟩, v7, v2⟩
    · intro x h1 h2
      rw [hst] at h1; rw [hst, v3] at h2; rw [v2]
      exact hr0 x (Int.le_trans hs0 h1) (Int.lt_of_lt_of_le h2 hle)
    · intro x h1 h2
      rw [hst, v3] at h2; rw [v2]
      exact hr0 x h1 (Int.lt_of_lt_of_le h2 hle)
    · unfold pos; rw [hst, v4, hbo]
      show s.inp.start + n' + ((0 : Nat) : Int) = s.inp.start + (bytes.length : Int)
      rw [e2, hk]; exact Int.add_zero _
  by_cases heof : s.inp.start + n' = s.insize
  · rw [if_pos heof]
    exact exit _ _ [] true (by rw [recvView, hb]) (fun i hi => absurd hi (Nat.not_lt_zero _)) (by simpa using hn'0.2.1)
      (by rw [e2, hk]; exact (decide_eq_true heof).symm)
  · rw [if_neg heof]
    obtain ⟨pb, hv, hpb, hle⟩ := park_post w _ _ r0 hS hb (fun x h1 h2 => hr0 x (Int.le_trans hs0 h1) h2)
      hn'0.2.1
    generalize park _ r0 = p at hv ⊢
    exact exit _ _ pb false ((winUpdate_view p.1).trans hv) hpb hle (by rw [e2, hk]; exact (decide_eq_false heof).symm)

theorem head_covers (r0 : Rg) (rest : RS) (p : Int) (hwf : WF (r0 :: rest)) (hp : 0 ≤ p)
    (hall : ∀ x, 0 ≤ x → x ≤ p → Mem (r0 :: rest) x) (hnn : ∀ x, Mem (r0 :: rest) x → 0 ≤ x) :
    r0.s = 0 ∧ p < r0.e := by
  obtain ⟨b, hb⟩ := hwf
  have hne : r0.s < r0.e := hb.2.1
  have h0 : r0.s ≤ 0 := NetVerif.Proofs.C24.chain_head_le hb (hall 0 (Int.le_refl _) hp)
  have h1 : 0 ≤ r0.s := hnn r0.s ⟨r0, by simp, Int.le_refl _, hne⟩
  refine ⟨by omega, ?_⟩
  apply Int.not_le.1
  intro hle
  have hm := hall r0.e (by omega) hle
  rw [NetVerif.Proofs.C24.mem_cons] at hm
  rcases hm with hm | hm
  · omega
  · have := NetVerif.Proofs.C24.chain_lt_of_mem hb.2.2 hm; omega

theorem slowBody_post (w : List Nat) (c : Conn) (s : Stream) (spec : Spec) (n : Nat) (h : RI w s spec)
    (hb : s.inbuf = []) (hbo : s.inbufoff = 0) (hp : Pre s) (ho : isOpen s)
    (hcr : Rangeset.contains s.inset s.inp.start = true ∨ s.insize = s.inp.start) :
    SlowPost w s n (slowBody c s n) := by
  unfold slowBody
  rw [if_neg (fun x => ho (Or.inr x)), if_neg (fun x => ho (Or.inl x))]
  by_cases hz : s.insize = s.inp.start
  · rw [if_pos hz]
    exact ⟨⟨⟨spec, h⟩, hp, by unfold pos; rw [hbo]; rfl, fun i hi => absurd hi (Nat.not_lt_zero _),
      ReadRes.noConfusion, ho⟩, ⟨⟨fun _ => by rw [hz]; exact Int.add_zero _, fun _ => Or.inl rfl⟩, fun _ => rfl,
        fun h => absurd hz h⟩, rfl, rfl⟩
  · rw [if_neg hz]
    have hmem : Mem s.inset s.inp.start := (NetVerif.Proofs.C24.contains_iff _ h.wf _).1 (hcr.resolve_right hz)
    split
    · rename_i hs; rw [hs] at hmem; exact absurd hmem (by simp)
    · rename_i r0 rest hs
      -- `[0, start]` is received, so the first range is `[0, e)` with `start < e`
      have hhead := head_covers r0 rest s.inp.start (by rw [← hs]; exact h.wf) h.st0
        (fun x h1 h2 => by
          rw [← hs]
          by_cases hx : x = s.inp.start
          · rw [hx]; exact hmem
          · exact hp x h1 (by rw [hb]; simp; omega))
        (fun x hx => (h.cov x (by rw [hs]; exact hx)).1)
      rw [if_neg (by omega)]
      exact deliver_post w c s spec n r0 h hb hbo ho hz hhead.2
        (fun x h1 h2 => by rw [hs]; exact ⟨r0, List.mem_cons_self, by omega, h2⟩)

theorem canRead_iff {w : List Nat} {s : Stream} {spec : Spec} (h : RI w s spec) (ho : isOpen s)
    (hf : ¬ s.inbuf.length > s.inbufoff) :
    s.canRead = true ↔ (Mem s.inset (pos s) ∨ s.insize = pos s) := by
  have hlen : (s.inbuf.length : Int) = s.inbufoff := by have := h.off; omega
  unfold Stream.canRead pos
  rw [← hlen, ← NetVerif.Proofs.C24.contains_iff _ h.wf]
  simp only [Bool.or_eq_true, decide_eq_true_eq]
  exact ⟨fun hc => hc.elim (fun hc => hc.elim id fun h1 => absurd (Or.inr h1) ho) fun h1 => absurd (Or.inl h1) ho,
    fun hc => Or.inl (Or.inl hc)⟩

theorem slow_post (w : List Nat) (c : Conn) (s : Stream) (spec : Spec) (n : Nat) (h : RI w s spec) (hp : Pre s)
    (ho : isOpen s) (hf : ¬ s.inbuf.length > s.inbufoff) (hcr : Mem s.inset (pos s) ∨ s.insize = pos s) :
    ReadPost w (pos s) (slowBody c (prep s) n).2.1 (slowBody c (prep s) n).2.2 ∧
    SlowShape (pos s) s.insize n (slowBody c (prep s) n).2.2 ∧
    (slowBody c (prep s) n).2.1.insize = s.insize ∧ (slowBody c (prep s) n).2.1.inset = s.inset := by
  obtain ⟨spec1, h1, b1, b2, b3, b4, b5, b6, b7, b8, _⟩ := prep_RI w s spec h hp hf
  have hcr := hcr.imp_left (NetVerif.Proofs.C24.contains_iff _ h.wf _).2
  rw [← b3, ← b5, ← b6] at hcr
  have hs := slowBody_post w c (prep s) spec1 n h1 b1 b2 b4 (by unfold isOpen; rw [b7, b8]; exact ho) hcr
  exact ⟨b3 ▸ hs.post, b3 ▸ b6 ▸ hs.shape, hs.insize.trans b6, hs.inset.trans b5⟩

/-- `Read`, every path. The last two clauses say when EOF is reported and when at least one byte is handed out. -/
theorem read_spec (w : List Nat) (c : Conn) (s : Stream) (spec : Spec) (n : Nat) (h : RI w s spec) (hp : Pre s)
    (ho : isOpen s) :
    ReadPost w (pos s) (QuicStream.read c s n).2.1 (QuicStream.read c s n).2.2 ∧
    (QuicStream.read c s n).2.1.insize = s.insize ∧ (QuicStream.read c s n).2.1.inset = s.inset ∧
    (s.writeOnly = false →
      (isEOF (QuicStream.read c s n).2.2 ↔
        (¬ s.inbuf.length > s.inbufoff ∧ pos (QuicStream.read c s n).2.1 = s.insize)) ∧
      (0 < n → (0 < (bytesOf (QuicStream.read c s n).2.2).length ↔
        (Mem s.inset (pos s) ∧ (s.inbuf.length > s.inbufoff ∨ s.insize ≠ pos s))))) := by
  have hnone : ∀ res : ReadRes, bytesOf res = [] → res ≠ .panic → ReadPost w (pos s) s res := fun res h1 h2 =>
    ⟨⟨spec, h⟩, hp, by rw [h1]; exact (Int.add_zero _).symm, fun i hi => by rw [h1] at hi; exact absurd hi (Nat.not_lt_zero _),
      h2, ho⟩
  cases hw : s.writeOnly
  case true =>
    have hr : QuicStream.read c s n = (c, s, .errWriteOnly) := by unfold QuicStream.read; rw [if_pos hw]
    rw [hr]; exact ⟨hnone _ rfl ReadRes.noConfusion, rfl, rfl, nofun⟩
  by_cases hf : s.inbuf.length > s.inbufoff
  · have hfast := read_fast w c s spec n h hw hf
    rw [read_eq_fast hw hf] at hfast ⊢
    refine ⟨⟨⟨spec, hfast.1⟩, hp, hfast.2.1, hfast.2.2.2.1, hfast.2.2.2.2, ho⟩, rfl, rfl, fun _ =>
      ⟨⟨fun hx => absurd ((isEOF_data _ _).1 hx) Bool.false_ne_true, fun hx => absurd hf hx.1⟩, fun hn => ?_⟩⟩
    have hm : Mem s.inset (pos s) := h.bufcov _ (by unfold pos; omega) (by unfold pos; omega)
    simp only [bytesOf, List.length_take, List.length_drop]
    exact ⟨fun _ => ⟨hm, Or.inl hf⟩, fun _ => by omega⟩
  · rw [read_eq_slow hw hf]
    have hcr := canRead_iff h ho hf
    cases hcan : s.canRead
    · -- blocked: the byte at the position is not there and the position is not the final size
      have hno : ¬ (Mem s.inset (pos s) ∨ s.insize = pos s) := fun hx => Bool.false_ne_true (hcan.symm.trans (hcr.2 hx))
      refine ⟨hnone _ rfl ReadRes.noConfusion, rfl, rfl, fun _ =>
        ⟨⟨fun hx => (by rcases hx with hx | ⟨b, hx⟩ <;> cases hx), fun hx => absurd (Or.inr hx.2.symm) hno⟩,
          fun _ => ⟨fun hx => absurd hx (Nat.lt_irrefl 0), fun hx => absurd (Or.inl hx.1) hno⟩⟩⟩
    · simp only [Bool.not_true, Bool.false_eq_true, if_false]
      obtain ⟨hpost, ⟨he, hnil, hsome⟩, hk1, hk2⟩ := slow_post w c s spec n h hp ho hf (hcr.1 hcan)
      refine ⟨hpost, hk1, hk2, fun _ => ⟨?_, fun hn => ?_⟩⟩
      · rw [he, ← hpost.adv]
        exact ⟨fun hx => ⟨hf, hx⟩, fun hx => hx.2⟩
      · by_cases hz : s.insize = pos s
        · rw [hnil hz]
          exact ⟨fun hx => absurd hx (Nat.lt_irrefl 0), fun hm => (hm.2.resolve_left hf hz).elim⟩
        · exact ⟨fun _ => ⟨(hcr.1 hcan).resolve_right hz, Or.inr hz⟩, fun _ => (hsome hz).2 hn⟩

theorem read_post (w : List Nat) (c : Conn) (s : Stream) (spec : Spec) (n : Nat) (h : RI w s spec) (hp : Pre s)
    (ho : isOpen s) :
    ReadPost w (pos s) (QuicStream.read c s n).2.1 (QuicStream.read c s n).2.2 :=
  (read_spec w c s spec n h hp ho).1

/-- `read_spec` where a recorded final size bounds the received set: nothing is handed out at the final size. -/
theorem read_more (w : List Nat) (c : Conn) (s : Stream) (spec : Spec) (n : Nat) (h : RI w s spec) (hp : Pre s)
    (ho : isOpen s) (hfi : FinInv s) (hw : s.writeOnly = false) :
    (isEOF (QuicStream.read c s n).2.2 ↔
      (s.insize ≠ -1 ∧ ¬ s.inbuf.length > s.inbufoff ∧ pos (QuicStream.read c s n).2.1 = s.insize)) ∧
    (0 < n → (0 < (bytesOf (QuicStream.read c s n).2.2).length ↔ Mem s.inset (pos s))) ∧
    (QuicStream.read c s n).2.1.insize = s.insize ∧ (QuicStream.read c s n).2.1.inset = s.inset := by
  obtain ⟨hpost, hz, hs, hm⟩ := read_spec w c s spec n h hp ho
  have hp0 : 0 ≤ pos s := Int.add_nonneg h.st0 (Int.natCast_nonneg _)
  refine ⟨(hm hw).1.trans ⟨fun hx => ⟨?_, hx⟩, fun hx => hx.2⟩, fun hn => ((hm hw).2 hn).trans
    ⟨fun hx => hx.1, fun hx => ⟨hx, Or.inr fun hz => ?_⟩⟩, hz, hs⟩
  · have := hpost.adv; omega
  · have := hfi (by omega) _ hx; omega

end NetVerif.Proofs.Lemmas.QuicRecv
