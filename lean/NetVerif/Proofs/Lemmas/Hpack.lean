import NetVerif.Model.Hpack
import NetVerif.Proofs.Lemmas.IfCases
/-!
The HPACK decoder model, for C01–C03, C05 and C07. The first byte selects one of three small parsers;
each has one lemma saying what an accepted input is and one saying what a rejected input is, and is
`Stable` under extension of the buffer. `Step` says what an accepted representation of each kind does; a
relation that holds across every representation holds across `Write`, sequences of `Write`s and blocks
(`Lifts`).
-/
namespace NetVerif.Proofs.Lemmas.Hpack
open NetVerif.Model.Hpack
open NetVerif.Model

/-- RFC 7541 §6: the kinds of representation. -/
inductive ReprKind where
  | indexed
  | literal (it : IndexType)
  | sizeUpdate

def litBits : IndexType → Nat
  | .indexedTrue => 6
  | _ => 4

/-- First-byte pattern of a literal (`01`, `0000`, `0001`). -/
def litFlag : IndexType → Nat
  | .indexedTrue => 64
  | .indexedFalse => 0
  | .indexedNever => 16

/-- The first-byte patterns `1…`, `01…`, `001…`, `0001…`, `0000…`. They cover every byte, which is why
the last branch of `parseHeaderFieldRepr` (`invalid encoding`) is dead. -/
def reprOf (b : Nat) : ReprKind :=
  if 128 ≤ b then .indexed
  else if 64 ≤ b then .literal .indexedTrue
  else if 32 ≤ b then .sizeUpdate
  else if 16 ≤ b then .literal .indexedNever
  else .literal .indexedFalse

def indexedP (d : DecCore) : Parser Action :=
  (readVarInt 7).bind fun idx =>
    match d.at idx with
    | none => Parser.fail .invalidIndex
    | some e => Parser.pure (.indexed e)

def sizeUpdateP (d : DecCore) : Parser Action :=
  if !d.firstField ∧ d.dyn.size > 0 then Parser.fail .updateNotAtStart
  else (readVarInt 5).bind fun size =>
    if size > d.dyn.allowedMaxSize then Parser.fail .tableUpdateTooLarge
    else Parser.pure (.sizeUpdate size)

def reprParser (d : DecCore) : ReprKind → Parser Action
  | .indexed => indexedP d
  | .literal it => parseLiteral d (litBits it) it
  | .sizeUpdate => sizeUpdateP d

/-- `parseAction` tests the first byte in the order `1…`, `01…`, `0000…`, `0001…`, `001…`. -/
theorem parseAction_cons (d : DecCore) (b : Nat) (p : Bytes) :
    parseAction d (b :: p) = reprParser d (reprOf b) (b :: p) := by
  rw [parseAction, reprOf]
  by_cases h1 : 128 ≤ b
  · rw [if_pos h1, if_pos h1]; rfl
  rw [if_neg h1, if_neg h1]
  by_cases h2 : 64 ≤ b
  · rw [if_pos (by omega), if_pos h2]; rfl
  rw [if_neg (by omega), if_neg h2]
  by_cases h3 : 32 ≤ b
  · rw [if_neg (by omega), if_neg (by omega), if_pos (by omega), if_pos h3, reprParser, sizeUpdateP]
    split <;> rfl
  rw [if_neg h3]
  by_cases h4 : 16 ≤ b
  · rw [if_neg (by omega), if_pos (by omega), if_pos h4]; rfl
  · rw [if_pos (by omega), if_neg h4]; rfl

theorem reprOf_indexed {b : Nat} (h : 128 ≤ b) : reprOf b = .indexed := if_pos h

theorem reprOf_literal (it : IndexType) {b : Nat} (hlo : litFlag it ≤ b) (hhi : b ≤ litFlag it + (2 ^ litBits it - 1)) :
    reprOf b = .literal it := by
  unfold reprOf
  cases it <;> simp only [litFlag, litBits] at hlo hhi
  · rw [if_neg (by omega), if_pos hlo]
  · rw [if_neg (by omega), if_neg (by omega), if_neg (by omega), if_neg (by omega)]
  · rw [if_neg (by omega), if_neg (by omega), if_neg (by omega), if_pos hlo]

theorem reprOf_sizeUpdate {b : Nat} (hlo : 32 ≤ b) (hhi : b < 64) : reprOf b = .sizeUpdate := by
  unfold reprOf
  rw [if_neg (by omega), if_neg (by omega), if_pos hlo]

theorem reprOf_eq_indexedTrue {b : Nat} (h : reprOf b = .literal .indexedTrue) : 64 ≤ b ∧ b < 128 := by
  unfold reprOf at h
  by_cases h1 : 128 ≤ b
  · rw [if_pos h1] at h; cases h
  by_cases h2 : 64 ≤ b
  · exact ⟨h2, Nat.lt_of_not_le h1⟩
  rw [if_neg h1, if_neg h2] at h
  split at h
  · cases h
  · split at h <;> cases h

theorem parseRepr_ok_iff {d : DecCore} {buf : Bytes} {d' : DecCore} {rest : Bytes} {em : Option Field} :
    parseRepr d buf = .ok d' rest em ↔
      ∃ a, parseAction d buf = .ok (a, rest) ∧ applyAction d a = .ok d' em := by
  unfold parseRepr
  constructor
  · intro h
    split at h
    · cases h
    · cases h
    · rename_i a r hpa
      split at h
      · cases h
      · cases h
        rename_i hap
        exact ⟨a, hpa, hap⟩
  · rintro ⟨a, hpa, hap⟩
    rw [hpa]
    simp only [hap]

theorem parseRepr_err_iff {d : DecCore} {buf : Bytes} {d' : DecCore} {e : PErr} :
    parseRepr d buf = .err e d' ↔
      (parseAction d buf = .error e ∧ e ≠ .needMore ∧ d' = d) ∨
      ∃ a rest, parseAction d buf = .ok (a, rest) ∧ applyAction d a = .err e d' := by
  unfold parseRepr
  constructor
  · intro h
    split at h
    · cases h
    · cases h
      rename_i hne hpa
      exact .inl ⟨hpa, hne, rfl⟩
    · rename_i a r hpa
      split at h
      · cases h
        rename_i hap
        exact .inr ⟨a, r, hpa, hap⟩
      · cases h
  · rintro (⟨hpa, hne, rfl⟩ | ⟨a, r, hpa, hap⟩)
    · rw [hpa]
      cases e with
      | needMore => exact absurd rfl hne
      | _ => rfl
    · rw [hpa]
      simp only [hap]

theorem parseRepr_needMore_iff {d : DecCore} {buf : Bytes} :
    parseRepr d buf = .needMore ↔ parseAction d buf = .error .needMore := by
  unfold parseRepr
  constructor
  · intro h
    split at h
    · assumption
    · cases h
    · split at h <;> cases h
  · intro h
    rw [h]

theorem at_some {d : DecCore} {i : Nat} {e : Entry} (h : d.at i = some e) :
    1 ≤ i ∧ i ≤ staticTable.length + d.dyn.ents.length ∧ (e ∈ staticTable ∨ e ∈ d.dyn.ents) := by
  unfold DecCore.at at h
  split at h
  · cases h
  · split at h
    · exact ⟨by omega, by omega, .inl (List.mem_of_getElem? h)⟩
    · split at h
      · cases h
      · exact ⟨by omega, by omega, .inr (List.mem_of_getElem? h)⟩

theorem finishEmit_ok {d : DecCore} {hf : Field} {d' : DecCore} {em : Option Field}
    (h : finishEmit d hf = .ok d' em) :
    d' = d ∧ em = (if d.emitEnabled then some hf else none) ∧
      (d.maxStrLen ≠ 0 → hf.name.length ≤ d.maxStrLen ∧ hf.value.length ≤ d.maxStrLen) := by
  unfold finishEmit callEmit at h
  split at h
  · cases h
  · rename_i hce
    cases h
    split at hce
    · cases hce
    · rename_i hn
      cases hce
      exact ⟨rfl, rfl, fun hm => by simp only [hm, ne_eq, not_false_eq_true, true_and, not_or] at hn; omega⟩

theorem finishEmit_err {d : DecCore} {hf : Field} {e : PErr} {d' : DecCore}
    (h : finishEmit d hf = .err e d') : d' = d ∧ e = .strLen ∧ d.maxStrLen ≠ 0 := by
  unfold finishEmit callEmit at h
  split at h
  · rename_i hce
    cases h
    split at hce
    · rename_i hn
      cases hce
      exact ⟨rfl, rfl, hn.1⟩
    · cases hce
  · cases h

theorem finishEmit_some {d : DecCore} {hf : Field} {d' : DecCore} {f : Field}
    (h : finishEmit d hf = .ok d' (some f)) : d' = d ∧ f = hf ∧ d.emitEnabled = true ∧
      (d.maxStrLen ≠ 0 → f.name.length ≤ d.maxStrLen ∧ f.value.length ≤ d.maxStrLen) := by
  obtain ⟨rfl, hem, hb⟩ := finishEmit_ok h
  split at hem
  · cases hem
    exact ⟨rfl, rfl, ‹_›, hb⟩
  · cases hem

/-- The name `parseFieldLiteral` works with: the table's, or the decoded string if it is wanted. -/
def litName (d : DecCore) (it : IndexType) (tn : Option Bytes) (un : UString) : Except PErr Bytes :=
  match tn with
  | some n => .ok n
  | none => if d.emitEnabled || it.indexed then decodeString d.maxStrLen un else .ok []

def litValue (d : DecCore) (it : IndexType) (uv : UString) : Except PErr Bytes :=
  if d.emitEnabled || it.indexed then decodeString d.maxStrLen uv else .ok []

def afterLiteral (d : DecCore) (it : IndexType) (name value : Bytes) : DecCore :=
  if it.indexed then { d with dyn := d.dyn.add (name, value) } else d

theorem afterLiteral_eq (d : DecCore) (it : IndexType) (name value : Bytes) :
    ∃ dyn', afterLiteral d it name value = { d with dyn := dyn' } ∧
      (dyn' = d.dyn ∨ it = .indexedTrue ∧ dyn' = d.dyn.add (name, value)) := by
  unfold afterLiteral
  cases it
  · exact ⟨_, rfl, .inr ⟨rfl, rfl⟩⟩
  · exact ⟨_, rfl, .inl rfl⟩
  · exact ⟨_, rfl, .inl rfl⟩

theorem applyAction_literal_eq (d : DecCore) (it : IndexType) (tn : Option Bytes) (un uv : UString) :
    applyAction d (.literal it tn un uv) =
      match litName d it tn un with
      | .error e => .err e d
      | .ok name =>
        match litValue d it uv with
        | .error e => .err e d
        | .ok value =>
          finishEmit (afterLiteral d it name value) { name := name, value := value, sensitive := it.sensitive } := rfl

theorem applyLiteral_ok {d : DecCore} {it : IndexType} {tn : Option Bytes} {un uv : UString}
    {d' : DecCore} {em : Option Field} (h : applyAction d (.literal it tn un uv) = .ok d' em) :
    ∃ name value, litName d it tn un = .ok name ∧ litValue d it uv = .ok value ∧
      d' = afterLiteral d it name value ∧
      finishEmit d' { name := name, value := value, sensitive := it.sensitive } = .ok d' em := by
  rw [applyAction_literal_eq] at h
  split at h
  · cases h
  · split at h
    · cases h
    · obtain ⟨rfl, _⟩ := finishEmit_ok h
      exact ⟨_, _, ‹litName d it tn un = _›, ‹litValue d it uv = _›, rfl, h⟩

theorem applyLiteral_err {d : DecCore} {it : IndexType} {tn : Option Bytes} {un uv : UString}
    {e : PErr} {d' : DecCore} (h : applyAction d (.literal it tn un uv) = .err e d') :
    (d' = d ∧ (litName d it tn un = .error e ∨ litValue d it uv = .error e)) ∨
    (∃ name value, d' = afterLiteral d it name value) ∧ e = .strLen ∧ d.maxStrLen ≠ 0 := by
  rw [applyAction_literal_eq] at h
  split at h
  · rename_i hn
    cases h
    exact .inl ⟨rfl, .inl hn⟩
  · split at h
    · rename_i hv
      cases h
      exact .inl ⟨rfl, .inr hv⟩
    · obtain ⟨rfl, he, hm⟩ := finishEmit_err h
      refine .inr ⟨⟨_, _, rfl⟩, he, ?_⟩
      unfold afterLiteral at hm
      split at hm <;> exact hm

theorem bind_ok {α β : Type} {p : Parser α} {f : α → Parser β} {buf : Bytes} {b : β} {rest : Bytes}
    (h : p.bind f buf = .ok (b, rest)) : ∃ a mid, p buf = .ok (a, mid) ∧ f a mid = .ok (b, rest) := by
  unfold Parser.bind at h
  split at h
  · cases h
  · exact ⟨_, _, ‹_›, h⟩

theorem bind_err {α β : Type} {p : Parser α} {f : α → Parser β} {buf : Bytes} {e : PErr}
    (h : p.bind f buf = .error e) : p buf = .error e ∨ ∃ a mid, p buf = .ok (a, mid) ∧ f a mid = .error e := by
  unfold Parser.bind at h
  split at h
  · cases h; exact .inl ‹_›
  · exact .inr ⟨_, _, ‹_›, h⟩

theorem digit_lt (b k : Nat) : b % 128 * 2 ^ (7 * k) + 2 ^ (7 * k) ≤ 2 ^ (7 * (k + 1)) := by
  rw [Nat.mul_succ, Nat.pow_add, ← Nat.succ_mul, Nat.mul_comm (2 ^ (7 * k))]
  exact Nat.mul_le_mul_right _ (Nat.mod_lt b (by decide))

theorem readVarIntLoop_ok : ∀ (p : Bytes) (i k v : Nat) (rest : Bytes), k ≤ 8 →
    readVarIntLoop p i (7 * k) = .ok (v, rest) →
      ∃ c, p = c ++ rest ∧ 1 ≤ c.length ∧ c.length + k ≤ 9 ∧ i ≤ v ∧ v + 2 ^ (7 * k) ≤ i + 2 ^ 63 := by
  intro p
  induction p with
  | nil => intro i k v rest _ h; cases h
  | cons b p ih =>
    intro i k v rest hk h
    rw [readVarIntLoop] at h
    have hd := digit_lt b k
    have hle : 2 ^ (7 * (k + 1)) ≤ 2 ^ 63 := Nat.pow_le_pow_right (by decide) (by omega)
    split at h
    · cases h
      exact ⟨[b], rfl, Nat.le_refl _, by show 1 + k ≤ 9; omega, Nat.le_add_right _ _, by omega⟩
    · split at h
      · cases h
      · obtain ⟨c, hc, h1, h2, h3, h4⟩ := ih _ (k + 1) v rest (by omega) h
        have hl : (b :: c).length = c.length + 1 := rfl
        exact ⟨b :: c, by rw [hc]; rfl, by omega, by omega, by omega, by omega⟩

theorem readVarIntLoop_err : ∀ (p : Bytes) (i k : Nat) (e : PErr), k ≤ 8 →
    readVarIntLoop p i (7 * k) = .error e → e = .varintOverflow ∨ e = .needMore ∧ p.length + k ≤ 8 := by
  intro p
  induction p with
  | nil => intro i k e hk h; cases h; exact .inr ⟨rfl, by rw [List.length_nil, Nat.zero_add]; exact hk⟩
  | cons b p ih =>
    intro i k e hk h
    rw [readVarIntLoop] at h
    split at h
    · cases h
    · split at h
      · cases h; exact .inl rfl
      · refine (ih _ (k + 1) e (by omega) h).imp_right fun h => ⟨h.1, ?_⟩
        have := h.2
        rw [List.length_cons]
        omega

def prefixBits (n b : Nat) : Nat := if n < 8 then b % 2 ^ n else b

theorem readVarInt_cons (n b : Nat) (p : Bytes) :
    readVarInt n (b :: p) =
      if prefixBits n b < 2 ^ n - 1 then .ok (prefixBits n b, p) else readVarIntLoop p (prefixBits n b) 0 := rfl

theorem prefixBits_le (n b : Nat) : prefixBits n b ≤ b := by
  unfold prefixBits
  split
  · exact Nat.mod_le b (2 ^ n)
  · exact Nat.le_refl b

/-- Below `2 ^ 63 + 2 ^ 8`, so that Go's `uint64` never wraps; 0 is a single byte (there is no over-long zero). -/
theorem readVarInt_ok {n : Nat} {buf : Bytes} {v : Nat} {rest : Bytes} (h : readVarInt n buf = .ok (v, rest)) :
    ∃ c, buf = c ++ rest ∧ 1 ≤ c.length ∧ c.length ≤ 10 ∧ (v = 0 → 1 ≤ n → c.length = 1) ∧
      ((∀ b ∈ buf, b < 256) → v < 2 ^ 63 + 2 ^ 8) := by
  cases buf with
  | nil => cases h
  | cons b p =>
    rw [readVarInt_cons] at h
    have hi := prefixBits_le n b
    generalize prefixBits n b = i at h hi
    have hv : v ≤ i + 2 ^ 63 → (∀ x ∈ b :: p, x < 256) → v < 2 ^ 63 + 2 ^ 8 := fun hv hb => by
      have := hb b (List.mem_cons_self ..)
      omega
    split at h
    · cases h
      exact ⟨[b], rfl, Nat.le_refl _, (by decide : 1 ≤ 10), fun _ _ => rfl, hv (Nat.le_add_right _ _)⟩
    · obtain ⟨c, hc, h1, h2, h3, h4⟩ := readVarIntLoop_ok p i 0 v rest (Nat.zero_le _) h
      rw [Nat.add_zero] at h2
      refine ⟨b :: c, by rw [hc]; rfl, Nat.succ_le_succ (Nat.zero_le _), Nat.succ_le_succ h2, fun hv hn => ?_,
        hv (by omega)⟩
      -- the loop starts from the saturated prefix `2 ^ n - 1 ≤ i ≤ v`
      have : 2 ^ 1 ≤ 2 ^ n := Nat.pow_le_pow_right (by decide) hn
      omega

theorem readVarInt_err {n : Nat} {buf : Bytes} {e : PErr} (h : readVarInt n buf = .error e) :
    e = .varintOverflow ∨ e = .needMore ∧ buf.length ≤ 9 := by
  cases buf with
  | nil => cases h; exact .inr ⟨rfl, by decide⟩
  | cons b p =>
    rw [readVarInt_cons] at h
    split at h
    · cases h
    · refine (readVarIntLoop_err p _ 0 e (Nat.zero_le _) h).imp_right fun h => ⟨h.1, ?_⟩
      have := h.2
      rw [List.length_cons]
      omega

theorem readString_inv {m : Nat} {buf : Bytes} {u : UString} {rest : Bytes} (h : readString m buf = .ok (u, rest)) :
    ∃ strLen p', readVarInt 7 buf = .ok (strLen, p') ∧ ¬ (m ≠ 0 ∧ strLen > m) ∧ strLen ≤ p'.length ∧
      u.b = p'.take strLen ∧ rest = p'.drop strLen := by
  cases buf with
  | nil => cases h
  | cons b0 p =>
    rw [readString] at h
    split at h
    · cases h
    · rename_i strLen p' hr
      obtain ⟨hmax, h⟩ := ok_of_ite_error h
      obtain ⟨hlen, h⟩ := ok_of_ite_error h
      cases h
      exact ⟨strLen, p', hr, hmax, Nat.le_of_not_lt hlen, rfl, rfl⟩

theorem readString_ok {m : Nat} {buf : Bytes} {u : UString} {rest : Bytes} (h : readString m buf = .ok (u, rest)) :
    ∃ pre, buf = pre ++ u.b ++ rest ∧ 1 ≤ pre.length ∧ pre.length ≤ 10 ∧ (m ≠ 0 → u.b.length ≤ m) := by
  obtain ⟨strLen, p', hr, hmax, hlen, hu, rfl⟩ := readString_inv h
  obtain ⟨pre, rfl, h1, h2, _⟩ := readVarInt_ok hr
  refine ⟨pre, by rw [hu, List.append_assoc, List.take_append_drop], h1, h2, fun hm => ?_⟩
  rw [hu, List.length_take]
  omega

theorem readString_err {m : Nat} {buf : Bytes} {e : PErr} (h : readString m buf = .error e) :
    e = .varintOverflow ∨ e = .strLen ∨ e = .needMore ∧ (m ≠ 0 → buf.length ≤ m + 9) := by
  cases buf with
  | nil => cases h; exact .inr (.inr ⟨rfl, fun _ => Nat.zero_le _⟩)
  | cons b0 p =>
    rw [readString] at h
    split at h
    · rename_i hr
      cases h
      exact (readVarInt_err hr).imp_right fun h => .inr ⟨h.1, fun _ => Nat.le_trans h.2 (Nat.le_add_left _ _)⟩
    · rename_i strLen p' hr
      obtain ⟨c, hc, _, h2, _⟩ := readVarInt_ok hr
      split at h
      · cases h; exact .inr (.inl rfl)
      · split at h
        · cases h
          refine .inr (.inr ⟨rfl, fun hm => ?_⟩)
          rw [hc, List.length_append]
          omega
        · cases h

/-- What `reprParser d r` can return: an action of kind `r`; an indexed field carries a table entry,
a size update was checked against the allowed maximum. -/
def ActionOK (d : DecCore) (r : ReprKind) : Action → Prop
  | .indexed e => r = .indexed ∧ ∃ idx, d.at idx = some e
  | .literal it _ _ _ => r = .literal it
  | .sizeUpdate s => r = .sizeUpdate ∧ s ≤ d.dyn.allowedMaxSize

/-- What the bytes of a representation can be rejected with: never the model's own guard, and for
lack of bytes only while short. Under a string limit `m` the longest incomplete representation is a
literal with a new name: 1 byte, a complete name of at most `10 + m` bytes and an incomplete value of
at most `m + 9` (`readString_err`), `2 * m + 20` in all; with a name index it is at most `10 + (m + 9)`. -/
def ReprErr (d : DecCore) (buf : Bytes) (e : PErr) : Prop :=
  e ≠ .internal ∧ (e = .needMore → d.maxStrLen ≠ 0 → buf.length ≤ 2 * d.maxStrLen + 20)

theorem parseLiteral_ok {d : DecCore} {n : Nat} {it : IndexType} {buf : Bytes} {a : Action} {rest : Bytes}
    (h : parseLiteral d n it buf = .ok (a, rest)) : ActionOK d (.literal it) a ∧ rest.length < buf.length := by
  obtain ⟨idx, r1, h1, hk⟩ := bind_ok h
  obtain ⟨c1, hc, hc1, _⟩ := readVarInt_ok h1
  rw [hc, List.length_append]
  split at hk
  · cases hat : d.at idx with
    | none => rw [hat] at hk; cases hk
    | some en =>
      rw [hat] at hk
      obtain ⟨uv, r2, h2, hk⟩ := bind_ok hk
      obtain ⟨c2, hc2, _⟩ := readString_ok h2
      cases hk
      exact ⟨rfl, by rw [hc2]; simp only [List.length_append]; omega⟩
  · obtain ⟨un, r2, h2, hk⟩ := bind_ok hk
    obtain ⟨uv, r3, h3, hk⟩ := bind_ok hk
    obtain ⟨c2, hc2, _⟩ := readString_ok h2
    obtain ⟨c3, hc3, _⟩ := readString_ok h3
    cases hk
    exact ⟨rfl, by rw [hc2, hc3]; simp only [List.length_append]; omega⟩

theorem parseLiteral_err {d : DecCore} {n : Nat} (hn : 1 ≤ n) {it : IndexType} {buf : Bytes} {e : PErr}
    (h : parseLiteral d n it buf = .error e) : ReprErr d buf e := by
  -- a string that fails `k` bytes into the buffer
  have hstr : ∀ (k : Nat) {r : Bytes}, readString d.maxStrLen r = .error e → buf.length ≤ r.length + k →
      (d.maxStrLen ≠ 0 → k ≤ d.maxStrLen + 11) → ReprErr d buf e := fun k _ h hl hk => by
    rcases readString_err h with rfl | rfl | ⟨rfl, hb⟩
    · exact ⟨nofun, nofun⟩
    · exact ⟨nofun, nofun⟩
    · exact ⟨nofun, fun _ hm => by have := hb hm; have := hk hm; omega⟩
  rcases bind_err h with h1 | ⟨idx, r1, h1, hk⟩
  · rcases readVarInt_err h1 with rfl | ⟨rfl, hb⟩
    · exact ⟨nofun, nofun⟩
    · exact ⟨nofun, fun _ _ => by omega⟩
  obtain ⟨c1, hc, _, hc1, hz, _⟩ := readVarInt_ok h1
  have hl : buf.length = c1.length + r1.length := by rw [hc, List.length_append]
  split at hk
  · cases hat : d.at idx with
    | none => rw [hat] at hk; cases hk; exact ⟨nofun, nofun⟩
    | some en =>
      rw [hat] at hk
      rcases bind_err hk with h2 | ⟨uv, r2, _, hk⟩
      · exact hstr 10 h2 (by omega) (fun _ => by omega)
      · cases hk
  · -- the name index 0 is one byte
    have hc1 : c1.length = 1 := hz (by omega) hn
    rcases bind_err hk with h2 | ⟨un, r2, h2, hk⟩
    · exact hstr 1 h2 (by omega) (fun _ => by omega)
    · obtain ⟨c2, hc2, _, hc2l, hu⟩ := readString_ok h2
      rcases bind_err hk with h3 | ⟨uv, r3, _, hk⟩
      · refine hstr (11 + un.b.length) h3 ?_ (fun hm => by have := hu hm; omega)
        rw [hl, hc2]
        simp only [List.length_append]
        omega
      · cases hk

theorem litBits_pos (it : IndexType) : 1 ≤ litBits it := by cases it <;> decide

theorem parseAction_ok {d : DecCore} {buf : Bytes} {a : Action} {rest : Bytes}
    (h : parseAction d buf = .ok (a, rest)) :
    (∃ b p, buf = b :: p ∧ ActionOK d (reprOf b) a) ∧ rest.length < buf.length := by
  cases buf with
  | nil => cases h
  | cons b p =>
    rw [parseAction_cons] at h
    refine (?_ : ActionOK d (reprOf b) a ∧ _).imp_left fun h => ⟨b, p, rfl, h⟩
    generalize reprOf b = r at h
    cases r with
    | literal it => exact parseLiteral_ok h
    | indexed =>
      obtain ⟨idx, r1, h1, hk⟩ := bind_ok h
      obtain ⟨c1, hc, hc1, _⟩ := readVarInt_ok h1
      cases hat : d.at idx with
      | none => rw [hat] at hk; cases hk
      | some en =>
        rw [hat] at hk
        cases hk
        exact ⟨⟨rfl, idx, hat⟩, by rw [hc, List.length_append]; omega⟩
    | sizeUpdate =>
      rw [reprParser, sizeUpdateP] at h
      split at h
      · cases h
      · obtain ⟨s, r1, h1, hk⟩ := bind_ok h
        obtain ⟨c1, hc, hc1, _⟩ := readVarInt_ok h1
        split at hk
        · cases hk
        · cases hk
          exact ⟨⟨rfl, by omega⟩, by rw [hc, List.length_append]; omega⟩

theorem parseAction_err {d : DecCore} {buf : Bytes} {e : PErr} (h : parseAction d buf = .error e) :
    ReprErr d buf e := by
  have hint : ∀ {n : Nat} {r : Bytes} {e : PErr}, readVarInt n r = .error e → ReprErr d r e := fun h => by
    rcases readVarInt_err h with rfl | ⟨rfl, hb⟩
    · exact ⟨nofun, nofun⟩
    · exact ⟨nofun, fun _ _ => by omega⟩
  cases buf with
  | nil => cases h; exact ⟨nofun, fun _ _ => Nat.zero_le _⟩
  | cons b p =>
    rw [parseAction_cons] at h
    generalize reprOf b = r at h
    cases r with
    | literal it => exact parseLiteral_err (litBits_pos it) h
    | indexed =>
      rcases bind_err h with h1 | ⟨idx, r1, _, hk⟩
      · exact hint h1
      · cases hat : d.at idx with
        | none => rw [hat] at hk; cases hk; exact ⟨nofun, nofun⟩
        | some en => rw [hat] at hk; cases hk
    | sizeUpdate =>
      rw [reprParser, sizeUpdateP] at h
      split at h
      · cases h; exact ⟨nofun, nofun⟩
      · rcases bind_err h with h1 | ⟨s, r1, _, hk⟩
        · exact hint h1
        · split at hk <;> cases hk
          exact ⟨nofun, nofun⟩

/-- `callEmit` on `f`: within the string limit, and handed on if emission is enabled. -/
def Emits (d : DecCore) (f : Field) (em : Option Field) : Prop :=
  em = (if d.emitEnabled then some f else none) ∧
    (d.maxStrLen ≠ 0 → f.name.length ≤ d.maxStrLen ∧ f.value.length ≤ d.maxStrLen)

theorem Emits.some {d : DecCore} {g f : Field} (h : Emits d g (some f)) : f = g := by
  have := h.1
  split at this
  · exact (Option.some.inj this)
  · cases this

/-- What an accepted representation of kind `r` does to the decoder, and what it emits. -/
inductive Step (d : DecCore) (r : ReprKind) : DecCore → Option Field → Prop
  | indexed {em : Option Field} (hr : r = .indexed) (idx : Nat) (e : Entry) (hat : d.at idx = some e)
      (hem : Emits d { name := e.1, value := e.2 } em) : Step d r d em
  | sizeUpdate (hr : r = .sizeUpdate) (s : Nat) (hs : s ≤ d.dyn.allowedMaxSize) :
      Step d r { d with dyn := d.dyn.setMaxSize s } none
  | literal {em : Option Field} (it : IndexType) (hr : r = .literal it) (name value : Bytes)
      (hem : Emits d { name := name, value := value, sensitive := it.sensitive } em) :
      Step d r (afterLiteral d it name value) em

theorem Step.emitted {d : DecCore} {r : ReprKind} {d' : DecCore} {f : Field} (h : Step d r d' (some f)) :
    d.maxStrLen ≠ 0 → f.name.length ≤ d.maxStrLen ∧ f.value.length ≤ d.maxStrLen := by
  cases h with
  | indexed _ _ _ _ hem => exact hem.some ▸ hem.2
  | literal _ _ _ _ hem => exact hem.some ▸ hem.2

theorem afterLiteral_cfg (d : DecCore) (it : IndexType) (name value : Bytes) :
    (afterLiteral d it name value).maxStrLen = d.maxStrLen ∧
      (afterLiteral d it name value).emitEnabled = d.emitEnabled := by
  unfold afterLiteral; split <;> exact ⟨rfl, rfl⟩

theorem parseRepr_consumes {d : DecCore} {buf : Bytes} {d' : DecCore} {rest : Bytes} {em : Option Field}
    (h : parseRepr d buf = .ok d' rest em) : rest.length < buf.length :=
  have ⟨_, hpa, _⟩ := parseRepr_ok_iff.1 h
  (parseAction_ok hpa).2

theorem parseRepr_ok {d : DecCore} {buf : Bytes} {d' : DecCore} {rest : Bytes} {em : Option Field}
    (h : parseRepr d buf = .ok d' rest em) :
    ∃ b p, buf = b :: p ∧ rest.length < buf.length ∧ Step d (reprOf b) d' em := by
  obtain ⟨a, hpa, hap⟩ := parseRepr_ok_iff.1 h
  obtain ⟨⟨b, p, rfl, hok⟩, hlt⟩ := parseAction_ok hpa
  refine ⟨b, p, rfl, hlt, ?_⟩
  cases a with
  | indexed e =>
    obtain ⟨hr, idx, hat⟩ := hok
    obtain ⟨rfl, hem⟩ := finishEmit_ok hap
    exact .indexed hr idx e hat hem
  | sizeUpdate s =>
    cases hap
    exact .sizeUpdate hok.1 s hok.2
  | literal it tn un uv =>
    obtain ⟨name, value, _, _, rfl, hfe⟩ := applyLiteral_ok hap
    -- `callEmit` sees the state after the table update, with the same limit and switch
    have hc := afterLiteral_cfg d it name value
    have hem := (finishEmit_ok hfe).2
    rw [hc.1, hc.2] at hem
    exact .literal it hok name value hem

theorem decodeString_err {m : Nat} {u : UString} {e : PErr} (h : decodeString m u = .error e) :
    e = .huffman ∨ e = .strLen := by
  unfold decodeString at h
  split at h
  · cases h
  · split at h
    · cases h
    · cases h; exact .inl rfl
    · cases h; exact .inr rfl

/-- The second disjunct: `parseFieldLiteral` adds an incrementally indexed literal to the table before
`callEmit` finds it too long. -/
theorem parseRepr_err {d : DecCore} {buf : Bytes} {e : PErr} {d' : DecCore} (h : parseRepr d buf = .err e d') :
    e ≠ .internal ∧ e ≠ .needMore ∧
      (d' = d ∨ e = .strLen ∧ d.maxStrLen ≠ 0 ∧ ∃ b p x, buf = b :: p ∧ reprOf b = .literal .indexedTrue ∧
        d' = { d with dyn := d.dyn.add x }) := by
  rcases parseRepr_err_iff.1 h with ⟨hpa, hne, hd⟩ | ⟨a, rest, hpa, hap⟩
  · exact ⟨(parseAction_err hpa).1, hne, .inl hd⟩
  obtain ⟨⟨b, p, rfl, hok⟩, _⟩ := parseAction_ok hpa
  cases a with
  | indexed en =>
    obtain ⟨rfl, rfl, _⟩ := finishEmit_err hap
    exact ⟨nofun, nofun, .inl rfl⟩
  | sizeUpdate s => cases hap
  | literal it tn un uv =>
    have hdec : ∀ {m : Nat} {u : UString}, decodeString m u = .error e → e ≠ .internal ∧ e ≠ .needMore := fun h => by
      rcases decodeString_err h with rfl | rfl <;> exact ⟨nofun, nofun⟩
    rcases applyLiteral_err hap with ⟨hd, hn | hv⟩ | ⟨⟨name, value, rfl⟩, rfl, hm⟩
    · unfold litName at hn
      split at hn
      · cases hn
      · split at hn
        · exact ⟨(hdec hn).1, (hdec hn).2, .inl hd⟩
        · cases hn
    · unfold litValue at hv
      split at hv
      · exact ⟨(hdec hv).1, (hdec hv).2, .inl hd⟩
      · cases hv
    · refine ⟨nofun, nofun, ?_⟩
      obtain ⟨dyn', hd, rfl | ⟨rfl, rfl⟩⟩ := afterLiteral_eq d it name value
      · exact .inl hd
      · exact .inr ⟨rfl, hm, b, p, _, rfl, hok, hd⟩

/-- `d'` is the state one representation leaves, accepted or rejected (a rejection can leave a changed
state, see `parseRepr_err`). -/
def EndsIn (d : DecCore) (buf : Bytes) (d' : DecCore) : Prop :=
  (∃ rest em, parseRepr d buf = .ok d' rest em) ∨ ∃ e, parseRepr d buf = .err e d'

theorem parseRepr_shape {d : DecCore} {buf : Bytes} {d' : DecCore} (h : EndsIn d buf d') :
    ∃ dyn', d' = { d with dyn := dyn' } ∧
      (dyn' = d.dyn ∨ (∃ s, s ≤ d.dyn.allowedMaxSize ∧ dyn' = d.dyn.setMaxSize s) ∨ ∃ e, dyn' = d.dyn.add e) := by
  rcases h with ⟨rest, em, h⟩ | ⟨e, h⟩
  · obtain ⟨b, p, _, _, hs⟩ := parseRepr_ok h
    cases hs with
    | indexed => exact ⟨_, rfl, .inl rfl⟩
    | sizeUpdate _ s hs => exact ⟨_, rfl, .inr (.inl ⟨s, hs, rfl⟩)⟩
    | literal it _ name value =>
      obtain ⟨dyn', hd, hs⟩ := afterLiteral_eq d it name value
      exact ⟨dyn', hd, hs.imp_right fun h => .inr ⟨_, h.2⟩⟩
  · rcases (parseRepr_err h).2.2 with rfl | ⟨_, _, _, _, x, _, _, rfl⟩
    · exact ⟨_, rfl, .inl rfl⟩
    · exact ⟨_, rfl, .inr (.inr ⟨x, rfl⟩)⟩

/-- The result of a parser that did not look at the `q` appended to its input. -/
def extend {α : Type} (q : Bytes) : Except PErr (α × Bytes) → Except PErr (α × Bytes)
  | .ok (a, rest) => .ok (a, rest ++ q)
  | .error e => .error e

/-- Unless `p` asks for more, it does on an extended buffer what it does on the buffer. -/
def Stable {α : Type} (p : Parser α) : Prop :=
  ∀ buf q, p buf = .error .needMore ∨ p (buf ++ q) = extend q (p buf)

theorem Stable.ok {α : Type} {p : Parser α} (hp : Stable p) {buf : Bytes} {a : α} {rest : Bytes}
    (h : p buf = .ok (a, rest)) (q : Bytes) : p (buf ++ q) = .ok (a, rest ++ q) := by
  rcases hp buf q with h' | h'
  · rw [h] at h'; cases h'
  · rw [h', h]; rfl

theorem Stable.err {α : Type} {p : Parser α} (hp : Stable p) {buf : Bytes} {e : PErr}
    (h : p buf = .error e) (hne : e ≠ .needMore) (q : Bytes) : p (buf ++ q) = .error e := by
  rcases hp buf q with h' | h'
  · rw [h] at h'
    cases h'
    exact absurd rfl hne
  · rw [h', h]; rfl

theorem stable_pure {α : Type} (a : α) : Stable (Parser.pure a) := fun _ _ => .inr rfl

theorem stable_fail {α : Type} (e : PErr) : Stable (Parser.fail e : Parser α) := fun _ _ => .inr rfl

theorem stable_bind {α β : Type} {p : Parser α} {f : α → Parser β}
    (hp : Stable p) (hf : ∀ a, Stable (f a)) : Stable (p.bind f) := by
  intro buf q
  unfold Parser.bind
  rcases hp buf q with h | h
  · rw [h]; exact .inl rfl
  · rw [h]
    cases p buf with
    | error e => exact .inr rfl
    | ok ar => exact hf ar.1 ar.2 q

theorem stable_readVarIntLoop (i m : Nat) : Stable (fun buf => readVarIntLoop buf i m) := by
  intro buf
  induction buf generalizing i m with
  | nil => exact fun _ => .inl rfl
  | cons b p ih =>
    intro q
    simp only [List.cons_append, readVarIntLoop]
    split
    · exact .inr rfl
    · split
      · exact .inr rfl
      · exact ih _ _ q

theorem stable_readVarInt (n : Nat) : Stable (readVarInt n) := by
  intro buf q
  cases buf with
  | nil => exact .inl rfl
  | cons b p =>
    rw [List.cons_append, readVarInt_cons, readVarInt_cons]
    split
    · exact .inr rfl
    · exact stable_readVarIntLoop _ _ p q

theorem stable_readString (m : Nat) : Stable (readString m) := by
  intro buf q
  cases buf with
  | nil => exact .inl rfl
  | cons b0 p =>
    have hv := stable_readVarInt 7 (b0 :: p) q
    simp only [List.cons_append, readString] at hv ⊢
    rcases hv with hv | hv
    · rw [hv]; exact .inl rfl
    · rw [hv]
      cases readVarInt 7 (b0 :: p) with
      | error e => exact .inr rfl
      | ok ar =>
        obtain ⟨strLen, p'⟩ := ar
        simp only [extend]
        split
        · exact .inr rfl
        · by_cases hlen : p'.length < strLen
          · rw [if_pos hlen]; exact .inl rfl
          · have h1 : strLen ≤ p'.length := Nat.le_of_not_lt hlen
            rw [if_neg hlen, if_neg (by rw [List.length_append]; omega),
              List.take_append_of_le_length h1, List.drop_append_of_le_length h1]
            exact .inr rfl

theorem stable_parseLiteral (d : DecCore) (n : Nat) (it : IndexType) : Stable (parseLiteral d n it) := by
  unfold parseLiteral
  refine stable_bind (stable_readVarInt n) fun nameIdx => ?_
  split
  · split
    · exact stable_fail _
    · exact stable_bind (stable_readString _) fun uv => stable_pure _
  · exact stable_bind (stable_readString _) fun un => stable_bind (stable_readString _) fun uv => stable_pure _

theorem stable_reprParser (d : DecCore) (r : ReprKind) : Stable (reprParser d r) := by
  cases r with
  | indexed =>
    refine stable_bind (stable_readVarInt 7) fun idx => ?_
    split
    · exact stable_fail _
    · exact stable_pure _
  | literal it => exact stable_parseLiteral d _ it
  | sizeUpdate =>
    show Stable (sizeUpdateP d)
    unfold sizeUpdateP
    split
    · exact stable_fail _
    · refine stable_bind (stable_readVarInt 5) fun size => ?_
      split
      · exact stable_fail _
      · exact stable_pure _

theorem stable_parseAction (d : DecCore) : Stable (parseAction d) := by
  intro buf q
  cases buf with
  | nil => exact .inl rfl
  | cons b p =>
    rw [List.cons_append, parseAction_cons, parseAction_cons]
    exact stable_reprParser d _ (b :: p) q

theorem parseRepr_ok_append {d : DecCore} {buf : Bytes} {d' : DecCore} {rest : Bytes} {em : Option Field}
    (h : parseRepr d buf = .ok d' rest em) (q : Bytes) : parseRepr d (buf ++ q) = .ok d' (rest ++ q) em := by
  obtain ⟨a, hpa, hap⟩ := parseRepr_ok_iff.1 h
  exact parseRepr_ok_iff.2 ⟨a, (stable_parseAction d).ok hpa q, hap⟩

theorem parseRepr_err_append {d : DecCore} {buf : Bytes} {d' : DecCore} {e : PErr}
    (h : parseRepr d buf = .err e d') (q : Bytes) : parseRepr d (buf ++ q) = .err e d' := by
  rcases parseRepr_err_iff.1 h with ⟨hpa, hne, hd⟩ | ⟨a, rest, hpa, hap⟩
  · exact parseRepr_err_iff.2 (.inl ⟨(stable_parseAction d).err hpa hne q, hne, hd⟩)
  · exact parseRepr_err_iff.2 (.inr ⟨a, _, (stable_parseAction d).ok hpa q, hap⟩)

theorem writeLoop_fuel (par : Bool) : ∀ (f1 f2 : Nat) (d : DecCore) (buf : Bytes) (em : List Field),
    buf.length < f1 → buf.length < f2 → writeLoop par f1 d buf em = writeLoop par f2 d buf em := by
  intro f1
  induction f1 with
  | zero => intro f2 d buf em h; omega
  | succ f1 ih =>
    intro f2 d buf em h1 h2
    cases f2 with
    | zero => omega
    | succ f2 =>
      simp only [writeLoop]
      split
      · rfl
      · split
        · rfl
        · rfl
        · split
          · exact ih f2 _ _ _ (by omega) (by omega)
          · rfl

theorem writeLoop_em_prefix (par : Bool) (fuel : Nat) (d : DecCore) (buf : Bytes) (em : List Field) :
    ∃ new, (writeLoop par fuel d buf em).2.1 = em ++ new := by
  induction fuel generalizing d buf em with
  | zero => exact ⟨[], by simp [writeLoop]⟩
  | succ n ih =>
    unfold writeLoop
    split
    · exact ⟨[], by simp⟩
    split
    · split <;> exact ⟨[], by simp⟩
    · exact ⟨[], by simp⟩
    · rename_i d' rest e _
      split
      · obtain ⟨new, hnew⟩ := ih (afterRepr buf d') rest (em ++ optToList e)
        exact ⟨optToList e ++ new, by rw [hnew, List.append_assoc]⟩
      · exact ⟨[], by simp⟩

/-- The loop with sufficient fuel. -/
def loopG (par : Bool) (d : DecCore) (buf : Bytes) (em : List Field) : DecCore × List Field × LoopEnd :=
  writeLoop par (buf.length + 1) d buf em

/-- The progress guard of `writeLoop` is dead by `parseRepr_consumes`. -/
theorem loopG_eq (par : Bool) (d : DecCore) (buf : Bytes) (em : List Field) :
    loopG par d buf em =
      if buf = [] then (d, em, .saved [])
      else match parseRepr d buf with
        | .needMore =>
          if par ∧ d.maxStrLen ≠ 0 ∧ buf.length > paranoiaBound d.maxStrLen then (d, em, .err .strLenParanoia)
          else (d, em, .saved buf)
        | .err e d' => (afterRepr buf d', em, .err e)
        | .ok d' rest e => loopG par (afterRepr buf d') rest (em ++ optToList e) := by
  rw [loopG, writeLoop]
  split
  · rfl
  · cases hpr : parseRepr d buf with
    | needMore => rfl
    | err e d' => rfl
    | ok d' rest e =>
      have hlt := parseRepr_consumes hpr
      simp only [hlt, ↓reduceIte]
      exact writeLoop_fuel par _ _ _ _ _ (by omega) (by omega)

theorem loopG_nil (par : Bool) (d : DecCore) (em : List Field) : loopG par d [] em = (d, em, .saved []) := rfl

theorem loopG_ok {par : Bool} {d d' : DecCore} {buf rest : Bytes} {e : Option Field} (em : List Field)
    (h : parseRepr d buf = .ok d' rest e) :
    loopG par d buf em = loopG par (afterRepr buf d') rest (em ++ optToList e) := by
  have hne : buf ≠ [] := by rintro rfl; cases parseRepr_consumes h
  rw [loopG_eq, if_neg hne, h]

theorem loopG_induct {motive : DecCore → Bytes → List Field → Prop}
    (step : ∀ d buf em, (∀ d' rest e, parseRepr d buf = .ok d' rest e →
      motive (afterRepr buf d') rest (em ++ optToList e)) → motive d buf em)
    (d : DecCore) (buf : Bytes) (em : List Field) : motive d buf em := by
  induction h : buf.length using Nat.strongRecOn generalizing d buf em with
  | _ n ih =>
    exact step d buf em fun d' rest e hpr => ih rest.length (h ▸ parseRepr_consumes hpr) _ _ _ rfl

theorem afterRepr_dyn (buf : Bytes) (d : DecCore) : (afterRepr buf d).dyn = d.dyn := by
  unfold afterRepr; split <;> rfl

theorem afterRepr_maxStrLen (buf : Bytes) (d : DecCore) : (afterRepr buf d).maxStrLen = d.maxStrLen := by
  unfold afterRepr; split <;> rfl

theorem afterRepr_emitEnabled (buf : Bytes) (d : DecCore) : (afterRepr buf d).emitEnabled = d.emitEnabled := by
  unfold afterRepr; split <;> rfl

theorem afterRepr_append (p q : Bytes) (d : DecCore) (hp : p ≠ []) : afterRepr (p ++ q) d = afterRepr p d := by
  cases p with
  | nil => exact absurd rfl hp
  | cons b t => rfl

/-- `loopI…`: the ideal loop `loopG false`, the saveBuf bound off. -/
theorem loopI_append (q : Bytes) (d : DecCore) (p : Bytes) (em : List Field) :
    loopG false d (p ++ q) em =
      match loopG false d p em with
      | (d1, em1, .saved l) => loopG false d1 (l ++ q) em1
      | r => r := by
  induction d, p, em using loopG_induct with
  | step d p em ih =>
    by_cases hnil : p = []
    · subst hnil; rfl
    · rw [loopG_eq false d p, if_neg hnil]
      cases hpr : parseRepr d p with
      | needMore => simp only [Bool.false_eq_true, false_and, ↓reduceIte]
      | err e d' =>
        rw [loopG_eq, if_neg (by simp [hnil]), parseRepr_err_append hpr]
        simp only [afterRepr_append p q _ hnil]
      | ok d' rest e =>
        rw [loopG_ok em (parseRepr_ok_append hpr q), afterRepr_append p q _ hnil]
        exact ih d' rest e hpr

theorem loopI_saved_idem {d : DecCore} {p : Bytes} {em : List Field} {d1 : DecCore} {em1 : List Field} {l : Bytes}
    (h : loopG false d p em = (d1, em1, .saved l)) (em' : List Field) :
    loopG false d1 l em' = (d1, em', .saved l) := by
  induction d, p, em using loopG_induct with
  | step d p em ih =>
    rw [loopG_eq] at h
    split at h
    · cases h; rfl
    · rename_i hnil
      split at h
      · rename_i hpr
        simp only [Bool.false_eq_true, false_and, ↓reduceIte] at h
        cases h
        rw [loopG_eq, if_neg hnil, hpr]
        simp only [Bool.false_eq_true, false_and, ↓reduceIte]
      · cases h
      · rename_i hpr
        exact ih _ _ _ hpr h

theorem loopG_emits (par : Bool) (d : DecCore) (p : Bytes) (em : List Field) :
    loopG par d p em = ((loopG par d p []).1, em ++ (loopG par d p []).2.1, (loopG par d p []).2.2) := by
  refine loopG_induct (motive := fun d p _ => ∀ em, loopG par d p em =
    ((loopG par d p []).1, em ++ (loopG par d p []).2.1, (loopG par d p []).2.2)) ?_ d p [] em
  intro d p _ ih em
  rw [loopG_eq par d p em, loopG_eq par d p []]
  split
  · rw [List.append_nil]
  · split
    · split <;> rw [List.append_nil]
    · rw [List.append_nil]
    · rename_i hpr
      rw [ih _ _ _ hpr (em ++ _), ih _ _ _ hpr ([] ++ _), List.nil_append, List.append_assoc]

theorem writeG_eq (par : Bool) (d : Decoder) {p : Bytes} (hp : p ≠ []) :
    d.writeG par p = finishWrite (loopG par d.toDecCore (d.saveBuf ++ p) []) := by
  rw [Decoder.writeG, if_neg hp]
  rfl

theorem finishWrite_core (r : DecCore × List Field × LoopEnd) : (finishWrite r).1.toDecCore = r.1 := by
  unfold finishWrite
  cases r.2.2 <;> rfl

theorem finishWrite_em (r : DecCore × List Field × LoopEnd) : (finishWrite r).2.1 = r.2.1 := by
  unfold finishWrite
  cases r.2.2 <;> rfl

theorem runChunks_cons (par : Bool) (d : Decoder) (c : Bytes) (cs : List Bytes) :
    runChunks par d (c :: cs) =
      if (d.writeG par c).2.2.isSome then d.writeG par c
      else ((runChunks par (d.writeG par c).1 cs).1,
        (d.writeG par c).2.1 ++ (runChunks par (d.writeG par c).1 cs).2.1,
        (runChunks par (d.writeG par c).1 cs).2.2) := by
  rw [runChunks]
  generalize d.writeG par c = W
  obtain ⟨d1, em1, r⟩ := W
  cases r <;> rfl

/-- A relation between decoder states, labelled with the fields emitted in between, that holds across
every representation, does not look at `firstField`, and composes: it holds across `Write`, a sequence
of `Write`s, and a block with its `Close`. -/
structure Lifts (R : DecCore → List Field → DecCore → Prop) : Prop where
  refl : ∀ d, R d [] d
  trans : ∀ {a b c em1 em2}, R a em1 b → R b em2 c → R a (em1 ++ em2) c
  ff : ∀ {a em b} (v : Bool), R a em b → R a em { b with firstField := v }
  ok : ∀ {d buf d' rest e}, parseRepr d buf = .ok d' rest e → R d (optToList e) d'
  err : ∀ {d buf e d'}, parseRepr d buf = .err e d' → R d [] d'

variable {R : DecCore → List Field → DecCore → Prop}

theorem Lifts.afterRepr (h : Lifts R) {a : DecCore} {em : List Field} {b : DecCore} (buf : Bytes) (hr : R a em b) :
    R a em (afterRepr buf b) := by
  unfold Hpack.afterRepr
  split
  · exact hr
  · exact h.ff false hr

theorem Lifts.loop (h : Lifts R) (par : Bool) (d : DecCore) (buf : Bytes) :
    R d (loopG par d buf []).2.1 (loopG par d buf []).1 := by
  refine loopG_induct (motive := fun d buf _ => R d (loopG par d buf []).2.1 (loopG par d buf []).1) ?_ d buf []
  intro d buf _ ih
  rw [loopG_eq]
  split
  · exact h.refl d
  · split
    · split <;> exact h.refl d
    · exact h.afterRepr buf (h.err ‹_›)
    · rename_i hpr
      rw [loopG_emits]
      exact h.trans (h.afterRepr buf (h.ok hpr)) (ih _ _ _ hpr)

theorem Lifts.write (h : Lifts R) (par : Bool) (d : Decoder) (p : Bytes) :
    R d.toDecCore (d.writeG par p).2.1 (d.writeG par p).1.toDecCore := by
  by_cases hp : p = []
  · subst hp; exact h.refl _
  · rw [writeG_eq par d hp, finishWrite_core, finishWrite_em]
    exact h.loop par _ _

theorem Lifts.chunks (h : Lifts R) (par : Bool) : ∀ (cs : List Bytes) (d : Decoder),
    R d.toDecCore (runChunks par d cs).2.1 (runChunks par d cs).1.toDecCore := by
  intro cs
  induction cs with
  | nil => exact fun d => h.refl _
  | cons c cs ih =>
    intro d
    rw [runChunks_cons]
    split
    · exact h.write par d c
    · exact h.trans (h.write par d c) (ih _)

theorem Lifts.writes (h : Lifts R) (d : Decoder) (cs : List Bytes) :
    R d.toDecCore (runWrites d cs).2.1 (runWrites d cs).1.toDecCore := by
  have hc := h.chunks true cs d
  unfold runWrites runWritesG
  generalize runChunks true d cs = W at hc
  obtain ⟨d1, em, e⟩ := W
  cases e with
  | some e => exact hc
  | none =>
    simp only [Decoder.close]
    split
    · exact hc
    · exact h.ff true hc

theorem lifts_inv (P : DecCore → Prop) (hff : ∀ d v, P d → P { d with firstField := v })
    (hstep : ∀ d buf d', P d → EndsIn d buf d' → P d') : Lifts fun a _ b => P a → P b where
  refl _ := id
  trans h1 h2 := h2 ∘ h1
  ff v h := hff _ v ∘ h
  ok hpr hp := hstep _ _ _ hp (.inl ⟨_, _, hpr⟩)
  err hpr hp := hstep _ _ _ hp (.inr ⟨_, hpr⟩)

end NetVerif.Proofs.Lemmas.Hpack
