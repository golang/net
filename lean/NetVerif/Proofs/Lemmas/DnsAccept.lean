import NetVerif.Proofs.Lemmas.DnsMsg
/-!
The bridge from C37 to C36: what `Message.Unpack` accepts is well formed (`WFMessage`, the hypothesis of
C36's round trips) and has in every record header the `Type` of the body, provided the input consists of
bytes (`BytesWF`). At the end `eraseLens`: equality of messages up to the `Length` header fields, in which
C37 states that a re-packed message unpacks to the same message.
-/
namespace NetVerif.Proofs.DnsAccept
open NetVerif.Model.Dns NetVerif.Proofs.Dns NetVerif.Proofs.C36 NetVerif.Proofs.DnsMsg

def BytesWF (msg : Bytes) : Prop := ∀ b ∈ msg, b < 256

theorem drop_head_lt {msg : Bytes} (hb : BytesWF msg) {off a : Nat} {rest : Bytes}
    (h : msg.drop off = a :: rest) : a < 256 := by
  apply hb
  apply List.mem_of_mem_drop (i := off)
  rw [h]; simp

theorem drop_tail {msg : Bytes} {off a : Nat} {rest : Bytes} (h : msg.drop off = a :: rest) :
    msg.drop (off + 1) = rest := by
  rw [← List.drop_drop, h]; rfl

theorem u16At_lt {msg : Bytes} (hb : BytesWF msg) {off v o : Nat} (h : u16At msg off = .ok (v, o)) :
    v < 65536 := by
  unfold u16At at h
  split at h
  · rename_i a b rest hd
    have ha := drop_head_lt hb hd
    have hb' := drop_head_lt hb (drop_tail hd)
    simp at h
    omega
  · simp at h

theorem u32At_lt {msg : Bytes} (hb : BytesWF msg) {off v o : Nat} (h : u32At msg off = .ok (v, o)) :
    v < 4294967296 := by
  unfold u32At at h
  split at h
  · rename_i a b c d rest hd
    have h1 := drop_head_lt hb hd
    have h2 := drop_head_lt hb (drop_tail hd)
    have h3 := drop_head_lt hb (drop_tail (drop_tail hd))
    have h4 := drop_head_lt hb (drop_tail (drop_tail (drop_tail hd)))
    simp at h
    omega
  · simp at h

theorem bytesAt_length {msg : Bytes} {off n : Nat} {bs : Bytes} (h : bytesAt msg off n = .ok bs) :
    bs.length = n := by
  unfold bytesAt at h
  split at h
  · simp at h
  · simp at h
    rw [← h]
    simp [List.length_take, List.length_drop]
    omega

theorem unpackName_canonical {msg : Bytes} {off : Nat} {n : Bytes} {o : Nat}
    (h : unpackName msg off = .ok (n, o)) : Canonical n := by
  have := unpackLoop_shape msg unpackFuel off 0 [] off n o (by intro l hl; simp at hl)
    (by simp [textOf]) (by simpa [textOf, unpackName] using h)
  refine ⟨this.1, ?_⟩
  rcases this.2 with ⟨_, h1⟩ | h2
  · exact Or.inl h1
  · exact Or.inr h2

theorem nameOnly_canonical {msg : Bytes} {off : Nat} {n : Bytes}
    (h : nameOnly msg off = .ok n) : Canonical n := by
  unfold nameOnly at h
  split at h
  · rename_i n' o hn
    simp at h
    subst h
    exact unpackName_canonical hn
  · simp at h

theorem optLoop_wf {msg : Bytes} (hb : BytesWF msg) (e fuel off : Nat) :
    ∀ os, optLoop msg e fuel off = .ok os → WFPairs16 os := by
  fun_induction optLoop msg e fuel off with
  | case6 fuel off _ code off1 h1 l off2 h2 _ hlen os' hrec ih =>
    rintro _ ⟨⟩ p hp
    rcases List.mem_cons.mp hp with rfl | hp
    · refine ⟨u16At_lt hb h1, ?_⟩
      rw [List.length_take, List.length_drop, Nat.min_eq_left (Nat.le_of_not_lt hlen)]
      exact u16At_lt hb h2
    · exact ih _ hrec p hp
  | case8 => rintro _ ⟨⟩ _ ⟨⟩ -- the end of the record: no option
  | _ => nofun

theorem svcbPass2_wf {msg : Bytes} (l : List (Nat × Nat × Nat)) : ∀ (ps : List (Nat × Bytes)),
    (∀ x ∈ l, x.1 < 65536 ∧ x.2.1 < 65536) → svcbPass2 msg l = .ok ps → WFPairs16 ps := by
  fun_induction svcbPass2 msg l with
  | case1 => rintro _ _ ⟨⟩ _ ⟨⟩
  | case3 key size voff l hlen ps' hrec ih =>
    rintro _ hl ⟨⟩ p hp
    rcases List.mem_cons.mp hp with rfl | hp
    · refine ⟨(hl _ List.mem_cons_self).1, ?_⟩
      rw [List.length_take, List.length_drop, Nat.min_eq_left (Nat.le_of_not_lt hlen)]
      exact (hl _ List.mem_cons_self).2
    · exact ih ps' (fun y hy => hl y (List.mem_cons_of_mem _ hy)) hrec p hp
  | _ => nofun

theorem unpackSVCB_wf {msg : Bytes} (hb : BytesWF msg) {off len prio : Nat} {t : Bytes}
    {ps : List (Nat × Bytes)} (h : unpackSVCB msg off len = .ok (prio, t, ps)) :
    prio < 65536 ∧ Canonical t ∧ WFPairs16 ps := by
  revert h
  fun_cases unpackSVCB msg off len
  case case6 p off1 h1 t' off2 h2 _ l h3 ps' h4 =>
    rintro ⟨⟩
    exact ⟨u16At_lt hb h1, unpackName_canonical h2,
      svcbPass2_wf l _ (fun x hx => by
        obtain ⟨o, g1, g2⟩ := svcbPass1_mem _ _ _ l h3 x hx
        exact ⟨u16At_lt hb g1, u16At_lt hb g2⟩) h4⟩
  all_goals nofun

theorem map_ok {α β : Type} {r : Except Err α} {f : α → β} {y : β} (h : r.map f = .ok y) :
    ∃ x, r = .ok x ∧ f x = y := by
  cases r with
  | error e => simp [Except.map] at h
  | ok x => exact ⟨x, rfl, by simpa [Except.map] using h⟩

theorem unpackBody_wf {msg : Bytes} (hb : BytesWF msg) {off typ len : Nat} {b : Body}
    (htyp : typ < 65536) (h : unpackBody msg off typ len = .ok b) :
    WFBody b ∧ b.realType = typ := by
  revert h
  fun_cases unpackBody msg off typ len
  -- the branches of the type switch that return a body; every other branch passes on the error of a field
  case case1 | case16 => -- A, AAAA
    intro h
    obtain ⟨x, hx, rfl⟩ := map_ok h
    exact ⟨bytesAt_length hx, by subst typ; rfl⟩
  case case2 | case3 | case12 => -- NS, CNAME, PTR
    intro h
    obtain ⟨x, hx, rfl⟩ := map_ok h
    exact ⟨nameOnly_canonical hx, by subst typ; rfl⟩
  case case11 ns o1 h1 mbox o2 h2 _ _ h3 _ _ h4 _ _ h5 _ _ h6 _ _ h7 => -- SOA
    rintro ⟨⟩
    exact ⟨⟨unpackName_canonical h1, unpackName_canonical h2, u32At_lt hb h3, u32At_lt hb h4,
      u32At_lt hb h5, u32At_lt hb h6, u32At_lt hb h7⟩, by subst typ; rfl⟩
  case case14 pref _ h1 => -- MX
    intro h
    obtain ⟨x, hx, rfl⟩ := map_ok h
    exact ⟨⟨u16At_lt hb h1, nameOnly_canonical hx⟩, by subst typ; rfl⟩
  case case15 => -- TXT
    intro h
    obtain ⟨x, hx, rfl⟩ := map_ok h
    exact ⟨trivial, by subst typ; rfl⟩
  case case20 p _ h1 w _ h2 port _ h3 => -- SRV
    intro h
    obtain ⟨x, hx, rfl⟩ := map_ok h
    exact ⟨⟨u16At_lt hb h1, u16At_lt hb h2, u16At_lt hb h3, nameOnly_canonical hx⟩, by subst typ; rfl⟩
  case case21 | case22 => -- SVCB, HTTPS
    intro h
    obtain ⟨⟨p, t, ps⟩, hx, rfl⟩ := map_ok h
    exact ⟨unpackSVCB_wf hb hx, by subst typ; rfl⟩
  case case23 => -- OPT
    intro h
    obtain ⟨x, hx, rfl⟩ := map_ok h
    exact ⟨optLoop_wf hb _ _ _ _ hx, by subst typ; rfl⟩
  case case24 => -- a type without a decoder
    intro h
    obtain ⟨x, hx, rfl⟩ := map_ok h
    exact ⟨⟨htyp, by simp [knownTypes, *]⟩, rfl⟩
  all_goals nofun

theorem unpackQuestion_wf {msg : Bytes} (hb : BytesWF msg) {off : Nat} {q : Question} {o : Nat}
    (h : unpackQuestion msg off = .ok (q, o)) : WFQuestion q := by
  obtain ⟨o1, h1, h2, h3, -⟩ := unpackQuestion_ok h
  exact ⟨unpackName_canonical h1, u16At_lt hb h2, u16At_lt hb h3⟩

theorem unpackResource_wf {msg : Bytes} (hb : BytesWF msg) {off : Nat} {r : Resource} {o : Nat}
    (h : unpackResource msg off = .ok (r, o)) : WFResource r ∧ r.body.realType = r.hdr.typ := by
  obtain ⟨o1, hh, hbody, -⟩ := unpackResource_ok h
  obtain ⟨o2, h1, h2, h3, h4, -⟩ := unpackRHeader_ok hh
  have := unpackBody_wf hb (u16At_lt hb h2) hbody
  exact ⟨⟨unpackName_canonical h1, u16At_lt hb h3, u32At_lt hb h4, this.1⟩, this.2⟩

theorem unpackQuestions_wf {msg : Bytes} (hb : BytesWF msg) : ∀ (k off : Nat) (qs : List Question) (o : Nat),
    unpackQuestions msg k off = .ok (qs, o) → ∀ q ∈ qs, WFQuestion q := by
  intro k
  induction k with
  | zero => intro off qs o h; simp [unpackQuestions] at h; rcases h with ⟨rfl, _⟩; simp
  | succ k ih =>
    intro off qs o h
    obtain ⟨q, o1, qs', h1, h2, rfl⟩ := unpackQuestions_ok h
    intro x hx
    rcases List.mem_cons.mp hx with rfl | hx
    · exact unpackQuestion_wf hb h1
    · exact ih _ _ _ h2 x hx

theorem unpackResources_wf {msg : Bytes} (hb : BytesWF msg) : ∀ (k off : Nat) (rs : List Resource) (o : Nat),
    unpackResources msg k off = .ok (rs, o) → ∀ r ∈ rs, WFResource r ∧ r.body.realType = r.hdr.typ := by
  intro k
  induction k with
  | zero => intro off rs o h; simp [unpackResources] at h; rcases h with ⟨rfl, _⟩; simp
  | succ k ih =>
    intro off rs o h
    obtain ⟨r, o1, rs', h1, h2, rfl⟩ := unpackResources_ok h
    intro x hx
    rcases List.mem_cons.mp hx with rfl | hx
    · exact unpackResource_wf hb h1
    · exact ih _ _ _ h2 x hx

def TypesConsistent (m : Message) : Prop :=
  (∀ r ∈ m.answers, r.body.realType = r.hdr.typ) ∧ (∀ r ∈ m.authorities, r.body.realType = r.hdr.typ) ∧
  (∀ r ∈ m.additionals, r.body.realType = r.hdr.typ)

theorem unpackMessage_wf {msg : Bytes} (hb : BytesWF msg) {m : Message}
    (h : unpackMessage msg = .ok m) : WFMessage m ∧ TypesConsistent m := by
  unfold unpackMessage at h
  split at h
  · rename_i m' o hoff
    obtain rfl := Except.ok.inj h
    obtain ⟨w, o1, o2, o3, hw, hhdr, h1, h2, h3, h4⟩ := unpackMessageOff_ok hoff
    have hq := unpackQuestions_wf hb _ _ _ _ h1
    have han := unpackResources_wf hb _ _ _ _ h2
    have hau := unpackResources_wf hb _ _ _ _ h3
    have had := unpackResources_wf hb _ _ _ _ h4
    have hid : w.id < 65536 := by
      unfold unpackWireHeader at hw
      split at hw
      · rename_i a0 a1 _ _ _ _ _ _ _ _ _ _ _
        have x0 := hb a0 (by simp)
        have x1 := hb a1 (by simp)
        obtain rfl := Except.ok.inj hw
        show a0 * 256 + a1 < 65536
        omega
      · cases hw
    exact ⟨⟨by rw [hhdr]; exact hid, by rw [hhdr]; exact Nat.mod_lt _ (by decide),
      by rw [hhdr]; exact Nat.mod_lt _ (by decide), hq, fun r hr => (han r hr).1,
      fun r hr => (hau r hr).1, fun r hr => (had r hr).1⟩, fun r hr => (han r hr).2,
      fun r hr => (hau r hr).2, fun r hr => (had r hr).2⟩
  · cases h

def eraseLen (r : Resource) : Resource := { r with hdr := { r.hdr with length := 0 } }

/-- the message with every `ResourceHeader.Length` blanked (they count packed bytes, which
depend on compression) -/
def eraseLens (m : Message) : Message :=
  { m with answers := m.answers.map eraseLen, authorities := m.authorities.map eraseLen,
           additionals := m.additionals.map eraseLen }

theorem eraseLen_norm (r : Resource) (len : Nat) (h : r.body.realType = r.hdr.typ) :
    eraseLen (normResource r len) = eraseLen r := by
  simp [eraseLen, normResource, h]

theorem eraseLen_zipWith : ∀ (rs : List Resource) (lens : List Nat), lens.length = rs.length →
    (∀ r ∈ rs, r.body.realType = r.hdr.typ) →
    (List.zipWith normResource rs lens).map eraseLen = rs.map eraseLen := by
  intro rs
  induction rs with
  | nil => intro lens _ _; simp
  | cons r rs ih =>
    intro lens hl ht
    cases lens with
    | nil => simp at hl
    | cons l lens =>
      simp only [List.zipWith_cons_cons, List.map_cons]
      rw [eraseLen_norm r l (ht r (by simp)), ih lens (by simpa using hl) (fun x hx => ht x (by simp [hx]))]

theorem eraseLens_norm (m : Message) (l1 l2 l3 : List Nat) (ht : TypesConsistent m)
    (h1 : l1.length = m.answers.length) (h2 : l2.length = m.authorities.length)
    (h3 : l3.length = m.additionals.length) :
    eraseLens (normMessage m l1 l2 l3) = eraseLens m := by
  simp only [eraseLens, normMessage]
  rw [eraseLen_zipWith _ _ h1 ht.1, eraseLen_zipWith _ _ h2 ht.2.1, eraseLen_zipWith _ _ h3 ht.2.2]

end NetVerif.Proofs.DnsAccept
