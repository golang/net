import NetVerif.Proofs.Lemmas.DnsNames
/-!
Message-level round trip for C36: every `packX` of the writer, run at the end of a buffer `msg`
under the compression invariant, produces bytes that the corresponding `unpackX` reads back -
wherever more bytes follow.
"Reads back" is stated for every buffer `F` that continues `msg ++ bs` (`msg ++ bs <+: F`), with
offsets kept as lengths of such prefixes, so that consecutive reads chain without arithmetic.
-/
namespace NetVerif.Proofs.DnsMsg
open NetVerif.Model.Dns NetVerif.Proofs.Dns NetVerif.Proofs.C36

/-- the invariant for an optional compression map (`nil` map = compression disabled) -/
def CompInvOpt (k : Nat) (msg : Bytes) : Option CompMap → Prop
  | none => True
  | some m => CompInv k msg m

theorem CompInvOpt.append {k : Nat} {msg : Bytes} {c : Option CompMap} (h : CompInvOpt k msg c) (ext : Bytes) :
    CompInvOpt k (msg ++ ext) c := by
  cases c with
  | none => trivial
  | some m => exact CompInv.append h ext

variable {k : Nat}

theorem compInvOpt_iff {msg : Bytes} {c : Option CompMap} :
    CompInvOpt k msg c ↔ ∀ j, CompInvUpTo k j msg c := by
  cases c with
  | none => exact ⟨fun _ _ => compInvUpTo_none, fun _ => trivial⟩
  | some m =>
    exact ⟨fun h _ _ key p hm _ hl => h key p (Option.some.inj hm ▸ hl),
      fun h key p hl => h _ m key p rfl (Nat.le_refl _) hl⟩

theorem packName_spec (msg n bs : Bytes) (comp comp' : Option CompMap)
    (hinv : CompInvOpt k msg comp) (hk : k ≤ msg.length) (hc : Canonical n)
    (hp : packName n msg comp = .ok (bs, comp')) :
    CompInvOpt k (msg ++ bs) comp' ∧
    ∀ F, msg ++ bs <+: F → unpackName F msg.length = .ok (n, (msg ++ bs).length) := by
  obtain ⟨hinv', ls, d, -, hlen, rfl, h10, -, hd⟩ :=
    packName_decodes msg n bs comp comp' (compInvOpt_iff.mp hinv) hk hc hp
  refine ⟨compInvOpt_iff.mpr hinv', ?_⟩
  rintro F ⟨post, rfl⟩
  exact decodes_unpackName (hd.append post) hlen h10

theorem prefix_left {pre a F : Bytes} (h : pre ++ a <+: F) : pre <+: F :=
  (List.prefix_append _ _).trans h

theorem le_length_append {msg : Bytes} (hk : k ≤ msg.length) (x : Bytes) : k ≤ (msg ++ x).length := by
  rw [List.length_append]; exact Nat.le_add_right_of_le hk

theorem u16At_pre {pre F : Bytes} {v : Nat} (h : pre ++ u16 v <+: F) (hv : v < 65536) :
    u16At F pre.length = .ok (v, (pre ++ u16 v).length) := by
  obtain ⟨post, rfl⟩ := h
  have : v / 256 % 256 * 256 + v % 256 = v := by omega
  rw [u16At, List.append_assoc, List.drop_left, List.length_append]
  exact congrArg (fun x => Except.ok (x, pre.length + 2)) this

theorem u32At_pre {pre F : Bytes} {v : Nat} (h : pre ++ u32 v <+: F) (hv : v < 4294967296) :
    u32At F pre.length = .ok (v, (pre ++ u32 v).length) := by
  obtain ⟨post, rfl⟩ := h
  have : v / 16777216 % 256 * 16777216 + v / 65536 % 256 * 65536 + v / 256 % 256 * 256 + v % 256 = v := by
    -- nested divisions by 256 keep the coefficients small for `omega`
    have e2 : v / 65536 = v / 256 / 256 := by rw [Nat.div_div_eq_div_mul]
    have e3 : v / 16777216 = v / 256 / 256 / 256 := by rw [Nat.div_div_eq_div_mul, Nat.div_div_eq_div_mul]
    rw [e2, e3]
    omega
  rw [u32At, List.append_assoc, List.drop_left, List.length_append]
  exact congrArg (fun x => Except.ok (x, pre.length + 4)) this

def WFQuestion (q : Question) : Prop := Canonical q.name ∧ q.typ < 65536 ∧ q.cls < 65536

theorem packQuestion_spec (msg bs : Bytes) (q : Question) (comp comp' : Option CompMap)
    (hinv : CompInvOpt k msg comp) (hk : k ≤ msg.length) (hwf : WFQuestion q)
    (hp : packQuestion q msg comp = .ok (bs, comp')) :
    CompInvOpt k (msg ++ bs) comp' ∧
    ∀ F, msg ++ bs <+: F → unpackQuestion F msg.length = .ok (q, (msg ++ bs).length) := by
  revert hp
  fun_cases packQuestion q msg comp
  case case1 nb _ hn =>
    rintro ⟨⟩
    rcases packName_spec msg q.name nb comp comp' hinv hk hwf.1 hn with ⟨hinv1, hread⟩
    refine ⟨?_, fun F hF => ?_⟩
    · simpa only [List.append_assoc] using hinv1.append (u16 q.typ ++ u16 q.cls)
    · simp only [← List.append_assoc] at hF ⊢
      have p2 := prefix_left hF
      simp only [unpackQuestion, hread F (prefix_left p2), u16At_pre p2 hwf.2.1, u16At_pre hF hwf.2.2]
  case case2 => nofun

theorem nameOnly_of_ok {F : Bytes} {off : Nat} {n : Bytes} {o : Nat}
    (h : unpackName F off = .ok (n, o)) : nameOnly F off = .ok n := by
  simp [nameOnly, h]

theorem textAt_pre {pre s F : Bytes} (h : pre ++ s.length :: s <+: F) :
    textAt F pre.length = .ok (s, (pre ++ s.length :: s).length) := by
  obtain ⟨post, rfl⟩ := h
  have hd : (pre ++ s.length :: s ++ post).drop pre.length = s.length :: (s ++ post) := by
    rw [List.append_assoc, List.drop_left]; rfl
  have hn : ¬ (s ++ post).length < s.length := by rw [List.length_append]; omega
  rw [textAt, hd]
  simp only [hn, if_false, List.take_left' rfl]
  rw [List.length_append, List.length_cons, Nat.add_assoc, Nat.add_comm 1]

/-- The fuel of `txtLoop` is measured in bytes still to read, of which every string takes at least its
length octet. -/
theorem txtLoop_spec (ss : List Bytes) : ∀ (bs : Bytes), packTexts ss = .ok bs →
    ∀ (pre F : Bytes) (n L fuel : Nat), pre ++ bs <+: F → n + bs.length = L → bs.length < fuel →
      txtLoop F L fuel pre.length n = .ok ss := by
  fun_induction packTexts ss with
  | case1 =>
    rintro _ ⟨⟩ pre F n L fuel _ hL hf
    cases fuel with
    | zero => omega
    | succ fuel =>
      have : ¬ n < L := by simp at hL; omega
      simp [txtLoop, this]
  | case3 s ss _ r hr ih =>
    rintro _ ⟨⟩ pre F n L fuel hF hL hf
    cases fuel with
    | zero => omega
    | succ fuel =>
      rw [← List.append_assoc] at hF
      have hlt : n < L := by simp at hL; omega
      have hchk : ¬ (L - n < s.length + 1) := by simp at hL; omega
      have hrec := ih r hr (pre ++ s.length :: s) F (n + s.length + 1) L fuel hF
        (by simp at hL ⊢; omega) (by simp at hf; omega)
      unfold txtLoop
      simp only [hlt, if_true, textAt_pre (prefix_left hF), hchk, if_false, hrec]
  | _ => nofun

def WFPairs16 (ps : List (Nat × Bytes)) : Prop := ∀ p ∈ ps, p.1 < 65536 ∧ p.2.length < 65536

theorem drop_take_pre {pre bs F : Bytes} (h : pre ++ bs <+: F) : (F.drop pre.length).take bs.length = bs := by
  obtain ⟨post, rfl⟩ := h
  rw [List.append_assoc, List.drop_left, List.take_left' rfl]

/-- One entry of an OPT or SVCB body (code or key, length, data) read back: what the loops of
`unpackOPTResource` and `unpackSVCBResource` test and read at the start of the entry. -/
theorem entry_pre {pre d rest F : Bytes} {c : Nat} (h : pre ++ u16 c ++ u16 d.length ++ d ++ rest <+: F)
    (hc : c < 65536) (hd : d.length < 65536) :
    pre.length < (pre ++ u16 c ++ u16 d.length ++ d ++ rest).length ∧
    u16At F pre.length = .ok (c, (pre ++ u16 c).length) ∧
    u16At F (pre ++ u16 c).length = .ok (d.length, (pre ++ u16 c ++ u16 d.length).length) ∧
    ¬ (pre ++ u16 c ++ u16 d.length).length + d.length > (pre ++ u16 c ++ u16 d.length ++ d ++ rest).length ∧
    ¬ F.length - (pre ++ u16 c ++ u16 d.length).length < d.length ∧
    (F.drop (pre ++ u16 c ++ u16 d.length).length).take d.length = d := by
  have p3 := prefix_left h
  have p2 := prefix_left p3
  have hlen := p3.length_le
  refine ⟨?_, u16At_pre (prefix_left p2) hc, u16At_pre p2 hd, ?_, ?_, drop_take_pre p3⟩
  · simp only [List.length_append, u16, List.length_cons]; omega
  · simp only [List.length_append]; omega
  · simp only [List.length_append] at hlen ⊢; omega

theorem optLoop_spec : ∀ (opts : List (Nat × Bytes)), WFPairs16 opts →
    ∀ (pre F : Bytes) (fuel : Nat), pre ++ packOpts opts <+: F → (packOpts opts).length < fuel →
      optLoop F (pre ++ packOpts opts).length fuel pre.length = .ok opts := by
  intro opts
  induction opts with
  | nil =>
    intro _ pre F fuel _ hf
    cases fuel with
    | zero => omega
    | succ fuel => simp [optLoop, packOpts]
  | cons o opts ih =>
    intro hwf pre F fuel hF hf
    rcases o with ⟨code, data⟩
    have hw := hwf (code, data) (by simp)
    have hwf' : WFPairs16 opts := fun p hp => hwf p (by simp [hp])
    cases fuel with
    | zero => omega
    | succ fuel =>
      simp only [packOpts, Nat.mod_eq_of_lt hw.2, ← List.append_assoc] at hF hf ⊢
      obtain ⟨hlt, r1, r2, h3, h4, hdt⟩ := entry_pre hF hw.1 hw.2
      unfold optLoop
      simp only [hlt, if_true, r1, r2, h3, h4, if_false, hdt]
      rw [← List.length_append,
        ih hwf' _ F fuel hF (by simp only [List.length_append, u16, List.length_cons] at hf; omega)]

/-- Both passes of `unpackSVCBResource`; the key order and the value sizes they test were checked by
`SVCBResource.pack`. -/
theorem svcbParams_spec (ps : List (Nat × Bytes)) (prev : Option Nat) : ∀ (pb : Bytes),
    packParams prev ps = .ok pb → WFPairs16 ps →
    ∀ (pre F : Bytes) (fuel : Nat), pre ++ pb <+: F → pb.length < fuel →
      ∃ l, svcbPass1 F (pre ++ pb).length fuel pre.length prev = .ok l ∧ svcbPass2 F l = .ok ps := by
  fun_induction packParams prev ps with
  | case1 =>
    rintro _ ⟨⟩ _ pre F fuel _ hf
    cases fuel with
    | zero => omega
    | succ fuel => exact ⟨[], by simp [svcbPass1], by simp [svcbPass2]⟩
  | case4 prev key value ps hord _ rest hr ih =>
    rintro _ ⟨⟩ hwf pre F fuel hF hf
    have hw := hwf (key, value) (by simp)
    cases fuel with
    | zero => omega
    | succ fuel =>
      simp only [← List.append_assoc] at hF ⊢
      obtain ⟨hlt, r1, r2, h3, h4, hdt⟩ := entry_pre hF hw.1 hw.2
      rcases ih rest hr (fun p hp => hwf p (by simp [hp])) _ F fuel hF
        (by simp only [List.length_append, u16, List.length_cons] at hf; omega) with ⟨l', hp1, hp2⟩
      have hord' : outOfOrder prev key = false := by simpa using hord
      refine ⟨(key, value.length, (pre ++ u16 key ++ u16 value.length).length) :: l', ?_, ?_⟩
      · unfold svcbPass1
        simp only [hlt, if_true, r1, hord', r2, h3, Bool.false_eq_true, if_false]
        rw [← List.length_append, hp1]
      · unfold svcbPass2
        simp only [h4, if_false, hdt, hp2]
  | _ => nofun

/-- A name stored without a pointer passes the SVCB reader's check for a compressed TargetName. -/
theorem targetCompressed_of_decodes {F : Bytes} {off : Nat} {ls : List Bytes} {d e : Nat}
    (hd : Decodes k F off ls d e) (h0 : d = 0) : ∀ fuel, targetCompressed F fuel off e = false := by
  induction hd with
  | nil h =>
    intro fuel
    cases fuel with
    | zero => rfl
    | succ fuel =>
      unfold targetCompressed
      simp only [h, Nat.lt_add_one, if_true, Nat.zero_div, Nat.reduceEqDiff, if_false]
      cases fuel <;> simp [targetCompressed]
  | @label _ l _ _ _ _ h hl _ ih =>
    intro fuel
    cases fuel with
    | zero => rfl
    | succ fuel =>
      have h3 : ¬ l.length / 64 = 3 := by have := hl.2.1; omega
      unfold targetCompressed
      split
      · simp only [h, h3, if_false]; exact ih h0 fuel
      · rfl
  | ptr => omega

/-- `SVCBResource.pack` / `unpackSVCBResource` (no compression is ever used here). -/
theorem svcb_spec (msg bb : Bytes) (prio : Nat) (target : Bytes) (ps : List (Nat × Bytes))
    (hprio : prio < 65536) (hc : Canonical target) (hwf : WFPairs16 ps)
    (hp : packSVCB prio target ps = .ok bb) :
    ∀ F, msg ++ bb <+: F → unpackSVCB F msg.length bb.length = .ok (prio, target, ps) := by
  intro F hF
  unfold packSVCB at hp
  rw [packName_none_buf hc [] (msg ++ u16 prio)] at hp
  split at hp
  · cases hp
  · rename_i tb c hn
    split at hp
    · cases hp
    · rename_i pb hpp
      obtain rfl := Except.ok.inj hp
      simp only [← List.append_assoc] at hF
      obtain ⟨-, ls, d, -, hlen, rfl, -, h0, hd⟩ :=
        packName_decodes (k := 0) _ _ _ none c (fun _ => compInvUpTo_none) (Nat.zero_le _) hc hn
      obtain rfl := h0 rfl
      obtain ⟨post, hpost⟩ := prefix_left hF
      have hdF := hpost ▸ hd.append post
      have hfuel : pb.length < F.length + 1 := by
        have h2 := hF.length_le
        rw [List.length_append] at h2
        omega
      rcases svcbParams_spec ps none pb hpp hwf _ F _ hF hfuel with ⟨l, hp1, hp2⟩
      have hend : msg.length + (u16 prio ++ tb ++ pb).length = (msg ++ u16 prio ++ tb ++ pb).length := by
        simp only [List.length_append]; omega
      unfold unpackSVCB
      simp only [u16At_pre (prefix_left (prefix_left hF)) hprio, decodes_unpackName hdF hlen (Nat.zero_le _),
        targetCompressed_of_decodes hdF rfl, Bool.false_eq_true, if_false, hend, hp1, hp2]

/-- the types `unpackResourceBody` has a case for -/
def knownTypes : List Nat := [1, 2, 5, 6, 12, 15, 16, 28, 33, 41, 64, 65]

/-- Well-formed resource body: canonical names, integer fields within their Go types,
fixed-size addresses, unknown bodies only under types without a dedicated decoder.
(String, value and key-order limits are checked by the packer itself.) -/
def WFBody : Body → Prop
  | .a ip => ip.length = 4
  | .aaaa ip => ip.length = 16
  | .ns n => Canonical n
  | .cname n => Canonical n
  | .ptr n => Canonical n
  | .mx pref n => pref < 65536 ∧ Canonical n
  | .txt _ => True
  | .soa ns mbox a b c d e => Canonical ns ∧ Canonical mbox ∧ a < 4294967296 ∧ b < 4294967296 ∧
      c < 4294967296 ∧ d < 4294967296 ∧ e < 4294967296
  | .srv p w port t => p < 65536 ∧ w < 65536 ∧ port < 65536 ∧ Canonical t
  | .opt opts => WFPairs16 opts
  | .svcb p t ps => p < 65536 ∧ Canonical t ∧ WFPairs16 ps
  | .https p t ps => p < 65536 ∧ Canonical t ∧ WFPairs16 ps
  | .unknown t _ => t < 65536 ∧ t ∉ knownTypes

theorem unpackBody_a (F : Bytes) (off len : Nat) : unpackBody F off 1 len = (bytesAt F off 4).map Body.a := rfl
theorem unpackBody_aaaa (F : Bytes) (off len : Nat) : unpackBody F off 28 len = (bytesAt F off 16).map Body.aaaa := rfl
theorem unpackBody_ns (F : Bytes) (off len : Nat) : unpackBody F off 2 len = (nameOnly F off).map Body.ns := rfl
theorem unpackBody_cname (F : Bytes) (off len : Nat) : unpackBody F off 5 len = (nameOnly F off).map Body.cname := rfl
theorem unpackBody_ptr (F : Bytes) (off len : Nat) : unpackBody F off 12 len = (nameOnly F off).map Body.ptr := rfl
theorem unpackBody_txt (F : Bytes) (off len : Nat) :
    unpackBody F off 16 len = (txtLoop F len (len + 1) off 0).map Body.txt := rfl
theorem unpackBody_opt (F : Bytes) (off len : Nat) :
    unpackBody F off 41 len = (optLoop F (off + len) (F.length + 1) off).map Body.opt := rfl
theorem unpackBody_svcb (F : Bytes) (off len : Nat) :
    unpackBody F off 64 len = (unpackSVCB F off len).map (fun (p, t, ps) => Body.svcb p t ps) := rfl
theorem unpackBody_https (F : Bytes) (off len : Nat) :
    unpackBody F off 65 len = (unpackSVCB F off len).map (fun (p, t, ps) => Body.https p t ps) := rfl
theorem unpackBody_mx (F : Bytes) (off len : Nat) : unpackBody F off 15 len =
    match u16At F off with
    | .error e => .error e
    | .ok (pref, o1) => (nameOnly F o1).map (Body.mx pref) := rfl
theorem unpackBody_srv (F : Bytes) (off len : Nat) : unpackBody F off 33 len =
    match u16At F off with
    | .error e => .error e
    | .ok (prio, o1) =>
      match u16At F o1 with
      | .error e => .error e
      | .ok (weight, o2) =>
        match u16At F o2 with
        | .error e => .error e
        | .ok (port, o3) => (nameOnly F o3).map (Body.srv prio weight port) := rfl
theorem unpackBody_soa (F : Bytes) (off len : Nat) : unpackBody F off 6 len =
    match unpackName F off with
    | .error e => .error e
    | .ok (ns, o1) =>
      match unpackName F o1 with
      | .error e => .error e
      | .ok (mbox, o2) =>
        match u32At F o2 with
        | .error e => .error e
        | .ok (serial, o3) =>
          match u32At F o3 with
          | .error e => .error e
          | .ok (refresh, o4) =>
            match u32At F o4 with
            | .error e => .error e
            | .ok (retry, o5) =>
              match u32At F o5 with
              | .error e => .error e
              | .ok (expire, o6) =>
                match u32At F o6 with
                | .error e => .error e
                | .ok (minTTL, _) => .ok (.soa ns mbox serial refresh retry expire minTTL) := rfl
theorem unpackBody_unknown {typ : Nat} (h : typ ∉ knownTypes) (F : Bytes) (off len : Nat) :
    unpackBody F off typ len = (bytesAt F off len).map (Body.unknown typ) := by
  simp only [knownTypes, List.mem_cons, List.not_mem_nil, or_false, not_or] at h
  simp only [unpackBody, h, if_false]

theorem bytesAt_pre {pre bs F : Bytes} (h : pre ++ bs <+: F) : bytesAt F pre.length bs.length = .ok bs := by
  have h1 : ¬ (pre.length + bs.length > F.length) := by
    rw [← List.length_append]; exact Nat.not_lt.mpr h.length_le
  rw [bytesAt, if_neg h1, drop_take_pre h]

theorem packBody_name_spec (msg bb n : Bytes) (comp comp' : Option CompMap) (mk : Bytes → Body) (typ : Nat)
    (hinv : CompInvOpt k msg comp) (hk : k ≤ msg.length) (hc : Canonical n)
    (hp : packName n msg comp = .ok (bb, comp'))
    (hun : ∀ F off len, unpackBody F off typ len = (nameOnly F off).map mk) :
    CompInvOpt k (msg ++ bb) comp' ∧
    ∀ F, msg ++ bb <+: F → unpackBody F msg.length typ bb.length = .ok (mk n) := by
  rcases packName_spec msg n bb comp comp' hinv hk hc hp with ⟨h2, h3⟩
  refine ⟨h2, fun F hF => ?_⟩
  rw [hun, nameOnly_of_ok (h3 F hF)]
  rfl

/-- By body type: each packed field is a prefix of `F` longer than the one before (`prefix_left`), names by
`packName_spec`, fixed-width fields by `u16At_pre`/`u32At_pre`, the TXT/OPT/SVCB loops by their own specs. -/
theorem packBody_spec (msg bb : Bytes) (b : Body) (comp comp' : Option CompMap)
    (hinv : CompInvOpt k msg comp) (hk : k ≤ msg.length) (hwf : WFBody b)
    (hp : packBody b msg comp = .ok (bb, comp')) :
    CompInvOpt k (msg ++ bb) comp' ∧
    ∀ F, msg ++ bb <+: F → unpackBody F msg.length b.realType bb.length = .ok b := by
  revert hp
  fun_cases packBody b msg comp
  -- one case per body type that packs; in the others a name, a TXT string or an SVCB parameter was refused
  case case1 | case2 => -- A, AAAA
    rintro ⟨⟩
    refine ⟨hinv.append _, fun F hF => ?_⟩
    have hlen : bb.length = _ := hwf
    simp only [Body.realType, typeA, typeAAAA, unpackBody_a, unpackBody_aaaa]
    rw [← hlen, bytesAt_pre hF]; rfl
  case case3 n => exact fun hp => packBody_name_spec msg bb n comp comp' Body.ns 2 hinv hk hwf hp unpackBody_ns
  case case4 n => exact fun hp => packBody_name_spec msg bb n comp comp' Body.cname 5 hinv hk hwf hp unpackBody_cname
  case case5 n => exact fun hp => packBody_name_spec msg bb n comp comp' Body.ptr 12 hinv hk hwf hp unpackBody_ptr
  case case6 pref n nb _ hn => -- MX
    rintro ⟨⟩
    rcases packName_spec (msg ++ u16 pref) n nb comp comp' (hinv.append _) (le_length_append hk _) hwf.2 hn with ⟨h2, h3⟩
    refine ⟨by simpa only [List.append_assoc] using h2, fun F hF => ?_⟩
    rw [← List.append_assoc] at hF
    show unpackBody _ _ 15 _ = _
    simp only [unpackBody_mx, u16At_pre (prefix_left hF) hwf.1, nameOnly_of_ok (h3 F hF)]
    rfl
  case case8 ss _ ht => -- TXT
    rintro ⟨⟩
    refine ⟨hinv.append _, fun F hF => ?_⟩
    have := txtLoop_spec ss bb ht msg F 0 bb.length (bb.length + 1) hF (by simp) (Nat.lt_succ_self _)
    show unpackBody _ _ 16 _ = _
    rw [unpackBody_txt, this]; rfl
  case case12 ns mbox a b c d e b1 c1 hn1 b2 _ hn2 => -- SOA
    rintro ⟨⟩
    rcases hwf with ⟨hc1, hc2, ha, hb, hcc, hd, he⟩
    rcases packName_spec msg ns b1 comp c1 hinv hk hc1 hn1 with ⟨g2, g3⟩
    rcases packName_spec (msg ++ b1) mbox b2 c1 comp' g2 (le_length_append hk _) hc2 hn2 with ⟨k2, k3⟩
    refine ⟨?_, fun F hF => ?_⟩
    · simpa only [List.append_assoc] using k2.append (u32 a ++ u32 b ++ u32 c ++ u32 d ++ u32 e)
    · simp only [← List.append_assoc] at hF
      have p6 := prefix_left hF
      have p5 := prefix_left p6
      have p4 := prefix_left p5
      have p3 := prefix_left p4
      have p2 := prefix_left p3
      show unpackBody _ _ 6 _ = _
      simp only [unpackBody_soa, g3 F (prefix_left p2), k3 F p2, u32At_pre p3 ha, u32At_pre p4 hb, u32At_pre p5 hcc,
        u32At_pre p6 hd, u32At_pre hF he]
  case case13 p w port t tb c1 hn => -- SRV
    rintro ⟨⟩
    rcases hwf with ⟨hp1, hw1, hport, hc⟩
    rcases packName_spec (k := 0) _ t tb none c1 trivial (Nat.zero_le _) hc hn with ⟨-, h3⟩
    refine ⟨hinv.append _, fun F hF => ?_⟩
    simp only [← List.append_assoc] at hF
    have p3 := prefix_left hF
    have p2 := prefix_left p3
    show unpackBody _ _ 33 _ = _
    simp only [unpackBody_srv, u16At_pre (prefix_left p2) hp1, u16At_pre p2 hw1, u16At_pre p3 hport,
      nameOnly_of_ok (h3 F hF)]
    rfl
  case case15 opts => -- OPT
    rintro ⟨⟩
    refine ⟨hinv.append _, fun F hF => ?_⟩
    have h2 := hF.length_le
    show unpackBody _ _ 41 _ = _
    rw [unpackBody_opt, ← List.length_append,
      optLoop_spec opts hwf msg F _ hF (by rw [List.length_append] at h2; omega)]
    rfl
  case case16 p t ps _ hs | case18 p t ps _ hs => -- SVCB, HTTPS
    rintro ⟨⟩
    refine ⟨hinv.append _, fun F hF => ?_⟩
    simp only [Body.realType, typeSVCB, typeHTTPS, unpackBody_svcb, unpackBody_https,
      svcb_spec msg bb p t ps hwf.1 hwf.2.1 hwf.2.2 hs F hF]
    rfl
  case case20 t data => -- a type without a decoder
    rintro ⟨⟩
    refine ⟨hinv.append _, fun F hF => ?_⟩
    rw [Body.realType, unpackBody_unknown hwf.2, bytesAt_pre hF]
    rfl
  all_goals nofun

def WFResource (r : Resource) : Prop :=
  Canonical r.hdr.name ∧ r.hdr.cls < 65536 ∧ r.hdr.ttl < 4294967296 ∧ WFBody r.body

theorem realType_lt {b : Body} (h : WFBody b) : b.realType < 65536 := by
  cases b <;> simp [Body.realType, typeA, typeAAAA, typeNS, typeCNAME, typePTR, typeMX, typeTXT, typeSOA,
    typeSRV, typeOPT, typeSVCB, typeHTTPS]
  exact h.1

/-- What is read back is the record as `Pack` normalises it: its header carries the `Type` of the body and
a `Length` `len`, which the statement leaves open (the proof gives the packed body's length). -/
theorem packResource_spec (msg bs : Bytes) (r : Resource) (comp comp' : Option CompMap)
    (hinv : CompInvOpt k msg comp) (hk : k ≤ msg.length) (hwf : WFResource r)
    (hp : packResource r msg comp = .ok (bs, comp')) :
    CompInvOpt k (msg ++ bs) comp' ∧
    ∃ len, ∀ F, msg ++ bs <+: F → unpackResource F msg.length =
      .ok (normResource r len, (msg ++ bs).length) := by
  rcases hwf with ⟨hc, hcls, httl, hb⟩
  have htyp := realType_lt hb
  revert hp
  fun_cases packResource r msg comp
  -- the name packed, the body packed within 65535 bytes, the same again behind the final `Length`
  case case5 nb c1 hn pre bb _ _ hlen hsame =>
    rintro ⟨⟩
    rcases packName_spec msg r.hdr.name nb comp c1 hinv hk hc hn with ⟨g2, g3⟩
    have hinvB : CompInvOpt k (pre ++ u16 bb.length) c1 := by
      simpa only [pre, List.append_assoc] using
        g2.append (u16 r.body.realType ++ u16 r.hdr.cls ++ u32 r.hdr.ttl ++ u16 bb.length)
    rcases packBody_spec _ bb r.body c1 comp' hinvB (by simp only [pre, List.length_append]; omega) hb
      (Decidable.of_not_not hsame) with ⟨k2, k3⟩
    refine ⟨by simpa only [pre, List.append_assoc] using k2, bb.length, fun F hF => ?_⟩
    simp only [pre, ← List.append_assoc] at hF k3 ⊢
    have p5 := prefix_left hF
    have p4 := prefix_left p5
    have p3 := prefix_left p4
    have p2 := prefix_left p3
    have hin : ¬ ((msg ++ nb ++ u16 r.body.realType ++ u16 r.hdr.cls ++ u32 r.hdr.ttl ++ u16 bb.length).length +
        bb.length > F.length) := by
      rw [← List.length_append]; exact Nat.not_lt.mpr hF.length_le
    simp only [unpackResource, unpackRHeader, g3 F (prefix_left p2), u16At_pre p2 htyp, u16At_pre p3 hcls,
      u32At_pre p4 httl, u16At_pre p5 (by omega : bb.length < 65536), hin, if_false, k3 F hF]
    rw [← List.length_append]
    rfl
  all_goals nofun

theorem packQuestions_spec (qs : List Question) (msg : Bytes) (comp : Option CompMap) :
    ∀ (bs : Bytes) (comp' : Option CompMap),
    CompInvOpt k msg comp → k ≤ msg.length → (∀ q ∈ qs, WFQuestion q) →
    packQuestions qs msg comp = .ok (bs, comp') →
    CompInvOpt k (msg ++ bs) comp' ∧
    ∀ F, msg ++ bs <+: F → unpackQuestions F qs.length msg.length = .ok (qs, (msg ++ bs).length) := by
  fun_induction packQuestions qs msg comp with
  | case1 msg comp =>
    rintro _ _ hinv hk _ ⟨⟩
    exact ⟨by simpa using hinv, fun F _ => by simp [unpackQuestions]⟩
  | case4 q qs msg comp b1 c1 h1 b2 c2 h2 ih =>
    rintro _ _ hinv hk hwf ⟨⟩
    rcases packQuestion_spec msg b1 q comp c1 hinv hk (hwf q (by simp)) h1 with ⟨g2, g3⟩
    rcases ih b2 c2 g2 (le_length_append hk _) (fun x hx => hwf x (by simp [hx])) h2 with ⟨k2, k3⟩
    refine ⟨by simpa only [List.append_assoc] using k2, fun F hF => ?_⟩
    rw [← List.append_assoc] at hF ⊢
    simp only [List.length_cons, unpackQuestions, g3 F (prefix_left hF), k3 F hF]
  | _ => nofun

theorem packResources_spec (rs : List Resource) (msg : Bytes) (comp : Option CompMap) :
    ∀ (bs : Bytes) (comp' : Option CompMap),
    CompInvOpt k msg comp → k ≤ msg.length → (∀ r ∈ rs, WFResource r) →
    packResources rs msg comp = .ok (bs, comp') →
    CompInvOpt k (msg ++ bs) comp' ∧
    ∃ lens, lens.length = rs.length ∧
      ∀ F, msg ++ bs <+: F → unpackResources F rs.length msg.length =
        .ok (List.zipWith normResource rs lens, (msg ++ bs).length) := by
  fun_induction packResources rs msg comp with
  | case1 msg comp =>
    rintro _ _ hinv hk _ ⟨⟩
    exact ⟨by simpa using hinv, [], rfl, fun F _ => by simp [unpackResources]⟩
  | case4 r rs msg comp b1 c1 h1 b2 c2 h2 ih =>
    rintro _ _ hinv hk hwf ⟨⟩
    rcases packResource_spec msg b1 r comp c1 hinv hk (hwf r (by simp)) h1 with ⟨g2, len, g3⟩
    rcases ih b2 c2 g2 (le_length_append hk _) (fun x hx => hwf x (by simp [hx])) h2 with ⟨k2, lens, hl, k3⟩
    refine ⟨by simpa only [List.append_assoc] using k2, len :: lens, by simp [hl], fun F hF => ?_⟩
    rw [← List.append_assoc] at hF ⊢
    simp only [List.length_cons, unpackResources, g3 F (prefix_left hF), k3 F hF, List.zipWith_cons_cons]
  | _ => nofun

theorem bits_lt (h : Header) (hr : h.rCode < 16) : h.bits < 65536 := by
  have hb : ∀ (b : Bool) (v : Nat), v < 65536 → bitIf b v < 2 ^ 16 := by
    intro b v hv; cases b <;> simp [bitIf] <;> omega
  have h0 : h.opCode * 2048 % 65536 < 2 ^ 16 := by omega
  have h1 : h.rCode < 2 ^ 16 := by omega
  unfold Header.bits
  have := Nat.or_lt_two_pow (Nat.or_lt_two_pow (Nat.or_lt_two_pow (Nat.or_lt_two_pow (Nat.or_lt_two_pow
    (Nat.or_lt_two_pow (Nat.or_lt_two_pow (Nat.or_lt_two_pow h0 h1) (hb h.recursionAvailable 128 (by omega)))
    (hb h.recursionDesired 256 (by omega))) (hb h.truncated 512 (by omega))) (hb h.authoritative 1024 (by omega)))
    (hb h.response 32768 (by omega))) (hb h.authenticData 32 (by omega))) (hb h.checkingDisabled 16 (by omega))
  simpa using this

theorem unpackWireHeader_pack (h : Header) (nq na nu nr : Nat) (rest : Bytes)
    (hid : h.id < 65536) (hr : h.rCode < 16)
    (h1 : nq < 65536) (h2 : na < 65536) (h3 : nu < 65536) (h4 : nr < 65536) :
    unpackWireHeader (packHeader h nq na nu nr ++ rest) =
      .ok { id := h.id, bits := h.bits, nq := nq, na := na, nu := nu, nr := nr } := by
  have hb := bits_lt h hr
  simp only [packHeader, u16, unpackWireHeader, List.cons_append, List.nil_append]
  have e : ∀ v, v < 65536 → v / 256 % 256 * 256 + v % 256 = v := by intro v hv; omega
  simp only [e _ hid, e _ hb, e _ h1, e _ h2, e _ h3, e _ h4]

def WFMessage (m : Message) : Prop :=
  m.hdr.id < 65536 ∧ m.hdr.opCode < 16 ∧ m.hdr.rCode < 16 ∧
  (∀ q ∈ m.questions, WFQuestion q) ∧ (∀ r ∈ m.answers, WFResource r) ∧
  (∀ r ∈ m.authorities, WFResource r) ∧ (∀ r ∈ m.additionals, WFResource r)

/-- `m` as `Pack` leaves it (and as `Unpack` of the packed bytes returns it): every record header
carries the body's `Type`, and as `Length` the entry of `l1`, `l2`, `l3` at its place. The round-trip
theorems assert lists of the right lengths; that their entries are the packed body lengths is not stated. -/
def normMessage (m : Message) (l1 l2 l3 : List Nat) : Message :=
  { m with answers := List.zipWith normResource m.answers l1,
           authorities := List.zipWith normResource m.authorities l2,
           additionals := List.zipWith normResource m.additionals l3 }

/-- `Message.Pack` (with the empty map) or `AppendPack` without a map, then `Message.Unpack`. The four
sections are packed one behind the other after the 12 header bytes, starting from an invariant that
holds trivially; each is read back, by its own spec, in the final buffer, which continues the prefix
it ended. -/
theorem packMessage_spec (m : Message) (comp : Option CompMap) (bytes : Bytes)
    (hcomp : comp = none ∨ comp = some [])
    (hwf : WFMessage m) (hp : packMessageWith m comp = .ok bytes) :
    ∃ l1 l2 l3, l1.length = m.answers.length ∧ l2.length = m.authorities.length ∧
      l3.length = m.additionals.length ∧
      unpackMessage bytes = .ok (normMessage m l1 l2 l3) := by
  rcases hwf with ⟨hid, hop, hrc, hq, han, hau, had⟩
  revert hp
  fun_cases packMessageWith m comp
  -- no section has more than 65535 records, and all four pack
  case case9 c1 c2 c3 c4 msg0 b1 k1 h1 b2 k2 h2 b3 k3 h3 b4 k4 h4 =>
    rintro ⟨⟩
    have hw := unpackWireHeader_pack m.hdr m.questions.length m.answers.length m.authorities.length
      m.additionals.length (b1 ++ b2 ++ b3 ++ b4) hid hrc (by omega) (by omega) (by omega) (by omega)
    have hl0 : msg0.length = 12 := by simp [msg0, packHeader, u16]
    have hinv0 : CompInvOpt 0 msg0 comp := by
      rcases hcomp with rfl | rfl
      · trivial
      · exact compInv_nil 0 _
    rw [show packHeader m.hdr _ _ _ _ = msg0 from rfl] at hw
    clear_value msg0
    rcases packQuestions_spec m.questions msg0 comp b1 k1 hinv0 (Nat.zero_le _) hq h1 with ⟨i1, r1⟩
    rcases packResources_spec m.answers (msg0 ++ b1) k1 b2 k2 i1 (Nat.zero_le _) han h2 with ⟨i2, l1, hl1, r2⟩
    rcases packResources_spec m.authorities (msg0 ++ b1 ++ b2) k2 b3 k3 i2 (Nat.zero_le _) hau h3 with ⟨i3, l2, hl2, r3⟩
    rcases packResources_spec m.additionals (msg0 ++ b1 ++ b2 ++ b3) k3 b4 k4 i3 (Nat.zero_le _) had h4 with ⟨-, l3, hl3, r4⟩
    refine ⟨l1, l2, l3, hl1, hl2, hl3, ?_⟩
    have hF : msg0 ++ b1 ++ b2 ++ b3 ++ b4 = msg0 ++ (b1 ++ b2 ++ b3 ++ b4) := by simp only [List.append_assoc]
    have p3 : msg0 ++ b1 ++ b2 ++ b3 <+: msg0 ++ b1 ++ b2 ++ b3 ++ b4 := List.prefix_append _ _
    have p2 := prefix_left p3
    have q1 := r1 _ (prefix_left p2)
    rw [hl0] at q1
    rw [← hF] at hw
    have hhdr := header_bits_roundtrip m.hdr hop hrc
    unfold unpackMessage unpackMessageOff
    simp only [hw, q1, r2 _ p2, r3 _ p3, r4 _ List.prefix_rfl, hhdr, normMessage]
  all_goals nofun

end NetVerif.Proofs.DnsMsg
