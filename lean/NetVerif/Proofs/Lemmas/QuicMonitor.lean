import NetVerif.Model.QuicMonitor
import NetVerif.Proofs.Lemmas.Fold
/-! The history monitor of `Model/QuicMonitor.lean` (C19, C20, C32) judges each event by `okEv` against the events
before it, so an invariant of histories that accepted events keep holds of every prefix of an accepted trace. -/
namespace NetVerif.Proofs.Lemmas.QuicMonitor
open NetVerif.Model.QuicMonitor

theorem run_some_iff (prop : Nat) (tr : List Ev) : ∀ (h : List Ev),
    (run prop h tr).isSome = true ↔ ∀ pre e suf, tr = pre ++ e :: suf → okEv prop (h ++ pre) e = true := by
  induction tr with
  | nil => intro h; simp [run]
  | cons e rest ih =>
    intro h
    unfold run
    constructor
    · intro hr
      by_cases hk : okEv prop h e = true
      · simp only [hk, if_true] at hr
        have := (ih (h ++ [e])).1 hr
        intro pre e' suf heq
        cases pre with
        | nil =>
          simp only [List.nil_append, List.cons.injEq] at heq
          rw [← heq.1]; simpa using hk
        | cons p pre' =>
          simp only [List.cons_append, List.cons.injEq] at heq
          have h2 := this pre' e' suf heq.2
          rw [← heq.1]
          simpa [List.append_assoc] using h2
      · simp [hk] at hr
    · intro hall
      have hk : okEv prop h e = true := by simpa using hall [] e rest rfl
      simp only [hk, if_true]
      apply (ih (h ++ [e])).2
      intro pre e' suf heq
      have := hall (e :: pre) e' suf (by simp [heq])
      simpa [List.append_assoc] using this

theorem accepts_iff (prop : Nat) (tr : List Ev) :
    accepts prop tr = true ↔ ∀ pre e suf, tr = pre ++ e :: suf → okEv prop pre e = true := by
  unfold accepts
  have := run_some_iff prop tr []
  simpa using this

theorem accepts_invariant (prop : Nat) (P : List Ev → Prop) (h0 : P [])
    (hstep : ∀ h e, P h → okEv prop h e = true → P (h ++ [e]))
    (tr pre suf : List Ev) (heq : tr = pre ++ suf) (hacc : accepts prop tr = true) : P pre := by
  have hall := (accepts_iff prop tr).1 hacc
  subst heq
  suffices h : ∀ (pre h : List Ev), P h →
      (∀ p e sf, pre ++ suf = p ++ e :: sf → okEv prop (h ++ p) e = true) → P (h ++ pre) from
    h pre [] h0 hall
  intro pre
  induction pre with
  | nil => intro h hp _; rw [List.append_nil]; exact hp
  | cons a rest ih =>
    intro h hp hall
    have := ih (h ++ [a]) (hstep h a hp (by simpa using hall [] a (rest ++ suf) rfl))
      (fun p e sf hq => by simpa using hall (a :: p) e sf (by rw [List.cons_append, hq]; rfl))
    simpa using this

/-- Every maximum the monitor keeps of a history is such a fold. -/
theorem foldl_ge_of_mem {α : Type} (f : Int → α → Int) (hf : ∀ m a, f m a ≥ m) {a : α} {v : Int}
    (hv : ∀ m, f m a ≥ v) : ∀ {l : List α}, a ∈ l → ∀ m, l.foldl f m ≥ v
  | _ :: rest, .head _, m =>
    Int.le_trans (hv m) (foldl_rel f (· ≤ ·) Int.le_refl (fun _ _ _ => Int.le_trans) hf rest (f m a))
  | _ :: _, .tail _ h, _ => foldl_ge_of_mem f hf hv h _

theorem foldl_mono {α : Type} (f : Int → α → Int) (hf : ∀ m m' a, m ≤ m' → f m a ≤ f m' a) (l : List α) :
    ∀ m m', m ≤ m' → l.foldl f m ≤ l.foldl f m' := by
  induction l with
  | nil => intro m m' h; simpa using h
  | cons a rest ih => intro m m' h; simp only [List.foldl_cons]; exact ih _ _ (hf m m' a h)

theorem imax_ge_left (a b : Int) : imax a b ≥ a := by unfold imax; split <;> omega
theorem imax_ge_right (a b : Int) : imax a b ≥ b := by unfold imax; split <;> omega
theorem imax_mono (a a' b : Int) (h : a ≤ a') : imax a b ≤ imax a' b := by unfold imax; split <;> split <;> omega

end NetVerif.Proofs.Lemmas.QuicMonitor
