/- C61: one level of a time series. The level invariant `LInv`: the circular buckets hold, cell by cell, the
observations of the history except the pending one; lemmas for `advance`, `mergeValue` and `extract` on a level. -/
import Mathlib.Tactic.Ring
import NetVerif.Model.TimeSeries
namespace NetVerif.Proofs.TSRange
open NetVerif.Model.TimeSeries

/-- Observations `(time, value)`.  Not the histogram `Model.TimeSeries.Hist`: where both namespaces are open
the bare name is ambiguous, so C61 opens this one selectively. -/
abbrev Hist := List (Int × Int)

def sumIn (lo hi : Int) : Hist → Int
  | [] => 0
  | p :: r => (if lo < p.1 ∧ p.1 ≤ hi then p.2 else 0) + sumIn lo hi r

theorem sumIn_empty (lo hi : Int) (H : Hist) (h : ∀ p ∈ H, ¬ (lo < p.1 ∧ p.1 ≤ hi)) : sumIn lo hi H = 0 := by
  induction H with
  | nil => rfl
  | cons p r ih =>
    rw [sumIn, if_neg (h p List.mem_cons_self), ih fun q hq => h q (List.mem_cons_of_mem _ hq)]
    rfl

theorem sumIn_above (e lo hi : Int) (H : Hist) (hle : ∀ p ∈ H, p.1 ≤ e) (h : e ≤ lo) : sumIn lo hi H = 0 :=
  sumIn_empty lo hi H fun p hp hc => by have := hle p hp; omega

theorem sumIn_split (lo mid hi : Int) (H : Hist) (h1 : lo ≤ mid) (h2 : mid ≤ hi) :
    sumIn lo hi H = sumIn lo mid H + sumIn mid hi H := by
  induction H with
  | nil => rfl
  | cons p r ih =>
    simp only [sumIn, ih]
    omega

/-- What has reached the buckets of the observations `H` in `(lo, hi]` while `pv` is held back at time `pt`
(the pending observation of the series). -/
def merged (H : Hist) (pt pv lo hi : Int) : Int := sumIn lo hi H - if lo < pt ∧ pt ≤ hi then pv else 0

section
variable {H : Hist} {pt pv lo hi : Int}

theorem merged_above (e : Int) (hle : ∀ p ∈ H, p.1 ≤ e) (hpt : pt ≤ e) (h : e ≤ lo) :
    merged H pt pv lo hi = 0 := by
  unfold merged
  rw [sumIn_above e lo hi H hle h, if_neg (by omega)]
  rfl

theorem merged_zero : merged H pt 0 lo hi = sumIn lo hi H := by
  unfold merged
  rw [ite_self, Int.sub_zero]

theorem merged_cons (t v : Int) :
    merged ((t, v) :: H) pt pv lo hi = (if lo < t ∧ t ≤ hi then v else 0) + merged H pt pv lo hi :=
  Int.add_sub_assoc ..

theorem merged_flush : merged H pt 0 lo hi = (if lo < pt ∧ pt ≤ hi then pv else 0) + merged H pt pv lo hi := by
  rw [merged_zero]
  unfold merged
  omega

/-- An observation in the grid cell `(pt - sz0, pt]` lies inside a range with ends on the grid iff `pt` does, so
holding it back as well changes nothing there. -/
theorem merged_join (sz0 t v : Int) (dlo : sz0 ∣ pt - lo) (dhi : sz0 ∣ pt - hi) (ht : pt - sz0 < t ∧ t ≤ pt) :
    merged ((t, v) :: H) pt (pv + v) lo hi = merged H pt pv lo hi := by
  have e : (lo < t ∧ t ≤ hi) ↔ (lo < pt ∧ pt ≤ hi) := by
    constructor
    · intro h
      refine ⟨by omega, Int.not_lt.1 fun c => ?_⟩
      have := Int.le_of_dvd (by omega) dhi
      omega
    · intro h
      have := Int.le_of_dvd (by omega) dlo
      omega
  unfold merged
  rw [sumIn]
  simp only [e]
  split <;> omega

end

theorem getD_modify (l : List (Option Obs)) (k j : Nat) (f : Option Obs → Option Obs) (hk : k < l.length) :
    (l.modify k f).getD j none = if j = k then f (l.getD k none) else l.getD j none := by
  simp only [List.getD_eq_getElem?_getD, List.getElem?_modify]
  by_cases h : j = k
  · subst h
    simp [hk]
  · have : ¬ k = j := fun e => h e.symm
    simp [h, this]

theorem getD_map_clearB (l : List (Option Obs)) (k : Nat) :
    (l.map clearB).getD k none = clearB (l.getD k none) := by
  simp only [List.getD_eq_getElem?_getD, List.getElem?_map]
  cases l[k]? <;> rfl

theorem valB_clearB (x : Option Obs) : valB (clearB x) = Obs.zero := by
  cases x <;> rfl

theorem valB_addB (o : Obs) (x : Option Obs) : valB (addB o x) = Obs.add (valB x) o := by
  cases x <;> rfl

theorem add_zero_obs (a : Obs) : Obs.add a Obs.zero = a := by
  cases a; simp [Obs.add, Obs.zero]

theorem match_valB (res : Obs) (x : Option Obs) :
    (match x with | none => res | some y => Obs.add res y) = Obs.add res (valB x) := by
  cases x with
  | none => simp [valB, add_zero_obs]
  | some y => rfl

theorem obs_add_exact (a v : Int) : Obs.add ⟨a, false⟩ (Obs.exact v) = ⟨v + a, false⟩ := by
  simp [Obs.add, Obs.exact]; omega

/-- Logical bucket `i` (0 = oldest) of a circular level. -/
def logical (l : Level) (n i : Nat) : Obs := valB (l.buckets.getD ((l.oldest + i) % n) none)

theorem mod_inj (n a i j : Nat) (hi : i < n) (hj : j < n) (h : (a + i) % n = (a + j) % n) : i = j := by
  have h1 := Nat.sub_mod_eq_zero_of_mod_eq h
  have h2 := Nat.sub_mod_eq_zero_of_mod_eq h.symm
  rw [Nat.add_sub_add_left, Nat.mod_eq_of_lt (by omega)] at h1 h2
  omega

theorem tdiv_nonneg_eq (x sz : Int) (hx : 0 ≤ x) (hsz : 0 < sz) : x.tdiv sz = x / sz :=
  Int.tdiv_eq_ediv_of_nonneg hx

/-- `t` lies in cell `i` of the `n` cells ending at `e` iff `mergeValue`'s quotient is `n - 1 - i`. -/
theorem cell_iff (e sz t n i : Int) (hsz : 0 < sz) :
    (e - sz * n + i * sz < t ∧ t ≤ e - sz * n + i * sz + sz) ↔ (e - t) / sz = n - 1 - i := by
  rw [Int.ediv_eq_iff_of_pos hsz, show (n - 1 - i) * sz = sz * n - sz - i * sz by ring]
  omega

theorem tdiv_mul_bounds (x sz : Int) (hsz : 0 < sz) : x - sz < x.tdiv sz * sz ∧ x.tdiv sz * sz < x + sz := by
  have m1 := Int.mul_tdiv_add_tmod x sz
  have m2 := Int.tmod_lt_of_pos x hsz
  have m3 := Int.lt_tmod_of_pos x hsz
  rw [Int.mul_comm] at m1
  omega

theorem mul_le_tdiv_mul (k x sz : Int) (hsz : 0 < sz) (h : k * sz ≤ x) : k * sz ≤ x.tdiv sz * sz := by
  have b := (tdiv_mul_bounds x sz hsz).1
  have : k < x.tdiv sz + 1 :=
    Int.lt_of_mul_lt_mul_right (a := sz) (by rw [Int.add_mul, Int.one_mul]; omega) (Int.le_of_lt hsz)
  exact Int.mul_le_mul_of_nonneg_right (by omega) (Int.le_of_lt hsz)

theorem wrap64_id (t : Int) (h : minDur ≤ t ∧ t ≤ maxDur) : wrap64 t = t := by
  unfold wrap64; unfold minDur maxDur at h; omega

/-- `mergeValue`'s saturated quotient is the exact one, or both are beyond the window. -/
theorem satq (x sz : Int) (n : Nat) (hx : 0 ≤ x) (hsz : 0 < sz) (hcap : sz * n ≤ maxDur) :
    (satDur x).tdiv sz = x / sz ∨ ((n : Int) ≤ (satDur x).tdiv sz ∧ (n : Int) ≤ x / sz) := by
  unfold satDur
  rw [if_neg (show ¬ (x < minDur) by unfold minDur; omega)]
  rw [Int.mul_comm] at hcap
  by_cases hb : x > maxDur
  · rw [if_pos hb, Int.tdiv_eq_ediv_of_nonneg (by unfold maxDur; omega)]
    exact Or.inr ⟨Int.le_ediv_of_mul_le hsz hcap, Int.le_ediv_of_mul_le hsz (by omega)⟩
  · rw [if_neg hb]
    exact Or.inl (Int.tdiv_eq_ediv_of_nonneg hx)

/-- Logical cell `i` is `(cellLo i, cellLo i + size]`. -/
def cellLo (l : Level) (n i : Nat) : Int := l.end_ - l.size * n + i * l.size

theorem cellLo_succ (l : Level) (n i : Nat) : cellLo l n (i + 1) = cellLo l n i + l.size := by
  unfold cellLo; push_cast; ring

theorem cellLo_top (l : Level) (n : Nat) : cellLo l n n = l.end_ := by
  unfold cellLo; rw [Int.mul_comm]; omega

/-- Level `l` holds the observations `H` except `pv`, held back at time `pt`: bucket `i` is the exact sum of its
cell, nothing is later than `end`, and `end` is on the grid unless the level never advanced (`zeroTime`). -/
structure LInv (l : Level) (n : Nat) (H : Hist) (pt pv : Int) : Prop where
  npos : 1 ≤ n
  szpos : 0 < l.size
  len : l.buckets.length = n
  old : l.oldest < n
  grid : l.end_ % l.size = 0 ∨ l.end_ = zeroTime
  cells : ∀ i, i < n → logical l n i = ⟨merged H pt pv (cellLo l n i) (cellLo l n i + l.size), false⟩
  le_end : ∀ p ∈ H, p.1 ≤ l.end_
  pt_le : pt ≤ l.end_

section
variable {l : Level} {n : Nat} {H : Hist} {pt pv : Int}

theorem LInv.rotate (h : LInv l n H pt pv) (hg : l.end_ % l.size = 0) :
    LInv (l.rotate n) n H pt pv := by
  have hn := h.npos
  have hsz := h.szpos
  refine ⟨h.npos, h.szpos, by simp [Level.rotate, h.len], Nat.mod_lt _ (by omega),
    Or.inl ((Int.add_emod_right ..).trans hg), ?_, fun p hp => ?_, ?_⟩
  · intro i hi
    have hlo : cellLo (l.rotate n) n i = cellLo l n (i + 1) := by
      rw [cellLo_succ]
      show l.end_ + l.size - l.size * n + i * l.size = l.end_ - l.size * n + i * l.size + l.size
      omega
    rw [hlo]
    show valB ((l.buckets.modify l.oldest clearB).getD (((l.oldest + 1) % n + i) % n) none) = _
    rw [Nat.mod_add_mod, Nat.add_assoc, Nat.add_comm 1 i, getD_modify _ _ _ _ (h.len ▸ h.old)]
    by_cases hlast : i + 1 = n
    · -- the slot of the oldest bucket is cleared and becomes the cell above the old `end`
      rw [hlast, Nat.add_mod_right, Nat.mod_eq_of_lt h.old, if_pos rfl, valB_clearB, cellLo_top,
        merged_above _ h.le_end h.pt_le (Int.le_refl _)]
      rfl
    · rw [if_neg]
      · exact h.cells (i + 1) (by omega)
      · intro e
        have := mod_inj n l.oldest (i + 1) 0 (by omega) (by omega)
          (by rw [e, Nat.add_zero, Nat.mod_eq_of_lt h.old])
        omega
  · have := h.le_end p hp
    show p.1 ≤ l.end_ + l.size
    omega
  · have := h.pt_le
    show pt ≤ l.end_ + l.size
    omega

theorem rotLoop_size (n : Nat) (t : Int) : ∀ (fuel : Nat) (l : Level), (rotLoop n fuel t l).size = l.size := by
  intro fuel
  induction fuel with
  | zero => intro l; rfl
  | succ k ih =>
    intro l
    show (if t > l.end_ then rotLoop n k t (l.rotate n) else l).size = l.size
    split
    · rw [ih]; rfl
    · rfl

theorem advanceTo_size (n : Nat) (t : Int) (l : Level) : (l.advanceTo n t).size = l.size := by
  unfold Level.advanceTo
  simp only
  rw [rotLoop_size]
  split <;> rfl

theorem LInv.rotLoop (fuel : Nat) (t : Int) :
    ∀ {l : Level}, LInv l n H pt pv → l.end_ % l.size = 0 → (t - l.end_).toNat ≤ fuel → l.end_ - l.size < t →
      LInv (rotLoop n fuel t l) n H pt pv ∧ (rotLoop n fuel t l).end_ % l.size = 0 ∧ t ≤ (rotLoop n fuel t l).end_ ∧
      (rotLoop n fuel t l).end_ - l.size < t := by
  induction fuel with
  | zero =>
    intro l h hg hf hlo
    exact ⟨h, hg, by show t ≤ l.end_; omega, hlo⟩
  | succ k ih =>
    intro l h hg hf hlo
    have e : NetVerif.Model.TimeSeries.rotLoop n (k + 1) t l =
        if t > l.end_ then NetVerif.Model.TimeSeries.rotLoop n k t (l.rotate n) else l := rfl
    rw [e]
    by_cases hc : t > l.end_
    · rw [if_pos hc]
      have hsz := h.szpos
      exact ih (h.rotate hg) ((Int.add_emod_right ..).trans hg)
        (by show (t - (l.end_ + l.size)).toNat ≤ k; omega) (by show l.end_ + l.size - l.size < t; omega)
    · rw [if_neg hc]
      exact ⟨h, hg, by omega, hlo⟩

/-- A level that never advanced ends at the zero time, which no window of an in-range time reaches. -/
theorem LInv.grid_or_old (h : LInv l n H pt pv) (hcap : l.size * n ≤ maxDur) :
    l.end_ % l.size = 0 ∨ l.end_ + l.size * n + l.size ≤ minDur :=
  h.grid.imp_right fun hz => by
    have := Int.mul_le_mul_of_nonneg_left (show (1 : Int) ≤ n by have := h.npos; omega) (Int.le_of_lt h.szpos)
    rw [hz]
    unfold zeroTime minDur
    unfold maxDur at hcap
    omega

theorem LInv.farReset (h : LInv l n H pt pv) (t : Int)
    (hin : minDur ≤ t ∧ t ≤ maxDur) (hfar : ¬ (t < l.end_ + l.size * n)) (hcap : l.size * n ≤ maxDur) :
    LInv (l.farReset t) n H pt pv ∧ (l.farReset t).end_ - l.size < t ∧ (l.farReset t).size = l.size ∧
    (l.farReset t).end_ % l.size = 0 := by
  have hsz := h.szpos
  have hE : (l.farReset t).end_ = t.tdiv l.size * l.size := by
    show (wrap64 t).tdiv l.size * l.size = _
    rw [wrap64_id t hin]
  obtain ⟨b1, b2⟩ := tdiv_mul_bounds t l.size hsz
  have hgrid : (l.farReset t).end_ % l.size = 0 := by
    rw [hE]; exact Int.mul_emod_left _ _
  -- the whole new window lies above the old `end`, so every cell is empty
  have hkey : l.end_ ≤ (l.farReset t).end_ - l.size * n := by
    rw [hE]
    rcases h.grid_or_old hcap with hg | ho
    · obtain ⟨k, hk⟩ := Int.dvd_of_emod_eq_zero hg
      have e : (k + n) * l.size = l.end_ + l.size * n := by
        rw [Int.add_mul, Int.mul_comm k, ← hk, Int.mul_comm]
      have := mul_le_tdiv_mul (k + n) t l.size hsz (by omega)
      omega
    · omega
  have hnn : (0 : Int) ≤ l.size * n := Int.mul_nonneg (Int.le_of_lt hsz) (Int.natCast_nonneg n)
  refine ⟨⟨h.npos, h.szpos, by simp [Level.farReset, h.len], h.old, Or.inl hgrid, ?_, fun p hp => ?_, ?_⟩,
    by omega, rfl, hgrid⟩
  · intro i hi
    show valB ((l.buckets.map clearB).getD ((l.oldest + i) % n) none) = _
    rw [getD_map_clearB, valB_clearB, merged_above l.end_ h.le_end h.pt_le]
    · rfl
    · have : (0 : Int) ≤ i * l.size := Int.mul_nonneg (Int.natCast_nonneg i) (Int.le_of_lt hsz)
      show l.end_ ≤ (l.farReset t).end_ - l.size * n + i * l.size
      omega
  · have := h.le_end p hp
    omega
  · have := h.pt_le
    omega

theorem LInv.advanceTo (h : LInv l n H pt pv) (t : Int)
    (hin : minDur ≤ t ∧ t ≤ maxDur) (hlt : l.end_ < t) (hcap : l.size * n ≤ maxDur) :
    LInv (l.advanceTo n t) n H pt pv ∧ t ≤ (l.advanceTo n t).end_ ∧ (l.advanceTo n t).end_ - l.size < t ∧
    (l.advanceTo n t).end_ % l.size = 0 := by
  unfold Level.advanceTo
  by_cases hfar : ¬ (t < l.end_ + l.size * n)
  · simp only [hfar, not_false_eq_true, if_true]
    obtain ⟨a, b, c, g⟩ := h.farReset t hin hfar hcap
    obtain ⟨r1, rg, r2, r3⟩ := LInv.rotLoop (n := n) (H := H) _ t a (by rw [c]; exact g) (Nat.le_refl _)
      (by rw [c]; exact b)
    rw [c] at rg r3
    exact ⟨r1, r2, r3, rg⟩
  · simp only [hfar, if_false]
    have hsz := h.szpos
    have hg : l.end_ % l.size = 0 := (h.grid_or_old hcap).resolve_right (by omega)
    obtain ⟨r1, rg, r2, r3⟩ := LInv.rotLoop (n := n) (H := H) _ t h hg (Nat.le_refl _) (by omega)
    exact ⟨r1, r2, r3, rg⟩

theorem merge_end_size (n : Nat) (o : Obs) (t : Int) (l : Level) :
    (l.merge n o t).end_ = l.end_ ∧ (l.merge n o t).size = l.size := by
  unfold Level.merge; simp only; split <;> exact ⟨rfl, rfl⟩

/-- `mergeValue` on one level adds `v` to the cell that contains `t` (none, if `t` is older than the window). The
ghost state may change in any way that accounts for it: see `LInv.merge` and `LInv.flush`. -/
theorem LInv.mergeTo (h : LInv l n H pt pv) (t v : Int) (ht : t ≤ l.end_) (hcap : l.size * n ≤ maxDur)
    {H' : Hist} {pt' pv' : Int} (hle : ∀ p ∈ H', p.1 ≤ l.end_) (hpt : pt' ≤ l.end_)
    (hm : ∀ lo hi, merged H' pt' pv' lo hi = (if lo < t ∧ t ≤ hi then v else 0) + merged H pt pv lo hi) :
    LInv (l.merge n (Obs.exact v) t) n H' pt' pv' := by
  have hsz := h.szpos
  have hn := h.npos
  have hx : 0 ≤ l.end_ - t := by omega
  have hq := satq (l.end_ - t) l.size n hx hsz hcap
  have hqn : 0 ≤ (l.end_ - t) / l.size := Int.ediv_nonneg hx (Int.le_of_lt hsz)
  have hcell : ∀ i : Nat, (cellLo l n i < t ∧ t ≤ cellLo l n i + l.size) ↔
      (l.end_ - t) / l.size = (n : Int) - 1 - i := fun i => cell_iff l.end_ l.size t n i hsz
  unfold Level.merge
  simp only
  by_cases hidx : 0 ≤ ((n : Int) - 1) - (satDur (l.end_ - t)).tdiv l.size ∧
      ((n : Int) - 1) - (satDur (l.end_ - t)).tdiv l.size < n
  · rw [if_pos hidx]
    have hqe : (satDur (l.end_ - t)).tdiv l.size = (l.end_ - t) / l.size := by
      rcases hq with e | ⟨a, _⟩
      · exact e
      · omega
    rw [hqe] at hidx ⊢
    obtain ⟨k, hk⟩ : ∃ k : Nat, ((n : Int) - 1 - (l.end_ - t) / l.size).toNat = k := ⟨_, rfl⟩
    have hkn : k < n := by omega
    rw [hk]
    refine ⟨h.npos, h.szpos, by simp [h.len], h.old, h.grid, ?_, hle, hpt⟩
    intro i hi
    show valB ((l.buckets.modify ((l.oldest + k) % n) (addB (Obs.exact v))).getD ((l.oldest + i) % n) none) =
      Obs.mk (merged H' pt' pv' (cellLo l n i) (cellLo l n i + l.size)) false
    rw [getD_modify _ _ _ _ (by rw [h.len]; exact Nat.mod_lt _ (by omega)), hm]
    by_cases hik : i = k
    · subst hik
      rw [if_pos rfl, valB_addB, if_pos ((hcell i).2 (by omega))]
      exact (congrArg (Obs.add · _) (h.cells i hi)).trans (obs_add_exact _ _)
    · rw [if_neg fun e => hik (mod_inj n l.oldest i k hi hkn e), if_neg, Int.zero_add]
      · exact h.cells i hi
      · intro hc
        have := (hcell i).1 hc
        omega
  · rw [if_neg hidx]
    have hqn' : (n : Int) ≤ (l.end_ - t) / l.size := by
      rcases hq with e | ⟨_, b⟩
      · rw [e] at hidx; omega
      · exact b
    refine ⟨h.npos, h.szpos, h.len, h.old, h.grid, ?_, hle, hpt⟩
    intro i hi
    rw [h.cells i hi, hm, if_neg, Int.zero_add]
    intro hc
    have := (hcell i).1 hc
    omega

theorem LInv.merge (h : LInv l n H pt pv) (t v : Int) (ht : t ≤ l.end_) (hcap : l.size * n ≤ maxDur) :
    LInv (l.merge n (Obs.exact v) t) n ((t, v) :: H) pt pv :=
  h.mergeTo t v ht hcap (List.forall_mem_cons.2 ⟨ht, h.le_end⟩) h.pt_le fun _ _ => merged_cons t v

/-- `mergePendingUpdates` on one level: what was held back is merged at its time. -/
theorem LInv.flush (h : LInv l n H pt pv) (hcap : l.size * n ≤ maxDur) :
    LInv (l.merge n (Obs.exact pv) pt) n H pt 0 :=
  h.mergeTo pt pv h.pt_le hcap h.le_end h.pt_le fun _ _ => merged_flush

/-- The same level under another account of what is held back, equal on the cells. -/
theorem LInv.relabel (h : LInv l n H pt pv) {H' : Hist} {pt' pv' : Int} (hle : ∀ p ∈ H', p.1 ≤ l.end_)
    (hpt : pt' ≤ l.end_) (hm : ∀ i, i < n → merged H' pt' pv' (cellLo l n i) (cellLo l n i + l.size) =
      merged H pt pv (cellLo l n i) (cellLo l n i + l.size)) : LInv l n H' pt' pv' :=
  ⟨h.npos, h.szpos, h.len, h.old, h.grid, fun i hi => by rw [hm i hi]; exact h.cells i hi, hle, hpt⟩

theorem LInv.repoint (h : LInv l n H pt 0) {pt' : Int} (hpt : pt' ≤ l.end_) : LInv l n H pt' 0 :=
  h.relabel h.le_end hpt fun _ _ => merged_zero.trans merged_zero.symm

/-- An observation in the cell `(pt - sz0, pt]` of the finest grid, on which every cell boundary of the level lies,
is held back with the rest (`AddWithTime` adds it to the pending observation). -/
theorem LInv.join (h : LInv l n H pt pv) (sz0 t v : Int) (hgrid : pt % sz0 = 0) (hdiv : l.size % sz0 = 0)
    (hZ0 : zeroTime % sz0 = 0) (ht : pt - sz0 < t ∧ t ≤ pt) : LInv l n ((t, v) :: H) pt (pv + v) := by
  have d1 : sz0 ∣ l.size := Int.dvd_of_emod_eq_zero hdiv
  have d2 : sz0 ∣ l.end_ := by
    rcases h.grid with hg | hz
    · exact Int.dvd_trans d1 (Int.dvd_of_emod_eq_zero hg)
    · rw [hz]; exact Int.dvd_of_emod_eq_zero hZ0
  refine h.relabel (List.forall_mem_cons.2 ⟨Int.le_trans ht.2 h.pt_le, h.le_end⟩) h.pt_le fun i _ => ?_
  have dlo : sz0 ∣ pt - cellLo l n i :=
    Int.dvd_sub (Int.dvd_of_emod_eq_zero hgrid)
      (Int.dvd_add (Int.dvd_sub d2 (Dvd.dvd.mul_right d1 _)) (Dvd.dvd.mul_left d1 _))
  exact merged_join sz0 t v dlo (by rw [← Int.sub_sub]; exact Int.dvd_sub dlo d1) ht

theorem extractInner_exit (n : Nat) (l : Level) (lastAdd a b : Int) (fuel : Nat) (c : Cursor)
    (h : ¬ (c.srcIndex < n ∧ c.srcStart < b)) : extractInner n l lastAdd a b fuel c = c := by
  cases fuel with
  | zero => rfl
  | succ k => rw [extractInner, if_pos h]

/-- A source bucket inside the destination range is added whole, or skipped when `lastAdd` (to which its end
is clamped) is below the range. -/
theorem extractInner_step (n : Nat) (l : Level) (lastAdd a b : Int) (k j : Nat) (s : Int) (res : Obs)
    (hj : j < n) (ha : a ≤ s) (hb : s + l.size ≤ b) (hsz : 0 < l.size) :
    extractInner n l lastAdd a b (k + 1) ⟨j, s, res, false⟩ =
      extractInner n l lastAdd a b k ⟨(j : Int) + 1, s + l.size,
        if (if s + l.size > lastAdd then lastAdd else s + l.size) < a then res
        else Obs.add res (logical l n j), false⟩ := by
  have hc : (j : Int) < n ∧ s < b := ⟨by omega, by omega⟩
  rw [extractInner, if_neg (not_not.mpr hc)]
  simp only
  by_cases hskip : (if s + l.size > lastAdd then lastAdd else s + l.size) < a
  · rw [if_neg (not_not.mpr hskip), if_pos hskip]
  · have hle : ¬ ((if s + l.size > lastAdd then lastAdd else s + l.size) > b) := by
      split <;> omega
    have hfull : ¬ s < a ∧ ¬ (if s + l.size > lastAdd then lastAdd else s + l.size) > b := ⟨by omega, hle⟩
    rw [if_pos hskip, if_neg hle, if_pos hfull, if_neg hskip, Int.toNat_natCast, Nat.add_comm]
    unfold logical
    -- the `match` in the goal is `extractInner`'s own matcher, which `rw [match_valB]` does not find: case on the bucket
    cases l.buckets.getD ((l.oldest + j) % n) none with
    | none => rw [show valB none = Obs.zero from rfl, add_zero_obs]
    | some y => rfl

/-- The loop of `extract` from cell `j` on, entered with `res` the sum over `(a, cellLo j]`, ends with the
sum over `(a, b]`.  The fuel outlasts the cells: an iteration moves on one cell, and from cell `n` on the
test fails. -/
theorem inner_spec (h : LInv l n H pt 0) (lastAdd a b : Int)
    (hlast : ∀ p ∈ H, p.1 ≤ lastAdd) :
    ∀ (fuel j : Nat) (res : Obs),
      a ≤ cellLo l n j → cellLo l n j ≤ b → l.size ∣ b - cellLo l n j →
      res = ⟨sumIn a (cellLo l n j) H, false⟩ → n + 1 ≤ fuel + j →
      (extractInner n l lastAdd a b fuel ⟨(j : Int), cellLo l n j, res, false⟩).res = ⟨sumIn a b H, false⟩ := by
  have hsz := h.szpos
  have hdone : ∀ j : Nat, a ≤ cellLo l n j → cellLo l n j ≤ b → ¬ ((j : Int) < n ∧ cellLo l n j < b) →
      sumIn a (cellLo l n j) H = sumIn a b H := by
    intro j ha hb hc
    rw [sumIn_split a _ b H ha hb]
    by_cases c : j < n
    · rw [show cellLo l n j = b by omega, sumIn_empty b b H fun _ _ _ => by omega, Int.add_zero]
    · have := Int.mul_le_mul_of_nonneg_right (show (n : Int) ≤ j by omega) (Int.le_of_lt hsz)
      rw [sumIn_above l.end_ _ b H h.le_end, Int.add_zero]
      unfold cellLo
      rw [Int.mul_comm l.size]
      omega
  intro fuel
  induction fuel with
  | zero =>
    intro j res ha hb _ hres hf
    rw [hres]
    exact congrArg (Obs.mk · false) (hdone j ha hb (by omega))
  | succ k ih =>
    intro j res ha hb hd hres hf
    by_cases hcond : (j : Int) < n ∧ cellLo l n j < b
    · have hstep : cellLo l n j + l.size ≤ b := by
        have := Int.le_of_dvd (by omega) hd
        omega
      rw [extractInner_step n l lastAdd a b k j _ res (by omega) ha hstep hsz, ← cellLo_succ]
      refine ih (j + 1) _ (by rw [cellLo_succ]; omega) (by rw [cellLo_succ]; exact hstep)
        (by rw [cellLo_succ, ← Int.sub_sub]; exact Int.dvd_sub hd (Int.dvd_refl _)) ?_ (by omega)
      rw [cellLo_succ, sumIn_split a _ _ H ha (by omega : cellLo l n j ≤ cellLo l n j + l.size), hres]
      by_cases hskip : (if cellLo l n j + l.size > lastAdd then lastAdd else cellLo l n j + l.size) < a
      · -- clamped below the range start: nothing was added after `lastAdd`, so the cell is empty
        rw [if_pos hskip, sumIn_above lastAdd (cellLo l n j) _ H hlast (by split at hskip <;> omega), Int.add_zero]
      · rw [if_neg hskip, h.cells j (by omega), merged_zero]
        rfl
    · rw [extractInner_exit _ _ _ _ _ _ _ hcond, hres]
      exact congrArg (Obs.mk · false) (hdone j ha hb hcond)

/-- **A bucket-aligned range of a level reports exactly the observations in it.** -/
theorem extract_aligned (h : LInv l n H pt 0) (lastAdd a b : Int)
    (hlast : ∀ p ∈ H, p.1 ≤ lastAdd) (hcap : l.size * n ≤ maxDur)
    (ha : l.end_ - l.size * n ≤ a) (hab : a ≤ b) (hspan : b - a ≤ maxDur)
    (hga : (l.end_ - a) % l.size = 0) (hgb : (b - a) % l.size = 0) :
    extract n l lastAdd a b 1 = [⟨sumIn a b H, false⟩] := by
  have hsz := h.szpos
  have hd : a + (satDur (b - a)).tdiv ((1 : Nat) : Int) = b := by
    unfold satDur
    rw [if_neg (show ¬ b - a < minDur by unfold minDur; omega), if_neg (show ¬ b - a > maxDur by omega),
      Int.natCast_one, Int.tdiv_one]
    omega
  have hbase : l.end_ + -l.size * (n : Int) = cellLo l n 0 := by
    unfold cellLo; rw [Int.neg_mul, Int.natCast_zero, Int.zero_mul]; omega
  have hx : 0 ≤ a - cellLo l n 0 := by rw [← hbase, Int.neg_mul]; omega
  have hdvd : l.size ∣ a - cellLo l n 0 := by
    have : a - cellLo l n 0 = l.size * n - (l.end_ - a) := by rw [← hbase, Int.neg_mul]; omega
    rw [this]
    exact Int.dvd_sub (Int.dvd_mul_right _ _) (Int.dvd_of_emod_eq_zero hga)
  -- the start index is the saturated quotient also when `a` is the start of the window
  have hadv : (if a > cellLo l n 0 then (satDur (a - cellLo l n 0)).tdiv l.size else 0) =
      (satDur (a - cellLo l n 0)).tdiv l.size := by
    split
    · rfl
    · rw [show a - cellLo l n 0 = 0 by omega, show satDur 0 = 0 from rfl, Int.zero_tdiv]
  simp only [extract, extractOuter, hd, hbase, hadv]
  refine congrArg (· :: []) ?_
  rcases satq (a - cellLo l n 0) l.size n hx hsz hcap with e | ⟨d1, d2⟩
  · obtain ⟨j, hj⟩ := Int.eq_ofNat_of_zero_le (Int.ediv_nonneg hx (Int.le_of_lt hsz))
    have hs : cellLo l n 0 + (j : Int) * l.size = cellLo l n j := by
      unfold cellLo; rw [Int.natCast_zero, Int.zero_mul]; omega
    have haj : cellLo l n j = a := by
      have := Int.ediv_mul_cancel hdvd
      rw [hj] at this
      omega
    rw [e, hj, hs]
    subst haj
    exact inner_spec h lastAdd _ b hlast (n + 1) j Obs.zero (Int.le_refl _) hab
      (Int.dvd_of_emod_eq_zero hgb) (by rw [sumIn_empty _ _ H fun _ _ _ => by omega]; rfl) (by omega)
  · -- saturated start index: the range starts beyond the level's `end`
    rw [extractInner_exit _ _ _ _ _ _ _ (fun hc => by have := hc.1; simp only at this; omega)]
    have := Int.mul_le_of_le_ediv hsz d2
    rw [sumIn_above l.end_ a b H h.le_end]
    · rfl
    · rw [Int.mul_comm] at this
      unfold cellLo at this
      omega

end

end NetVerif.Proofs.TSRange
