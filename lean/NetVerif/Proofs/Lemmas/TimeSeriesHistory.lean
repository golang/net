/- C61: what the operations of a time series do to its state, as equations, and histories of operations with
the predicates the range theorems put on them. -/
import NetVerif.Proofs.Lemmas.TimeSeriesRange
namespace NetVerif.Proofs.TSRange
open NetVerif.Model.TimeSeries

/-- Both early exits of `advance` are cases of `advLevels`, which leaves a list alone whose first level is not
behind. -/
theorem advance_eq (s : TS) (t : Int) : s.advance t = { s with levels := advLevels s.n t s.levels } := by
  unfold TS.advance
  cases hl : s.levels with
  | nil => cases s; cases hl; rfl
  | cons l0 rest =>
    simp only [advLevels]
    by_cases hc : t > l0.end_
    · rw [if_neg (not_not.mpr hc), if_neg (not_not.mpr hc)]
    · rw [if_pos hc, if_pos (by omega), ← hl]

theorem advLevels_take (n : Nat) : ∀ (m : Nat) (t : Int) (ls : List Level),
    (advLevels n t ls).take m = advLevels n t (ls.take m)
  | 0, _, _ => by simp [advLevels]
  | _ + 1, _, [] => rfl
  | m + 1, t, l :: r => by
    unfold advLevels
    rw [List.take_succ_cons]
    simp only
    split
    · rfl
    · rw [List.take_succ_cons, advLevels_take n m]

/-- The test in `catchUp` repeats the one in `advance`. -/
theorem catchUp_eq (s : TS) (now : Int) :
    s.catchUp now = { (s.advance now).mergePending with pendingTime := (s.advance now).mergePending.end0 } := by
  unfold TS.catchUp
  split
  · rfl
  · rename_i hc
    have : s.advance now = s := by
      unfold TS.advance
      unfold TS.end0 at hc
      cases hl : s.levels with
      | nil => rfl
      | cons l0 rest =>
        rw [hl] at hc
        exact if_pos (by omega)
    rw [this]

theorem addWithTime_eq (s : TS) (o : Obs) (t : Int) :
    s.addWithTime o t =
      let s0 := if t > s.lastAdd then { s with lastAdd := t } else s
      if t > s0.pendingTime then { s0.catchUp t with pending := o, dirty := true }
      else if t > s0.pendingTime + (-1) * s0.size0 then { s0 with pending := Obs.add s0.pending o, dirty := true }
      else s0.mergeValue o t := by
  unfold TS.addWithTime
  simp only [catchUp_eq]

theorem latest_state (s : TS) (now level num : Int) : (s.latest now level num).1 = s.catchUp now := by
  unfold TS.latest
  simp only
  split
  · rfl
  · split <;> rfl

theorem latestBuckets_state (s : TS) (now level num : Int) :
    (s.latestBuckets now level num).1 = s ∨ (s.latestBuckets now level num).1 = s.catchUp now := by
  unfold TS.latestBuckets
  split
  · left; rfl
  · split
    · left; rfl
    · right
      simp only
      split <;> rfl

theorem computeRange_state (s : TS) (a b num : Int) :
    (s.computeRange a b num).1 = s ∨ (s.computeRange a b num).1 = s.mergePending := by
  unfold TS.computeRange
  split
  · left; rfl
  · split
    · left; rfl
    · simp only
      split
      · left; rfl
      · right; split <;> rfl

theorem clear_eq_init (s : TS) : s.clear = TS.init s.n (s.levels.map (·.size)) := by
  unfold TS.clear TS.init
  rw [List.map_map]
  rfl

theorem end0_mergeValue (s : TS) (o : Obs) (t : Int) :
    (s.mergeValue o t).end0 = s.end0 ∧ (s.mergeValue o t).size0 = s.size0 := by
  cases hl : s.levels with
  | nil => simp [TS.mergeValue, TS.end0, TS.size0, hl]
  | cons l r =>
    obtain ⟨h1, h2⟩ := merge_end_size s.n o t l
    simp [TS.mergeValue, TS.end0, TS.size0, hl, h1, h2]

theorem mergePending_fields (s : TS) :
    s.mergePending.end0 = s.end0 ∧ s.mergePending.size0 = s.size0 ∧
    s.mergePending.pendingTime = s.pendingTime ∧ s.mergePending.lastAdd = s.lastAdd ∧ s.mergePending.n = s.n := by
  unfold TS.mergePending
  split
  · obtain ⟨a, b⟩ := end0_mergeValue s s.pending s.pendingTime
    exact ⟨a, b, rfl, rfl, rfl⟩
  · exact ⟨rfl, rfl, rfl, rfl, rfl⟩

theorem mergePending_ne (s : TS) (h : s.levels ≠ []) : s.mergePending.levels ≠ [] := by
  unfold TS.mergePending TS.mergeValue
  split
  · simpa using h
  · exact h

theorem pickLevel_first (n : Nat) (a : Int) (l0 : Level) (rest : List Level)
    (h : l0.end_ - l0.size * n ≤ a) : pickLevel n a (l0 :: rest) = some l0 := by
  cases rest with
  | nil => rfl
  | cons l1 r =>
    show (if ¬ (a < l0.end_ + -l0.size * (n : Int)) then some l0 else pickLevel n a (l1 :: r)) = some l0
    rw [if_pos]
    rw [Int.neg_mul]
    omega

theorem pickLevel_mem (n : Nat) (a : Int) : ∀ (ls : List Level) (l : Level), pickLevel n a ls = some l → l ∈ ls := by
  intro ls
  induction ls with
  | nil => intro l h; simp [pickLevel] at h
  | cons x r ih =>
    intro l h
    cases r with
    | nil => simp [pickLevel] at h; subst h; simp
    | cons y r' =>
      unfold pickLevel at h
      split at h
      · simp at h; subst h; simp
      · exact List.mem_cons_of_mem _ (ih l h)

/-- `(a, b]` is aligned to the bucket grid of the finest level and starts inside its window. -/
def alignedFinest (s : TS) (a b : Int) : Bool :=
  match s.levels with
  | [] => false
  | l :: _ => decide (l.end_ - l.size * s.n ≤ a ∧ a ≤ b ∧ b - a ≤ maxDur ∧
                      (l.end_ - a) % l.size = 0 ∧ (b - a) % l.size = 0)

def inI64 (t : Int) : Bool := decide (minDur ≤ t ∧ t ≤ maxDur)

/-- Every time that reaches `advance` is inside the range where `Time.UnixNano` is defined. -/
def timesInRange : List Op → Bool
  | [] => true
  | .add t _ :: rest => inI64 t && timesInRange rest
  | .latest now _ _ :: rest => inI64 now && timesInRange rest
  | .latestBuckets now _ _ :: rest => inI64 now && timesInRange rest
  | _ :: rest => timesInRange rest

/-- Sum of the observations of a history whose time lies in `(a, b]`, restarting at `Clear`. -/
def obsIn (a b : Int) (acc : Int) : List Op → Int
  | [] => acc
  | .add t v :: rest => obsIn a b (if a < t ∧ t ≤ b then acc + v else acc) rest
  | .clear :: rest => obsIn a b 0 rest
  | _ :: rest => obsIn a b acc rest

/-- The observations since the last `Clear` (newest first). -/
def histList : List Op → Hist → Hist
  | [], acc => acc
  | .add t v :: rest, acc => histList rest ((t, v) :: acc)
  | .clear :: rest, _ => histList rest []
  | _ :: rest, acc => histList rest acc

theorem obsIn_histList (a b : Int) (ops : List Op) :
    ∀ acc : Hist, obsIn a b (sumIn a b acc) ops = sumIn a b (histList ops acc) := by
  induction ops with
  | nil => intro acc; rfl
  | cons op rest ih =>
    intro acc
    cases op with
    | add t v =>
      rw [obsIn, histList, ← ih ((t, v) :: acc), sumIn]
      congr 1
      split <;> omega
    | clear => exact ih []
    | _ => exact ih acc

end NetVerif.Proofs.TSRange
