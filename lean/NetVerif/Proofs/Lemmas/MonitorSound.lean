import NetVerif.Model.ChanSemMonitor
import NetVerif.Proofs.Lemmas.IfCases
/-!
Soundness of the stress-trace monitors (V-tie of C29 and C58).  `run_prefix` carries a
representation invariant `R m pre` (state `m` describes the trace `pre` read so far) along an
accepted run; each monitor contributes a step lemma, which also yields the clause `OK pre e`
the accepted event stands for (the queue monitor a second one, `qmon_step_nodup`, whose `R` adds that
the delivered items are free of duplicates).  The listener and the queue monitor both keep, per client, the
trace before its pending invocation: `PendingTable` is what such a table holds.
-/
namespace NetVerif.Proofs.MonitorSound
open NetVerif.Model.ChanSemMonitor
open NetVerif.Proofs.Lemmas (ite_some_eq_none ite_cases ok_of_ite_error)

section
variable {M E : Type} {step : M → E → Except String M} {run : M → List E → Except String M}
  (hcons : ∀ m e es m', run m (e :: es) = .ok m' → ∃ m1, step m e = .ok m1 ∧ run m1 es = .ok m')
  {R : M → List E → Prop} {OK : List E → E → Prop}
  (hstep : ∀ m m' pre e, R m pre → step m e = .ok m' → OK pre e ∧ R m' (pre ++ [e]))
include hcons hstep

theorem run_prefix {m m' : M} {pre0 suf : List E} (pre : List E) (hr : R m pre0)
    (h : run m (pre ++ suf) = .ok m') : ∃ m1, R m1 (pre0 ++ pre) ∧ run m1 suf = .ok m' := by
  induction pre generalizing m pre0 with
  | nil => exact ⟨m, by rwa [List.append_nil], h⟩
  | cons e es ih =>
    obtain ⟨m1, hs, h⟩ := hcons _ _ _ _ h
    obtain ⟨m2, h2, h3⟩ := ih (hstep m m1 pre0 e hr hs).2 h
    exact ⟨m2, by rwa [List.append_assoc] at h2, h3⟩

theorem run_ok {m m' : M} {pre0 suf : List E} (pre : List E) (e : E) (hr : R m pre0)
    (h : run m (pre ++ e :: suf) = .ok m') : OK (pre0 ++ pre) e := by
  obtain ⟨m1, h1, h2⟩ := run_prefix hcons hstep pre hr h
  obtain ⟨m2, hs, -⟩ := hcons _ _ _ _ h2
  exact (hstep _ _ _ _ h1 hs).1

end

theorem gmon_run_cons (m : GMon) (e : GEv) (es : List GEv) (m' : GMon) (h : m.run (e :: es) = .ok m') :
    ∃ m1, m.step e = .ok m1 ∧ m1.run es = .ok m' := by
  rw [GMon.run] at h
  split at h
  · exact ⟨_, ‹_›, h⟩
  · cases h

theorem inside_append (cur : List Nat) (a b : List GEv) :
    inside cur (a ++ b) = inside (inside cur a) b := by
  induction a generalizing cur with
  | nil => rfl
  | cons e es ih => cases e <;> exact ih _

theorem gmon_step_inside (m m' : GMon) (pre : List GEv) (e : GEv)
    (hr : inside [] pre = m.holder.toList) (h : m.step e = .ok m') :
    True ∧ inside [] (pre ++ [e]) = m'.holder.toList := by
  refine ⟨trivial, ?_⟩
  rw [inside_append, hr]
  cases e with
  | acq gid how set =>
    simp only [GMon.step] at h
    split at h
    · cases h
    · rename_i hn
      -- whichever way the acquisition is accepted, the new holder is `gid`
      have hm' : m'.holder = some gid := by
        rcases ite_cases h with ⟨-, h⟩ | ⟨-, h⟩
        · rcases ite_cases h with ⟨-, h⟩ | ⟨-, h⟩
          · cases h
            rfl
          · cases h
        · rcases ite_cases h with ⟨-, h⟩ | ⟨-, h⟩
          · rcases ite_cases h with ⟨-, h⟩ | ⟨-, h⟩
            · cases h
              rfl
            · cases h
          · cases h
      simp [inside, hn, hm']
  | rel gid set =>
    simp only [GMon.step] at h
    rcases ite_cases h with ⟨hh, h⟩ | ⟨-, h⟩ <;> cases h
    simp [inside, hh]
  | miss gid =>
    simp only [GMon.step] at h
    cases (ok_of_ite_error h).2
    rfl
  | fin =>
    simp only [GMon.step] at h
    rcases ite_cases h with ⟨-, h⟩ | ⟨-, h⟩ <;> cases h
    rfl

theorem lookup_filter_ne {α β : Type} [DecidableEq α] (a c : α) (l : List (α × β)) :
    lookup a (l.filter (fun x => x.1 ≠ c)) = if a = c then none else lookup a l := by
  induction l with
  | nil => simp [lookup]
  | cons x xs ih =>
    obtain ⟨x1, x2⟩ := x
    by_cases hx : x1 = c
    · subst hx
      simp only [List.filter, lookup, ne_eq, not_true_eq_false, decide_false]
      rw [ih]
      by_cases ha : a = x1
      · simp [ha]
      · have : ¬ x1 = a := fun h => ha h.symm
        simp [ha, this]
    · have hd : decide (x1 ≠ c) = true := by simp [hx]
      simp only [List.filter, hd, lookup]
      rw [ih]
      by_cases ha : a = c
      · subst ha
        simp [hx]
      · simp [ha]

section
variable {K E : Type} (client : E → Option K) (inv : K → E)

/-- `x` is the trace before client `k`'s pending invocation in `pre`: no event of `k` follows it. -/
def Pending (pre : List E) (k : K) (x : List E) : Prop :=
  ∃ y, pre = x ++ inv k :: y ∧ ∀ e ∈ y, client e ≠ some k

def PendingTable [DecidableEq K] (tbl : List (K × List E)) (pre : List E) : Prop :=
  ∀ k x, lookup k tbl = some x → Pending client inv pre k x

variable {client inv} {pre : List E} {e : E}

namespace Pending

theorem snoc {k : K} {x : List E} (h : Pending client inv pre k x) (he : client e ≠ some k) :
    Pending client inv (pre ++ [e]) k x := by
  obtain ⟨y, rfl, hy⟩ := h
  refine ⟨y ++ [e], by simp, fun e' he' => ?_⟩
  rcases List.mem_append.mp he' with he' | he'
  · exact hy e' he'
  · cases List.mem_singleton.mp he'
    exact he

end Pending

namespace PendingTable
variable [DecidableEq K] {tbl : List (K × List E)}

theorem keep (h : PendingTable client inv tbl pre) (he : client e = none) :
    PendingTable client inv tbl (pre ++ [e]) :=
  fun k x hx => (h k x hx).snoc (by rw [he]; nofun)

theorem answer {k0 : K} (h : PendingTable client inv tbl pre) (he : client e = some k0) :
    PendingTable client inv (tbl.filter (fun x => x.1 ≠ k0)) (pre ++ [e]) := by
  intro k x hx
  rw [lookup_filter_ne] at hx
  split at hx
  · cases hx
  · rename_i hne
    exact (h k x hx).snoc (by rw [he]; exact fun h => hne (Option.some.inj h).symm)

theorem invoke {k0 : K} (h : PendingTable client inv tbl pre)
    (he : client (inv k0) = some k0) :
    PendingTable client inv ((k0, pre) :: tbl.filter (fun x => x.1 ≠ k0)) (pre ++ [inv k0]) := by
  intro k x hx
  simp only [lookup] at hx
  split at hx
  · rename_i hk
    cases hx
    exact ⟨[], by rw [hk], nofun⟩
  · exact h.answer he k x hx

end PendingTable
end

theorem lmon_run_cons (m : LMon) (e : LEv) (es : List LEv) (m' : LMon) (h : m.run (e :: es) = .ok m') :
    ∃ m1, m.step e = .ok m1 ∧ m1.run es = .ok m' := by
  rw [LMon.run] at h
  split at h
  · exact ⟨_, ‹_›, h⟩
  · cases h

theorem openOf_append (cur : List Nat) (a b : List LEv) :
    openOf cur (a ++ b) = openOf (openOf cur a) b := by
  induction a generalizing cur with
  | nil => rfl
  | cons e es ih => cases e <;> exact ih _

/-- The monitor's `opened` is exactly the accepted-and-unclosed connections, within the limit. -/
def LOpen (n : Nat) (m : LMon) (pre : List LEv) : Prop :=
  openOf [] pre = m.opened ∧ m.opened.length ≤ m.limit ∧ m.limit = n

/-- `x` is the trace before acceptor `a`'s pending Accept invocation in `pre`: `Pending evAcceptor LEv.ainv`
with the test for "no event of `a`" spelt out on the three events (`pendingAccept_of`). -/
def PendingAccept (pre : List LEv) (a : Nat) (x : List LEv) : Prop :=
  ∃ y, pre = x ++ LEv.ainv a :: y ∧ ∀ e ∈ y, e ≠ LEv.ainv a ∧ e ≠ LEv.acc a ∧ e ≠ LEv.aerr a

def evAcceptor : LEv → Option Nat
  | .ainv a => some a
  | .acc a => some a
  | .aerr a => some a
  | _ => none

theorem pendingAccept_of {pre : List LEv} {a : Nat} {x : List LEv}
    (h : Pending evAcceptor LEv.ainv pre a x) : PendingAccept pre a x := by
  obtain ⟨y, hy, hn⟩ := h
  refine ⟨y, hy, fun e he => ?_⟩
  have := hn e he
  refine ⟨?_, ?_, ?_⟩ <;> rintro rfl <;> exact this rfl

def LRep (m : LMon) (pre : List LEv) : Prop :=
  m.hist = pre ∧ PendingTable evAcceptor LEv.ainv m.ainv pre

/-- Accept-after-close clause for one event. -/
def LOK (pre : List LEv) : LEv → Prop
  | .acc a => ∃ x, PendingAccept pre a x ∧ LEv.lret ∉ x
  | _ => True

theorem lmon_step (n : Nat) (m m' : LMon) (pre : List LEv) (e : LEv) (hr : LRep m pre ∧ LOpen n m pre)
    (h : m.step e = .ok m') : LOK pre e ∧ LRep m' (pre ++ [e]) ∧ LOpen n m' (pre ++ [e]) := by
  obtain ⟨⟨rfl, hl⟩, h1, h2, h3⟩ := hr
  unfold LOpen
  rw [openOf_append, h1]
  cases e with
  | iacc id =>
    simp only [LMon.step] at h
    obtain ⟨-, h⟩ := ok_of_ite_error h
    obtain ⟨hlim, h⟩ := ok_of_ite_error h
    cases h
    exact ⟨trivial, ⟨rfl, hl.keep rfl⟩, rfl, by simp only [List.length_cons]; omega, h3⟩
  | iclose id =>
    simp only [LMon.step] at h
    rcases ite_cases h with ⟨-, h⟩ | ⟨hno, h⟩
    · cases h
      exact ⟨trivial, ⟨rfl, hl.keep rfl⟩, rfl, Nat.le_trans List.length_erase_le h2, h3⟩
    · rcases ite_cases h with ⟨-, h⟩ | ⟨-, h⟩ <;> cases h
      exact ⟨trivial, ⟨rfl, hl.keep rfl⟩, List.erase_of_not_mem hno, h2, h3⟩
  | ainv a0 =>
    cases h
    exact ⟨trivial, ⟨rfl, hl.invoke rfl⟩, rfl, h2, h3⟩
  | acc a0 =>
    simp only [LMon.step] at h
    split at h
    · cases h
    · rename_i x0 hx0
      obtain ⟨hnl, h⟩ := ok_of_ite_error h
      cases h
      exact ⟨⟨x0, pendingAccept_of (hl a0 x0 hx0), hnl⟩, ⟨rfl, hl.answer rfl⟩, rfl, h2, h3⟩
  | aerr a0 =>
    cases h
    exact ⟨trivial, ⟨rfl, hl.answer rfl⟩, rfl, h2, h3⟩
  | lret =>
    cases h
    exact ⟨trivial, ⟨rfl, hl.keep rfl⟩, rfl, h2, h3⟩
  | other =>
    cases h
    exact ⟨trivial, ⟨rfl, hl.keep rfl⟩, rfl, h2, h3⟩

theorem lmon_init (n : Nat) : LRep { limit := n } [] ∧ LOpen n { limit := n } [] :=
  ⟨⟨rfl, fun a x hx => by simp [lookup] at hx⟩, rfl, Nat.zero_le _, rfl⟩

/-- **Listener monitor soundness (Accept after Close)**: in an accepted trace, whenever an
acceptor gets a connection, its Accept call had been invoked (`x` = the trace before that
invocation) before any `Close()` had returned. -/
theorem listener_monitor_accept_after_close (n : Nat) (es : List LEv) (m' : LMon)
    (h : ({ limit := n } : LMon).run es = .ok m') :
    ∀ pre a suf, es = pre ++ LEv.acc a :: suf → ∃ x, PendingAccept pre a x ∧ LEv.lret ∉ x := by
  intro pre a suf he
  subst he
  exact run_ok lmon_run_cons (lmon_step n) (pre0 := []) pre _ (lmon_init n) h

theorem qmon_run_cons (m : QMon) (e : QEv) (es : List QEv) (m' : QMon) (h : m.run (e :: es) = .ok m') :
    ∃ m1, m.step e = .ok m1 ∧ m1.run es = .ok m' := by
  rw [QMon.run] at h
  split at h
  · exact ⟨_, ‹_›, h⟩
  · cases h

abbrev PendingGet (pre : List QEv) (c : Nat) (a : List QEv) : Prop :=
  Pending evConsumer QEv.ginv pre c a

def PutInvokedAt (pre : List QEv) (p k : Nat) (a : List QEv) : Prop :=
  ∃ b, pre = a ++ QEv.pinv p k :: b

/-- The property clause each accepted event stands for (`pre` = the trace before it). -/
def QOK (pre : List QEv) : QEv → Prop
  | .pinv p k => (p, k) ∉ putInvokedOf pre
  /- a put that was accepted had been invoked before close returned -/
  | .pret p k true => ∃ a, PutInvokedAt pre p k a ∧ QEv.cret ∉ a
  /- a put is rejected only once close was called, and a rejected item is never delivered -/
  | .pret p k false => QEv.cinv ∈ pre ∧ (p, k) ∉ deliveredOf pre
  /- a delivered item was put (no phantom), not delivered before (exactly once), not rejected;
     FIFO in real time: no later item of the same producer was delivered before this get was even
     invoked; and the get was invoked before close returned -/
  | .gitem c p k => (p, k) ∈ putInvokedOf pre ∧ (p, k) ∉ deliveredOf pre ∧ (p, k) ∉ rejectedOf pre ∧
      ∃ a, PendingGet pre c a ∧ (∀ k', (p, k') ∈ deliveredOf a → ¬ k < k') ∧ QEv.cret ∉ a
  /- the closed error is reported only once close was called -/
  | .gclosed c => QEv.cinv ∈ pre ∧ ∃ a, PendingGet pre c a
  | .gctx c => ∃ a, PendingGet pre c a
  | .cret => QEv.cinv ∈ pre
  /- drained runs lose nothing: every accepted item was delivered -/
  | .fin true => ∀ it ∈ acceptedOf pre, it ∈ deliveredOf pre
  | _ => True

def QRep (m : QMon) (pre : List QEv) : Prop :=
  m.hist = pre ∧ PendingTable evConsumer QEv.ginv m.ginv pre ∧
  (∀ p k a, lookup (p, k) m.pinv = some a → PutInvokedAt pre p k a)

theorem putInvokedAt_snoc {pre : List QEv} {p k : Nat} {a : List QEv} (e : QEv)
    (h : PutInvokedAt pre p k a) : PutInvokedAt (pre ++ [e]) p k a := by
  obtain ⟨b, rfl⟩ := h
  exact ⟨b ++ [e], by simp⟩

theorem qmon_check_ok (m : QMon) (pre : List QEv) (e : QEv) (hr : QRep m pre)
    (hc : m.check e = none) : QOK pre e := by
  obtain ⟨hh, hg, hp⟩ := hr
  cases e with
  | pinv p k =>
    simp only [QMon.check, ite_some_eq_none, hh] at hc
    exact hc.1
  | pret p k ok =>
    simp only [QMon.check] at hc
    split at hc
    · cases hc
    · rename_i a ha
      cases ok with
      | true =>
        simp only [if_true, ite_some_eq_none] at hc
        exact ⟨a, hp p k a ha, hc.1⟩
      | false =>
        simp only [Bool.false_eq_true, if_false, ite_some_eq_none, hh, Decidable.not_not] at hc
        exact ⟨hc.1, hc.2.1⟩
  | ginv c => trivial
  | gitem c p k =>
    simp only [QMon.check] at hc
    split at hc
    · cases hc
    · rename_i a ha
      simp only [ite_some_eq_none, hh, Decidable.not_not, List.any_eq_true, not_exists, not_and] at hc
      obtain ⟨h1, h2, h3, h4, h5, -⟩ := hc
      refine ⟨h1, h2, h3, a, hg c a ha, fun k' hk' hlt => ?_, h5⟩
      exact h4 (p, k') hk' (by simp [hlt])
  | gclosed c =>
    simp only [QMon.check, ite_some_eq_none, hh, Decidable.not_not] at hc
    cases hl : lookup c m.ginv with
    | none => rw [hl] at hc; exact absurd rfl hc.1
    | some a => exact ⟨hc.2.1, a, hg c a hl⟩
  | gctx c =>
    simp only [QMon.check, ite_some_eq_none] at hc
    cases hl : lookup c m.ginv with
    | none => rw [hl] at hc; exact absurd rfl hc.1
    | some a => exact ⟨a, hg c a hl⟩
  | cinv => trivial
  | cret =>
    simp only [QMon.check, ite_some_eq_none, hh, Decidable.not_not] at hc
    exact hc.1
  | fin d =>
    cases d with
    | false => trivial
    | true =>
      simp only [QMon.check, ite_some_eq_none, hh, true_and, Decidable.not_not] at hc
      exact hc.1

theorem qmon_step_rep (m m' : QMon) (pre : List QEv) (e : QEv) (hr : QRep m pre)
    (h : m.step e = .ok m') : QOK pre e ∧ QRep m' (pre ++ [e]) := by
  simp only [QMon.step] at h
  split at h
  · cases h
  · rename_i hc
    cases h
    refine ⟨qmon_check_ok m pre e hr hc, ?_⟩
    obtain ⟨rfl, hg, hp⟩ := hr
    refine ⟨rfl, ?_, ?_⟩
    · simp only
      cases hc : evConsumer e with
      | none => exact hg.keep hc
      | some c0 =>
        simp only
        cases e with
        | ginv c1 => cases hc; exact hg.invoke rfl
        | gitem c1 p k => exact hg.answer hc
        | gclosed c1 => exact hg.answer hc
        | gctx c1 => exact hg.answer hc
        | _ => cases hc
    · intro p k a hl
      simp only at hl
      cases e with
      | pinv p1 k1 =>
        simp only [lookup] at hl
        split at hl
        · rename_i heq
          cases hl
          cases heq
          exact ⟨[], rfl⟩
        · exact putInvokedAt_snoc _ (hp p k a hl)
      | _ => exact putInvokedAt_snoc _ (hp p k a hl)

theorem qrep_init : QRep {} [] :=
  ⟨rfl, fun c a h => by simp [lookup] at h, fun p k a h => by simp [lookup] at h⟩

/-- **Queue monitor soundness**: every event of an accepted trace satisfies its property clause
`QOK` with respect to the trace before it. -/
theorem queue_monitor_sound (es : List QEv) (m' : QMon) (h : ({} : QMon).run es = .ok m') :
    ∀ pre e suf, es = pre ++ e :: suf → QOK pre e := by
  intro pre e suf he
  subst he
  exact run_ok qmon_run_cons qmon_step_rep (pre0 := []) pre e qrep_init h

theorem deliveredOf_append (a b : List QEv) : deliveredOf (a ++ b) = deliveredOf a ++ deliveredOf b := by
  induction a with
  | nil => rfl
  | cons e es ih => cases e <;> simp [deliveredOf, ih]

/-- The exactly-once clause of `QOK` keeps the delivered items free of duplicates. -/
theorem qmon_step_nodup (m m' : QMon) (pre : List QEv) (e : QEv)
    (hr : QRep m pre ∧ (deliveredOf pre).Nodup) (h : m.step e = .ok m') :
    QOK pre e ∧ QRep m' (pre ++ [e]) ∧ (deliveredOf (pre ++ [e])).Nodup := by
  obtain ⟨hok, hr'⟩ := qmon_step_rep m m' pre e hr.1 h
  refine ⟨hok, hr', ?_⟩
  rw [deliveredOf_append]
  cases e with
  | gitem c p k =>
    exact List.nodup_append.mpr ⟨hr.2, List.nodup_cons.mpr ⟨List.not_mem_nil, List.nodup_nil⟩,
      fun x hx y hy hxy => hok.2.1 (by cases List.mem_singleton.mp hy; exact hxy ▸ hx)⟩
  | _ => simpa [deliveredOf] using hr.2

end NetVerif.Proofs.MonitorSound
