import NetVerif.Model.HpackEnc
import NetVerif.Proofs.Lemmas.Hpack
import NetVerif.Proofs.Lemmas.ByteArith
import NetVerif.Proofs.C04
/-!
For C01/C05: what the decoder model reads back from the encoder model's bytes, form by form. A table
search meets its contract `Finds`; eviction keeps the greatest newest part of the table that fits
(`evict_spec`), which makes it a simulation on "newest part" (`evict_prefix`).
-/
namespace NetVerif.Proofs.Lemmas.HpackEnc
open NetVerif.Model.Hpack NetVerif.Model.HpackEnc
open NetVerif.Model
open NetVerif
open NetVerif.Proofs.Lemmas.Hpack

/-- `v * 2 ^ m < 2 ^ 63` keeps the reader below its overflow check. -/
theorem readVarIntLoop_varIntCont : ∀ (fuel v acc m : Nat) (rest : Bytes), v ≤ fuel → v * 2 ^ m < 2 ^ 63 →
    readVarIntLoop (varIntCont fuel v ++ rest) acc m = .ok (acc + v * 2 ^ m, rest) := by
  intro fuel
  induction fuel with
  | zero =>
    intro v acc m rest hf _
    have : v = 0 := by omega
    subst this
    simp [varIntCont, readVarIntLoop]
  | succ fuel ih =>
    intro v acc m rest hf hv
    have hp : 2 ^ (m + 7) = 2 ^ m * 128 := Nat.pow_add 2 m 7
    unfold varIntCont
    by_cases h128 : v ≥ 128
    · have hov : ¬ (m + 7 ≥ 63) := fun hge => by
        have := Nat.pow_le_pow_right (by omega : 0 < 2) hge
        have := Nat.mul_le_mul_right (2 ^ m) h128
        omega
      have hrec : v / 128 * 2 ^ (m + 7) ≤ v * 2 ^ m := by
        rw [hp, Nat.mul_comm (2 ^ m), ← Nat.mul_assoc]
        exact Nat.mul_le_mul_right _ (Nat.div_mul_le_self v 128)
      rw [if_pos h128, List.cons_append, readVarIntLoop, if_neg (Nat.not_lt.mpr (Nat.le_add_right _ _)), if_neg hov,
        ih _ _ _ rest (by omega) (Nat.lt_of_le_of_lt hrec hv), hp, Nat.add_mod_left, Nat.mod_mod, digit128]
    · have h128 := Nat.lt_of_not_le h128
      rw [if_neg (Nat.not_le.mpr h128), List.cons_append, List.nil_append, readVarIntLoop, if_pos h128,
        Nat.mod_eq_of_lt h128]

/-- `i < 2 ^ 62` is a round sufficient bound: what follows the prefix must stay below `2 ^ 63`, where
the reader gives up. -/
theorem readVarInt_appendVarInt (n flag i : Nat) (rest : Bytes) (hn : n < 8)
    (hflag : flag % 2 ^ n = 0) (hi : i < 2 ^ 62) :
    readVarInt n (appendVarInt n flag i ++ rest) = .ok (i, rest) := by
  have hpos : 0 < 2 ^ n := Nat.pow_pos (by omega)
  unfold appendVarInt
  by_cases hk : i < 2 ^ n - 1
  · simp only [hk, ↓reduceIte, List.cons_append, List.nil_append, readVarInt, hn]
    rw [(prefix_bits hflag (by omega)).1]
    simp [hk]
  · simp only [hk, ↓reduceIte, List.cons_append, readVarInt, hn]
    rw [(prefix_bits hflag (by omega)).1]
    simp only [Nat.lt_irrefl, ↓reduceIte]
    rw [readVarIntLoop_varIntCont _ _ _ 0 rest (Nat.le_refl _) (by omega)]
    congr 2
    omega

theorem appendVarInt_cons (n flag i : Nat) :
    ∃ hd tl, appendVarInt n flag i = hd :: tl ∧ flag ≤ hd ∧ hd ≤ flag + (2 ^ n - 1) := by
  unfold appendVarInt
  by_cases hk : i < 2 ^ n - 1
  · exact ⟨flag + i, [], by simp [hk], by omega, by omega⟩
  · exact ⟨flag + (2 ^ n - 1), varIntCont (i - (2 ^ n - 1)) (i - (2 ^ n - 1)), by simp [hk], by omega, by omega⟩

theorem parseAction_appendVarInt (d : DecCore) {r : ReprKind} (n flag i : Nat) (rest : Bytes)
    (hr : ∀ b, flag ≤ b → b ≤ flag + (2 ^ n - 1) → reprOf b = r) :
    parseAction d (appendVarInt n flag i ++ rest) = reprParser d r (appendVarInt n flag i ++ rest) := by
  obtain ⟨hd, tl, hcons, hlo, hhi⟩ := appendVarInt_cons n flag i
  rw [hcons, List.cons_append, parseAction_cons, hr hd hlo hhi]

/-- What `readString` returns for `appendHpackString s`. -/
def ustringOf (s : Bytes) : UString :=
  if Huffman.encodeLength s < s.length then { isHuff := true, b := huffBytes s }
  else { isHuff := false, b := s }

theorem decodeString_ustringOf (s : Bytes) (hs : Proofs.C04.Bytes s) : decodeString 0 (ustringOf s) = .ok s := by
  unfold ustringOf
  split
  · simp only [decodeString, Bool.not_true, Bool.false_eq_true, ↓reduceIte, huffBytes]
    rw [Proofs.C04.decodeMax_zero, Proofs.C04.decode_appendHuffman s hs]
  · rfl

theorem readString_appendVarInt (huff : Bool) (s rest : Bytes) (hlen : s.length < 2 ^ 62) :
    readString 0 (appendVarInt 7 (if huff then 128 else 0) s.length ++ (s ++ rest)) =
      .ok ({ isHuff := huff, b := s }, rest) := by
  obtain ⟨hd, tl, hcons, hlo, hhi⟩ := appendVarInt_cons 7 (if huff then 128 else 0) s.length
  have hrv := readVarInt_appendVarInt 7 (if huff then 128 else 0) s.length (s ++ rest) (by omega)
    (by cases huff <;> rfl) hlen
  rw [hcons] at hrv ⊢
  rw [List.cons_append] at hrv ⊢
  have hh : decide (hd ≥ 128) = huff := by
    cases huff
    · exact decide_eq_false (by simp only [Bool.false_eq_true, ↓reduceIte] at hhi; omega)
    · exact decide_eq_true hlo
  rw [readString]
  simp only [hrv, ne_eq, not_true_eq_false, false_and, ↓reduceIte, List.length_append, hh,
    show ¬ (s.length + rest.length < s.length) by omega, List.take_left', List.drop_left']

theorem readString_appendHpackString (s rest : Bytes) (hlen : s.length < 2 ^ 62) (hs : Proofs.C04.Bytes s) :
    readString 0 (appendHpackString s ++ rest) = .ok (ustringOf s, rest) := by
  unfold appendHpackString ustringOf
  by_cases hh : Huffman.encodeLength s < s.length <;> simp only [hh, ↓reduceIte]
  · have hl : (huffBytes s).length = Huffman.encodeLength s := by
      unfold huffBytes
      rw [Proofs.C04.appendHuffman_eq_encode s hs]
      exact (Proofs.C04.encodeLength_eq s).symm
    rw [List.append_assoc, ← hl]
    exact readString_appendVarInt true _ rest (by omega)
  · rw [List.append_assoc]
    exact readString_appendVarInt false s rest hlen

/-- Decoder configuration the round trip assumes: no string limit, emit enabled. -/
structure DecCfg (d : DecCore) : Prop where
  str : d.maxStrLen = 0
  emit : d.emitEnabled = true

theorem parseRepr_indexed (d : DecCore) (hc : DecCfg d) (idx : Nat) (e : Entry) (rest : Bytes)
    (hat : d.at idx = some e) (hidx : idx < 2 ^ 62) :
    parseRepr d (appendIndexed idx ++ rest) = .ok d rest (some { name := e.1, value := e.2 }) := by
  refine parseRepr_ok_iff.2 ⟨.indexed e, ?_, ?_⟩
  · rw [appendIndexed, parseAction_appendVarInt d 7 128 idx rest fun b hlo _ => reprOf_indexed hlo]
    simp only [reprParser, indexedP, Parser.bind, readVarInt_appendVarInt 7 128 idx rest (by omega) (by decide) hidx, hat]
    rfl
  · simp [applyAction, finishEmit, callEmit, hc.str, hc.emit]

theorem litBits_lt (it : IndexType) : litBits it < 8 := by cases it <;> decide

theorem litFlag_mod (it : IndexType) : litFlag it % 2 ^ litBits it = 0 := by cases it <;> decide

theorem litValue_ustringOf {d : DecCore} (hc : DecCfg d) (it : IndexType) (s : Bytes) (hs : Proofs.C04.Bytes s) :
    litValue d it (ustringOf s) = .ok s := by
  rw [litValue, hc.emit, hc.str]
  exact decodeString_ustringOf s hs

theorem applyLiteral_decCfg (d : DecCore) (hc : DecCfg d) (it : IndexType) (tn : Option Bytes) (un uv : UString)
    (name value : Bytes) (hn : litName d it tn un = .ok name) (hv : litValue d it uv = .ok value) :
    applyAction d (.literal it tn un uv) =
      .ok (afterLiteral d it name value) (some { name := name, value := value, sensitive := it.sensitive }) := by
  obtain ⟨dyn', hd, _⟩ := afterLiteral_eq d it name value
  rw [applyAction_literal_eq, hn, hv]
  simp [finishEmit, callEmit, hd, hc.str, hc.emit]

theorem parseRepr_literal_idx (d : DecCore) (hc : DecCfg d) (it : IndexType) (idx : Nat) (e : Entry)
    (value rest : Bytes) (hpos : 0 < idx) (hidx : idx < 2 ^ 62) (hat : d.at idx = some e)
    (hv : value.length < 2 ^ 62) (hvb : Proofs.C04.Bytes value) :
    parseRepr d (appendVarInt (litBits it) (litFlag it) idx ++ (appendHpackString value ++ rest)) =
      .ok (afterLiteral d it e.1 value) rest (some { name := e.1, value := value, sensitive := it.sensitive }) := by
  refine parseRepr_ok_iff.2 ⟨.literal it (some e.1) { isHuff := false, b := [] } (ustringOf value), ?_,
    applyLiteral_decCfg d hc it (some e.1) _ _ e.1 value rfl (litValue_ustringOf hc it value hvb)⟩
  rw [parseAction_appendVarInt d _ _ idx _ fun b => reprOf_literal it]
  simp only [reprParser, parseLiteral, Parser.bind, readVarInt_appendVarInt _ _ idx _ (litBits_lt it) (litFlag_mod it) hidx,
    hpos, ↓reduceIte, hat, hc.str, readString_appendHpackString value rest hv hvb, Parser.pure]

theorem parseRepr_literal_new (d : DecCore) (hc : DecCfg d) (it : IndexType)
    (name value rest : Bytes) (hn : name.length < 2 ^ 62) (hv : value.length < 2 ^ 62)
    (hnb : Proofs.C04.Bytes name) (hvb : Proofs.C04.Bytes value) :
    parseRepr d (litFlag it :: (appendHpackString name ++ (appendHpackString value ++ rest))) =
      .ok (afterLiteral d it name value) rest (some { name := name, value := value, sensitive := it.sensitive }) := by
  refine parseRepr_ok_iff.2 ⟨.literal it none (ustringOf name) (ustringOf value), ?_,
    applyLiteral_decCfg d hc it none _ _ name value (litValue_ustringOf hc it name hnb)
      (litValue_ustringOf hc it value hvb)⟩
  -- the name index 0 is the one-byte integer `litFlag it`
  have h0 : ∀ r : Bytes, litFlag it :: r = appendVarInt (litBits it) (litFlag it) 0 ++ r := by
    unfold appendVarInt
    cases it <;> exact fun _ => rfl
  rw [h0, parseAction_appendVarInt d _ _ 0 _ fun b => reprOf_literal it]
  simp only [reprParser, parseLiteral, Parser.bind, readVarInt_appendVarInt _ _ 0 _ (litBits_lt it) (litFlag_mod it) (by omega),
    Nat.lt_irrefl, ↓reduceIte, hc.str, readString_appendHpackString name _ hn hnb,
    readString_appendHpackString value rest hv hvb, Parser.pure]

theorem parseAction_appendTableSize (d : DecCore) (v : Nat) (rest : Bytes) :
    parseAction d (appendTableSize v ++ rest) = sizeUpdateP d (appendTableSize v ++ rest) :=
  parseAction_appendVarInt d 5 32 v rest fun b hlo hhi => reprOf_sizeUpdate hlo (by omega)

theorem parseRepr_sizeUpdate (d : DecCore) (v : Nat) (rest : Bytes) (hv : v ≤ d.dyn.allowedMaxSize)
    (hv62 : v < 2 ^ 62) (hok : d.firstField = true ∨ d.dyn.size = 0) :
    parseRepr d (appendTableSize v ++ rest) = .ok { d with dyn := d.dyn.setMaxSize v } rest none := by
  refine parseRepr_ok_iff.2 ⟨.sizeUpdate v, ?_, rfl⟩
  have hnot : ¬ ((!d.firstField) = true ∧ d.dyn.size > 0) := by
    rcases hok with h | h
    · simp [h]
    · omega
  rw [parseAction_appendTableSize, sizeUpdateP, if_neg hnot, appendTableSize]
  simp only [Parser.bind, readVarInt_appendVarInt 5 32 v rest (by omega) (by decide) hv62,
    show ¬ v > d.dyn.allowedMaxSize by omega, ↓reduceIte]
  rfl

theorem parseRepr_sizeUpdate_reject (d : DecCore) (v : Nat) (rest : Bytes)
    (hff : d.firstField = false) (hsz : d.dyn.size > 0) :
    parseRepr d (appendTableSize v ++ rest) = .err .updateNotAtStart d := by
  refine parseRepr_err_iff.2 (.inl ⟨?_, nofun, rfl⟩)
  rw [parseAction_appendTableSize, sizeUpdateP, if_pos (by simp [hff, hsz])]
  rfl

/-- `k`, counted from `pos` at the head of `l`, is the position of an element satisfying `p`. -/
def Hit (p : Entry → Bool) (l : List Entry) (pos k : Nat) : Prop :=
  pos ≤ k ∧ ∃ e, l[k - pos]? = some e ∧ p e = true

theorem Hit.head {p : Entry → Bool} {a : Entry} (t : List Entry) (pos : Nat) (h : p a = true) :
    Hit p (a :: t) pos pos :=
  ⟨Nat.le_refl _, a, by rw [Nat.sub_self]; rfl, h⟩

theorem Hit.tail {p : Entry → Bool} {t : List Entry} {pos k : Nat} (a : Entry) (h : Hit p t (pos + 1) k) :
    Hit p (a :: t) pos k := by
  obtain ⟨hle, e, hget, hpe⟩ := h
  refine ⟨by omega, e, ?_, hpe⟩
  rw [show k - pos = (k - (pos + 1)) + 1 by omega, List.getElem?_cons_succ]
  exact hget

theorem firstIdxFrom_spec (p : Entry → Bool) : ∀ (l : List Entry) (pos : Nat), firstIdxFrom p l pos ≠ 0 →
    Hit p l pos (firstIdxFrom p l pos) := by
  intro l
  induction l with
  | nil => intro pos h; exact absurd rfl h
  | cons a t ih =>
    intro pos h
    unfold firstIdxFrom at h ⊢
    split
    · exact .head t pos ‹_›
    · rename_i hp
      rw [if_neg hp] at h
      exact (ih (pos + 1) h).tail a

theorem firstIdx_spec (p : Entry → Bool) (l : List Entry) (h : firstIdx p l ≠ 0) :
    ∃ e, l[firstIdx p l - 1]? = some e ∧ p e = true := (firstIdxFrom_spec p l 1 h).2

theorem lastIdxFrom_spec (p : Entry → Bool) : ∀ (l : List Entry) (pos acc : Nat),
    lastIdxFrom p l pos acc = acc ∨ Hit p l pos (lastIdxFrom p l pos acc) := by
  intro l
  induction l with
  | nil => intro pos acc; exact .inl rfl
  | cons a t ih =>
    intro pos acc
    unfold lastIdxFrom
    split
    · rename_i hp
      -- a later match, or this one
      rcases ih (pos + 1) pos with h | h
      · rw [h]; exact .inr (.head t pos hp)
      · exact .inr (h.tail a)
    · exact (ih (pos + 1) acc).imp_right (·.tail a)

theorem lastIdx_spec (p : Entry → Bool) (l : List Entry) (h : lastIdx p l ≠ 0) :
    ∃ e, l[lastIdx p l - 1]? = some e ∧ p e = true :=
  ((lastIdxFrom_spec p l 1 0).resolve_left h).2

theorem matchNV_iff (f : Field) (e : Entry) : matchNV f e = true ↔ e = (f.name, f.value) := by
  obtain ⟨a, b⟩ := e
  simp [matchNV]

theorem matchN_iff (f : Field) (e : Entry) : matchN f e = true ↔ e.1 = f.name := by
  simp [matchN]

/-- The contract of a table search with result `r` = (index, name and value match), against the lookup
`look`: a full match is never reported for a sensitive field and resolves to the field's pair; any other
non-zero index resolves to an entry with the field's name. -/
def Finds (look : Nat → Option Entry) (f : Field) (r : Nat × Bool) : Prop :=
  (r.2 = true → f.sensitive = false ∧ r.1 ≠ 0 ∧ look r.1 = some (f.name, f.value)) ∧
  (r.2 = false → r.1 ≠ 0 → ∃ v, look r.1 = some (f.name, v))

theorem Finds.shift {look look' : Nat → Option Entry} {f : Field} {r : Nat × Bool} (k : Nat) (h : Finds look f r)
    (hl : ∀ i e, i ≠ 0 → look i = some e → look' (i + k) = some e) (hne : r.1 ≠ 0) : Finds look' f (r.1 + k, r.2) :=
  ⟨fun h2 => ⟨(h.1 h2).1, by show r.1 + k ≠ 0; omega, hl _ _ hne (h.1 h2).2.2⟩,
    fun h2 _ => (h.2 h2 hne).imp fun _ hv => hl _ _ hne hv⟩

theorem searchWith_finds (f : Field) (l : List Entry) (byNV byN : Nat)
    (hnv : byNV ≠ 0 → ∃ e, l[byNV - 1]? = some e ∧ matchNV f e = true)
    (hn : byN ≠ 0 → ∃ e, l[byN - 1]? = some e ∧ matchN f e = true) :
    Finds (fun i => l[i - 1]?) f (searchWith f byNV byN) := by
  unfold searchWith
  split
  · rename_i h1
    simp only [Bool.and_eq_true, Bool.not_eq_true', bne_iff_ne, ne_eq] at h1
    obtain ⟨e, hget, hpe⟩ := hnv h1.2
    exact ⟨fun _ => ⟨h1.1, h1.2, hget.trans (by rw [(matchNV_iff f e).1 hpe])⟩, nofun⟩
  · split
    · rename_i h2
      obtain ⟨e, hget, hpe⟩ := hn (by simpa using h2)
      exact ⟨nofun, fun _ _ => ⟨e.2, hget.trans (by rw [← (matchN_iff f e).1 hpe])⟩⟩
    · exact ⟨nofun, fun _ h => absurd rfl h⟩

theorem staticSearch_finds (f : Field) : Finds (fun i => staticTable[i - 1]?) f (staticSearch f) :=
  searchWith_finds f staticTable _ _ (lastIdx_spec _ _) (lastIdx_spec _ _)

theorem dynSearch_finds (ents : List Entry) (f : Field) : Finds (fun i => ents[i - 1]?) f (dynSearch ents f) :=
  searchWith_finds f ents _ _ (firstIdx_spec _ _) (firstIdx_spec _ _)

theorem at_static (d : DecCore) (i : Nat) (e : Entry) (hi : i ≠ 0) (h : staticTable[i - 1]? = some e) :
    d.at i = some e := by
  obtain ⟨hlt, _⟩ := List.getElem?_eq_some_iff.mp h
  unfold DecCore.at
  rw [if_neg hi, if_pos (by omega)]
  exact h

theorem at_dynamic (d : DecCore) (j : Nat) (e : Entry) (hj : j ≠ 0) (h : d.dyn.ents[j - 1]? = some e) :
    d.at (j + staticTable.length) = some e := by
  obtain ⟨hlt, _⟩ := List.getElem?_eq_some_iff.mp h
  unfold DecCore.at
  rw [if_neg (by omega), if_neg (by omega), if_neg (by omega),
    show j + staticTable.length - staticTable.length - 1 = j - 1 by omega]
  exact h

theorem prefix_getElem? {α : Type} (l1 l2 : List α) (h : l1 <+: l2) (i : Nat) (a : α) (hi : l1[i]? = some a) :
    l2[i]? = some a := by
  obtain ⟨t, rfl⟩ := h
  obtain ⟨hlt, _⟩ := List.getElem?_eq_some_iff.mp hi
  rw [List.getElem?_append_left hlt]
  exact hi

/-- **Search contract**: whatever index the encoder finds, a decoder whose dynamic table has the
encoder's table as its newest part resolves that index to the same name (and value). -/
theorem searchTable_spec (e : Encoder) (d : DecCore) (f : Field) (hpre : e.dyn.ents <+: d.dyn.ents) :
    Finds d.at f (e.searchTable f) := by
  have hs := staticSearch_finds f
  have hd := dynSearch_finds e.dyn.ents f
  have hs' := hs.shift 0 (at_static d)
  have hd' := hd.shift _ fun i en hi h => at_dynamic d i en hi (prefix_getElem? _ _ hpre _ _ h)
  simp only [Encoder.searchTable]
  split
  · rename_i h1
    exact ⟨fun _ => (hs' (hs.1 h1).2.1).1 h1, nofun⟩
  · split
    · rename_i h1 h2
      refine hd' fun h0 => ?_
      -- a search that reports a match, or is preferred to the static one, found something
      simp only [Bool.or_eq_true, Bool.and_eq_true, bne_iff_ne, ne_eq] at h2
      exact h2.elim (fun h => (hd.1 h).2.1 h0) (fun h => h.2 h0)
    · rename_i h1 _
      exact ⟨nofun, fun _ hne => (hs' hne).2 (by simpa using h1) hne⟩

theorem searchTable_sensitive (e : Encoder) (f : Field) (hs : f.sensitive = true) : (e.searchTable f).2 = false :=
  Bool.eq_false_iff.2 fun h =>
    Bool.noConfusion (hs.symm.trans ((searchTable_spec e { dyn := e.dyn } f (List.prefix_refl _)).1 h).1)

theorem writeRepr_indexed (e : Encoder) (f : Field) (hm : (e.searchTable f).2 = true) :
    e.writeRepr f = (e, appendIndexed (e.searchTable f).1) := by
  simp only [Encoder.writeRepr, hm, ↓reduceIte]

/-- **What `WriteField` writes for a field without a full match**, in the decoder's terms: a literal of
some kind `it` (first byte `litFlag it`, name index in `litBits it` bits) that is the never-indexed one
exactly for a sensitive field; the pair is added to the table if `it` is the indexing kind. -/
theorem writeRepr_literal (e : Encoder) (f : Field) (hm : (e.searchTable f).2 = false) : ∃ it : IndexType,
    it.sensitive = f.sensitive ∧
    e.writeRepr f = (if it.indexed then { e with dyn := e.dyn.add (f.name, f.value) } else e,
      if (e.searchTable f).1 = 0 then litFlag it :: (appendHpackString f.name ++ appendHpackString f.value)
      else appendVarInt (litBits it) (litFlag it) (e.searchTable f).1 ++ appendHpackString f.value) := by
  simp only [Encoder.writeRepr, hm, Bool.false_eq_true, ↓reduceIte, appendNewName, appendIndexedName]
  cases hs : f.sensitive with
  | true =>
    rw [show e.shouldIndex f = false by simp [Encoder.shouldIndex, hs]]
    exact ⟨.indexedNever, rfl, rfl⟩
  | false =>
    cases e.shouldIndex f with
    | true => exact ⟨.indexedTrue, rfl, rfl⟩
    | false => exact ⟨.indexedFalse, rfl, rfl⟩

def sizeSum (es : List Entry) : Nat := (es.map entrySize).sum

theorem sizeSum_cons (a : Entry) (t : List Entry) : sizeSum (a :: t) = entrySize a + sizeSum t := by
  simp [sizeSum]

theorem sizeSum_reverse (l : List Entry) : sizeSum l.reverse = sizeSum l := by
  simp [sizeSum, List.map_reverse, List.sum_reverse]

theorem sizeSum_append (a b : List Entry) : sizeSum (a ++ b) = sizeSum a + sizeSum b := by
  simp [sizeSum]

/-- On the oldest-first entries: the greatest suffix whose size is within `M`. -/
theorem evictLoop_spec (M : Nat) : ∀ (l : List Entry) (s : Nat),
    (evictLoop M l s).1 <:+ l ∧ (s = sizeSum l →
      (evictLoop M l s).2 = sizeSum (evictLoop M l s).1 ∧ (evictLoop M l s).2 ≤ M ∧
      ∀ r, r <:+ l → sizeSum r ≤ M → r <:+ (evictLoop M l s).1) := by
  intro l
  induction l with
  | nil => exact fun s => ⟨List.suffix_refl _, fun h => ⟨h, h ▸ Nat.zero_le M, fun r hr _ => hr⟩⟩
  | cons a t ih =>
    intro s
    rw [evictLoop]
    split
    · rename_i hgt
      obtain ⟨h1, h2⟩ := ih (s - entrySize a)
      refine ⟨h1.trans (List.suffix_cons a t), fun hs => ?_⟩
      rw [sizeSum_cons] at hs
      obtain ⟨h3, h4, h5⟩ := h2 (by omega)
      refine ⟨h3, h4, fun r hr hM => ?_⟩
      -- a fitting suffix is not the whole list, which does not fit
      rcases List.suffix_cons_iff.1 hr with rfl | hr
      · rw [sizeSum_cons] at hM; omega
      · exact h5 r hr hM
    · exact ⟨List.suffix_refl _, fun hs => ⟨hs, by omega, fun r hr _ => hr⟩⟩

theorem evictLoop_fits (M : Nat) (l : List Entry) (s : Nat) (h : s ≤ M) : evictLoop M l s = (l, s) := by
  cases l with
  | nil => rfl
  | cons a t => unfold evictLoop; rw [if_neg (by omega)]

def SizeOK (dt : DynTable) : Prop := dt.size = sizeSum dt.ents

theorem evict_ents_prefix (dt : DynTable) : dt.evict.ents <+: dt.ents :=
  List.reverse_reverse dt.ents ▸ List.reverse_prefix.2 (evictLoop_spec _ _ _).1

theorem setMaxSize_ents_prefix (dt : DynTable) (v : Nat) : (dt.setMaxSize v).ents <+: dt.ents :=
  evict_ents_prefix { dt with maxSize := v }

theorem evict_fits (dt : DynTable) (h : dt.size ≤ dt.maxSize) : dt.evict = dt := by
  unfold DynTable.evict
  rw [evictLoop_fits _ _ _ h]
  simp

theorem sizeSum_prefix {p l : List Entry} (h : p <+: l) : sizeSum p ≤ sizeSum l := by
  obtain ⟨t, rfl⟩ := h
  rw [sizeSum_append]
  exact Nat.le_add_right _ _

theorem evict_spec (dt : DynTable) (h : SizeOK dt) :
    SizeOK dt.evict ∧ dt.evict.size ≤ dt.maxSize ∧
      ∀ p, p <+: dt.ents → sizeSum p ≤ dt.maxSize → p <+: dt.evict.ents := by
  obtain ⟨h1, h2, h3⟩ := (evictLoop_spec dt.maxSize dt.ents.reverse dt.size).2 (by rw [sizeSum_reverse]; exact h)
  refine ⟨h1.trans (sizeSum_reverse _).symm, h2, fun p hp hM => ?_⟩
  have := h3 p.reverse (List.reverse_suffix.2 hp) (by rw [sizeSum_reverse]; exact hM)
  exact List.reverse_reverse p ▸ List.reverse_prefix.2 this

theorem evict_sizeOK (dt : DynTable) (h : SizeOK dt) :
    SizeOK dt.evict ∧ dt.evict.size ≤ dt.maxSize ∧ dt.evict.size ≤ dt.size :=
  have ⟨h1, h2, _⟩ := evict_spec dt h
  ⟨h1, h2, h1 ▸ h ▸ sizeSum_prefix (evict_ents_prefix dt)⟩

/-- **Eviction preserves "the encoder's table is the newest part of the decoder's table"**, provided the
encoder's bound is not larger: what the encoder keeps is a newest part of the decoder's table that fits. -/
theorem evict_prefix (te td : DynTable) (he : SizeOK te) (hd : SizeOK td) (hpre : te.ents <+: td.ents)
    (hM : te.maxSize ≤ td.maxSize) : te.evict.ents <+: td.evict.ents :=
  have ⟨h1, h2, _⟩ := evict_spec te he
  (evict_spec td hd).2.2 _ ((evict_ents_prefix te).trans hpre) (Nat.le_trans (h1 ▸ h2) hM)

theorem SizeOK.cons {dt : DynTable} (h : SizeOK dt) (x : Entry) :
    SizeOK { dt with ents := x :: dt.ents, size := dt.size + entrySize x } :=
  show dt.size + entrySize x = _ by rw [sizeSum_cons, h, Nat.add_comm]

theorem add_prefix (te td : DynTable) (x : Entry) (he : SizeOK te) (hd : SizeOK td) (hpre : te.ents <+: td.ents)
    (hM : te.maxSize ≤ td.maxSize) : (te.add x).ents <+: (td.add x).ents :=
  evict_prefix _ _ (he.cons x) (hd.cons x) ((List.prefix_cons_inj x).2 hpre) hM

theorem add_sizeOK (dt : DynTable) (x : Entry) (h : SizeOK dt) :
    SizeOK (dt.add x) ∧ (dt.add x).size ≤ dt.maxSize :=
  have := evict_sizeOK _ (h.cons x)
  ⟨this.1, this.2.1⟩

theorem setMaxSize_sizeOK (dt : DynTable) (v : Nat) (h : SizeOK dt) :
    SizeOK (dt.setMaxSize v) ∧ (dt.setMaxSize v).size ≤ v ∧ (dt.setMaxSize v).size ≤ dt.size :=
  evict_sizeOK { dt with maxSize := v } h

/-- The decoder applying the bound the encoder already applied keeps the encoder's table as its newest part. -/
theorem setMaxSize_prefix (te td : DynTable) (v : Nat) (he : SizeOK te) (hd : SizeOK td)
    (hpre : te.ents <+: td.ents) (hfit : te.size ≤ v) : te.ents <+: (td.setMaxSize v).ents :=
  (evict_spec { td with maxSize := v } hd).2.2 _ hpre (he ▸ hfit)

theorem new_dyn : Encoder.new.dyn = { ents := [], size := 0, maxSize := 4096, allowedMaxSize := 0 } := rfl

theorem sizeSum_zero (l : List Entry) (h : sizeSum l = 0) : l = [] := by
  cases l with
  | nil => rfl
  | cons a t =>
    rw [sizeSum_cons] at h
    unfold entrySize at h
    omega

theorem sizeSum_ge (l : List Entry) : 32 * l.length ≤ sizeSum l := by
  induction l with
  | nil => simp [sizeSum]
  | cons a t ih =>
    rw [sizeSum_cons]
    unfold entrySize
    simp only [List.length_cons]
    omega

theorem staticTable_length : staticTable.length = 61 := by decide

theorem loopG_err (par : Bool) (d d' : DecCore) (buf : Bytes) (e : PErr) (acc : List Field) (hne : buf ≠ [])
    (h : parseRepr d buf = .err e d') :
    loopG par d buf acc = (afterRepr buf d', acc, .err e) := by
  rw [loopG_eq, if_neg hne, h]

theorem isSizeUpdate_appendTableSize (v : Nat) (rest : Bytes) : isSizeUpdate (appendTableSize v ++ rest) = true := by
  obtain ⟨hd, tl, hcons, hlo, hhi⟩ := appendVarInt_cons 5 32 v
  unfold appendTableSize
  rw [hcons]
  have : hd / 32 = 1 := by omega
  simp [isSizeUpdate, this]

/-- A table size update keeps `firstField`. -/
theorem afterRepr_update (v : Nat) (rest : Bytes) (d : DecCore) : afterRepr (appendTableSize v ++ rest) d = d := by
  unfold afterRepr
  rw [isSizeUpdate_appendTableSize]
  rfl

theorem loopG_sizeUpdate (par : Bool) (d : DecCore) (v : Nat) (rest : Bytes) (acc : List Field)
    (hv : v ≤ d.dyn.allowedMaxSize) (hv62 : v < 2 ^ 62) (hff : d.firstField = true) :
    loopG par d (appendTableSize v ++ rest) acc = loopG par { d with dyn := d.dyn.setMaxSize v } rest acc := by
  rw [loopG_ok acc (parseRepr_sizeUpdate d v rest hv hv62 (.inl hff)), afterRepr_update]
  exact congrArg _ (List.append_nil acc)

end NetVerif.Proofs.Lemmas.HpackEnc
