import NetVerif.Model.HtmlTokExact
import NetVerif.Proofs.Lemmas.IfCases
/-!
Frame lemmas for the exact tokenizer model: the byte-level helpers write only cursor, error and
fuel marker (`Blind`); nothing called from `Next` writes the fields of `fr`.
Each proof pushes `fr` through the `if`s of the body (`apply_ite`), rewrites the leaves with the
lemmas of the callees and collapses the `if`s (`ite_self`); only a `match` needs a case split.
-/
namespace NetVerif.Proofs.Lemmas.HtmlTokExact
open NetVerif.Model.HtmlTokExact

/-- `g` looks at none of the fields the byte-level helpers write: cursor, error, fuel marker. -/
abbrev Blind {α : Type} (g : Z → α) : Prop :=
  ∀ (z : Z) (re : Nat) (e : Err) (fo : Bool),
    g ⟨z.inp, z.finalErr, z.maxBuf, z.allowCDATA, z.rawStart, re, z.dataStart, z.dataEnd, e, z.rawTag, z.nAttr,
      z.lastValEnd, z.attrNames, z.pkStart, z.pkEnd, z.pvStart, z.pvEnd, fo⟩ = g z

section Blind
variable {α : Type} {g : Z → α} (hg : Blind g)
include hg

theorem blind_readByte (z : Z) : g (readByte z).2 = g z := by
  simp only [readByte, apply_ite Prod.snd, apply_ite g, hg, ite_self]
theorem blind_unread (z : Z) (k : Nat) : g (unread z k) = g z := hg z _ _ _
theorem blind_outOfFuel (z : Z) : g (outOfFuel z) = g z := hg z _ _ _

theorem blind_skipWSLoop (f : Nat) (z : Z) : g (skipWSLoop f z) = g z := by
  induction f generalizing z with
  | zero => exact blind_outOfFuel hg z
  | succ f ih => simp only [skipWSLoop, apply_ite g, ih, blind_unread hg, blind_readByte hg, ite_self]
theorem blind_skipWhiteSpace (z : Z) : g (skipWhiteSpace z) = g z := by
  simp only [skipWhiteSpace, apply_ite g, blind_skipWSLoop hg, ite_self]

theorem blind_matchRawTag (t : List Nat) (z : Z) : g (matchRawTag t z).2 = g z := by
  induction t generalizing z with
  | nil => rfl
  | cons t ts ih =>
    simp only [matchRawTag, apply_ite Prod.snd, apply_ite g, ih, blind_unread hg, blind_readByte hg, ite_self]

theorem blind_readRawEndTag (z : Z) : g (readRawEndTag z).2 = g z := by
  have hm := blind_matchRawTag hg z.rawTag z
  unfold readRawEndTag
  split
  all_goals
    rename_i heq
    rw [heq] at hm
    simp only [apply_ite Prod.snd, apply_ite g, blind_unread hg, blind_readByte hg, ite_self]
    exact hm

theorem blind_matchScript (w : List (Nat × Nat)) (z : Z) : g (matchScript w z).2 = g z := by
  induction w generalizing z with
  | nil => rfl
  | cons w ws ih =>
    simp only [matchScript, apply_ite Prod.snd, apply_ite g, ih, blind_unread hg, blind_readByte hg, ite_self]

theorem blind_scriptLoop (f : Nat) (st : SS) (z : Z) : g (scriptLoop f st z) = g z := by
  induction f generalizing st z with
  | zero => exact blind_outOfFuel hg z
  | succ f ih =>
    cases st
    case dblEscStart =>
      have hm := (blind_matchScript hg scriptWord (unread z)).trans (blind_unread hg z 1)
      simp only [scriptLoop]
      split
      · rename_i heq
        rw [heq] at hm
        exact hm
      all_goals
        rename_i heq
        rw [heq] at hm
        simp only [apply_ite g, ih, blind_unread hg, blind_readByte hg, ite_self]
        exact hm
    all_goals
      simp only [scriptLoop, apply_ite g, ih, blind_unread hg, blind_readByte hg, blind_readRawEndTag hg, hg, ite_self]

theorem blind_rawLoop (f : Nat) (z : Z) : g (rawLoop f z) = g z := by
  induction f generalizing z with
  | zero => exact blind_outOfFuel hg z
  | succ f ih =>
    simp only [rawLoop, apply_ite g, ih, blind_unread hg, blind_readByte hg, blind_readRawEndTag hg, ite_self]

theorem blind_plaintextLoop (f : Nat) (z : Z) : g (plaintextLoop f z) = g z := by
  induction f generalizing z with
  | zero => exact blind_outOfFuel hg z
  | succ f ih => simp only [plaintextLoop, apply_ite g, ih, blind_readByte hg, ite_self]

theorem blind_matchWord (ci : Bool) (w : List Nat) (z : Z) : g (matchWord ci w z).2 = g z := by
  induction w generalizing z with
  | nil => rfl
  | cons w ws ih =>
    simp only [matchWord, apply_ite Prod.snd, apply_ite g, ih, hg, blind_readByte hg, ite_self]

end Blind

/-- The fields no sub-function of `Next` ever writes. -/
def fr (z : Z) : Nat × Array Nat × Nat × Err × Bool :=
  (z.rawStart, z.inp, z.maxBuf, z.finalErr, z.allowCDATA)

/-- any update of the other fields (`{ z with … }` is `Z.mk` on projections) -/
theorem fr_set (z : Z) (re ds de : Nat) (e : Err) (t : List Nat) (na lv : Nat) (an : List (List Nat))
    (pks pke pvs pve : Nat) (fo : Bool) :
    fr ⟨z.inp, z.finalErr, z.maxBuf, z.allowCDATA, z.rawStart, re, ds, de, e, t, na, lv, an, pks, pke, pvs, pve, fo⟩
      = fr z := rfl

theorem fr_setPkStart (z : Z) (k : Nat) : fr { z with pkStart := k } = fr z := rfl
theorem fr_setPvStart (z : Z) (k : Nat) : fr { z with pvStart := k } = fr z := rfl
theorem fr_setRawEndDataEnd (z : Z) (a b : Nat) : fr { z with rawEnd := a, dataEnd := b } = fr z := rfl

@[simp, grind =] theorem fr_outOfFuel (z : Z) : fr (outOfFuel z) = fr z := rfl

theorem fr_blind : Blind fr := fun _ _ _ _ => rfl

theorem fr_readScript (z : Z) : fr (readScript z) = fr z := by
  simp only [readScript, fr_set, blind_scriptLoop fr_blind]

theorem fr_readRawOrRCDATA (z : Z) : fr (readRawOrRCDATA z) = fr z := by
  simp only [readRawOrRCDATA, apply_ite fr, fr_set, fr_readScript, blind_rawLoop fr_blind, ite_self]

theorem fr_commentLoop (f d : Nat) (b : Bool) (z : Z) : fr (commentLoop f d b z) = fr z := by
  induction f generalizing d b z with
  | zero => rfl
  | succ f ih => simp only [commentLoop, apply_ite fr, ih, blind_readByte fr_blind, ite_self]
theorem fr_readComment (z : Z) : fr (readComment z) = fr z := fr_commentLoop _ _ _ z

theorem fr_untilCloseAngleLoop (f : Nat) (z : Z) : fr (untilCloseAngleLoop f z) = fr z := by
  induction f generalizing z with
  | zero => rfl
  | succ f ih => simp only [untilCloseAngleLoop, apply_ite fr, ih, blind_readByte fr_blind, ite_self]
theorem fr_readUntilCloseAngle (z : Z) : fr (readUntilCloseAngle z) = fr z := by
  simp only [readUntilCloseAngle, fr_untilCloseAngleLoop, fr_set]

theorem fr_readDoctype (z : Z) : fr (readDoctype z).2 = fr z := by
  have hm := blind_matchWord fr_blind true doctypeWord z
  unfold readDoctype
  split
  all_goals
    rename_i heq
    rw [heq] at hm
    simp only [apply_ite Prod.snd, apply_ite fr, fr_readUntilCloseAngle, blind_skipWhiteSpace fr_blind, ite_self]
    exact hm

theorem fr_cdataLoop (f b : Nat) (z : Z) : fr (cdataLoop f b z) = fr z := by
  induction f generalizing b z with
  | zero => rfl
  | succ f ih => simp only [cdataLoop, apply_ite fr, ih, blind_readByte fr_blind, ite_self]

theorem fr_readCDATA (z : Z) : fr (readCDATA z).2 = fr z := by
  have hm := blind_matchWord fr_blind false cdataWord z
  unfold readCDATA
  split
  all_goals
    rename_i heq
    rw [heq] at hm
    simp only [fr_cdataLoop, fr_set]
    exact hm

theorem fr_readMarkupDeclaration (z : Z) : fr (readMarkupDeclaration z).2 = fr z := by
  have ite := @ite_ind _ (fun r : Nat × Z => fr r.2 = fr z)
  unfold readMarkupDeclaration
  simp only []
  generalize hzu : unread (readByte (readByte { z with dataStart := z.rawEnd }).2).2 2 = zu
  have hd : fr (readDoctype zu).2 = fr z := by
    rw [fr_readDoctype, ← hzu]; simp only [blind_unread fr_blind, blind_readByte fr_blind, fr_set]
  refine ite (fun _ => by simp only [blind_readByte fr_blind, fr_set]) fun _ => ?_
  refine ite (fun _ => by simp only [blind_readByte fr_blind, fr_set]) fun _ => ?_
  refine ite (fun _ => by simp only [fr_readComment, blind_readByte fr_blind, fr_set]) fun _ => ?_
  split
  · rename_i heq; rw [heq] at hd; exact hd
  rename_i z3 heq
  rw [heq] at hd
  have hc := (fr_readCDATA z3).trans hd
  refine ite (fun _ => hd) fun _ => ite (fun _ => ?_) fun _ => (fr_readUntilCloseAngle z3).trans hd
  split
  · rename_i heq; rw [heq] at hc; exact hc
  · rename_i z4 heq; rw [heq] at hc
    exact ite (fun _ => hc) fun _ => (fr_readUntilCloseAngle z4).trans hc

theorem fr_tagNameLoop (f : Nat) (z : Z) : fr (tagNameLoop f z) = fr z := by
  induction f generalizing z with
  | zero => rfl
  | succ f ih => simp only [tagNameLoop, apply_ite fr, ih, fr_set, blind_unread fr_blind, blind_readByte fr_blind, ite_self]
theorem fr_readTagName (z : Z) : fr (readTagName z) = fr z := by
  simp only [readTagName, fr_tagNameLoop, fr_set]

theorem fr_attrKeyLoop (f : Nat) (z : Z) : fr (attrKeyLoop f z) = fr z := by
  induction f generalizing z with
  | zero => rfl
  | succ f ih => simp only [attrKeyLoop, apply_ite fr, ih, fr_set, blind_unread fr_blind, blind_readByte fr_blind, ite_self]
theorem fr_readTagAttrKey (z : Z) : fr (readTagAttrKey z) = fr z := by
  simp only [readTagAttrKey, fr_attrKeyLoop, fr_set]

theorem fr_quotedValLoop (f q : Nat) (z : Z) : fr (quotedValLoop f q z) = fr z := by
  induction f generalizing z with
  | zero => rfl
  | succ f ih => simp only [quotedValLoop, apply_ite fr, ih, fr_set, blind_readByte fr_blind, ite_self]
theorem fr_unquotedValLoop (f : Nat) (z : Z) : fr (unquotedValLoop f z) = fr z := by
  induction f generalizing z with
  | zero => rfl
  | succ f ih => simp only [unquotedValLoop, apply_ite fr, ih, fr_set, blind_unread fr_blind, blind_readByte fr_blind, ite_self]

theorem fr_readTagAttrVal (z : Z) : fr (readTagAttrVal z) = fr z := by
  simp only [readTagAttrVal, apply_ite fr, fr_set, blind_unread fr_blind, blind_readByte fr_blind, blind_skipWhiteSpace fr_blind,
    fr_quotedValLoop, fr_unquotedValLoop, ite_self]

theorem fr_tagLoop (f : Nat) (sa : Bool) (z : Z) : fr (tagLoop f sa z) = fr z := by
  induction f generalizing z with
  | zero => rfl
  | succ f ih =>
    simp only [tagLoop, apply_ite fr, ih, fr_set, blind_unread fr_blind, blind_readByte fr_blind, blind_skipWhiteSpace fr_blind,
      fr_readTagAttrVal, fr_readTagAttrKey, ite_self]

theorem fr_readTag (sa : Bool) (z : Z) : fr (readTag sa z) = fr z := by
  simp only [readTag, apply_ite fr, fr_tagLoop, blind_skipWhiteSpace fr_blind, fr_readTagName, fr_set, ite_self]

theorem fr_readStartTag (z : Z) : fr (readStartTag z).2 = fr z := by
  simp only [readStartTag, apply_ite Prod.snd, apply_ite fr, fr_set, fr_readTag, ite_self]

theorem fr_finishText (z : Z) : fr (finishText z).2 = fr z := by
  simp only [finishText, apply_ite Prod.snd, apply_ite fr, fr_set, ite_self]

theorem fr_endTagOpen (z : Z) : fr (endTagOpen z).2 = fr z := by
  simp only [endTagOpen, apply_ite Prod.snd, apply_ite fr, fr_finishText, fr_readTag, fr_readUntilCloseAngle,
    blind_unread fr_blind, blind_readByte fr_blind, ite_self]

theorem fr_dispatch (k c : Nat) (z : Z) : fr (dispatch k c z).2 = fr z := by
  simp only [dispatch, apply_ite Prod.snd, apply_ite fr, fr_set, fr_readStartTag, fr_endTagOpen,
    fr_readMarkupDeclaration, fr_readUntilCloseAngle, blind_unread fr_blind, ite_self]

theorem fr_mainLoop (f : Nat) (z : Z) : fr (mainLoop f z).2 = fr z := by
  induction f generalizing z with
  | zero => rfl
  | succ f ih =>
    simp only [mainLoop, apply_ite Prod.snd, apply_ite fr, ih, fr_finishText, fr_dispatch, blind_unread fr_blind, blind_readByte fr_blind,
      ite_self]

theorem fr_rawTextAttempt (z : Z) : fr (rawTextAttempt z) = fr z := by
  simp only [rawTextAttempt, apply_ite fr, fr_set, blind_plaintextLoop fr_blind, fr_readRawOrRCDATA, ite_self]

theorem fr_next (z : Z) : fr (next z).2 = fr (startToken z) := by
  simp only [next, apply_ite Prod.snd, apply_ite fr, fr_mainLoop, fr_rawTextAttempt, ite_self]

theorem next_frame (z : Z) :
    (next z).2.rawStart = z.rawEnd ∧ (next z).2.inp = z.inp ∧ (next z).2.maxBuf = z.maxBuf := by
  have key := fr_next z
  simp only [fr, startToken, Prod.mk.injEq] at key
  exact ⟨key.1, key.2.1, key.2.2.1⟩

end NetVerif.Proofs.Lemmas.HtmlTokExact
