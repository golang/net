import NetVerif.Proofs.Lemmas.Dns
/-!
Every answer of the reader is `Genuine`: never `Err.fuel`, never `Err.panic`.
`Err.fuel`: every loop of the reader that is written with explicit fuel (`Name.unpack`, `skipName`, TXT
strings, OPT options, SVCB parameters) is given enough of it, for every input, so the model of
`Message.Unpack` is a total function and the Go loops it models terminate.
`Err.panic`: no function of `Model/Dns.lean` answers it, so of the model this half holds for free; with
`Lemmas/DnsChecked.lean` (checked twin = model) it is Go panic freedom of the unpack/skip paths, as a
theorem about the twin whose every index / slice is checked.
The model spells its matches out, not as `>>=`, so there is no one bind lemma: every proof takes the
function apart match by match (`split`, `fun_cases`) and passes a callee's error on by `Genuine.of_error`.
Only the fuelled loops (`fun_induction`) say more: the measure that the fuel exceeds.
-/
namespace NetVerif.Proofs.DnsTotal
open NetVerif.Model.Dns NetVerif.Proofs.Dns

theorem nameOnly_genuine (msg : Bytes) (off : Nat) : Genuine (nameOnly msg off) := by
  unfold nameOnly
  split
  · exact genuine_ok _
  · exact (unpackName_genuine _ _).of_error ‹_›

theorem u16At_genuine (msg : Bytes) (off : Nat) : Genuine (u16At msg off) := by
  unfold u16At; split
  · exact genuine_ok _
  · exact genuine_err

theorem u32At_genuine (msg : Bytes) (off : Nat) : Genuine (u32At msg off) := by
  unfold u32At; split
  · exact genuine_ok _
  · exact genuine_err

theorem bytesAt_genuine (msg : Bytes) (off n : Nat) : Genuine (bytesAt msg off n) := by
  unfold bytesAt; split
  · exact genuine_err
  · exact genuine_ok _

theorem textAt_genuine (msg : Bytes) (off : Nat) : Genuine (textAt msg off) := by
  unfold textAt; split
  · exact genuine_err
  · split
    · exact genuine_err
    · exact genuine_ok _

theorem txtLoop_genuine (msg : Bytes) (length fuel off n : Nat) : length - n < fuel →
    Genuine (txtLoop msg length fuel off n) := by
  fun_induction txtLoop msg length fuel off n with
  | case1 => exact fun h => absurd h (Nat.not_lt_zero _)
  | case2 => exact fun _ => (textAt_genuine _ _).of_error ‹_›
  | case3 => exact fun _ => genuine_err
  | case5 fuel off n hlt t off' ht hchk e hrec ih => -- every string uses up at least its length octet
    exact fun hf => (ih (by omega)).of_error hrec
  | case4 | case6 => exact fun _ => genuine_ok _

theorem optLoop_genuine (msg : Bytes) (e fuel off : Nat) : msg.length - off < fuel →
    Genuine (optLoop msg e fuel off) := by
  fun_induction optLoop msg e fuel off with
  | case1 => exact fun h => absurd h (Nat.not_lt_zero _)
  | case2 | case3 => exact fun _ => (u16At_genuine _ _).of_error ‹_›
  | case4 | case5 => exact fun _ => genuine_err
  | case7 fuel off hlt code off1 h1 l off2 h2 hin hlen e hrec ih => -- every option uses up at least its two `uint16`
    intro hf
    have b1 := u16At_bound h1
    have b2 := u16At_bound h2
    exact (ih (by omega)).of_error hrec
  | case6 | case8 => exact fun _ => genuine_ok _

theorem svcbPass1_genuine (msg : Bytes) (e fuel off : Nat) (prev : Option Nat) :
    msg.length - off < fuel → Genuine (svcbPass1 msg e fuel off prev) := by
  fun_induction svcbPass1 msg e fuel off prev with
  | case1 => exact fun h => absurd h (Nat.not_lt_zero _)
  | case2 | case4 => exact fun _ => (u16At_genuine _ _).of_error ‹_›
  | case3 | case5 | case8 => exact fun _ => genuine_err
  | case7 fuel off prev hlt key off1 h1 hord size off2 h2 hin e hrec ih => -- every parameter uses up at least its two `uint16`
    intro hf
    have b1 := u16At_bound h1
    have b2 := u16At_bound h2
    exact (ih (by omega)).of_error hrec
  | case6 | case9 => exact fun _ => genuine_ok _

theorem svcbPass2_genuine (msg : Bytes) : ∀ (l : List (Nat × Nat × Nat)), Genuine (svcbPass2 msg l) := by
  intro l
  induction l with
  | nil => exact genuine_ok _
  | cons x l ih =>
    rcases x with ⟨k, s, v⟩
    unfold svcbPass2
    split
    · exact genuine_err
    · split
      · exact genuine_ok _
      · exact ih.of_error ‹_›

theorem unpackSVCB_genuine (msg : Bytes) (off len : Nat) : Genuine (unpackSVCB msg off len) := by
  unfold unpackSVCB
  split
  · exact (u16At_genuine _ _).of_error ‹_›
  · split
    · exact (unpackName_genuine _ _).of_error ‹_›
    · split
      · exact genuine_err
      · split
        · exact (svcbPass1_genuine _ _ _ _ _ (Nat.lt_succ_of_le (Nat.sub_le _ _))).of_error ‹_›
        · split
          · exact (svcbPass2_genuine _ _).of_error ‹_›
          · exact genuine_ok _

theorem unpackBody_genuine (msg : Bytes) (off typ len : Nat) : Genuine (unpackBody msg off typ len) := by
  fun_cases unpackBody msg off typ len
  -- the branches of the type switch by what they end in: first those that pass on the error of a field
  case case4 | case5 => exact (unpackName_genuine _ _).of_error ‹_› -- SOA
  case case6 | case7 | case8 | case9 | case10 => exact (u32At_genuine _ _).of_error ‹_› -- SOA
  case case13 | case17 | case18 | case19 => exact (u16At_genuine _ _).of_error ‹_› -- MX, SRV
  -- then those that give the answer of the last reader
  case case11 => exact genuine_ok _ -- SOA
  case case1 | case16 | case24 => exact (bytesAt_genuine _ _ _).map _ -- A, AAAA, a type without a decoder
  case case2 | case3 | case12 | case14 | case20 => exact (nameOnly_genuine _ _).map _ -- NS, CNAME, PTR, MX, SRV
  case case15 => exact (txtLoop_genuine msg len _ off 0 (by omega)).map _
  case case21 | case22 => exact (unpackSVCB_genuine _ _ _).map _
  case case23 => exact (optLoop_genuine msg _ _ off (by omega)).map _

theorem unpackQuestion_genuine (msg : Bytes) (off : Nat) : Genuine (unpackQuestion msg off) := by
  unfold unpackQuestion
  split
  · exact (unpackName_genuine _ _).of_error ‹_›
  · split
    · exact (u16At_genuine _ _).of_error ‹_›
    · split
      · exact (u16At_genuine _ _).of_error ‹_›
      · exact genuine_ok _

theorem unpackRHeader_genuine (msg : Bytes) (off : Nat) : Genuine (unpackRHeader msg off) := by
  unfold unpackRHeader
  split
  · exact (unpackName_genuine _ _).of_error ‹_›
  · split
    · exact (u16At_genuine _ _).of_error ‹_›
    · split
      · exact (u16At_genuine _ _).of_error ‹_›
      · split
        · exact (u32At_genuine _ _).of_error ‹_›
        · split
          · exact (u16At_genuine _ _).of_error ‹_›
          · split
            · exact genuine_err
            · exact genuine_ok _

theorem unpackResource_genuine (msg : Bytes) (off : Nat) : Genuine (unpackResource msg off) := by
  unfold unpackResource
  split
  · exact (unpackRHeader_genuine _ _).of_error ‹_›
  · split
    · exact (unpackBody_genuine _ _ _ _).of_error ‹_›
    · exact genuine_ok _

theorem unpackQuestions_genuine (msg : Bytes) : ∀ (k off : Nat), Genuine (unpackQuestions msg k off) := by
  intro k
  induction k with
  | zero => intro off; exact genuine_ok _
  | succ k ih =>
    intro off
    unfold unpackQuestions
    split
    · exact (unpackQuestion_genuine _ _).of_error ‹_›
    · rename_i q o1 _
      split
      · exact (ih o1).of_error ‹_›
      · exact genuine_ok _

theorem unpackResources_genuine (msg : Bytes) : ∀ (k off : Nat), Genuine (unpackResources msg k off) := by
  intro k
  induction k with
  | zero => intro off; exact genuine_ok _
  | succ k ih =>
    intro off
    unfold unpackResources
    split
    · exact (unpackResource_genuine _ _).of_error ‹_›
    · rename_i r o1 _
      split
      · exact (ih o1).of_error ‹_›
      · exact genuine_ok _

theorem wireHeader_genuine (msg : Bytes) : Genuine (unpackWireHeader msg) := by
  unfold unpackWireHeader
  split
  · exact genuine_ok _
  · exact genuine_err

theorem unpackMessageOff_genuine (msg : Bytes) : Genuine (unpackMessageOff msg) := by
  unfold unpackMessageOff
  split
  · exact (wireHeader_genuine _).of_error ‹_›
  · split
    · exact (unpackQuestions_genuine _ _ _).of_error ‹_›
    · split
      · exact (unpackResources_genuine _ _ _).of_error ‹_›
      · split
        · exact (unpackResources_genuine _ _ _).of_error ‹_›
        · split
          · exact (unpackResources_genuine _ _ _).of_error ‹_›
          · exact genuine_ok _

theorem unpackMessage_genuine (msg : Bytes) : Genuine (unpackMessage msg) := by
  unfold unpackMessage
  split
  · exact genuine_ok _
  · exact (unpackMessageOff_genuine _).of_error ‹_›

/-- every iteration but the last moves past at least the length octet -/
theorem skipLoop_genuine (msg : Bytes) (fuel cur : Nat) : msg.length - cur < fuel →
    Genuine (skipLoop msg fuel cur) := by
  fun_induction skipLoop msg fuel cur with
  | case1 => exact fun h => absurd h (Nat.not_lt_zero _)
  | case5 fuel cur c rest hd hc hz hl ih =>
    intro hf
    have := drop_cons_length hd
    exact ih (by omega)
  | case2 | case4 | case7 => exact fun _ => genuine_err
  | case3 | case6 => exact fun _ => genuine_ok _

theorem skipName_genuine (msg : Bytes) (off : Nat) : Genuine (skipName msg off) :=
  skipLoop_genuine msg _ off (by omega)

theorem skip16_genuine (msg : Bytes) (off : Nat) : Genuine (skip16 msg off) := by
  unfold skip16; split
  · exact genuine_err
  · exact genuine_ok _

theorem skip32_genuine (msg : Bytes) (off : Nat) : Genuine (skip32 msg off) := by
  unfold skip32; split
  · exact genuine_err
  · exact genuine_ok _

theorem skipQuestion_genuine (msg : Bytes) (off : Nat) : Genuine (skipQuestion msg off) := by
  unfold skipQuestion
  split
  · exact (skipName_genuine _ _).of_error ‹_›
  · split
    · exact (skip16_genuine _ _).of_error ‹_›
    · exact skip16_genuine msg _

theorem skipResource_genuine (msg : Bytes) (off : Nat) : Genuine (skipResource msg off) := by
  unfold skipResource
  split
  · exact (skipName_genuine _ _).of_error ‹_›
  · split
    · exact (skip16_genuine _ _).of_error ‹_›
    · split
      · exact (skip16_genuine _ _).of_error ‹_›
      · split
        · exact (skip32_genuine _ _).of_error ‹_›
        · split
          · exact (u16At_genuine _ _).of_error ‹_›
          · split
            · exact genuine_err
            · exact genuine_ok _

theorem skipQuestions_genuine (msg : Bytes) : ∀ (k off : Nat), Genuine (skipQuestions msg k off) := by
  intro k
  induction k with
  | zero => intro off; exact genuine_ok _
  | succ k ih =>
    intro off
    unfold skipQuestions
    split
    · exact (skipQuestion_genuine _ _).of_error ‹_›
    · exact ih _

theorem skipResources_genuine (msg : Bytes) : ∀ (k off : Nat), Genuine (skipResources msg k off) := by
  intro k
  induction k with
  | zero => intro off; exact genuine_ok _
  | succ k ih =>
    intro off
    unfold skipResources
    split
    · exact (skipResource_genuine _ _).of_error ‹_›
    · exact ih _

theorem skipMessage_genuine (msg : Bytes) : Genuine (skipMessage msg) := by
  unfold skipMessage
  split
  · exact (wireHeader_genuine _).of_error ‹_›
  · split
    · exact (skipQuestions_genuine _ _ _).of_error ‹_›
    · split
      · exact (skipResources_genuine _ _ _).of_error ‹_›
      · split
        · exact (skipResources_genuine _ _ _).of_error ‹_›
        · exact skipResources_genuine msg _ _

theorem walkQuestion_genuine (msg : Bytes) (off : Nat) (s : Step) : Genuine (walkQuestion msg off s) := by
  cases s with
  | parse | headerBody =>
    simp only [walkQuestion]
    split
    · exact genuine_ok _
    · exact (unpackQuestion_genuine _ _).of_error ‹_›
  | skip | headerSkip =>
    simp only [walkQuestion]
    split
    · exact genuine_ok _
    · exact (skipQuestion_genuine _ _).of_error ‹_›

theorem skipAfterHeader_genuine (msg : Bytes) (a b : Nat) : Genuine (skipAfterHeader msg a b) := by
  unfold skipAfterHeader; split
  · exact genuine_err
  · exact genuine_ok _

theorem walkResource_genuine (msg : Bytes) (off : Nat) (s : Step) : Genuine (walkResource msg off s) := by
  cases s <;> simp only [walkResource]
  · split
    · exact genuine_ok _
    · exact (unpackResource_genuine _ _).of_error ‹_›
  · split
    · exact genuine_ok _
    · exact (skipResource_genuine _ _).of_error ‹_›
  · split
    · exact (unpackRHeader_genuine _ _).of_error ‹_›
    · rename_i h o1 _
      split
      · exact (unpackBody_genuine _ _ _ _).of_error ‹_›
      · exact genuine_ok _
  · split
    · exact (unpackRHeader_genuine _ _).of_error ‹_›
    · split
      · exact genuine_ok _
      · exact (skipAfterHeader_genuine _ _ _).of_error ‹_›

theorem walkSection_genuine (one : Bytes → Nat → Step → Except Err (Item × Nat)) (h1 : ∀ m o s, Genuine (one m o s))
    (msg : Bytes) : ∀ (n off : Nat) (sc : List Step), Genuine (walkSection one msg n off sc) := by
  intro n
  induction n with
  | zero => intro off sc; exact genuine_ok _
  | succ n ih =>
    intro off sc
    unfold walkSection
    split
    · rename_i e he; exact (h1 msg off _).of_error he
    · split
      · exact (ih _ _).of_error ‹_›
      · exact genuine_ok _

theorem walkMessage_genuine (msg : Bytes) (sc : List Step) : Genuine (walkMessage msg sc) := by
  unfold walkMessage
  split
  · exact (wireHeader_genuine _).of_error ‹_›
  · split
    · exact (walkSection_genuine _ walkQuestion_genuine _ _ _ _).of_error ‹_›
    · split
      · exact (walkSection_genuine _ walkResource_genuine _ _ _ _).of_error ‹_›
      · split
        · exact (walkSection_genuine _ walkResource_genuine _ _ _ _).of_error ‹_›
        · split
          · exact (walkSection_genuine _ walkResource_genuine _ _ _ _).of_error ‹_›
          · exact genuine_ok _

end NetVerif.Proofs.DnsTotal
