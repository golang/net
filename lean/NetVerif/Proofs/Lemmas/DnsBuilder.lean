import NetVerif.Proofs.Lemmas.DnsMsg
/-!
The Builder against `Message.Pack`. The Builder packs every record onto a buffer whose 12 header bytes are
still zero (`Finish` writes them), `Message.AppendPack` onto a buffer that starts with the real header.
The packers look at the buffer only through its length and through `compressionDepth` of map entries,
and under the compression invariant (no pointer leads below offset 12) both are the same for two
buffers that agree from offset 12 on. So an accepted Builder call sequence produces exactly the
bytes of `Message.Pack` of the message it describes.
-/
namespace NetVerif.Proofs.DnsBuilder
open NetVerif.Model.Dns NetVerif.Proofs.Dns NetVerif.Proofs.C36 NetVerif.Proofs.DnsMsg

variable {k : Nat}

-- used only through `compressionDepth_of_decodes`; irreducible, or `rfl` and `cases` below would run its loop
attribute [local irreducible] compressionDepth

theorem usable_congr {b1 b2 : Bytes} (hs : SameFrom k b1 b2) {c : Option CompMap}
    {ls : List Bytes} (hok : LabelsOK ls) (hlen : (textOf ls).length ≤ 254)
    (hinv : CompInvUpTo k (textOf ls).length b1 c) : usable b1 (textOf ls) c = usable b2 (textOf ls) c := by
  -- an entry is usable behind `b1` iff it is behind `b2`: what it points at decodes alike, so its depth is the same
  ext p
  rw [usable_eq_some, usable_eq_some]
  refine exists_congr fun m => and_congr_right fun hm => and_congr_right fun hl => ?_
  obtain ⟨hkp, _, ls', d, e, hkey', hok', hd, h10⟩ := hinv m _ p hm (Nat.le_refl _) hl
  obtain rfl : ls' = ls := textOf_inj _ _ hok' hok hkey'.symm
  rw [compressionDepth_of_decodes hd hok hlen h10, compressionDepth_of_decodes (hd.transfer hs hkp) hok hlen h10]

theorem packLabels_congr {b1 b2 : Bytes} (hs : SameFrom k b1 b2) :
    ∀ (ls : List Bytes) (out : Bytes) (c : Option CompMap),
    LabelsOK ls → (textOf ls).length ≤ 254 → CompInvUpTo k (textOf ls).length (b1 ++ out) c →
    packLabels b1 ls out c = packLabels b2 ls out c := by
  intro ls
  induction ls with
  | nil => intro out c _ _ _; simp only [packLabels]
  | cons l ls ih =>
    intro out c hok hlen hinv
    have hls : LabelsOK ls := fun x hx => hok x (by simp [hx])
    have hlen' : (textOf ls).length ≤ 254 := by simp [textOf] at hlen; omega
    rw [packLabels, packLabels, ← usable_congr (hs.append out) hok hlen hinv, ← hs.1]
    cases usable (b1 ++ out) (textOf (l :: ls)) c with
    | some p => rfl
    | none => exact ih _ _ hls hlen' (compInvUpTo_step hinv)

theorem packName_congr {b1 b2 : Bytes} (hs : SameFrom k b1 b2) (n : Bytes) (comp : Option CompMap)
    (hc : Canonical n) (hinv : CompInvOpt k b1 comp) : packName n b1 comp = packName n b2 comp := by
  obtain ⟨ls, hok, hlen, rfl⟩ := hc.labels
  rw [packName_rootIfEmpty hok hlen, packName_rootIfEmpty hok hlen,
    packLabels_congr hs ls [] comp hok hlen (by rw [List.append_nil]; exact compInvOpt_iff.mp hinv _)]

theorem packBody_congr {b1 b2 : Bytes} (hs : SameFrom k b1 b2) (hk : k ≤ b1.length) (b : Body)
    (comp : Option CompMap) (hwf : WFBody b) (hinv : CompInvOpt k b1 comp) :
    packBody b b1 comp = packBody b b2 comp := by
  cases b with
  | a ip => rfl
  | aaaa ip => rfl
  | ns n => exact packName_congr hs n comp hwf hinv
  | cname n => exact packName_congr hs n comp hwf hinv
  | ptr n => exact packName_congr hs n comp hwf hinv
  | mx pref n =>
    simp only [packBody]
    rw [packName_congr (hs.append (u16 pref)) n comp hwf.2 (hinv.append _)]
  | txt ss => rfl
  | soa ns mbox a b c d e =>
    rcases hwf with ⟨hc1, hc2, _⟩
    simp only [packBody]
    rw [← packName_congr hs ns comp hc1 hinv]
    cases hn : packName ns b1 comp with
    | error e => rfl
    | ok res =>
      rcases res with ⟨x1, c1⟩
      simp only []
      rcases packName_spec b1 ns x1 comp c1 hinv hk hc1 hn with ⟨g2, _⟩
      rw [packName_congr (hs.append x1) mbox c1 hc2 g2]
  | srv p w port t =>
    simp only [packBody]
    rw [packName_none_buf hwf.2.2.2 (b1 ++ u16 p ++ u16 w ++ u16 port)]
  | opt opts => rfl
  | svcb p t ps => rfl
  | https p t ps => rfl
  | unknown t data => rfl

theorem packQuestion_congr {b1 b2 : Bytes} (hs : SameFrom k b1 b2) (q : Question) (comp : Option CompMap)
    (hwf : WFQuestion q) (hinv : CompInvOpt k b1 comp) :
    packQuestion q b1 comp = packQuestion q b2 comp := by
  unfold packQuestion
  rw [packName_congr hs q.name comp hwf.1 hinv]

theorem packResource_congr {b1 b2 : Bytes} (hs : SameFrom k b1 b2) (hk : k ≤ b1.length) (r : Resource)
    (comp : Option CompMap) (hwf : WFResource r) (hinv : CompInvOpt k b1 comp) :
    packResource r b1 comp = packResource r b2 comp := by
  rcases hwf with ⟨hc, _, _, hb⟩
  unfold packResource
  rw [← packName_congr hs r.hdr.name comp hc hinv]
  cases hn : packName r.hdr.name b1 comp with
  | error e => rfl
  | ok res =>
    rcases res with ⟨nb, c1⟩
    simp only []
    rcases packName_spec b1 r.hdr.name nb comp c1 hinv hk hc hn with ⟨g2, _⟩
    have key : ∀ (tail : Bytes), packBody r.body (b1 ++ nb ++ u16 r.body.realType ++ u16 r.hdr.cls ++ u32 r.hdr.ttl ++ tail) c1 =
        packBody r.body (b2 ++ nb ++ u16 r.body.realType ++ u16 r.hdr.cls ++ u32 r.hdr.ttl ++ tail) c1 := by
      intro tail
      have hs' : SameFrom k (b1 ++ nb ++ u16 r.body.realType ++ u16 r.hdr.cls ++ u32 r.hdr.ttl ++ tail)
          (b2 ++ nb ++ u16 r.body.realType ++ u16 r.hdr.cls ++ u32 r.hdr.ttl ++ tail) :=
        ((((hs.append nb).append _).append _).append _).append _
      have hi : CompInvOpt k (b1 ++ nb ++ u16 r.body.realType ++ u16 r.hdr.cls ++ u32 r.hdr.ttl ++ tail) c1 := by
        have := g2.append (u16 r.body.realType ++ u16 r.hdr.cls ++ u32 r.hdr.ttl ++ tail)
        simpa [List.append_assoc] using this
      exact packBody_congr hs' (by simp; omega) r.body c1 hb hi
    rw [← key]
    cases hbp : packBody r.body (b1 ++ nb ++ u16 r.body.realType ++ u16 r.hdr.cls ++ u32 r.hdr.ttl ++ u16 r.hdr.length) c1 with
    | error e => rfl
    | ok res2 =>
      rcases res2 with ⟨bb, c2⟩
      simp only []
      rw [← key]

/-- A question or a record. With one list of them for the whole message (`recs`) and one packer
(`packRecs`), the four sections take one induction (`packRecs_congr`) and the Builder appends to one
list whatever the section (`BInv.hpack`). -/
inductive Rec
  | q (q : Question)
  | r (r : Resource)

def packRec : Rec → Bytes → Option CompMap → Except Err (Bytes × Option CompMap)
  | .q q, buf, c => packQuestion q buf c
  | .r r, buf, c => packResource r buf c

def packRecs : List Rec → Bytes → Option CompMap → Except Err (Bytes × Option CompMap)
  | [], _, comp => .ok ([], comp)
  | x :: xs, buf, comp =>
    match packRec x buf comp with
    | .error e => .error e
    | .ok (b1, c1) =>
      match packRecs xs (buf ++ b1) c1 with
      | .error e => .error e
      | .ok (b2, c2) => .ok (b1 ++ b2, c2)

def WFRec : Rec → Prop
  | .q q => WFQuestion q
  | .r r => WFResource r

/-- the records of a message in wire order -/
def recs (m : Message) : List Rec :=
  m.questions.map .q ++ (m.answers.map .r ++ (m.authorities.map .r ++ m.additionals.map .r))

theorem packRecs_append (xs ys : List Rec) (buf : Bytes) (c : Option CompMap) :
    packRecs (xs ++ ys) buf c =
      match packRecs xs buf c with
      | .error e => .error e
      | .ok (b1, c1) =>
        match packRecs ys (buf ++ b1) c1 with
        | .error e => .error e
        | .ok (b2, c2) => .ok (b1 ++ b2, c2) := by
  fun_induction packRecs xs buf c
  all_goals simp only [List.nil_append, List.cons_append, packRecs, List.append_nil, *]
  -- left: `xs` empty, or packed; either way by the answer of `packRecs ys`
  · split <;> assumption
  · rw [List.append_assoc]
    generalize packRecs ys _ _ = r
    rcases r with _ | ⟨b3, c3⟩ <;> simp only [List.append_assoc]

theorem packRecs_map_q (qs : List Question) (buf : Bytes) (c : Option CompMap) :
    packRecs (qs.map .q) buf c = packQuestions qs buf c := by
  fun_induction packQuestions qs buf c
  all_goals simp only [List.map_nil, List.map_cons, packRecs, packRec, *]

theorem packRecs_map_r (rs : List Resource) (buf : Bytes) (c : Option CompMap) :
    packRecs (rs.map .r) buf c = packResources rs buf c := by
  fun_induction packResources rs buf c
  all_goals simp only [List.map_nil, List.map_cons, packRecs, packRec, *]

theorem packRec_inv (x : Rec) (msg bs : Bytes) (comp comp' : Option CompMap)
    (hinv : CompInvOpt k msg comp) (hk : k ≤ msg.length) (hwf : WFRec x)
    (hp : packRec x msg comp = .ok (bs, comp')) : CompInvOpt k (msg ++ bs) comp' := by
  cases x with
  | q q => exact (packQuestion_spec msg bs q comp comp' hinv hk hwf hp).1
  | r r => exact (packResource_spec msg bs r comp comp' hinv hk hwf hp).1

theorem packRecs_congr : ∀ (xs : List Rec) {b1 b2 : Bytes} (comp : Option CompMap),
    SameFrom k b1 b2 → k ≤ b1.length → (∀ x ∈ xs, WFRec x) → CompInvOpt k b1 comp →
    packRecs xs b1 comp = packRecs xs b2 comp := by
  intro xs
  induction xs with
  | nil => intro b1 b2 comp _ _ _ _; rfl
  | cons x xs ih =>
    intro b1 b2 comp hs hk hwf hinv
    have hx : packRec x b1 comp = packRec x b2 comp := by
      cases x with
      | q q => exact packQuestion_congr hs q comp (hwf (.q q) (by simp)) hinv
      | r r => exact packResource_congr hs hk r comp (hwf (.r r) (by simp)) hinv
    unfold packRecs
    rw [← hx]
    cases h1 : packRec x b1 comp with
    | error e => rfl
    | ok res =>
      rcases res with ⟨x1, c1⟩
      simp only []
      have g2 := packRec_inv x b1 x1 comp c1 hinv hk (hwf x (by simp)) h1
      rw [ih c1 (hs.append x1) (le_length_append hk _) (fun y hy => hwf y (by simp [hy])) g2]

theorem packQuestions_congr : ∀ (qs : List Question) {b1 b2 : Bytes} (comp : Option CompMap),
    SameFrom k b1 b2 → k ≤ b1.length → (∀ q ∈ qs, WFQuestion q) → CompInvOpt k b1 comp →
    packQuestions qs b1 comp = packQuestions qs b2 comp := by
  intro qs b1 b2 comp hs hk hwf hinv
  rw [← packRecs_map_q, ← packRecs_map_q]
  refine packRecs_congr _ comp hs hk (fun x hx => ?_) hinv
  obtain ⟨q, hq, rfl⟩ := List.mem_map.mp hx
  exact hwf q hq

theorem packResources_congr : ∀ (rs : List Resource) {b1 b2 : Bytes} (comp : Option CompMap),
    SameFrom k b1 b2 → k ≤ b1.length → (∀ r ∈ rs, WFResource r) → CompInvOpt k b1 comp →
    packResources rs b1 comp = packResources rs b2 comp := by
  intro rs b1 b2 comp hs hk hwf hinv
  rw [← packRecs_map_r, ← packRecs_map_r]
  refine packRecs_congr _ comp hs hk (fun x hx => ?_) hinv
  obtain ⟨r, hr, rfl⟩ := List.mem_map.mp hx
  exact hwf r hr

theorem packMessageWith_recs (m : Message) (comp : Option CompMap)
    (h1 : m.questions.length ≤ 65535) (h2 : m.answers.length ≤ 65535)
    (h3 : m.authorities.length ≤ 65535) (h4 : m.additionals.length ≤ 65535) :
    packMessageWith m comp =
      match packRecs (recs m) (packHeader m.hdr m.questions.length m.answers.length m.authorities.length
          m.additionals.length) comp with
      | .error e => .error e
      | .ok (B, _) => .ok (packHeader m.hdr m.questions.length m.answers.length m.authorities.length
          m.additionals.length ++ B) := by
  fun_cases packMessageWith m comp
  case case1 | case2 | case3 | case4 => omega -- a section over the limit, against `h1` … `h4`
  all_goals simp +zetaDelta only [recs, packRecs_append, packRecs_map_q, packRecs_map_r, *]
  simp only [List.append_assoc]

theorem incr_ok {b b1 : Builder} (h : b.incr = .ok b1) :
    b1.msg = b.msg ∧ b1.sec = b.sec ∧ b1.id = b.id ∧ b1.bits = b.bits ∧ b1.comp = b.comp ∧
    ((b.sec = 2 ∧ b.nq ≠ 65535 ∧ b1.nq = b.nq + 1 ∧ b1.na = b.na ∧ b1.nu = b.nu ∧ b1.nr = b.nr) ∨
     (b.sec = 3 ∧ b.na ≠ 65535 ∧ b1.nq = b.nq ∧ b1.na = b.na + 1 ∧ b1.nu = b.nu ∧ b1.nr = b.nr) ∨
     (b.sec = 4 ∧ b.nu ≠ 65535 ∧ b1.nq = b.nq ∧ b1.na = b.na ∧ b1.nu = b.nu + 1 ∧ b1.nr = b.nr) ∨
     (b.sec ≠ 2 ∧ b.sec ≠ 3 ∧ b.sec ≠ 4 ∧ b.nr ≠ 65535 ∧ b1.nq = b.nq ∧ b1.na = b.na ∧ b1.nu = b.nu ∧
       b1.nr = b.nr + 1)) := by
  revert h
  fun_cases Builder.incr b
  -- the four branches that bump a counter, by section; the other four report the counter at its limit
  case case2 h2 hn =>
    rintro ⟨⟩
    exact ⟨rfl, rfl, rfl, rfl, rfl, .inl ⟨h2, hn, rfl, rfl, rfl, rfl⟩⟩
  case case4 h2 h3 hn =>
    rintro ⟨⟩
    exact ⟨rfl, rfl, rfl, rfl, rfl, .inr (.inl ⟨h3, hn, rfl, rfl, rfl, rfl⟩)⟩
  case case6 h2 h3 h4 hn =>
    rintro ⟨⟩
    exact ⟨rfl, rfl, rfl, rfl, rfl, .inr (.inr (.inl ⟨h4, hn, rfl, rfl, rfl, rfl⟩))⟩
  case case8 h2 h3 h4 hn =>
    rintro ⟨⟩
    exact ⟨rfl, rfl, rfl, rfl, rfl, .inr (.inr (.inr ⟨h2, h3, h4, hn, rfl, rfl, rfl, rfl⟩))⟩
  all_goals nofun

theorem step_accepted {b b' : Builder} {op : BOp} :
    b.step op = (b', none) →
    match op with
    | .enableCompression => True
    | .start s => 1 ≤ b.sec ∧ b.sec ≤ s ∧ b' = { b with sec := s }
    | .question q => b.sec = 2 ∧ ∃ bs c b1, packQuestion q b.msg b.comp = .ok (bs, c) ∧
        ({ b with comp := c } : Builder).incr = .ok b1 ∧ b' = { b1 with msg := b.msg ++ bs }
    | .resource r => 3 ≤ b.sec ∧ b.sec ≤ 5 ∧ ∃ bs c b1, packResource r b.msg b.comp = .ok (bs, c) ∧
        ({ b with comp := c } : Builder).incr = .ok b1 ∧ b' = { b1 with msg := b.msg ++ bs }
    | .finish => 1 ≤ b.sec ∧ b' = { b with sec := 6 } := by
  fun_cases Builder.step b op
  -- the five branches of `Builder.step` that return no error, one per call; the others return one
  case case1 => exact fun _ => trivial
  case case4 s h1 h2 => rintro ⟨⟩; exact ⟨by omega, by omega, rfl⟩
  case case9 q h1 h2 bs c hq b1 hi => rintro ⟨⟩; exact ⟨by omega, bs, c, b1, hq, hi, rfl⟩
  case case16 r h1 h2 nb c1 hn bb c2 hb bs c hr b1 hi =>
    rintro ⟨⟩; exact ⟨by omega, by omega, bs, c, b1, hr, hi, rfl⟩
  case case18 h1 => rintro ⟨⟩; exact ⟨by omega, rfl⟩
  all_goals rintro ⟨⟩

def addRes (sec : Nat) (m : Message) (r : Resource) : Message :=
  if sec = 3 then { m with answers := m.answers ++ [r] }
  else if sec = 4 then { m with authorities := m.authorities ++ [r] }
  else { m with additionals := m.additionals ++ [r] }

/-- one call: new section and message (`sec` is the Builder's section) -/
def describeStep (sec : Nat) (m : Message) : BOp → Nat × Message
  | .start s => (s, m)
  | .question q => (sec, { m with questions := m.questions ++ [q] })
  | .resource r => (sec, addRes sec m r)
  | .finish => (6, m)
  | .enableCompression => (sec, m)

def describeAux : Nat → Message → List BOp → Message
  | _, m, [] => m
  | sec, m, op :: ops => describeAux (describeStep sec m op).1 (describeStep sec m op).2 ops

/-- the message described by the calls after `NewBuilder(h)`: questions and records in call order,
each record in the section that was current when it was added -/
def describe (h : Header) (ops : List BOp) : Message :=
  describeAux 1 { hdr := h, questions := [], answers := [], authorities := [], additionals := [] } ops

def WFOp : BOp → Prop
  | .question q => WFQuestion q
  | .resource r => WFResource r
  | _ => True

/-- the 12 header bytes, which the Builder leaves zero until `Finish` -/
def zeros12 : Bytes := List.replicate 12 0

/-- no record of `m` lies in a section after `s`: records arrive in wire order -/
def NoneAfter (s : Nat) (m : Message) : Prop :=
  (s < 3 → m.answers = []) ∧ (s < 4 → m.authorities = []) ∧ (s < 5 → m.additionals = [])

theorem NoneAfter.mono {s t : Nat} {m : Message} (h : NoneAfter s m) (hst : s ≤ t) : NoneAfter t m :=
  ⟨fun ht => h.1 (Nat.lt_of_le_of_lt hst ht), fun ht => h.2.1 (Nat.lt_of_le_of_lt hst ht),
    fun ht => h.2.2 (Nat.lt_of_le_of_lt hst ht)⟩

/-- The Builder's counters are the section lengths. Their bounds (`Builder.incr` refuses to count past
65535) are what lets `packMessageWith_recs` pass the section limits of `Message.Pack`. -/
def Counts (b : Builder) (m : Message) : Prop :=
  1 ≤ b.sec ∧ b.nq = m.questions.length ∧ b.na = m.answers.length ∧ b.nu = m.authorities.length ∧
  b.nr = m.additionals.length ∧ b.nq ≤ 65535 ∧ b.na ≤ 65535 ∧ b.nu ≤ 65535 ∧ b.nr ≤ 65535

/-- Builder state `b` holds exactly the message `m` packed so far (compression `comp0`). -/
structure BInv (comp0 : Option CompMap) (b : Builder) (m : Message) : Prop where
  hid : b.id = m.hdr.id % 65536
  hbits : b.bits = m.hdr.bits
  nums : Counts b m
  later : NoneAfter b.sec m
  wf : ∀ x ∈ recs m, WFRec x
  hpack : ∃ B, b.msg = zeros12 ++ B ∧ packRecs (recs m) zeros12 comp0 = .ok (B, b.comp)

theorem packRecs_snoc {xs : List Rec} {x : Rec} {buf B bs : Bytes} {c0 c1 c2 : Option CompMap}
    (h1 : packRecs xs buf c0 = .ok (B, c1)) (h2 : packRec x (buf ++ B) c1 = .ok (bs, c2)) :
    packRecs (xs ++ [x]) buf c0 = .ok (B ++ bs, c2) := by
  rw [packRecs_append, h1]
  simp [packRecs, h2]

@[simp] theorem addRes_hdr (s : Nat) (m : Message) (r : Resource) : (addRes s m r).hdr = m.hdr := by
  unfold addRes
  split
  · rfl
  · split <;> rfl

theorem NoneAfter.question {m : Message} (h : NoneAfter 2 m) (q : Question) :
    recs { m with questions := m.questions ++ [q] } = recs m ++ [.q q] := by
  simp [recs, h.1 (by decide), h.2.1 (by decide), h.2.2 (by decide)]

theorem NoneAfter.resource {s : Nat} {m : Message} (h : NoneAfter s m) (h3 : 3 ≤ s) (h5 : s ≤ 5) (r : Resource) :
    recs (addRes s m r) = recs m ++ [.r r] ∧ NoneAfter s (addRes s m r) := by
  obtain rfl | rfl | rfl : s = 3 ∨ s = 4 ∨ s = 5 := by omega
  · simp [addRes, recs, NoneAfter, h.2.1 (by decide), h.2.2 (by decide)]
  · simp [addRes, recs, NoneAfter, h.2.2 (by decide)]
  · simp [addRes, recs, NoneAfter]

theorem Counts.question {b b1 : Builder} {m : Message} (h : Counts b m) (hi : b.incr = .ok b1) (hsec : b.sec = 2)
    (q : Question) : Counts b1 { m with questions := m.questions ++ [q] } := by
  obtain ⟨h1, hq, ha, hu, hr, bq, ba, bu, br⟩ := h
  obtain ⟨-, hs1, -, -, -, ⟨-, hn, c1, c2, c3, c4⟩ | ⟨h, -⟩ | ⟨h, -⟩ | ⟨h, -⟩⟩ := incr_ok hi
  · exact ⟨hs1 ▸ h1, by rw [c1, hq, List.length_append]; rfl, c2 ▸ ha, c3 ▸ hu, c4 ▸ hr,
      c1 ▸ Nat.lt_of_le_of_ne bq hn, c2 ▸ ba, c3 ▸ bu, c4 ▸ br⟩
  all_goals exact absurd h (by rw [hsec]; decide)

theorem Counts.resource {b b1 : Builder} {m : Message} (h : Counts b m) (hi : b.incr = .ok b1) (h3 : 3 ≤ b.sec)
    (r : Resource) : Counts b1 (addRes b.sec m r) := by
  obtain ⟨h1, hq, ha, hu, hr, bq, ba, bu, br⟩ := h
  unfold addRes
  obtain ⟨-, hs1, -, -, -, ⟨h, -⟩ | ⟨h, hn, c1, c2, c3, c4⟩ | ⟨h, hn, c1, c2, c3, c4⟩ |
    ⟨-, h3', h4, hn, c1, c2, c3, c4⟩⟩ := incr_ok hi
  · exact absurd h3 (by rw [h]; decide)
  · rw [if_pos h]
    exact ⟨hs1 ▸ h1, c1 ▸ hq, by rw [c2, ha, List.length_append]; rfl, c3 ▸ hu, c4 ▸ hr,
      c1 ▸ bq, c2 ▸ Nat.lt_of_le_of_ne ba hn, c3 ▸ bu, c4 ▸ br⟩
  · rw [if_neg (by rw [h]; decide), if_pos h]
    exact ⟨hs1 ▸ h1, c1 ▸ hq, c2 ▸ ha, by rw [c3, hu, List.length_append]; rfl, c4 ▸ hr,
      c1 ▸ bq, c2 ▸ ba, c3 ▸ Nat.lt_of_le_of_ne bu hn, c4 ▸ br⟩
  · rw [if_neg h3', if_neg h4]
    exact ⟨hs1 ▸ h1, c1 ▸ hq, c2 ▸ ha, c3 ▸ hu, by rw [c4, hr, List.length_append]; rfl,
      c1 ▸ bq, c2 ▸ ba, c3 ▸ bu, c4 ▸ Nat.lt_of_le_of_ne br hn⟩

/-- An accepted call keeps `BInv`: `start`/`finish` only move the section; a question or record appends
one element to `recs m` (no later section has a record yet), one packed record to the buffer
(`packRecs_snoc`) and bumps the counter of the current section (`incr_ok`). -/
theorem step_inv {comp0 : Option CompMap} {b : Builder} {m : Message} (op : BOp)
    (hinv : BInv comp0 b m) (hne : op ≠ .enableCompression) (hwf : WFOp op)
    (hacc : (b.step op).2 = none) :
    BInv comp0 (b.step op).1 (describeStep b.sec m op).2 ∧ (b.step op).1.sec = (describeStep b.sec m op).1 := by
  obtain ⟨hid, hbits, nums, later, wf, B, hmsg, hpk⟩ := hinv
  have h := step_accepted (Prod.ext rfl hacc : b.step op = ((b.step op).1, none))
  generalize (b.step op).1 = b' at h ⊢
  -- a record `x` packed as `bs` behind `b.msg`: what `BInv` says of the records and the buffer
  have hadd : ∀ {m' : Message} {x : Rec} {bs : Bytes} {c : Option CompMap}, recs m' = recs m ++ [x] → WFRec x →
      packRec x b.msg b.comp = .ok (bs, c) →
      (∀ y ∈ recs m', WFRec y) ∧ ∃ B', b.msg ++ bs = zeros12 ++ B' ∧ packRecs (recs m') zeros12 comp0 = .ok (B', c) := by
    intro m' x bs c hrecs hx hp
    rw [hrecs]
    refine ⟨fun y hy => ?_, B ++ bs, by rw [hmsg, List.append_assoc], packRecs_snoc hpk (by rw [← hmsg]; exact hp)⟩
    rcases List.mem_append.mp hy with hy | hy
    · exact wf y hy
    · rw [List.mem_singleton.mp hy]; exact hx
  cases op with
  | enableCompression => exact absurd rfl hne
  | start s =>
    obtain ⟨_, hle, rfl⟩ := h
    exact ⟨{ hid, hbits, wf, hpack := ⟨B, hmsg, hpk⟩
             nums := ⟨Nat.le_trans nums.1 hle, nums.2⟩
             later := later.mono hle }, rfl⟩
  | finish =>
    obtain ⟨_, rfl⟩ := h
    have later6 : NoneAfter 6 m :=
      ⟨fun h => absurd h (by decide), fun h => absurd h (by decide), fun h => absurd h (by decide)⟩
    exact ⟨{ hid, hbits, wf, hpack := ⟨B, hmsg, hpk⟩
             nums := ⟨(by decide : 1 ≤ 6), nums.2⟩
             later := later6 }, rfl⟩
  | question q =>
    obtain ⟨hsec, bs, c, b1, hq, hi, rfl⟩ := h
    obtain ⟨-, hs1, hid1, hbits1, hc1, -⟩ := incr_ok hi
    have later2 : NoneAfter 2 m := hsec ▸ later
    obtain ⟨wf', hpack'⟩ := hadd (later2.question q) hwf hq
    exact ⟨{ hid := hid1.trans hid
             hbits := hbits1.trans hbits
             nums := Counts.question (b := { b with comp := c }) nums hi hsec q
             later := hs1 ▸ later
             wf := wf'
             hpack := hc1 ▸ hpack' }, hs1⟩
  | resource r =>
    obtain ⟨hlo, hhi, bs, c, b1, hq, hi, rfl⟩ := h
    obtain ⟨-, hs1, hid1, hbits1, hc1, -⟩ := incr_ok hi
    obtain ⟨hrecs, later'⟩ := later.resource hlo hhi r
    obtain ⟨wf', hpack'⟩ := hadd hrecs hwf hq
    exact ⟨{ hid := (addRes_hdr _ _ _).symm ▸ hid1.trans hid
             hbits := (addRes_hdr _ _ _).symm ▸ hbits1.trans hbits
             nums := Counts.resource (b := { b with comp := c }) nums hi hlo r
             later := hs1 ▸ later'
             wf := wf'
             hpack := hc1 ▸ hpack' }, hs1⟩

theorem run_cons (b : Builder) (op : BOp) (ops : List BOp) :
    (b.run (op :: ops)).1 = ((b.step op).1.run ops).1 ∧
    (b.run (op :: ops)).2 = (b.step op).2 :: ((b.step op).1.run ops).2 := by
  simp [Builder.run]

theorem run_inv {comp0 : Option CompMap} : ∀ (ops : List BOp) (b : Builder) (m : Message),
    BInv comp0 b m → (∀ op ∈ ops, op ≠ .enableCompression ∧ WFOp op) →
    (∀ e ∈ (b.run ops).2, e = none) →
    BInv comp0 (b.run ops).1 (describeAux b.sec m ops) := by
  intro ops
  induction ops with
  | nil => intro b m hinv _ _; simpa [Builder.run, describeAux] using hinv
  | cons op ops ih =>
    intro b m hinv hops hacc
    rw [(run_cons b op ops).2] at hacc
    have h1 : (b.step op).2 = none := hacc _ (by simp)
    rcases step_inv op hinv (hops op (by simp)).1 (hops op (by simp)).2 h1 with ⟨hinv', hsec⟩
    have := ih (b.step op).1 _ hinv' (fun o ho => hops o (by simp [ho])) (fun e he => hacc e (by simp [he]))
    rw [(run_cons b op ops).1, describeAux, ← hsec]
    exact this

/-- the Builder right after `NewBuilder(h)` (and `EnableCompression()` if `compress`) -/
def startBuilder (h : Header) (compress : Bool) : Builder :=
  if compress then ((newBuilder h).step .enableCompression).1 else newBuilder h

def startComp (compress : Bool) : Option CompMap := if compress then some [] else none

theorem run_start_inv (h : Header) (compress : Bool) (ops : List BOp)
    (hops : ∀ op ∈ ops, op ≠ .enableCompression ∧ WFOp op)
    (hacc : ∀ e ∈ ((startBuilder h compress).run ops).2, e = none) :
    BInv (startComp compress) ((startBuilder h compress).run ops).1 (describe h ops) := by
  have h0 : BInv (startComp compress) (startBuilder h compress)
      { hdr := h, questions := [], answers := [], authorities := [], additionals := [] } := by
    have hb : startBuilder h compress = { newBuilder h with comp := startComp compress } := by
      cases compress <;> rfl
    rw [hb]
    exact { hid := rfl
            hbits := rfl
            nums := by simp [Counts, newBuilder]
            later := ⟨fun _ => rfl, fun _ => rfl, fun _ => rfl⟩
            wf := fun x hx => nomatch hx
            hpack := ⟨[], rfl, rfl⟩ }
  have hsec : (startBuilder h compress).sec = 1 := by cases compress <;> rfl
  have hfin := run_inv ops _ _ h0 hops hacc
  rwa [hsec] at hfin

theorem describeAux_hdr : ∀ (ops : List BOp) (sec : Nat) (m : Message), (describeAux sec m ops).hdr = m.hdr
  | [], _, _ => rfl
  | op :: ops, sec, m => by
    rw [describeAux, describeAux_hdr ops]
    cases op <;> simp [describeStep]

/-- A call that fails changes nothing but the compression map (which it may: known finding
`builder-stale-map`). -/
theorem step_ok_or_comp (b : Builder) (op : BOp) :
    (b.step op).2 = none ∨ ∃ c, (b.step op).1 = { b with comp := c } := by
  fun_cases Builder.step b op
  -- the five accepting branches (as in `step_accepted`); every other returns `b`, or `b` with another map
  case case1 | case4 | case9 | case16 | case18 => exact .inl rfl
  all_goals exact .inr ⟨_, rfl⟩

end NetVerif.Proofs.DnsBuilder
