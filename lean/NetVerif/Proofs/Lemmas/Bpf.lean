import NetVerif.Model.Bpf
import NetVerif.Proofs.Lemmas.ByteArith
/-!
The encoding of classic BPF written down once: `Asm`, the opcode table with each opcode as the sum of its
fields, is the graph of `asm` (`asm_iff`), and whatever is proved about encodings (field types, decoding,
execution) is proved row by row of that table. The masks of bpf/constants.go are read arithmetically
(`x &&& mask` for a contiguous mask is a div/mod expression), so that `omega` can reason about opcode fields.
Opening this namespace makes `simp` unfold the constants of constants.go.
-/
namespace NetVerif.Proofs.Lemmas.Bpf
open NetVerif.Model.Bpf

attribute [scoped simp] regA regX aluOpAdd aluOpSub aluOpMul aluOpDiv aluOpOr aluOpAnd aluOpShiftLeft
  aluOpShiftRight aluOpNeg aluOpMod aluOpXor jumpEqual jumpNotEqual jumpGreaterThan jumpLessThan
  jumpGreaterOrEqual jumpLessOrEqual jumpBitsSet jumpBitsNotSet extOffset extLen
  opClsLoadA opClsLoadX opClsStoreA opClsStoreX opClsALU opClsJump opClsReturn opClsMisc
  opAddrModeImmediate opAddrModeAbsolute opAddrModeIndirect opAddrModeScratch opAddrModePacketLen
  opAddrModeMemShift opLoadWidth4 opLoadWidth2 opLoadWidth1 opOperandConstant opOperandX
  opJumpAlways opJumpEqual opJumpGT opJumpGE opJumpSet opRetSrcConstant opRetSrcA opMiscTAX opMiscTXA
  extThreshold opMaskCls opMaskLoadDest opMaskLoadWidth opMaskLoadMode opMaskOperand opMaskOperator

theorem and_maskCls (op : Nat) : op &&& opMaskCls = op % 8 := by
  simpa using and_shifted_mask op 3 0
theorem and_maskLoadDest (op : Nat) : op &&& opMaskLoadDest = op % 2 := by
  simp
theorem and_maskLoadWidth (op : Nat) : op &&& opMaskLoadWidth = op / 8 % 4 * 8 := and_shifted_mask op 2 3
theorem and_maskLoadMode (op : Nat) : op &&& opMaskLoadMode = op / 32 % 8 * 32 := and_shifted_mask op 3 5
theorem and_maskOperand (op : Nat) : op &&& opMaskOperand = op / 8 % 2 * 8 := and_shifted_mask op 1 3
theorem and_maskOperator (op : Nat) : op &&& opMaskOperator = op / 16 % 16 * 16 := and_shifted_mask op 4 4

theorem isALUBinary_iff (op : Nat) : isALUBinary op = true ↔
    (op = 0 ∨ op = 16 ∨ op = 32 ∨ op = 48 ∨ op = 64 ∨ op = 80 ∨ op = 96 ∨ op = 112 ∨ op = 144 ∨ op = 160) := by
  simp [isALUBinary, or_assoc]

/-- `Size` of a packet load and its opcode bits. -/
inductive Width : Int → Nat → Prop
  | b : Width 1 16
  | h : Width 2 8
  | w : Width 4 0

/-- The `switch test` of `jumpToRaw`: test, operator bits, whether the skips are exchanged. -/
inductive JumpRow : Nat → Nat → Bool → Prop
  | eq : JumpRow 0 16 false
  | ne : JumpRow 1 16 true
  | gt : JumpRow 2 32 false
  | lt : JumpRow 3 48 true
  | ge : JumpRow 4 48 false
  | le : JumpRow 5 32 true
  | set : JumpRow 6 64 false
  | nset : JumpRow 7 64 true

/-- One row per instruction form of bpf/instructions.go: typed value, raw instruction. -/
inductive Asm : Instr → Raw → Prop
  | ldImm {d : Nat} (hd : d = 0 ∨ d = 1) (k : Nat) : Asm (.loadConstant d k) ⟨d, 0, 0, k⟩
  | ldMem {d : Nat} (hd : d = 0 ∨ d = 1) {m : Nat} (hm : m < 16) : Asm (.loadScratch d m) ⟨d + 0x60, 0, 0, m⟩
  | ldAbs {sz : Int} {w : Nat} (hw : Width sz w) (k : Nat) : Asm (.loadAbsolute k sz) ⟨0x20 + w, 0, 0, k⟩
  | ldInd {sz : Int} {w : Nat} (hw : Width sz w) (k : Nat) : Asm (.loadIndirect k sz) ⟨0x40 + w, 0, 0, k⟩
  | ldMsh (k : Nat) : Asm (.loadMemShift k) ⟨0xb1, 0, 0, k⟩
  | ldLen : Asm (.loadExtension 1) ⟨0x80, 0, 0, 0⟩
  | ldExt {n : Nat} (hn : n < 4096) (h1 : n ≠ 1) : Asm (.loadExtension n) ⟨0x20, 0, 0, 0xfffff000 + n⟩
  | st {d : Nat} (hd : d = 0 ∨ d = 1) {m : Nat} (hm : m < 16) : Asm (.storeScratch d m) ⟨0x02 + d, 0, 0, m⟩
  | aluK (op k : Nat) : Asm (.aluOpConstant op k) ⟨0x04 ||| op, 0, 0, k⟩
  | aluX (op : Nat) : Asm (.aluOpX op) ⟨0x0c ||| op, 0, 0, 0⟩
  | neg : Asm .negateA ⟨0x84, 0, 0, 0⟩
  | ja (k : Nat) : Asm (.jump k) ⟨0x05, 0, 0, k⟩
  | jK {t c : Nat} {f : Bool} (h : JumpRow t c f) (k st sf : Nat) :
      Asm (.jumpIf t k st sf) ⟨0x05 + c, if f then sf else st, if f then st else sf, k⟩
  | jX {t c : Nat} {f : Bool} (h : JumpRow t c f) (st sf : Nat) :
      Asm (.jumpIfX t st sf) ⟨0x0d + c, if f then sf else st, if f then st else sf, 0⟩
  | retK (k : Nat) : Asm (.retConstant k) ⟨0x06, 0, 0, k⟩
  | retA : Asm .retA ⟨0x16, 0, 0, 0⟩
  | tax : Asm .tax ⟨0x07, 0, 0, 0⟩
  | txa : Asm .txa ⟨0x87, 0, 0, 0⟩
  | raw (r : Raw) : Asm (.raw r) r

theorem jumpToRaw_iff {t operand k st sf : Nat} {r : Raw} (ho : operand = 0 ∨ operand = 8) :
    jumpToRaw t operand k st sf = some r ↔
      ∃ c f, JumpRow t c f ∧ r = ⟨5 + operand + c, if f then sf else st, if f then st else sf, k⟩ := by
  constructor
  · intro h
    unfold jumpToRaw at h
    match t with
    | 0 | 1 | 2 | 3 | 4 | 5 | 6 | 7 =>
      cases h; rcases ho with rfl | rfl <;> exact ⟨_, _, by constructor, rfl⟩
    | n + 8 => simp [jumpTestToOp] at h
  · rintro ⟨c, f, h, rfl⟩
    cases h <;> rcases ho with rfl | rfl <;> rfl

theorem assembleLoad_iff {dst : Nat} {sz : Int} {mode k : Nat} {r : Raw} (hm : mode % 32 = 0) :
    assembleLoad dst sz mode k = some r ↔
      (dst = 0 ∨ dst = 1) ∧ ∃ w, Width sz w ∧ r = ⟨dst + mode + w, 0, 0, k⟩ := by
  -- register, width and mode occupy disjoint bits of the opcode
  have hop : ∀ {s w}, Width s w → dst = 0 ∨ dst = 1 → dst ||| w ||| mode = dst + mode + w := fun {_ w} hw hd => by
    have : w % 8 = 0 ∧ w < 24 := by cases hw <;> decide
    rw [or_eq_add_of_disjoint dst w 3 (by omega) this.1, or_eq_add_of_disjoint _ mode 5 (by omega) hm]
    omega
  have hcls : dst = 0 ∨ dst = 1 → (if dst = regA then opClsLoadA else opClsLoadX) = dst := by
    rintro (rfl | rfl) <;> rfl
  unfold assembleLoad
  constructor
  · intro h
    split at h
    · rename_i hd
      rw [hcls hd] at h
      refine ⟨hd, ?_⟩
      split at h
      · subst sz; cases h; exact ⟨_, .b, by rw [hop .b hd]⟩
      split at h
      · subst sz; cases h; exact ⟨_, .h, by rw [hop .h hd]⟩
      split at h
      · subst sz; cases h; exact ⟨_, .w, by rw [hop .w hd]⟩
      · cases h
    · cases h
  · rintro ⟨hd, w, hw, rfl⟩
    have := hop hw hd
    rw [if_pos hd]
    cases hw <;> simpa [hcls hd] using this

theorem u32OfInt_nat {m : Nat} (h : m < 4294967296) : u32OfInt m = m := by unfold u32OfInt; omega

theorem scratch_iff {n : Int} : ¬ (n < 0 ∨ n > 15) ↔ ∃ m : Nat, m < 16 ∧ n = m :=
  ⟨fun h => ⟨n.toNat, by omega, by omega⟩, by rintro ⟨m, hm, rfl⟩; omega⟩

theorem asm_iff {i : Instr} {r : Raw} : asm i = some r ↔ Asm i r := by
  constructor
  · intro h
    cases i with
    | loadConstant dst val =>
      obtain ⟨hd, w, hw, rfl⟩ := (assembleLoad_iff rfl).1 h
      cases hw; exact .ldImm hd val
    | loadScratch dst n =>
      simp only [asm] at h
      split at h
      · cases h
      · obtain ⟨m, hm, rfl⟩ := scratch_iff.1 ‹_›
        obtain ⟨hd, w, hw, rfl⟩ := (assembleLoad_iff rfl).1 h
        cases hw; rw [u32OfInt_nat (by omega)]; exact .ldMem hd hm
    | loadAbsolute off size =>
      obtain ⟨-, w, hw, rfl⟩ := (assembleLoad_iff rfl).1 h
      exact .ldAbs hw off
    | loadIndirect off size =>
      obtain ⟨-, w, hw, rfl⟩ := (assembleLoad_iff rfl).1 h
      exact .ldInd hw off
    | loadMemShift off =>
      obtain ⟨-, w, hw, rfl⟩ := (assembleLoad_iff rfl).1 h
      cases hw; exact .ldMsh off
    | loadExtension num =>
      simp only [asm] at h
      split at h
      · cases h
      rename_i hn
      obtain ⟨n, rfl⟩ : ∃ n : Nat, num = n := ⟨num.toNat, by omega⟩
      split at h
      · obtain ⟨-, w, hw, rfl⟩ := (assembleLoad_iff rfl).1 h
        cases hw; rename_i h1; rw [h1]; exact .ldLen
      · obtain ⟨-, w, hw, rfl⟩ := (assembleLoad_iff rfl).1 h
        cases hw
        have e : u32OfInt (extOffset + n) = 0xfffff000 + n := by simp [u32OfInt] at hn ⊢; omega
        rw [e]
        exact .ldExt (by simp at hn; omega) (by rename_i h1; intro h; exact h1 (by simp [h]))
    | storeScratch src n =>
      simp only [asm] at h
      split at h
      · cases h
      · obtain ⟨m, hm, rfl⟩ := scratch_iff.1 ‹_›
        rw [u32OfInt_nat (by omega)] at h
        repeat' split at h
        all_goals cases h
        all_goals subst src
        · exact .st (.inl rfl) hm
        · exact .st (.inr rfl) hm
    | jumpIf cond val st sf =>
      obtain ⟨c, f, hj, rfl⟩ := (jumpToRaw_iff (.inl rfl)).1 h
      exact .jK hj val st sf
    | jumpIfX cond st sf =>
      obtain ⟨c, f, hj, rfl⟩ := (jumpToRaw_iff (.inr rfl)).1 h
      exact .jX hj st sf
    | _ => cases h; constructor
  · intro h
    cases h with
    | ldImm hd k => exact (assembleLoad_iff rfl).2 ⟨hd, _, .w, rfl⟩
    | ldMem hd hm =>
      simp only [asm]
      rw [if_neg (by omega), u32OfInt_nat (by omega)]
      exact (assembleLoad_iff rfl).2 ⟨hd, _, .w, rfl⟩
    | ldAbs hw k => exact (assembleLoad_iff rfl).2 ⟨.inl rfl, _, hw, rfl⟩
    | ldInd hw k => exact (assembleLoad_iff rfl).2 ⟨.inl rfl, _, hw, rfl⟩
    | ldExt hn h1 =>
      rename_i n
      have e : u32OfInt (extOffset + n) = 0xfffff000 + n := by simp [u32OfInt]; omega
      simp only [asm]
      rw [if_neg (by simp; omega), if_neg (by simp; omega), e]
      rfl
    | st hd hm =>
      simp only [asm]
      rw [if_neg (by omega), u32OfInt_nat (by omega)]
      rcases hd with rfl | rfl <;> rfl
    | jK h k st sf => exact (jumpToRaw_iff (.inl rfl)).2 ⟨_, _, h, rfl⟩
    | jX h st sf => exact (jumpToRaw_iff (.inr rfl)).2 ⟨_, _, h, rfl⟩
    | _ => rfl

theorem wf_mk {op k : Nat} (ho : op < 65536) (hk : k < 4294967296) : Raw.WF ⟨op, 0, 0, k⟩ :=
  ⟨ho, Nat.zero_lt_succ _, Nat.zero_lt_succ _, hk⟩

theorem jumpRow_bound {t c : Nat} {f : Bool} (h : JumpRow t c f) : c ≤ 64 := by
  cases h <;> decide

namespace Asm

theorem wf {i : Instr} {r : Raw} (h : Asm i r) (hi : i.WF) : r.WF := by
  have hor : ∀ {a b : Nat}, a < 16 → b < 65536 → a ||| b < 65536 := fun ha hb =>
    Nat.or_lt_two_pow (n := 16) (by omega) hb
  cases h with
  | raw => exact hi
  | ldImm => exact wf_mk hi.1 hi.2
  | ldMem hd hm | st hd hm | ldExt hn => exact wf_mk (by omega) (by omega)
  | ldAbs hw | ldInd hw => exact wf_mk (by cases hw <;> decide) hi.1
  | ldMsh | ja | retK => exact wf_mk (by decide) hi
  | aluK => exact wf_mk (hor (by decide) hi.1) hi.2
  | aluX => exact wf_mk (hor (by decide) hi) (by decide)
  | @jK _ c f h k st sf =>
    have ho : 0x05 + c < 65536 := by have := jumpRow_bound h; omega
    cases f
    · exact ⟨ho, hi.2.2.1, hi.2.2.2, hi.2.1⟩
    · exact ⟨ho, hi.2.2.2, hi.2.2.1, hi.2.1⟩
  | @jX _ c f h st sf =>
    have ho : 0x0d + c < 65536 := by have := jumpRow_bound h; omega
    cases f
    · exact ⟨ho, hi.2.1, hi.2.2, Nat.zero_lt_succ _⟩
    · exact ⟨ho, hi.2.2, hi.2.1, Nat.zero_lt_succ _⟩
  | _ => decide

end Asm

theorem asmProg_iff {p : List Instr} {rs : List Raw} : asmProg p = some rs ↔ p.map asm = rs.map some := by
  induction p generalizing rs with
  | nil => cases rs <;> simp [asmProg]
  | cons i p ih =>
    cases rs with
    | nil => simp only [asmProg]; cases asm i <;> cases asmProg p <;> simp
    | cons r rs =>
      simp only [asmProg, List.map_cons, List.cons.injEq, ← ih]
      cases asm i <;> cases asmProg p <;> simp

theorem asmProg_get (p : List Instr) (rp : List Raw) (h : asmProg p = some rp) :
    rp.length = p.length ∧
    ∀ (pc : Nat) (i : Instr), p[pc]? = some i → ∃ r, asm i = some r ∧ rp[pc]? = some r := by
  rw [asmProg_iff] at h
  refine ⟨by simpa using (congrArg List.length h).symm, fun pc i hi => ?_⟩
  have := congrArg (·[pc]?) h
  simp only [List.getElem?_map, hi, Option.map_some] at this
  cases hr : rp[pc]? <;> simp [hr] at this
  exact ⟨_, this, rfl⟩

theorem asmProg_map {g : Raw → Instr} (hg : ∀ r, asm (g r) = some r) (rs : List Raw) : asmProg (rs.map g) = some rs := by
  simp [asmProg_iff, hg]

theorem map_of_asmProg {g : Raw → Instr} {p : List Instr} {rs : List Raw} (hg : ∀ i ∈ p, ∀ r, asm i = some r → g r = i)
    (h : asmProg p = some rs) : rs.map g = p := by
  rw [asmProg_iff] at h
  apply List.ext_getElem?
  intro n
  have := congrArg (·[n]?) h
  simp only [List.getElem?_map] at this ⊢
  cases hi : p[n]? <;> cases hr : rs[n]? <;> simp [hi, hr] at this ⊢
  exact hg _ (List.mem_of_getElem? hi) _ this

end NetVerif.Proofs.Lemmas.Bpf
