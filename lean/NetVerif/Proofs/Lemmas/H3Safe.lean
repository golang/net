import NetVerif.Model.H3Conn
import NetVerif.Proofs.Lemmas.IfCases
/-!
What the primitives of stream.go (`recordBytesRead`, `Read`, the `discardFrame` loop) do on a
live stream; then the safety invariant of the HTTP/3 stream code (C33 allocation bound,
C35 no panic): from a live stream whose recorded allocations are bounded (`Good`), every operation
that `handleRequest` or `handleUni` reaches ends without a Go panic, in such a stream again (`Safe`).
Two modelled operations have no lemma here: `parseHeaderFrames`, a loop over covered operations, and
`readFrameData`, for which `Safe` fails: it records the peer-declared frame length as allocated
(`make([]byte, st.lim)`); in http3 only tests call it.
-/
namespace NetVerif.Proofs.H3Safe
open NetVerif.Model.H3Stream NetVerif.Model.Qpack NetVerif.Model.H3Conn NetVerif.Proofs.Lemmas

theorem recordBytesRead_le (s : St) (n : Nat) (h : (n : Int) ≤ s.lim) :
    recordBytesRead s n = .ok () { s with lim := s.lim - n } := by
  unfold recordBytesRead
  rw [if_neg (by omega), if_neg (by omega)]

theorem recordBytesRead_cases (s : St) (n : Nat) :
    (s.lim < 0 → recordBytesRead s n = .ok () s) ∧
    (0 ≤ s.lim → (n : Int) ≤ s.lim → recordBytesRead s n = .ok () { s with lim := s.lim - n }) ∧
    (0 ≤ s.lim → s.lim < (n : Int) →
      recordBytesRead s n = .err (.conn cFrameError) { s with lim := 0 }) := by
  refine ⟨fun h => ?_, fun _ h => recordBytesRead_le s n h, fun h1 h2 => ?_⟩
  · unfold recordBytesRead
    rw [if_pos h]
  · unfold recordBytesRead
    rw [if_neg (by omega), if_pos (by omega)]

theorem qsRead_live (s : St) (k : Nat) (hd : s.dead = false) :
    ∃ eof pr, qsRead s k = some (s.data.take k, eof, { s with data := s.data.drop k, primed := pr }) := by
  obtain ⟨data, primed, dead, lim, allocs⟩ := s
  subst hd
  unfold qsRead
  rw [if_neg Bool.false_ne_true]
  dsimp only
  cases data with
  | nil => exact ⟨true, primed, by rw [List.take_nil, List.drop_nil]⟩
  | cons b t =>
    dsimp only
    split
    · exact ⟨false, primed, rfl⟩
    · split
      · rename_i hk
        exact ⟨true, true, by rw [List.take_of_length_le hk, List.drop_of_length_le hk]⟩
      · exact ⟨false, true, rfl⟩

theorem read_primed (b : Nat) (bs t : List Nat) (s : St) (hd : s.dead = false) (hpr : s.primed = true)
    (hdata : s.data = b :: bs ++ t) (hlim : ((b :: bs).length : Int) ≤ s.lim) :
    NetVerif.Model.H3Stream.read s (b :: bs).length =
      .ok (b :: bs, false) { s with data := t, lim := s.lim - (b :: bs).length } := by
  have hq : qsRead s (b :: bs).length = some (b :: bs, false, { s with data := t }) := by
    unfold qsRead
    rw [hd, hdata, hpr, List.cons_append, ← List.cons_append, List.take_left, List.drop_left]
    rfl
  unfold NetVerif.Model.H3Stream.read
  rw [hq]
  dsimp only
  rw [recordBytesRead_le { s with data := t } _ hlim]
  rfl

theorem recordBytesRead_ok {s s' : St} {n : Nat} {u : Unit} (h : recordBytesRead s n = .ok u s') :
    s'.data = s.data ∧ s'.dead = s.dead ∧ (0 ≤ s.lim → (n : Int) ≤ s.lim ∧ s'.lim = s.lim - n) := by
  obtain ⟨h1, h2, h3⟩ := recordBytesRead_cases s n
  rcases Int.lt_or_le s.lim 0 with h0 | h0
  · rw [h1 h0] at h
    cases h
    exact ⟨rfl, rfl, fun h' => absurd h0 (Int.not_lt.mpr h')⟩
  · rcases Int.lt_or_le s.lim n with hn | hn
    · rw [h3 h0 hn] at h
      cases h
    · rw [h2 h0 hn] at h
      cases h
      exact ⟨rfl, rfl, fun _ => ⟨hn, rfl⟩⟩

theorem read_inv (s s' : St) (k : Nat) (bs : List Nat) (eof : Bool)
    (h : NetVerif.Model.H3Stream.read s k = .ok (bs, eof) s') :
    bs = s.data.take bs.length ∧ bs.length ≤ k ∧ s'.data = s.data.drop bs.length ∧ s.dead = false ∧
    s'.dead = false ∧ (0 ≤ s.lim → (bs.length : Int) ≤ s.lim ∧ s'.lim = s.lim - bs.length) := by
  unfold NetVerif.Model.H3Stream.read at h
  cases hd : s.dead with
  | true => unfold qsRead at h; rw [hd, if_pos rfl] at h; cases h
  | false =>
    obtain ⟨eof0, pr, hq⟩ := qsRead_live s k hd
    rw [hq] at h
    dsimp only at h
    cases hr : recordBytesRead { s with data := s.data.drop k, primed := pr } (s.data.take k).length with
    | ok u s2 =>
      rw [hr] at h
      dsimp only at h
      -- every successful exit returns the bytes `qsRead` produced and the state `recordBytesRead` left
      let P : Out (List Nat × Bool) → Prop := fun x => x = .ok (bs, eof) s' → bs = s.data.take k ∧ s' = s2
      have hfin : ∀ e', P (.ok (s.data.take k, e') s2) := fun e' he => by cases he; exact ⟨rfl, rfl⟩
      obtain ⟨rfl, rfl⟩ := ite_ind P
        (fun _ => ite_ind P (fun _ => hfin _) fun _ =>
          ite_ind P (a := .err (.plain cFrameError) s2) (fun _ => nofun) (fun _ => hfin _))
        (fun _ => hfin _) h
      obtain ⟨a, b, c⟩ := recordBytesRead_ok hr
      exact ⟨by simp, by simp; omega, by rw [a]; simp, rfl, b.trans hd, c⟩
    | err e s2 => rw [hr] at h; cases h
    | panic => rw [hr] at h; cases h
    | hang => rw [hr] at h; cases h

/-- The hypothesis is guarded because an empty frame is discarded without touching the QUIC stream. -/
theorem discardLoop_spec : ∀ (n : Nat) (s : St), (0 < n → s.dead = false) →
    if n ≤ s.data.length then
      discardLoop n s = .ok () { s with data := s.data.drop n, primed := decide (0 < n) || s.primed }
    else ∃ s', discardLoop n s = .err (.strm cFrameError) s' := by
  intro n
  induction n with
  | zero => intro s _; exact (if_pos (Nat.zero_le _)).mpr rfl
  | succ n ih =>
    intro s hd
    obtain ⟨data, primed, dead, lim, allocs⟩ := s
    obtain rfl : dead = false := hd (Nat.succ_pos n)
    unfold discardLoop qsReadByte
    cases data with
    | nil => exact (if_neg (Nat.not_succ_le_zero n)).mpr ⟨_, rfl⟩
    | cons b t =>
      have := ih ⟨t, true, false, lim, allocs⟩ fun _ => rfl
      refine ite_ind (fun p : Prop => p) (fun h => ?_) (fun h => ?_)
      · rw [if_pos (Nat.le_of_succ_le_succ h)] at this
        exact this.trans (by rw [Bool.or_true, decide_eq_true (Nat.succ_pos n)]; rfl)
      · rw [if_neg (fun h' => h (Nat.succ_le_succ h'))] at this
        exact this

theorem discardFrame_spec (s : St) (hd : 0 < s.lim → s.dead = false) :
    if s.lim.toNat ≤ s.data.length then
      discardFrame s = .ok () { s with data := s.data.drop s.lim.toNat,
                                       primed := decide (0 < s.lim) || s.primed, lim := -1 }
    else ∃ s', discardFrame s = .err (.strm cFrameError) s' := by
  have hs := discardLoop_spec s.lim.toNat s fun h => hd (Int.lt_toNat.mp h)
  unfold discardFrame
  split
  · rename_i h
    rw [if_pos h] at hs
    rw [hs, show decide (0 < s.lim.toNat) = decide (0 < s.lim) from decide_eq_decide.mpr Int.lt_toNat]
    rfl
  · rename_i h
    rw [if_neg h] at hs
    obtain ⟨s', hs⟩ := hs
    exact ⟨s', by rw [hs]; rfl⟩

/-- Every recorded allocation `(capacity, bytes of the stream not yet consumed)` is at most twice
the bytes actually available plus the 512-byte initial buffer of `io.ReadAll`. -/
def AllocsBounded (st : St) : Prop := ∀ a ∈ st.allocs, a.1 ≤ 2 * a.2 + 512

/-- The invariant: the QUIC stream is still there (`handleStreamError` dereferences it) and every
recorded allocation is bounded. -/
def Good (s : St) : Prop := s.dead = false ∧ AllocsBounded s

def Safe {α : Type} : Out α → Prop
  | .ok _ s => Good s
  | .err _ s => Good s
  | .panic => False
  | .hang => True

/-- Case analysis on a sub-call whose safety `h` is known: every case that `h` decides is closed, so only
the `.ok` case remains, and not even that where its goal is `h` (a proof may end on `ocases`). -/
macro "ocases " h:ident " : " e:term : tactic =>
  `(tactic| (generalize $e = x at $h:ident ⊢; cases x <;> (try dsimp only at $h:ident ⊢) <;>
      (try (first | exact $h | exact False.elim $h | exact True.intro))))

theorem Safe.bind {α β : Type} {x : Out α} {f : α → St → Out β} (hx : Safe x)
    (hf : ∀ a s, Good s → Safe (f a s)) : Safe (x.bind f) := by
  cases x with
  | ok a s => exact hf a s hx
  | err e s => exact hx
  | panic => exact hx
  | hang => exact hx

theorem Safe.ite {α : Type} {c : Prop} [Decidable c] {a b : Out α} (ha : Safe a) (hb : Safe b) :
    Safe (if c then a else b) :=
  ite_ind Safe (fun _ => ha) (fun _ => hb)

theorem safe_qsReadByte (s : St) (h : Good s) : Safe (qsReadByte s) := by
  unfold qsReadByte
  rw [if_neg (by rw [h.1]; exact Bool.false_ne_true)]
  split
  · exact h
  · exact h

theorem safe_recordBytesRead (s : St) (n : Nat) (h : Good s) : Safe (recordBytesRead s n) :=
  Safe.ite h (Safe.ite h h)

theorem safe_readByte (s : St) (h : Good s) : Safe (readByte s) := by
  unfold readByte
  have h1 := safe_recordBytesRead s 1 h
  ocases h1 : recordBytesRead s 1
  rename_i a s1
  have h2 := safe_qsReadByte s1 h1
  ocases h2 : qsReadByte s1
  exact Safe.ite h2 h2

theorem safe_read (s : St) (k : Nat) (h : Good s) : Safe (NetVerif.Model.H3Stream.read s k) := by
  unfold NetVerif.Model.H3Stream.read
  obtain ⟨eof, pr, hq⟩ := qsRead_live s k h.1
  rw [hq]
  dsimp only
  have h2 := safe_recordBytesRead { s with data := s.data.drop k, primed := pr } (s.data.take k).length h
  ocases h2 : recordBytesRead { s with data := s.data.drop k, primed := pr } (s.data.take k).length
  exact Safe.ite (Safe.ite h2 (Safe.ite h2 h2)) h2

theorem safe_readFullAux : ∀ (fuel : Nat) (s : St) (want : Nat) (acc : List Nat), Good s →
    Safe (readFullAux fuel s want acc) := by
  intro fuel
  induction fuel with
  | zero => intro s want acc _; exact True.intro
  | succ f ih =>
    intro s want acc h
    unfold readFullAux
    refine Safe.ite h ?_
    have h1 := safe_read s want h
    ocases h1 : NetVerif.Model.H3Stream.read s want
    exact Safe.ite h1 (Safe.ite (Safe.ite h1 h1) (ih _ _ _ h1))

theorem safe_readFull (s : St) (n : Nat) (h : Good s) : Safe (readFull s n) :=
  safe_readFullAux _ s n [] h

theorem safe_qsReadBE : ∀ (k v : Nat) (s : St), Good s → Safe (qsReadBE k v s) := by
  intro k
  induction k with
  | zero => intro v s h; exact h
  | succ k ih =>
    intro v s h
    unfold qsReadBE
    have h1 := safe_qsReadByte s h
    ocases h1 : qsReadByte s
    exact ih _ _ h1

theorem safe_readVarint (s : St) (h : Good s) : Safe (readVarint s) := by
  unfold readVarint
  have h1 := safe_qsReadByte s h
  ocases h1 : qsReadByte s
  rename_i b s1
  have h2 := safe_qsReadBE (2 ^ (b / 64) - 1) (b % 64) s1 h1
  ocases h2 : qsReadBE (2 ^ (b / 64) - 1) (b % 64) s1
  rename_i v s2
  have h3 := safe_recordBytesRead s2 (2 ^ (b / 64)) h2
  ocases h3 : recordBytesRead s2 (2 ^ (b / 64))

theorem safe_readFrameHeader (s : St) (h : Good s) : Safe (readFrameHeader s) := by
  unfold readFrameHeader
  refine Safe.ite h (Safe.bind (safe_readVarint s h) fun ft s1 h1 => ?_)
  have h2 := safe_readVarint s1 h1
  ocases h2 : readVarint s1
  exact Safe.ite h2 h2

theorem safe_endFrame (s : St) (h : Good s) : Safe (endFrame s) :=
  Safe.ite h h

theorem safe_discardLoop : ∀ (k : Nat) (s : St), Good s → Safe (discardLoop k s) := by
  intro k
  induction k with
  | zero => intro s h; exact h
  | succ k ih =>
    intro s h
    unfold discardLoop
    have h1 := safe_qsReadByte s h
    ocases h1 : qsReadByte s
    exact ih _ h1

theorem safe_discardFrame (s : St) (h : Good s) : Safe (discardFrame s) :=
  Safe.bind (safe_discardLoop _ s h) fun _ _ h1 => h1

theorem safe_discardUnknownFrame (s : St) (ft : Nat) (h : Good s) : Safe (discardUnknownFrame s ft) :=
  Safe.ite h (safe_discardFrame s h)

theorem safe_settingsLoop : ∀ (fuel : Nat) (s : St) (acc : List (Nat × Nat)), Good s →
    Safe (settingsLoop fuel s acc) := by
  intro fuel
  induction fuel with
  | zero => intro s acc _; exact True.intro
  | succ f ih =>
    intro s acc h
    unfold settingsLoop
    exact Safe.ite
      (Safe.bind (safe_readVarint s h) fun t s1 h1 =>
        Safe.bind (safe_readVarint s1 h1) fun v s2 h2 => Safe.ite h2 (ih _ _ h2))
      (Safe.bind (safe_endFrame s h) fun _ _ h1 => h1)

theorem safe_readSettings (s : St) (h : Good s) : Safe (readSettings s) := by
  unfold readSettings
  have h1 := safe_readFrameHeader s h
  ocases h1 : readFrameHeader s
  exact Safe.ite h1 (safe_settingsLoop _ _ _ h1)

variable (H : Huff) (tbl : List (List Nat × List Nat))

theorem safe_readUvarintAux : ∀ (k x m : Nat) (s : St), Good s → Safe (readUvarintAux k x m s) := by
  intro k
  induction k with
  | zero => intro x m s h; exact h
  | succ k ih =>
    intro x m s h
    unfold readUvarintAux
    have h1 := safe_readByte s h
    ocases h1 : readByte s
    exact Safe.ite (Safe.ite h1 h1) (ih _ _ _ h1)

theorem safe_readPrefixedIntWithByte (s : St) (first p : Nat) (h : Good s) :
    Safe (readPrefixedIntWithByte s first p) := by
  unfold readPrefixedIntWithByte readUvarint
  refine Safe.ite h ?_
  have h1 := safe_readUvarintAux 10 0 1 s h
  ocases h1 : readUvarintAux 10 0 1 s
  exact Safe.ite h1 h1

theorem safe_readPrefixedInt (s : St) (p : Nat) (h : Good s) : Safe (readPrefixedInt s p) := by
  unfold readPrefixedInt
  have h1 := safe_readByte s h
  ocases h1 : readByte s
  exact Safe.bind (safe_readPrefixedIntWithByte _ _ p h1) fun _ _ h2 => h2

/-- The one allocation on these paths: the capacity the model records for it is covered by the bytes
present, whatever size was declared. -/
theorem safe_readPrefixedStringWithByte (s : St) (first p : Nat) (h : Good s) :
    Safe (readPrefixedStringWithByte H s first p) := by
  unfold readPrefixedStringWithByte
  have h1 := safe_readPrefixedIntWithByte s first p h
  ocases h1 : readPrefixedIntWithByte s first p
  rename_i size s1
  refine Safe.ite h1 ?_
  have hg : Good { s1 with allocs := (2 * min size s1.data.length + 512, s1.data.length) :: s1.allocs } := by
    refine ⟨h1.1, fun a ha => ?_⟩
    rcases List.mem_cons.mp ha with rfl | ha
    · exact Nat.add_le_add_right (Nat.mul_le_mul_left 2 (Nat.min_le_right _ _)) 512
    · exact h1.2 a ha
  have h2 := safe_readFull _ size hg
  ocases h2 : readFull { s1 with allocs := (2 * min size s1.data.length + 512, s1.data.length) :: s1.allocs } size
  refine Safe.ite ?_ h2
  split
  · exact h2
  · exact h2

theorem safe_readPrefixedString (s : St) (p : Nat) (h : Good s) : Safe (readPrefixedString H s p) := by
  unfold readPrefixedString
  have h1 := safe_readByte s h
  ocases h1 : readByte s
  exact Safe.bind (safe_readPrefixedStringWithByte H _ _ p h1) fun _ _ h2 => h2

theorem safe_decodeFieldLine (s : St) (b : Nat) (h : Good s) :
    Safe (decodeFieldLine H tbl s b) := by
  unfold decodeFieldLine
  refine Safe.ite ?_ (Safe.ite ?_ (Safe.ite ?_ (Safe.ite h h)))
  · refine Safe.bind (safe_readPrefixedIntWithByte s b 6 h) fun i s1 h1 => Safe.ite ?_ h1
    split
    · exact h1
    · exact h1
  · refine Safe.bind (safe_readPrefixedIntWithByte s b 4 h) fun i s1 h1 => Safe.ite ?_ h1
    split
    · exact Safe.bind (safe_readPrefixedString H s1 7 h1) fun _ _ h2 => h2
    · exact h1
  · exact Safe.bind (safe_readPrefixedStringWithByte H s b 3 h) fun n s1 h1 =>
      Safe.bind (safe_readPrefixedString H s1 7 h1) fun _ _ h2 => h2

theorem safe_decodeLoop :
    ∀ (fuel : Nat) (s : St) (saw : Bool) (acc : List Field), Good s →
    Safe (decodeLoop H tbl fuel s saw acc).final := by
  intro fuel
  induction fuel with
  | zero => intro s saw acc _; exact True.intro
  | succ f ih =>
    intro s saw acc h
    unfold decodeLoop
    refine ite_ind (fun r : DecResult => Safe r.final) (fun _ => ?_) (fun _ => h)
    have h1 := safe_readByte s h
    ocases h1 : readByte s
    rename_i b s1
    have h2 := safe_decodeFieldLine H tbl s1 b h1
    ocases h2 : decodeFieldLine H tbl s1 b
    split
    · exact h2
    · exact ite_ind (fun r : DecResult => Safe r.final)
        (fun _ => ite_ind (fun r : DecResult => Safe r.final) (fun _ => h2) (fun _ => ih _ _ _ h2))
        (fun _ => ih _ _ _ h2)

theorem safe_decode (s : St) (h : Good s) :
    Safe (decode H tbl s).final := by
  unfold decode
  have h1 := safe_readPrefixedInt s 8 h
  ocases h1 : readPrefixedInt s 8
  refine ite_ind (fun r : DecResult => Safe r.final) (fun _ => h1) (fun _ => ?_)
  have h2 := safe_readPrefixedInt _ 7 h1
  ocases h2 : readPrefixedInt _ 7
  exact safe_decodeLoop H tbl _ _ _ _ h2

/-- `Safe` for the result of `bodyRead`. -/
def SafeB : BRes → Prop
  | .done _ _ _ s => Good s
  | .panic => False
  | .hang => True

/-- `Safe` for `bodyNextFrame` and `afterEnd`: the result that ends the read, or the state to go on from. -/
def SafeNext : Option BRes × St → Prop
  | (some r, _) => SafeB r
  | (none, s) => Good s

theorem safe_bodyNextFrame (b : Body) :
    ∀ (fuel : Nat) (s : St), Good s → SafeNext (bodyNextFrame H tbl b fuel s) := by
  intro fuel
  induction fuel with
  | zero => intro s _; exact True.intro
  | succ f ih =>
    intro s h
    unfold bodyNextFrame
    refine ite_ind SafeNext (fun _ => ?_) (fun _ => h)
    have h1 := safe_readFrameHeader s h
    ocases h1 : readFrameHeader s
    · rename_i ft s1
      refine ite_ind SafeNext (fun _ => ite_ind SafeNext (fun _ => h1) (fun _ => h1))
        (fun _ => ite_ind SafeNext (fun _ => ite_ind SafeNext (fun _ => h1) (fun _ => ?_)) (fun _ => ?_))
      · have h2 := safe_decode H tbl s1 h1
        ocases h2 : (decode H tbl s1).final
        rename_i u s2
        have h3 := safe_discardFrame s2 h2
        ocases h3 : discardFrame s2
      · have h2 := safe_discardUnknownFrame s1 ft h1
        ocases h2 : discardUnknownFrame s1 ft
        exact ih _ h2
    · exact ite_ind SafeNext (fun _ => h1) (fun _ => h1)

/-! `bodyRead` restated with its two inline pieces named (definitionally the same function). -/

def afterEnd (b : Body) (s : St) : Option BRes × St :=
  if s.lim = 0 then
    match endFrame s with
    | .ok _ s1 => (none, s1)
    | .err e s1 => (some (bodyFail b s1 e), s1)
    | .panic => (some .panic, s)
    | .hang => (some .hang, s)
  else (none, s)

def bodyTail (b : Body) (s2 : St) (k' : Nat) : BRes :=
  match NetVerif.Model.H3Stream.read s2 k' with
  | .ok (bs, eof) s3 =>
    let b' : Body := { b with remain := if b.remain > 0 then b.remain - bs.length else b.remain }
    if eof then .done bs (some .eof) { b' with err := some .eof } s3 else .done bs none b' s3
  | .err e s3 => .done [] (some e) { b with err := some e } s3
  | .panic => .panic
  | .hang => .hang

def bodyRead' (b : Body) (s : St) (k : Nat) : BRes :=
  match b.err with
  | some e => .done [] (some e) b s
  | none =>
    match afterEnd b s with
    | (some r, _) => r
    | (none, s1) =>
      match bodyNextFrame H tbl b (s1.data.length + 2) s1 with
      | (some r, _) => r
      | (none, s2) => bodyTail b s2 (if (k : Int) > s2.lim then s2.lim.toNat else k)

theorem bodyRead_eq (b : Body) (s : St) (k : Nat) :
    bodyRead H tbl b s k = bodyRead' H tbl b s k := by
  unfold bodyRead bodyRead' afterEnd bodyTail
  rfl

theorem safe_afterEnd (b : Body) (s : St) (h : Good s) : SafeNext (afterEnd b s) := by
  refine ite_ind SafeNext (fun _ => ?_) (fun _ => h)
  have h1 := safe_endFrame s h
  ocases h1 : endFrame s

theorem safe_bodyTail (b : Body) (s : St) (k : Nat) (h : Good s) : SafeB (bodyTail b s k) := by
  unfold bodyTail
  have h1 := safe_read s k h
  ocases h1 : NetVerif.Model.H3Stream.read s k
  exact ite_ind SafeB (fun _ => h1) (fun _ => h1)

theorem safe_bodyRead (b : Body) (s : St) (k : Nat) (h : Good s) :
    SafeB (bodyRead H tbl b s k) := by
  rw [bodyRead_eq]
  unfold bodyRead'
  split
  · exact h
  · have h1 := safe_afterEnd b s h
    generalize afterEnd b s = r1 at h1 ⊢
    obtain ⟨_ | r, s1⟩ := r1
    · dsimp only
      have h2 := safe_bodyNextFrame H tbl b (s1.data.length + 2) s1 h1
      generalize bodyNextFrame H tbl b (s1.data.length + 2) s1 = r2 at h2 ⊢
      obtain ⟨_ | r, s2⟩ := r2
      · exact safe_bodyTail b s2 _ h2
      · exact h2
    · exact h1

theorem safe_bodyDrain (k : Nat) :
    ∀ (fuel : Nat) (b : Body) (s : St) (acc : List Nat), Good s → Safe (bodyDrain H tbl k fuel b s acc).2 := by
  intro fuel
  induction fuel with
  | zero => intro b s acc _; exact True.intro
  | succ f ih =>
    intro b s acc h
    unfold bodyDrain
    have h1 := safe_bodyRead H tbl b s k h
    generalize bodyRead H tbl b s k = r at h1 ⊢
    cases r with
    | done bs e b' s' =>
      cases e with
      | none => exact ih _ _ _ h1
      | some e => cases e <;> exact h1
    | panic => exact h1.elim
    | hang => exact True.intro

theorem safe_requestHandler (k : Nat) (s : St) (h : Good s) :
    Safe (requestHandler H tbl k s).2 := by
  unfold requestHandler
  have h1 := safe_readFrameHeader s h
  ocases h1 : readFrameHeader s
  rename_i ft s1
  refine ite_ind (fun r : List Nat × Out Unit => Safe r.2) (fun _ => h1) (fun _ => ?_)
  have h2 := safe_decode H tbl s1 h1
  ocases h2 : (decode H tbl s1).final
  rename_i u s2
  have h3 := safe_endFrame s2 h2
  ocases h3 : endFrame s2
  exact safe_bodyDrain H tbl k _ _ _ _ h3

theorem handleStreamError_ne_panic (s : St) (e : Option Err) (h : s.dead = false) :
    handleStreamError s e ≠ .panic := by
  unfold handleStreamError
  rw [h]
  split <;> exact fun h => nomatch h

theorem finish_no_panic (o : Out Unit) (h : Safe o) : finish o ≠ .panic := by
  cases o with
  | ok a s => exact handleStreamError_ne_panic s none h.1
  | err e s => exact handleStreamError_ne_panic s (some e) h.1
  | panic => exact h.elim
  | hang => exact fun h => nomatch h

theorem good_fresh (data : List Nat) : Good (St.fresh data) := ⟨rfl, fun _ ha => nomatch ha⟩

theorem safe_controlLoop : ∀ (fuel : Nat) (s : St), Good s → Safe (controlLoop fuel s) := by
  intro fuel
  induction fuel with
  | zero => intro s _; exact True.intro
  | succ f ih =>
    intro s h
    unfold controlLoop
    have h1 := safe_readFrameHeader s h
    ocases h1 : readFrameHeader s
    rename_i ft s1
    refine Safe.ite h1 (Safe.ite h1 ?_)
    have h2 := safe_discardUnknownFrame s1 ft h1
    ocases h2 : discardUnknownFrame s1 ft
    exact ih _ h2

theorem safe_handleControlStream (s : St) (h : Good s) : Safe (handleControlStream s) := by
  unfold handleControlStream
  have h1 := safe_readSettings s h
  ocases h1 : readSettings s
  exact safe_controlLoop _ _ h1

theorem handleUni_no_panic (data : List Nat) : handleUni (St.fresh data) ≠ .panic := by
  unfold handleUni
  have h1 := safe_readVarint (St.fresh data) (good_fresh data)
  generalize readVarint (St.fresh data) = x at h1 ⊢
  cases x with
  | ok stype s1 =>
    refine ite_ind (· ≠ ConnRes.panic) (fun _ => ?_) fun _ =>
      ite_ind (· ≠ ConnRes.panic) (fun _ h => nomatch h) (fun _ => handleStreamError_ne_panic _ _ h1.1)
    have h2 := safe_handleControlStream s1 h1
    generalize handleControlStream s1 = y at h2 ⊢
    cases y with
    | ok a s2 => exact finish_no_panic _ h2
    | err e s2 =>
      -- whatever the error is mapped to, it is handed to `handleStreamError` with the same live stream
      cases e <;> dsimp only [finish] <;> exact handleStreamError_ne_panic s2 (some _) h2.1
    | panic => exact h2.elim
    | hang => exact fun h => nomatch h
  | err e s1 => exact fun h => nomatch h
  | panic => exact h1.elim
  | hang => exact fun h => nomatch h

end NetVerif.Proofs.H3Safe
