import NetVerif.Model.Bpf
import NetVerif.Model.BpfVM
import NetVerif.Proofs.Lemmas.Bpf
/-!
Lemmas for C49 (bpf VM = classic BPF semantics of the assembled program). Both machines are the one loop
`runFuel` over their step functions, so they are compared instruction by instruction: one `VM.Run` dispatch
step on a typed instruction is one reference step on its encoding, for every row of the opcode table
(`Asm.step`), and what `NewVM` checks makes every step safe (`Asm.safe`).

`stepRaw` dispatches on some fifty opcode literals. On a literal opcode it is evaluated by definitional
unfolding (`rfl`, `exact`); `simp [stepRaw]` costs two orders of magnitude more per evaluation.
-/
namespace NetVerif.Proofs.Lemmas.BpfVM
open NetVerif NetVerif.Model.Bpf NetVerif.Model.BpfVM NetVerif.Proofs.Lemmas.Bpf

attribute [local simp] two32

/-- Instructions `VM.Run` implements. -/
def implemented : Instr → Bool
  | .negateA => false
  | .raw _ => false
  | _ => true

/-- ALU instructions use one of the ten exported operators. -/
def aluKnown : Instr → Bool
  | .aluOpConstant op _ => isALUBinary op
  | .aluOpX op => isALUBinary op
  | _ => true

theorem loadCommon_eq_pktLoad (s : State) (pkt : List Nat) (off : Nat) {size : Int} (hs : size = 1 ∨ size = 2 ∨ size = 4) :
    loadToA s (loadCommon pkt off size) = rawLoadA s (pktLoad pkt off size.toNat) := by
  unfold loadCommon pktLoad
  by_cases hb : off + size.toNat ≤ pkt.length
  · rw [if_neg (by omega), if_pos hb]
    rcases hs with rfl | rfl | rfl <;> simp [pktBE, loadToA, rawLoadA, Nat.add_assoc]
  · rw [if_pos (by omega), if_neg hb]
    rfl

/-- A negated test is assembled as the positive test with the skips exchanged. -/
theorem cond_flip (b b' : Bool) (x y : Nat) (h : b' = true ↔ ¬ b = true) :
    (if b' = true then x else y) = Model.BpfVM.cond b y x := by
  cases b <;> cases b' <;> simp_all [Model.BpfVM.cond]

/-- For both operand sources at once: `v` is `K` or `X`. -/
theorem stepRaw_jump {t c : Nat} {f : Bool} (h : JumpRow t c f) (s : State) (pkt : List Nat) (operand k v st sf : Nat)
    (hv : operand = 0 ∧ v = k ∨ operand = 8 ∧ k = 0 ∧ v = s.x) :
    stepRaw ⟨5 + operand + c, if f then sf else st, if f then st else sf, k⟩ s pkt =
      .next s (jumpIfCommon t st sf s.a v) := by
  cases h with
  | eq | gt | ge | set => rcases hv with ⟨rfl, rfl⟩ | ⟨rfl, rfl, rfl⟩ <;> rfl
  | ne | lt | le | nset =>
    rcases hv with ⟨rfl, rfl⟩ | ⟨rfl, rfl, rfl⟩ <;> exact congrArg (Step.next s) (cond_flip _ _ _ _ (by simp)).symm

/-- Division and modulo by `v ≠ 0`: the typed result is the reference's `if v = 0 then u else …`, whatever
the reference does at zero (`u`: `.unknown` for `K = 0`, which `NewVM` rejects; `.halt` for `X = 0`, which
the typed `aluOpX` tests before it calls `aluOpCommon`). -/
theorem div_step (v x : Nat) (s : State) (u : Step) (hv : ¬ v = 0) :
    (match (if v = 0 then none else some x) with
      | some a => Step.next { s with a := a } 0
      | none => Step.panic) = if v = 0 then u else rawALU s x := by
  rw [if_neg hv, if_neg hv]; rfl

theorem shl_eq (a v : Nat) : (if v < 32 then (a * 2 ^ v) % two32 else 0) = if v ≥ 32 then 0 else wrap32 (a <<< v) := by
  by_cases h : v < 32
  · rw [if_pos h, if_neg (by omega), Nat.shiftLeft_eq]; rfl
  · rw [if_neg h, if_pos (by omega)]

theorem shr_eq (a v : Nat) : (if v < 32 then a / 2 ^ v else 0) = if v ≥ 32 then 0 else a >>> v := by
  by_cases h : v < 32
  · rw [if_pos h, if_neg (by omega), Nat.shiftRight_eq_div_pow]
  · rw [if_neg h, if_pos (by omega)]

/-- For both operand sources at once: `v` is `K` or `X`. -/
theorem stepRaw_alu (op bit k v : Nat) (s : State) (pkt : List Nat) (hop : isALUBinary op = true)
    (hv : bit = 0 ∧ v = k ∨ bit = 8 ∧ k = 0 ∧ v = s.x) (hz : op = 48 ∨ op = 144 → ¬ v = 0) :
    stepRaw ⟨4 ||| bit ||| op, 0, 0, k⟩ s pkt =
      match aluOpCommon op s.a v with
      | some a => .next { s with a := a } 0
      | none => .panic := by
  rcases (isALUBinary_iff op).1 hop with rfl | rfl | rfl | rfl | rfl | rfl | rfl | rfl | rfl | rfl
  all_goals rcases hv with ⟨rfl, rfl⟩ | ⟨rfl, rfl, rfl⟩
  -- the goals come operator by operator in the order of `isALUBinary`, constant operand first
  iterate 6 rfl
  iterate 2 exact (div_step _ _ s _ (hz (.inl rfl))).symm
  iterate 4 rfl
  iterate 2 exact congrArg (rawALU s) (shl_eq ..).symm
  iterate 2 exact congrArg (rawALU s) (shr_eq ..).symm
  iterate 2 exact (div_step _ _ s _ (hz (.inr rfl))).symm
  iterate 2 rfl

theorem _root_.NetVerif.Proofs.Lemmas.Bpf.Asm.step {i : Instr} {r : Raw} (h : Asm i r) (c : Nat) (s : State) (pkt : List Nat)
    (himpl : implemented i = true) (hk : aluKnown i = true) (hc : checkInstr c i = true) :
    stepTyped i s pkt = stepRaw r s pkt := by
  cases h with
  | neg | raw => cases himpl
  | ldImm hd => rcases hd with rfl | rfl <;> rfl
  | ldMem hd hm | st hd hm => rcases hd with rfl | rfl <;> exact (if_pos (by omega)).trans (if_pos hm).symm
  | ldAbs hw k | ldInd hw k =>
    simp only [stepTyped, Nat.add_comm k]
    cases hw <;> exact loadCommon_eq_pktLoad s pkt _ (by simp)
  | ldMsh off =>
    have h15 : ∀ b : Nat, b &&& 15 = b % 16 := fun b => Nat.and_two_pow_sub_one_eq_mod b 4
    show _ = match pktLoad pkt off 1 with
      | some b => Step.next { s with x := 4 * (b % 16) } 0
      | none => Step.halt
    by_cases hb : off + 1 ≤ pkt.length <;> simp [stepTyped, pktLoad, pktBE, hb, h15, Nat.mul_comm]
  | ldExt hn h1 => simp [checkInstr] at hc; omega
  | aluK op val =>
    exact (stepRaw_alu op 0 val val s pkt hk (.inl ⟨rfl, rfl⟩) (by simp [checkInstr] at hc; omega)).symm
  | aluX op =>
    by_cases hx : s.x = 0 ∧ (op = aluOpDiv ∨ op = aluOpMod)
    · refine (if_pos hx).trans ?_
      rcases hx.2 with rfl | rfl <;> exact (if_pos hx.1).symm
    · exact (if_neg hx).trans
        (stepRaw_alu op 8 0 s.x s pkt hk (.inr ⟨rfl, rfl, rfl⟩) (fun h h0 => hx ⟨h0, h⟩)).symm
  | jK h k st sf => exact (stepRaw_jump h s pkt 0 k k st sf (.inl ⟨rfl, rfl⟩)).symm
  | jX h st sf => exact (stepRaw_jump h s pkt 8 0 s.x st sf (.inr ⟨rfl, rfl, rfl⟩)).symm
  | _ => rfl

theorem runFuel_congr {α β : Type} (stepA : α → State → List Nat → Step) (stepB : β → State → List Nat → Step)
    (pa : List α) (pb : List β) (pkt : List Nat) (hlen : pb.length = pa.length)
    (hstep : ∀ (pc : Nat) (a : α), pa[pc]? = some a → ∃ b, pb[pc]? = some b ∧ ∀ s, stepA a s pkt = stepB b s pkt) :
    ∀ fuel pc s, runFuel stepA pa pkt fuel pc s = runFuel stepB pb pkt fuel pc s := by
  intro fuel
  induction fuel with
  | zero => intro pc s; simp [runFuel, hlen]
  | succ fuel ih =>
    intro pc s
    simp only [runFuel]
    cases ha : pa[pc]? with
    | none =>
      have : pb[pc]? = none := by
        rw [List.getElem?_eq_none_iff] at ha ⊢; omega
      simp [this]
    | some a =>
      obtain ⟨b, hb, hs⟩ := hstep pc a ha
      simp only [hb, hs s]
      split <;> simp [ih]

/-- Fuel = program length is always enough: the program counter grows by at least one per step. -/
theorem runFuel_fuel {α : Type} (step : α → State → List Nat → Step) (prog : List α) (pkt : List Nat) :
    ∀ fuel pc s, prog.length ≤ pc + fuel → runFuel step prog pkt fuel pc s ≠ .outOfFuel := by
  intro fuel
  induction fuel with
  | zero => intro pc s h; simp [runFuel]; omega
  | succ fuel ih =>
    intro pc s h
    simp only [runFuel]
    split
    · simp
    · split <;> simp
      exact ih _ _ (by omega)

theorem jumpIfCommon_cases (cond st sf a v : Nat) :
    jumpIfCommon cond st sf a v = st ∨ jumpIfCommon cond st sf a v = sf := by
  unfold jumpIfCommon
  generalize (if cond = jumpEqual then _ else _ : Bool) = b
  cases b <;> simp

theorem aluOpCommon_some (op a v : Nat) (h : ¬ (v = 0 ∧ (op = aluOpDiv ∨ op = aluOpMod))) :
    ∃ a', aluOpCommon op a v = some a' := by
  rw [← Option.isSome_iff_exists]
  by_cases hv : v = 0
  · simp only [aluOpCommon, apply_ite Option.isSome, Option.isSome_some, if_neg fun hd => h ⟨hv, .inl hd⟩,
      if_neg fun hm => h ⟨hv, .inr hm⟩, ite_self]
  · simp only [aluOpCommon, apply_ite Option.isSome, Option.isSome_some, if_neg hv, ite_self]

/-- What one step of an accepted instruction can do, `c` being the number of instructions after it: never a
panic or an unknown-instruction error; a continuing instruction is not a return and skips `k = 0` (every
non-jump, also where `c = 0`: `run_safe` rules that out because the last instruction is a return) or
`k < c` instructions (a jump). -/
def StepSafe (c : Nat) (i : Instr) : Step → Prop
  | .next _ k => isRet i = false ∧ (k = 0 ∨ k < c)
  | .done _ => True
  | .halt => True
  | .unknown => False
  | .panic => False

theorem _root_.NetVerif.Proofs.Lemmas.Bpf.Asm.safe {i : Instr} {r : Raw} (h : Asm i r) (c : Nat) (s : State) (pkt : List Nat)
    (himpl : implemented i = true) (hc : checkInstr c i = true) : StepSafe c i (stepTyped i s pkt) := by
  cases h with
  | neg | raw => cases himpl
  | ja skip => simp [checkInstr] at hc; simp [stepTyped, StepSafe, isRet]; omega
  | @jK cond _ _ _ _ st sf | @jX cond _ _ _ st sf =>
    simp [checkInstr] at hc
    simp only [stepTyped, StepSafe, isRet]
    rcases jumpIfCommon_cases cond st sf s.a _ with h | h <;> rw [h] <;> simp <;> omega
  | aluK op val =>
    obtain ⟨a', h'⟩ := aluOpCommon_some op s.a val (by simp [checkInstr] at hc ⊢; omega)
    simp [stepTyped, h', StepSafe, isRet]
  | aluX op =>
    simp only [stepTyped]
    split
    · trivial
    · obtain ⟨a', h'⟩ := aluOpCommon_some op s.a s.x ‹_›
      simp [h', StepSafe, isRet]
  | ldExt hn h1 => simp [checkInstr] at hc; omega
  | ldAbs hw off | ldInd hw off =>
    simp only [stepTyped]
    rw [loadCommon_eq_pktLoad s pkt _ (by cases hw <;> simp)]
    cases pktLoad pkt _ _ <;> simp [rawLoadA, StepSafe, isRet]
  | @ldMem _ hd m hm | @st _ hd m hm =>
    have hn : 0 ≤ (m : Int) ∧ (m : Int) < 16 := by omega
    rcases hd with rfl | rfl <;> simp [stepTyped, hn, StepSafe, isRet]
  | ldImm hd => rcases hd with rfl | rfl <;> simp [stepTyped, StepSafe, isRet]
  | ldMsh => simp only [stepTyped]; split <;> simp [StepSafe, isRet]
  | _ => simp [stepTyped, StepSafe, isRet]

theorem checkAll_get (p : List Instr) (h : checkAll p = true) :
    ∀ (pc : Nat) (i : Instr), p[pc]? = some i → checkInstr (p.length - (pc + 1)) i = true := by
  induction p with
  | nil => intro pc i hi; simp at hi
  | cons j rest ih =>
    simp only [checkAll, Bool.and_eq_true] at h
    intro pc i hi
    cases pc with
    | zero => simp at hi; subst hi; simpa using h.1
    | succ pc =>
      simp at hi
      have := ih h.2 pc i hi
      simpa [Nat.add_sub_add_right] using this

theorem newVM_parts (p : List Instr) (h : newVM p = true) :
    p ≠ [] ∧ checkAll p = true ∧ (∀ i, p[p.length - 1]? = some i → isRet i = true) ∧
    ∃ rp, asmProg p = some rp := by
  simp only [newVM, Bool.and_eq_true] at h
  obtain ⟨⟨⟨h1, h2⟩, h3⟩, h4⟩ := h
  refine ⟨by intro hp; subst hp; simp at h1, h2, ?_, ?_⟩
  · intro i hi
    rw [← List.getLast?_eq_getElem?] at hi
    simpa [hi] using h3
  · exact Option.isSome_iff_exists.mp h4

/-- The last instruction of an accepted program is a return, and `StepSafe` keeps every jump short of the
end. -/
theorem run_safe (p : List Instr) (pkt : List Nat) (hvm : newVM p = true)
    (himpl : ∀ i ∈ p, implemented i = true) :
    ∀ fuel pc s, pc < p.length → p.length ≤ pc + fuel →
      (∃ v, runFuel stepTyped p pkt fuel pc s = .ret v) ∨ runFuel stepTyped p pkt fuel pc s = .halt := by
  obtain ⟨_, hchk, hlast, rp, hasm⟩ := newVM_parts p hvm
  obtain ⟨_, hget⟩ := asmProg_get p rp hasm
  intro fuel
  induction fuel with
  | zero => intro pc s h1 h2; omega
  | succ fuel ih =>
    intro pc s h1 h2
    have hi : p[pc]? = some p[pc] := List.getElem?_eq_getElem h1
    obtain ⟨r, hr, _⟩ := hget pc _ hi
    have hc := checkAll_get p hchk pc _ hi
    have hs := (asm_iff.1 hr).safe _ s pkt (himpl _ (List.getElem_mem h1)) hc
    simp only [runFuel, hi]
    cases hst : stepTyped p[pc] s pkt with
    | next s' k =>
      rw [hst] at hs
      simp only [StepSafe] at hs
      have hnl : pc ≠ p.length - 1 := by
        intro he
        have := hlast p[pc] (by rw [← he]; exact hi)
        rw [this] at hs; simp at hs
      exact ih (pc + 1 + k) s' (by omega) (by omega)
    | done v => exact Or.inl ⟨v, rfl⟩
    | halt => exact Or.inr rfl
    | unknown | panic => rw [hst] at hs; exact hs.elim

end NetVerif.Proofs.Lemmas.BpfVM
