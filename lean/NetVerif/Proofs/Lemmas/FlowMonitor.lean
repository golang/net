import NetVerif.Model.FlowMonitor
import NetVerif.Proofs.Lemmas.IfCases
/-!
The trace monitor `Model.FlowMonitor` (C10 part B and C11): `dataAct` by the branch of `processData`
a frame takes (`C11.ConnOnly`, `C11.dataAct_eq`), the invariant `MInv` along accepted traces, and what a line's
observations say about the frame that drew a FLOW_CONTROL_ERROR (`obsStep_fc` to `obsFold_no_conn_fc`, for
`C11.fc_only_on_excess`).
-/
-- In C11's namespace: `ConnOnly` is a notion of C11's statements (`C11.PreAckStatement`); it stands here
-- because `dataAct_inv` below goes through `dataAct_eq`.
namespace NetVerif.Proofs.C11
open NetVerif.Model.Flow NetVerif.Model.FlowMonitor

/-- The branch of `processData` a DATA frame takes (server and Transport): not delivered and
charged to the connection window only (`connOnly`), empty, or delivered. -/
def ConnOnly (st : StreamSt) (len L : Int) : Prop :=
  st.status ≠ .open_ ∨ (st.declCL ≠ -1 ∧ st.bodyBytes + len > st.declCL) ∨ (L ≠ 0 ∧ st.isHead = true ∧ len > 0)

instance (st : StreamSt) (len L : Int) : Decidable (ConnOnly st len L) := by unfold ConnOnly; exact inferInstance

theorem dataAct_eq (m : Mon) (sid : Nat) (len pad : Int) (es : Bool) (st : StreamSt)
    (hv : ¬ (len < 0 ∨ pad < -1)) (hf : findStream m.streams sid = some st) :
    dataAct m sid len pad es =
      if ConnOnly st len (flowLen len pad) then connOnlyAct m sid (flowLen len pad)
      else if flowLen len pad = 0 then
        ⟨{ m with streams := (updStream m.streams sid fun s =>
            { s with status := if es then endedStatus m s else s.status }) }, none⟩
      else if flowLen len pad > m.conn ∨ flowLen len pad > st.win - st.short then ⟨m, some (fcTarget m sid)⟩
      else acceptAct m st sid len (flowLen len pad) es := by
  unfold dataAct
  rw [if_neg hv]
  simp only [hf]
  have co : ∀ {α : Type} (a b : α), ConnOnly st len (flowLen len pad) →
      (if ConnOnly st len (flowLen len pad) then a else b) = a := fun _ _ h => if_pos h
  have nco : ∀ {α : Type} (a b : α), ¬ ConnOnly st len (flowLen len pad) →
      (if ConnOnly st len (flowLen len pad) then a else b) = b := fun _ _ h => if_neg h
  cases hs : st.status with
  | open_ =>
    dsimp only
    by_cases hcl : st.declCL ≠ -1 ∧ st.bodyBytes + len > st.declCL
    · rw [if_pos hcl, co _ _ (Or.inr (Or.inl hcl))]
    · rw [if_neg hcl]
      by_cases h0 : flowLen len pad = 0
      · rw [if_pos h0, nco _ _ (fun h => h.elim (fun h => h hs) fun h => h.elim hcl fun h => h.1 h0), if_pos h0]
      · rw [if_neg h0]
        by_cases hh : st.isHead = true ∧ len > 0
        · rw [if_pos hh, co _ _ (Or.inr (Or.inr ⟨h0, hh⟩))]
        · rw [if_neg hh, nco _ _ (fun h => h.elim (fun h => h hs) fun h => h.elim hcl fun h => hh h.2), if_neg h0]
  | _ => exact (co _ _ (Or.inl (by rw [hs]; exact SStatus.noConfusion))).symm

theorem connOnly_fc (m : Mon) (sid : Nat) (L : Int) (t : Nat) :
    (connOnlyAct m sid L).expectFC = some t ↔ t = fcTarget m sid ∧ L > m.conn := by
  unfold connOnlyAct
  by_cases hx : L > m.conn
  · rw [if_pos hx]
    exact ⟨fun h => ⟨(Option.some.inj h).symm, hx⟩, fun h => congrArg some h.1.symm⟩
  · rw [if_neg hx]
    exact ⟨fun h => (nomatch h), fun h => absurd h.2 hx⟩

end NetVerif.Proofs.C11

namespace NetVerif.Proofs.FlowMon
open NetVerif.Model.Flow NetVerif.Model.FlowMonitor

theorem findStream_mem (ss : List StreamSt) (sid : Nat) (st : StreamSt) (h : findStream ss sid = some st) :
    st ∈ ss := by
  unfold findStream at h
  exact List.mem_of_find?_eq_some h

theorem updStream_forall (P : StreamSt → Prop) (ss : List StreamSt) (sid : Nat) (f : StreamSt → StreamSt)
    (h : ∀ s ∈ ss, P s) (hf : ∀ st, findStream ss sid = some st → P (f st)) :
    ∀ s ∈ updStream ss sid f, P s := by
  induction ss with
  | nil => intro s hs; simp [updStream] at hs
  | cons a rest ih =>
    intro s hs
    unfold updStream at hs
    by_cases ha : (a.id == sid) = true
    · simp only [ha, if_true] at hs
      rcases List.mem_cons.mp hs with h1 | h1
      · subst h1
        exact hf a (by simp [findStream, List.find?, ha])
      · exact h s (List.mem_cons_of_mem _ h1)
    · simp only [ha] at hs
      rcases List.mem_cons.mp hs with h1 | h1
      · subst h1; exact h _ (List.mem_cons_self ..)
      · refine ih (fun s hs => h s (List.mem_cons_of_mem _ hs)) ?_ s h1
        intro st hst
        apply hf
        have : (a.id == sid) = false := by simpa using ha
        simp [findStream, List.find?, this]
        exact hst

/-- Per-stream invariant: window within 2^31-1, the application never got more than was accepted, and
the enforced window is never above the advertised one (`0 ≤ short`). -/
def SInv (s : StreamSt) : Prop := s.win ≤ maxWindow ∧ s.delivered ≤ s.bodyBytes ∧ 0 ≤ s.short

theorem advWin_spec (m : Mon) (h : m.streamInit ≤ maxWindow) :
    advWin m ≤ maxWindow ∧ 0 ≤ advWin m - m.streamInit := by
  unfold advWin initialWindowSize
  unfold maxWindow at *
  split
  · omega
  · split <;> omega

structure MInv (m : Mon) : Prop where
  conn_le : m.conn ≤ maxWindow
  init_le : m.streamInit ≤ maxWindow
  streams : ∀ s ∈ m.streams, SInv s
  /-- the monitor's window is literally 65535 + Σ WINDOW_UPDATE(0) − Σ DATA within the windows -/
  ghost : m.conn = initialWindowSize + m.sumWU - m.sumData

theorem minv_init : MInv Mon.init := by
  constructor <;> simp [Mon.init, initialWindowSize, maxWindow]

theorem minv_ite {c : Prop} [Decidable c] {a b : ActOut} (ha : MInv a.m) (hb : ¬ c → MInv b.m) :
    MInv (if c then a else b).m :=
  Lemmas.ite_ind (fun x : ActOut => MInv x.m) (fun _ => ha) hb

theorem minv_fresh {m : Mon} (hc : m.conn = initialWindowSize) (hwu : m.sumWU = 0) (hd : m.sumData = 0)
    (hi : m.streamInit ≤ maxWindow) (hs : ∀ s ∈ m.streams, SInv s) : MInv m :=
  ⟨by rw [hc]; decide, hi, hs, by rw [hc, hwu, hd]; rfl⟩

theorem updStream_sinv {ss : List StreamSt} (sid : Nat) (f : StreamSt → StreamSt) (h3 : ∀ s ∈ ss, SInv s)
    (hf : ∀ s, SInv s → SInv (f s)) : ∀ s ∈ updStream ss sid f, SInv s :=
  updStream_forall SInv _ _ _ h3 fun s hs => hf s (h3 s (findStream_mem _ _ _ hs))

theorem setStatus_inv (m : Mon) (sid : Nat) (st : SStatus) (h : MInv m) : MInv (setStatus m sid st) :=
  ⟨h.1, h.2, updStream_sinv sid _ h.3 fun _ hs => hs, h.4⟩

theorem connOnlyAct_inv (m : Mon) (sid : Nat) (L : Int) (hL : 0 ≤ L) (h : MInv m) :
    MInv (connOnlyAct m sid L).m := by
  obtain ⟨h1, h2, h3, h4⟩ := h
  unfold connOnlyAct
  split
  · exact ⟨h1, h2, h3, h4⟩
  · refine ⟨by simp only; omega, h2, ?_, by simp only; omega⟩
    exact updStream_sinv sid _ h3 fun _ hs => hs

theorem dataAct_inv (m : Mon) (sid : Nat) (len pad : Int) (es : Bool) (h : MInv m) :
    MInv (dataAct m sid len pad es).m := by
  obtain ⟨h1, h2, h3, h4⟩ := id h
  by_cases hv : len < 0 ∨ pad < -1
  · unfold dataAct; rw [if_pos hv]; exact ⟨h1, h2, h3, h4⟩
  cases hf : findStream m.streams sid with
  | none => unfold dataAct; rw [if_neg hv]; simp only [hf]; exact ⟨h1, h2, h3, h4⟩
  | some st =>
    have hL : 0 ≤ flowLen len pad := by
      unfold flowLen
      split <;> omega
    rw [C11.dataAct_eq m sid len pad es st hv hf]
    refine minv_ite (connOnlyAct_inv m sid _ hL h) fun _ => minv_ite ⟨h1, h2, ?_, h4⟩ fun _ =>
      minv_ite h fun hfit => ?_
    · exact updStream_sinv sid _ h3 fun _ hs => hs
    · unfold acceptAct
      refine ⟨by simp only; omega, h2, ?_, by simp only; omega⟩
      refine updStream_sinv sid _ h3 fun s this => ?_
      unfold SInv at *
      refine ⟨by simp only; omega, ?_, this.2.2⟩
      show s.delivered ≤ if len > 0 then s.bodyBytes + len else s.bodyBytes
      split <;> omega

theorem actStep_inv (m : Mon) (a : Act) (h : MInv m) : MInv (actStep m a).m := by
  obtain ⟨h1, h2, h3, h4⟩ := id h
  have newStream : ∀ sid st cl mx gx, MInv { m with maxSid := mx, goneAway := gx, streams :=
      ⟨sid, st, advWin m, cl, 0, 0, false, false, false, advWin m - m.streamInit⟩ :: m.streams } :=
    fun _ _ _ _ _ => ⟨h1, h2, List.forall_mem_cons.mpr
      ⟨⟨(advWin_spec m h2).1, Int.le_refl _, (advWin_spec m h2).2⟩, h3⟩, h4⟩
  have nil : ∀ s ∈ ([] : List StreamSt), SInv s := fun _ hx => absurd hx List.not_mem_nil
  cases a with
  | reset c s =>
    exact minv_ite (minv_fresh rfl rfl rfl (by decide) nil) fun hs =>
      minv_fresh rfl rfl rfl (show s ≤ maxWindow by omega) nil
  | ereset c s =>
    exact minv_ite (minv_fresh rfl rfl rfl (by decide) nil) fun hs =>
      minv_fresh rfl rfl rfl (show s ≤ maxWindow by omega) nil
  | treset c s =>
    refine minv_ite (minv_fresh rfl rfl rfl (by decide) nil) fun hs =>
      minv_fresh rfl rfl rfl (show s ≤ maxWindow by omega) ?_
    intro x hx
    cases List.mem_singleton.mp hx
    exact ⟨show s ≤ maxWindow by omega, Int.le_refl _, Int.le_refl _⟩
  | ack =>
    refine minv_ite h fun _ => ⟨h1, h2, ?_, h4⟩
    intro s hs
    obtain ⟨a, ha, rfl⟩ := List.mem_map.mp hs
    have := h3 a ha
    unfold SInv at *
    exact ⟨show a.win - a.short ≤ maxWindow by omega, this.2.1, Int.le_refl _⟩
  | hdr sid cl es =>
    exact minv_ite ⟨h1, h2, h3, h4⟩ fun _ =>
      minv_ite (newStream _ _ _ _ _) fun _ => newStream _ _ _ _ _
  | shutdown sid =>
    exact minv_ite ⟨h1, h2, h3, h4⟩ fun _ => newStream _ _ _ _ _
  | req sid kind =>
    exact minv_ite ⟨h1, h2, h3, h4⟩ fun _ =>
      ⟨h1, h2, List.forall_mem_cons.mpr ⟨⟨h2, Int.le_refl _, Int.le_refl _⟩, h3⟩, h4⟩
  | rhdr sid es =>
    refine ⟨h1, h2, updStream_sinv sid _ h3 fun s hs => ?_, h4⟩
    split <;> exact hs
  | data sid len pad es => exact dataAct_inv m sid len pad es h
  | read _ => exact h
  | bclose sid =>
    exact minv_ite (setStatus_inv m sid _ h) fun _ => ⟨h1, h2, updStream_sinv sid _ h3 fun _ hs => hs, h4⟩
  | hexit sid => exact setStatus_inv m sid _ h
  | crst sid => exact setStatus_inv m sid _ h
  | quiesce => exact h

theorem obsStep_inv (fc : Option Nat) (m m' : Mon) (o : Obs) (h : MInv m) (hs : obsStep fc m o = .ok m') :
    MInv m' := by
  obtain ⟨h1, h2, h3, h4⟩ := id h
  have upd : ∀ sid st (f : StreamSt → StreamSt), findStream m.streams sid = some st → SInv (f st) →
      ∀ s ∈ updStream m.streams sid f, SInv s := by
    intro sid st f hf hst
    apply updStream_forall SInv _ _ _ h3
    intro s hs'
    cases hf.symm.trans hs'
    exact hst
  cases o with
  | set v =>
    obtain ⟨hv, e⟩ := Lemmas.ok_of_ite_error hs
    cases e
    exact ⟨h1, show v ≤ maxWindow by omega, h3, h4⟩
  | wu sid n =>
    simp only [obsStep] at hs
    by_cases h0 : sid = 0
    · rw [if_pos h0] at hs
      obtain ⟨hv, hs⟩ := Lemmas.ok_of_ite_error hs
      obtain ⟨_, e⟩ := Lemmas.ok_of_ite_error hs
      cases e
      exact ⟨show m.conn + n ≤ maxWindow by omega, h2, h3,
        show m.conn + n = initialWindowSize + (m.sumWU + n) - m.sumData by omega⟩
    · rw [if_neg h0] at hs
      cases hf : findStream m.streams sid with
      | none => rw [hf] at hs; cases hs; exact h
      | some st =>
        rw [hf] at hs
        obtain ⟨hw, e⟩ := Lemmas.ok_of_ite_error hs
        cases e
        have := h3 st (findStream_mem _ _ _ hf)
        exact ⟨h1, h2, upd sid st _ hf ⟨show st.win + n ≤ maxWindow by omega, this.2.1, this.2.2⟩, h4⟩
  | rst sid code =>
    obtain ⟨_, e⟩ := Lemmas.ok_of_ite_error hs
    cases e
    exact setStatus_inv m sid _ h
  | goaway code =>
    obtain ⟨_, e⟩ := Lemmas.ok_of_ite_error hs
    cases e
    exact ⟨h1, h2, h3, h4⟩
  | rd sid n =>
    simp only [obsStep] at hs
    cases hf : findStream m.streams sid with
    | none => rw [hf] at hs; cases hs; exact h
    | some st =>
      rw [hf] at hs
      obtain ⟨hn, hs⟩ := Lemmas.ok_of_ite_error hs
      obtain ⟨hd, e⟩ := Lemmas.ok_of_ite_error hs
      cases e
      have := h3 st (findStream_mem _ _ _ hf)
      exact ⟨h1, h2, upd sid st _ hf ⟨this.1, show st.delivered + n ≤ st.bodyBytes by omega, this.2.2⟩, h4⟩
  | crst sid => cases hs; exact setStatus_inv m sid _ h
  | connerr code =>
    obtain ⟨_, e⟩ := Lemmas.ok_of_ite_error hs
    cases e
    exact ⟨h1, h2, h3, h4⟩
  | closed => cases hs; exact ⟨h1, h2, h3, h4⟩
  | skipped => cases hs; exact h
  | other => cases hs; exact h

theorem obsFold_cons {fc : Option Nat} {m m' : Mon} {o : Obs} {rest : List Obs}
    (hs : obsFold fc m (o :: rest) = .ok m') :
    (m.dead = true ∧ m' = m) ∨ ∃ m1, obsStep fc m o = .ok m1 ∧ obsFold fc m1 rest = .ok m' := by
  simp only [obsFold] at hs
  split at hs
  · cases hs
    exact Or.inl ⟨‹_›, rfl⟩
  · cases ho : obsStep fc m o with
    | error e => rw [ho] at hs; cases hs
    | ok m1 => rw [ho] at hs; exact Or.inr ⟨m1, rfl, hs⟩

theorem obsFold_inv (fc : Option Nat) (obs : List Obs) (m m' : Mon) (h : MInv m) (hs : obsFold fc m obs = .ok m') :
    MInv m' := by
  induction obs generalizing m with
  | nil => cases hs; exact h
  | cons o rest ih =>
    rcases obsFold_cons hs with ⟨_, rfl⟩ | ⟨m1, ho, hs⟩
    · exact h
    · exact ih m1 (obsStep_inv fc m m1 o h ho) hs

theorem finishLine_inv (act : Act) (m m' : Mon) (h : MInv m) (hs : finishLine act m = .ok m') : MInv m' := by
  obtain ⟨h1, h2, h3, h4⟩ := h
  unfold finishLine at hs
  split at hs
  · split at hs
    · cases hs
      refine ⟨h1, h2, ?_, h4⟩
      intro s hs'
      simp only [List.mem_map] at hs'
      obtain ⟨a, ha, e⟩ := hs'
      subst e
      exact h3 a ha
    · split at hs <;> cases hs
  · cases hs; exact ⟨h1, h2, h3, h4⟩

theorem liveLine_inv (m m' : Mon) (act : Act) (obs : List Obs) (h : MInv m) (hs : liveLine m act obs = .ok m') :
    MInv m' := by
  unfold liveLine at hs
  have ha := actStep_inv m act h
  simp only at hs
  split at hs
  · cases hs; exact ha
  · split at hs
    · split at hs
      · cases hs
      · exact obsFold_inv _ _ _ _ (setStatus_inv _ _ _ ha) hs
    · cases hf : obsFold none (actStep m act).m obs with
      | error e => simp only [hf] at hs; cases hs
      | ok m1 =>
        simp only [hf] at hs
        exact finishLine_inv act m1 m' (obsFold_inv _ _ _ _ ha hf) hs

theorem resetLine_inv (m m' : Mon) (l : Line) (h : MInv m) (hs : resetLine m l = .ok m') : MInv m' := by
  unfold resetLine at hs
  cases hf : obsFold none (actStep m l.act).m l.obs with
  | error e => simp only [hf] at hs; cases hs
  | ok m1 =>
    simp only [hf] at hs
    split at hs
    · cases hs; exact obsFold_inv _ _ _ _ (actStep_inv m l.act h) hf
    · cases hs

theorem lineStep_inv (m m' : Mon) (l : Line) (h : MInv m) (hs : lineStep m l = .ok m') : MInv m' := by
  unfold lineStep at hs
  split at hs
  · exact resetLine_inv m m' l h hs
  · exact resetLine_inv m m' l h hs
  · exact resetLine_inv m m' l h hs
  · split at hs
    · cases hs; exact h
    · split at hs
      · cases hs; exact h
      · exact liveLine_inv m m' _ _ h hs

theorem run_inv (tr : List Line) (m m' : Mon) (h : MInv m) (hs : run m tr = .ok m') : MInv m' := by
  induction tr generalizing m with
  | nil => simp only [run] at hs; cases hs; exact h
  | cons l rest ih =>
    simp only [run] at hs
    cases hl : lineStep m l with
    | error e => simp only [hl] at hs; cases hs
    | ok m1 => simp only [hl] at hs; exact ih m1 (lineStep_inv m m1 l h hl) hs

theorem run_append (a b : List Line) (m m' : Mon) (hs : run m (a ++ b) = .ok m') :
    ∃ m1, run m a = .ok m1 ∧ run m1 b = .ok m' := by
  induction a generalizing m with
  | nil => exact ⟨m, rfl, hs⟩
  | cons l rest ih =>
    simp only [List.cons_append, run] at hs ⊢
    cases hl : lineStep m l with
    | error e => simp only [hl] at hs; cases hs
    | ok m1 => simp only [hl] at hs ⊢; exact ih m1 hs

/-- Every FLOW_CONTROL_ERROR observation the monitor processes is checked against the stream
(0 = connection) on which the current line's DATA frame exceeded a window. -/
theorem obsStep_fc (fc : Option Nat) (m m' : Mon) :
    (∀ sid, obsStep fc m (.rst sid errFlowControl) = .ok m' → fc = some sid) ∧
    (obsStep fc m (.goaway errFlowControl) = .ok m' → fc = some 0) ∧
    (obsStep fc m (.connerr errFlowControl) = .ok m' → fc = some 0) :=
  ⟨fun _ ho => Decidable.byContradiction fun hfc => (Lemmas.ok_of_ite_error ho).1 ⟨rfl, hfc⟩,
   fun ho => Decidable.byContradiction fun hfc => (Lemmas.ok_of_ite_error ho).1 ⟨rfl, hfc⟩,
   fun ho => Decidable.byContradiction fun hfc => (Lemmas.ok_of_ite_error ho).1 ⟨rfl, hfc⟩⟩

/-- on a line that leaves the connection alive every observation went through `obsStep` -/
theorem obsFold_step {fc : Option Nat} {obs : List Obs} {m m' : Mon} (hs : obsFold fc m obs = .ok m')
    (hd : m'.dead = false) : ∀ o ∈ obs, ∃ m0 m1, obsStep fc m0 o = .ok m1 := by
  induction obs generalizing m with
  | nil => exact fun _ h => nomatch h
  | cons o rest ih =>
    rcases obsFold_cons hs with ⟨hdead, rfl⟩ | ⟨m1, ho, hs⟩
    · rw [hd] at hdead
      cases hdead
    · intro o' ho'
      rcases List.mem_cons.mp ho' with rfl | hmem
      · exact ⟨m, m1, ho⟩
      · exact ih hs o' hmem

theorem obsFold_fc (fc : Option Nat) (obs : List Obs) (m m' : Mon) (hs : obsFold fc m obs = .ok m')
    (hd : m'.dead = false) (sid : Nat) (hmem : Obs.rst sid errFlowControl ∈ obs) : fc = some sid :=
  let ⟨m0, m1, ho⟩ := obsFold_step hs hd _ hmem
  (obsStep_fc fc m0 m1).1 sid ho

/-- Unless the line's DATA frame exceeded a window of a Transport (`fc = some 0`), a trace
line that leaves the connection alive shows no connection-level FLOW_CONTROL_ERROR. -/
theorem obsFold_no_conn_fc (fc : Option Nat) (obs : List Obs) (m m' : Mon) (hs : obsFold fc m obs = .ok m')
    (hd : m'.dead = false) (hfc : fc ≠ some 0) :
    Obs.goaway errFlowControl ∉ obs ∧ Obs.connerr errFlowControl ∉ obs :=
  ⟨fun hmem => let ⟨m0, m1, ho⟩ := obsFold_step hs hd _ hmem; hfc ((obsStep_fc fc m0 m1).2.1 ho),
   fun hmem => let ⟨m0, m1, ho⟩ := obsFold_step hs hd _ hmem; hfc ((obsStep_fc fc m0 m1).2.2 ho)⟩

end NetVerif.Proofs.FlowMon
