import NetVerif.Proofs.Lemmas.QpackBasic
/-! Round trip of the QPACK model: `decode (encode fs)`, one wire representation at a time. -/
namespace NetVerif.Proofs.C33RT
open NetVerif.Model.H3Stream NetVerif.Model.Qpack NetVerif.Proofs.QpackBasic

def Bytes (s : List Nat) : Prop := ∀ b ∈ s, b < 256

/-- What the round trip needs from the Huffman codec (hpack is outside the anchored files);
discharged for the HPACK model of C04 in `Proofs/C33.lean` (`huffOK`). -/
structure HuffOK (H : Huff) : Prop where
  dec_enc : ∀ s, Bytes s → H.dec (H.enc s) = some s
  len_enc : ∀ s, Bytes s → (H.enc s).length = H.encLen s

/-- What the decoder must deliver for an encoder input: names lower-cased, names that are not
printable ASCII dropped, flag and value kept. -/
def expected (fs : List Field) : List Field :=
  fs.filterMap fun f => (lowerHeader f.name).map fun n => ⟨f.never, n, f.value⟩

/-- Field lists the decoder is specified to accept: no empty name, no pseudo-header
(name starting with ':' = 58) after a regular field. -/
def PseudoFirst : Bool → List Field → Prop
  | _, [] => True
  | saw, f :: fs =>
    (match f.name with
     | [] => False
     | c :: _ => if c = 58 then saw = false ∧ PseudoFirst saw fs else PseudoFirst true fs)

theorem lookupNameValueAux_spec (name value : List Nat) :
    ∀ (tbl : List (List Nat × List Nat)) (i : Nat) (r : Option Nat) (j : Nat),
    lookupNameValueAux name value tbl i r = some j →
    r = some j ∨ (i ≤ j ∧ tbl[j - i]? = some (name, value)) := by
  intro tbl
  induction tbl with
  | nil => intro i r j h; exact Or.inl h
  | cons e t ih =>
    intro i r j h
    rcases ih (i + 1) _ j h with h' | ⟨hle, hj⟩
    · split at h'
      · rename_i he
        obtain rfl := Option.some.inj h'
        exact Or.inr ⟨Nat.le_refl _, by rw [Nat.sub_self, List.getElem?_cons_zero, ← he.1, ← he.2]⟩
      · exact Or.inl h'
    · exact Or.inr ⟨by omega, by rw [show j - i = j - (i + 1) + 1 by omega, List.getElem?_cons_succ]; exact hj⟩

theorem lookupNameValue_spec (tbl : List (List Nat × List Nat)) (name value : List Nat) (j : Nat)
    (h : lookupNameValue tbl name value = some j) : tbl[j]? = some (name, value) := by
  rcases lookupNameValueAux_spec name value tbl 0 none j h with h' | ⟨-, h'⟩
  · cases h'
  · exact h'

theorem lookupNameAux_spec (name : List Nat) :
    ∀ (tbl : List (List Nat × List Nat)) (i j : Nat), lookupNameAux name tbl i = some j →
    i ≤ j ∧ ∃ v, tbl[j - i]? = some (name, v) := by
  intro tbl
  induction tbl with
  | nil => intro i j h; cases h
  | cons e t ih =>
    intro i j h
    unfold lookupNameAux at h
    split at h
    · rename_i he
      obtain rfl := Option.some.inj h
      exact ⟨Nat.le_refl _, e.2, by rw [Nat.sub_self, List.getElem?_cons_zero, ← he]⟩
    · obtain ⟨hle, v, hv⟩ := ih (i + 1) j h
      exact ⟨by omega, v, by rw [show j - i = j - (i + 1) + 1 by omega, List.getElem?_cons_succ]; exact hv⟩

theorem lookupName_spec (tbl : List (List Nat × List Nat)) (name : List Nat) (j : Nat)
    (h : lookupName tbl name = some j) : ∃ v, tbl[j]? = some (name, v) :=
  (lookupNameAux_spec name tbl 0 j h).2

theorem appendPrefixedString_cons (H : Huff) (first p : Nat) (str : List Nat) :
    ∃ u tl, u < 2 ^ (p + 1) ∧ appendPrefixedString H first p str = (first + u) :: tl := by
  have hM := Nat.two_pow_pos p
  unfold appendPrefixedString
  split
  · exact ⟨2 ^ p + min (H.encLen str) (2 ^ p - 1), _, by rw [Nat.pow_succ]; omega,
      by rw [appendPrefixedInt_cons, List.cons_append, Nat.add_assoc]⟩
  · exact ⟨min str.length (2 ^ p - 1), _, by rw [Nat.pow_succ]; omega,
      by rw [appendPrefixedInt_cons, List.cons_append]⟩

theorem readPrefixedString_append (H : Huff) (hH : HuffOK H) (str : List Nat) (hb : Bytes str) (hstr : str.length < 2 ^ 62)
    (s : St) (more t : List Nat) (k : Nat) (h : At s (appendPrefixedString H 0 7 str ++ more) t k) :
    ∃ b s', readPrefixedString H s 7 = .ok (b, str) s' ∧ At s' more t k := by
  obtain ⟨u, tl, -, henc⟩ := appendPrefixedString_cons H 0 7 str
  rw [henc, List.cons_append] at h
  obtain ⟨s1, hr1, h1⟩ := h.readByte
  obtain ⟨s2, hr2, h2⟩ := readPrefixedStringWithByte_append H str (hH.dec_enc str hb) (hH.len_enc str hb)
    0 7 (Nat.zero_mod _) (by decide) hstr _ tl henc s1 more t k h1
  unfold readPrefixedString
  rw [hr1]
  dsimp only [Out.bind]
  rw [hr2]
  exact ⟨_, s2, rfl, h2⟩

theorem lowerHeader_some {a n : List Nat} (h : lowerHeader a = some n) :
    isAsciiPrint a = true ∧ n = a.map lowerByte := by
  unfold lowerHeader at h
  split at h
  · exact ⟨‹_›, (Option.some.inj h).symm⟩
  · cases h

theorem lowerHeader_length (a n : List Nat) (h : lowerHeader a = some n) : n.length = a.length := by
  rw [(lowerHeader_some h).2, List.length_map]

theorem lowerHeader_bytes (a n : List Nat) (h : lowerHeader a = some n) : Bytes n := by
  obtain ⟨hp, rfl⟩ := lowerHeader_some h
  intro b hb
  obtain ⟨c, hc, rfl⟩ := List.mem_map.mp hb
  have := List.all_eq_true.mp hp c hc
  simp only [Bool.and_eq_true, decide_eq_true_eq] at this
  unfold lowerByte
  split <;> omega

/-- Indexed field line (static): `1 1 index(6+)`. -/
theorem decodeFieldLine_indexed (H : Huff) (tbl : List (List Nat × List Nat)) (htbl : tbl.length < 2 ^ 62)
    (i : Nat) (ent : List Nat × List Nat) (hent : tbl[i]? = some ent)
    (b : Nat) (tl : List Nat) (henc : appendIndexedFieldLine i = b :: tl)
    (s : St) (more t : List Nat) (k : Nat) (h : At s (tl ++ more) t k) :
    ∃ s', decodeFieldLine H tbl s b = .ok ⟨false, ent.1, ent.2⟩ s' ∧ At s' more t k := by
  have hi := (List.getElem?_eq_some_iff.mp hent).1
  unfold appendIndexedFieldLine at henc
  obtain ⟨s1, hr, h1⟩ := readPrefixedIntWithByte_append (128 + 64) 6 i (by decide) (by omega)
    b tl henc s more t k h
  rw [appendPrefixedInt_cons] at henc
  obtain ⟨rfl, -⟩ := List.cons.inj henc
  unfold decodeFieldLine decodeIndexedFieldLine staticTableEntry
  rw [if_pos (by omega), hr]
  dsimp only [Out.bind]
  rw [(Lemmas.prefix_bits (M := 64) rfl (by omega)).2, if_pos rfl, hent]
  exact ⟨s1, rfl, h1⟩

theorem nbit_le (never : Bool) (bit : Nat) : nbit never bit ≤ bit := by
  cases never
  · exact Nat.zero_le _
  · exact Nat.le_refl _

/-- The T and N bits in the first byte `0 1 N 1 nameIndex(4+)` of a literal field line with
(static) name reference. -/
theorem nameRef_firstByte (never : Bool) (u : Nat) (hu : u < 16) :
    (64 + nbit never 32 + 16 + u) / 16 % 2 = 1 ∧
    decide ((64 + nbit never 32 + 16 + u) / 32 % 2 = 1) = never := by
  rw [(Lemmas.prefix_bits (M := 16) (by cases never <;> rfl) hu).2, Nat.add_assoc _ 16 u,
    (Lemmas.prefix_bits (M := 32) (by cases never <;> rfl) (by omega : 16 + u < 32)).2]
  cases never <;> exact ⟨rfl, rfl⟩

theorem decodeFieldLine_nameRef (H : Huff) (hH : HuffOK H) (tbl : List (List Nat × List Nat))
    (htbl : tbl.length < 2 ^ 62) (never : Bool) (i : Nat) (ent : List Nat × List Nat)
    (hent : tbl[i]? = some ent) (value : List Nat) (hbv : Bytes value) (hv : value.length < 2 ^ 62)
    (b : Nat) (tl : List Nat) (henc : appendLiteralNameRef H never i value = b :: tl)
    (s : St) (more t : List Nat) (k : Nat) (h : At s (tl ++ more) t k) :
    ∃ s', decodeFieldLine H tbl s b = .ok ⟨never, ent.1, value⟩ s' ∧ At s' more t k := by
  have hi := (List.getElem?_eq_some_iff.mp hent).1
  have hc := appendPrefixedInt_cons (64 + nbit never 32 + 16) 4 i
  unfold appendLiteralNameRef at henc
  rw [hc, List.cons_append] at henc
  obtain ⟨rfl, rfl⟩ := List.cons.inj henc
  rw [List.append_assoc] at h
  obtain ⟨s1, hr, h1⟩ := readPrefixedIntWithByte_append _ 4 i (by cases never <;> rfl) (by omega)
    _ _ hc s _ t k h
  obtain ⟨b2, s2, hr2, h2⟩ := readPrefixedString_append H hH value hbv hv s1 more t k h1
  have hb := nameRef_firstByte never (min i (2 ^ 4 - 1)) (by omega)
  have hN := nbit_le never 32
  unfold decodeFieldLine decodeLiteralNameRef staticTableEntry
  rw [if_neg (by omega), if_pos (by omega), hr]
  dsimp only [Out.bind]
  rw [if_pos hb.1, hent]
  dsimp only
  rw [hr2, hb.2]
  exact ⟨s2, rfl, h2⟩

/-- Literal field line with literal name `0 0 1 N H nameLen(3+)`, name and value as string literals. -/
theorem decodeFieldLine_litName (H : Huff) (hH : HuffOK H) (tbl : List (List Nat × List Nat))
    (never : Bool) (name value : List Nat)
    (hbn : Bytes name) (hbv : Bytes value) (hn : name.length < 2 ^ 62) (hv : value.length < 2 ^ 62)
    (b : Nat) (tl : List Nat) (henc : appendLiteralLiteralName H never name value = b :: tl)
    (s : St) (more t : List Nat) (k : Nat) (h : At s (tl ++ more) t k) :
    ∃ s', decodeFieldLine H tbl s b = .ok ⟨never, name, value⟩ s' ∧ At s' more t k := by
  obtain ⟨u, tl', hu, hps⟩ := appendPrefixedString_cons H (32 + nbit never 16) 3 name
  unfold appendLiteralLiteralName at henc
  rw [hps, List.cons_append] at henc
  obtain ⟨rfl, rfl⟩ := List.cons.inj henc
  rw [List.append_assoc] at h
  obtain ⟨s1, hr, h1⟩ := readPrefixedStringWithByte_append H name (hH.dec_enc name hbn) (hH.len_enc name hbn)
    _ 3 (by cases never <;> rfl) (by cases never <;> rfl) hn _ tl' hps s _ t k h
  obtain ⟨b2, s2, hr2, h2⟩ := readPrefixedString_append H hH value hbv hv s1 more t k h1
  -- the N bit sits right above the 4 bits `H nameLen(3+)` that make up `u`
  have hb : decide ((32 + nbit never 16 + u) / 16 % 2 = 1) = never := by
    rw [(Lemmas.prefix_bits (M := 16) (by cases never <;> rfl) hu).2]
    cases never <;> rfl
  have hN := nbit_le never 16
  unfold decodeFieldLine decodeLiteralLiteralName
  rw [if_neg (by omega), if_neg (by omega), if_pos (by omega), hr]
  dsimp only [Out.bind]
  rw [hr2, hb]
  exact ⟨s2, rfl, h2⟩

theorem decodeFieldLine_encodeField (H : Huff) (hH : HuffOK H) (tbl : List (List Nat × List Nat))
    (htbl : tbl.length < 2 ^ 62) (f : Field) (n : List Nat) (hn : lowerHeader f.name = some n)
    (hsize : f.name.length < 2 ^ 62 ∧ f.value.length < 2 ^ 62) (hbv : Bytes f.value)
    (b : Nat) (tl : List Nat) (henc : encodeField H tbl f = b :: tl)
    (s : St) (more t : List Nat) (k : Nat) (h : At s (tl ++ more) t k) :
    ∃ s', decodeFieldLine H tbl s b = .ok ⟨f.never, n, f.value⟩ s' ∧ At s' more t k := by
  unfold encodeField at henc
  rw [hn] at henc
  dsimp only at henc
  split at henc
  · rename_i i hi
    cases hnv : f.never with
    | true => rw [hnv, if_pos rfl] at hi; cases hi
    | false =>
      rw [hnv, if_neg Bool.false_ne_true] at hi
      exact decodeFieldLine_indexed H tbl htbl i _ (lookupNameValue_spec _ _ _ _ hi) b tl henc s more t k h
  · split at henc
    · rename_i i hi
      obtain ⟨v0, hent⟩ := lookupName_spec tbl n i hi
      exact decodeFieldLine_nameRef H hH tbl htbl f.never i _ hent f.value hbv hsize.2 b tl henc s more t k h
    · exact decodeFieldLine_litName H hH tbl f.never n f.value (lowerHeader_bytes _ _ hn) hbv
        (lowerHeader_length _ _ hn ▸ hsize.1) hsize.2 b tl henc s more t k h

theorem decodeLoop_step (H : Huff) (tbl : List (List Nat × List Nat)) (fuel : Nat) (s s1 s2 : St)
    (saw : Bool) (acc : List Field) (b : Nat) (f : Field) (fs : List Field) (hlim : s.lim > 0)
    (hb : readByte s = .ok b s1) (hf : decodeFieldLine H tbl s1 b = .ok f s2)
    (hwf : PseudoFirst saw (f :: fs)) :
    ∃ saw', decodeLoop H tbl (fuel + 1) s saw acc = decodeLoop H tbl fuel s2 saw' (acc ++ [f]) ∧
      PseudoFirst saw' fs := by
  unfold PseudoFirst at hwf
  conv => enter [1, saw', 1, 1]; unfold decodeLoop
  rw [if_pos hlim, hb]
  dsimp only
  rw [hf]
  dsimp only
  cases hn : f.name with
  | nil => rw [hn] at hwf; exact hwf.elim
  | cons c cs =>
    rw [hn] at hwf
    dsimp only at hwf ⊢
    split at hwf
    · rename_i hc
      rw [if_pos hc, hwf.1, if_neg Bool.false_ne_true]
      exact ⟨false, rfl, hwf.1 ▸ hwf.2⟩
    · rename_i hc
      rw [if_neg hc]
      exact ⟨true, rfl, hwf⟩

theorem encodeField_nil (H : Huff) (tbl : List (List Nat × List Nat)) (f : Field)
    (hn : lowerHeader f.name = none) : encodeField H tbl f = [] := by
  unfold encodeField; rw [hn]

theorem encodeField_ne_nil (H : Huff) (tbl : List (List Nat × List Nat)) (f : Field) (n : List Nat)
    (hn : lowerHeader f.name = some n) : encodeField H tbl f ≠ [] := by
  unfold encodeField
  rw [hn]
  dsimp only
  split
  · exact appendPrefixedInt_ne_nil _ _ _
  · split
    · exact List.append_ne_nil_of_left_ne_nil (appendPrefixedInt_ne_nil _ _ _) _
    · obtain ⟨u, tl, -, h⟩ := appendPrefixedString_cons H (32 + nbit f.never 16) 3 n
      unfold appendLiteralLiteralName
      rw [h]
      exact List.cons_ne_nil _ _

theorem expected_cons (f : Field) (fs : List Field) :
    expected (f :: fs) =
      match lowerHeader f.name with
      | none => expected fs
      | some n => ⟨f.never, n, f.value⟩ :: expected fs := by
  unfold expected
  rw [List.filterMap_cons]
  cases lowerHeader f.name <;> rfl

theorem decodeLoop_encodeFields (H : Huff) (hH : HuffOK H) (tbl : List (List Nat × List Nat))
    (htbl : tbl.length < 2 ^ 62) :
    ∀ (fs : List Field) (fuel : Nat) (s : St) (saw : Bool) (acc : List Field) (rest : List Nat),
    (∀ f ∈ fs, f.name.length < 2 ^ 62 ∧ f.value.length < 2 ^ 62 ∧ Bytes f.value) →
    PseudoFirst saw (expected fs) → At s (encodeFields H tbl fs) rest 0 →
    fuel > (encodeFields H tbl fs).length →
    ∃ s', decodeLoop H tbl fuel s saw acc = ⟨acc ++ expected fs, .ok () s'⟩ ∧ At s' [] rest 0 := by
  intro fs
  induction fs with
  | nil =>
    intro fuel s saw acc rest _ _ h hfuel
    obtain ⟨k, rfl⟩ := Nat.exists_eq_succ_of_ne_zero (Nat.ne_of_gt (Nat.lt_of_le_of_lt (Nat.zero_le _) hfuel))
    unfold decodeLoop
    rw [if_neg (by rw [h.lim]; exact Int.lt_irrefl _)]
    exact ⟨s, by rw [expected, List.filterMap_nil, List.append_nil], h⟩
  | cons f fs ih =>
    intro fuel s saw acc rest hsize hwf h hfuel
    have hsize' := fun g hg => hsize g (List.mem_cons_of_mem _ hg)
    unfold encodeFields at h hfuel
    cases hn : lowerHeader f.name with
    | none =>
      rw [expected_cons, hn] at hwf ⊢
      rw [encodeField_nil H tbl f hn] at h hfuel
      exact ih fuel s saw acc rest hsize' hwf h hfuel
    | some n =>
      rw [expected_cons, hn] at hwf ⊢
      dsimp only at hwf ⊢
      have hf := hsize f List.mem_cons_self
      cases henc : encodeField H tbl f with
      | nil => exact absurd henc (encodeField_ne_nil H tbl f n hn)
      | cons b tl =>
        rw [henc, List.cons_append] at h
        rw [henc, List.length_append, List.length_cons] at hfuel
        obtain ⟨k, rfl⟩ := Nat.exists_eq_succ_of_ne_zero (Nat.ne_of_gt (Nat.lt_of_le_of_lt (Nat.zero_le _) hfuel))
        obtain ⟨s1, hr1, h1⟩ := h.readByte
        obtain ⟨s2, hr2, h2⟩ := decodeFieldLine_encodeField H hH tbl htbl f n hn ⟨hf.1, hf.2.1⟩ hf.2.2
          b tl henc s1 _ rest 0 h1
        obtain ⟨saw', hstep, hwf'⟩ := decodeLoop_step H tbl k s s1 s2 saw acc b _ _
          (by rw [h.lim, List.length_cons]; omega) hr1 hr2 hwf
        obtain ⟨s3, hr3, h3⟩ := ih k s2 saw' (acc ++ [⟨f.never, n, f.value⟩]) rest hsize' hwf' h2 (by omega)
        rw [hstep, hr3, List.append_assoc]
        exact ⟨s3, rfl, h3⟩

/-- C33 round trip, over any Huffman codec with `HuffOK`: decoding what the encoder produced for `fs`,
inside a frame of exactly that length and followed by arbitrary bytes `rest`, delivers `expected fs`,
consumes exactly the section and ends with `lim = 0`. -/
theorem decode_encode (H : Huff) (hH : HuffOK H) (tbl : List (List Nat × List Nat)) (htbl : tbl.length < 2 ^ 62)
    (fs : List Field)
    (hsize : ∀ f ∈ fs, f.name.length < 2 ^ 62 ∧ f.value.length < 2 ^ 62 ∧ Bytes f.value)
    (hwf : PseudoFirst false (expected fs))
    (rest : List Nat) (s : St) (hdead : s.dead = false)
    (hdata : s.data = encode H tbl fs ++ rest)
    (hlim : s.lim = ((encode H tbl fs).length : Int)) :
    ∃ s', decode H tbl s = ⟨expected fs, .ok () s'⟩ ∧ s'.lim = 0 ∧ s'.data = rest ∧ s'.dead = false := by
  -- Required Insert Count 0 and Base 0 are one zero byte each
  have hpre : encode H tbl fs = 0 :: 0 :: encodeFields H tbl fs := rfl
  rw [hpre] at hdata hlim
  obtain ⟨s1, hr1, h1⟩ := readByte_cons s 0 (0 :: encodeFields H tbl fs) rest 0 hdead hdata
    (by rw [hlim, List.length_cons])
  obtain ⟨s2, hr2, h2⟩ := h1.readByte
  obtain ⟨s3, hr3, h3⟩ := decodeLoop_encodeFields H hH tbl htbl fs (s2.lim.toNat + 1) s2 false [] rest hsize hwf
    h2 (by rw [h2.lim]; omega)
  have hp1 : readPrefixedInt s 8 = .ok (0, 0) s1 := by unfold readPrefixedInt; rw [hr1]; rfl
  have hp2 : readPrefixedInt s1 7 = .ok (0, 0) s2 := by unfold readPrefixedInt; rw [hr2]; rfl
  unfold decode
  rw [hp1]
  dsimp only
  rw [if_neg (fun h => h rfl), hp2]
  exact ⟨s3, hr3, h3.lim, h3.data, h3.dead⟩

end NetVerif.Proofs.C33RT
