import NetVerif.Proofs.Lemmas.Flow
/-! Histories of `inflow` operations (`inflow.take`, accepting or refusing, and `inflow.add`): the ledger that C10 speaks about. -/
namespace NetVerif.Proofs.Flow
open NetVerif.Model.Flow

inductive Op where
  | take (n : Nat)   -- peer sent n flow-controlled bytes (uint32)
  | add (n : Int)    -- n bytes consumed / discarded / padding: credit returned
deriving Repr, DecidableEq

structure Ledger where
  f : Inflow
  /-- Σ bytes accepted by `take` -/
  taken : Int
  /-- Σ credit handed to `add` -/
  added : Int
  /-- Σ WINDOW_UPDATE increments returned by `add` (what the peer has been told) -/
  sent : Int
  /-- greatest advertised window seen so far -/
  peak : Int
deriving Repr, DecidableEq

def Ledger.start (n : Int) : Ledger := ⟨Inflow.new n, 0, 0, 0, n⟩

/-- One operation; `none` is the Go panic inside `add`. -/
def Ledger.step (s : Ledger) : Op → Option Ledger
  | .take n =>
    let r := s.f.take n
    some { s with f := r.2, taken := if r.1 then s.taken + n else s.taken }
  | .add n =>
    match s.f.add n with
    | none => none
    | some (r, f') => some { s with f := f', added := s.added + n, sent := s.sent + r,
                                    peak := if f'.avail > s.peak then f'.avail else s.peak }

def Ledger.run (s : Ledger) : List Op → Option Ledger
  | [] => some s
  | op :: rest => match s.step op with
    | none => none
    | some s' => s'.run rest

structure Inv (n0 : Int) (s : Ledger) : Prop where
  wf : s.f.WF
  /-- the peer's view (initial − accepted DATA + WINDOW_UPDATEs) is exactly `avail` -/
  view : n0 - s.taken + s.sent = s.f.avail
  /-- the withheld credit is exactly `unsent` -/
  held : s.added - s.sent = s.f.unsent
  peak : s.f.avail ≤ s.peak ∧ s.peak ≤ maxWindow

theorem inv_start (n0 : Int) (h0 : 0 ≤ n0) (h1 : n0 ≤ maxWindow) : Inv n0 (Ledger.start n0) := by
  constructor <;> simp [Ledger.start, Inflow.new, Inflow.init, Inflow.WF] <;> omega

theorem inv_step (n0 : Int) (s s' : Ledger) (op : Op) (hi : Inv n0 s) (h : s.step op = some s') :
    Inv n0 s' := by
  cases op with
  | take n =>
    simp only [Ledger.step, Option.some.injEq] at h
    subst h
    have ts := take_spec s.f n
    have tw := take_wf s.f n (by omega) hi.wf
    obtain ⟨wf, view, held, peak⟩ := hi
    cases hb : (s.f.take n).1 with
    | true =>
      have e := ts.2.1 hb
      have hle : (n : Int) ≤ s.f.avail := ts.1.mp hb
      refine { wf := tw, view := ?_, held := ?_, peak := ?_ } <;> (simp only [e, if_true]; omega)
    | false =>
      simp only [ts.2.2 hb, Bool.false_eq_true, if_false]
      exact ⟨wf, view, held, peak⟩
  | add n =>
    simp only [Ledger.step] at h
    cases ha : s.f.add n with
    | none => simp [ha] at h
    | some rf =>
      obtain ⟨r, f'⟩ := rf
      simp only [ha, Option.some.injEq] at h
      subst h
      obtain ⟨p0, p1, p2, p3, -⟩ := add_spec s.f f' n r ha
      obtain ⟨hwf, r0, -⟩ := add_wf s.f f' n r hi.wf ha
      obtain ⟨wf, view, held, peak⟩ := hi
      have hw := hwf
      unfold Inflow.WF at hw
      constructor
      · exact hwf
      · simp only; omega
      · simp only; omega
      · simp only; split <;> omega

theorem inv_run (n0 : Int) (ops : List Op) (s s' : Ledger) (hi : Inv n0 s) (h : s.run ops = some s') :
    Inv n0 s' := by
  induction ops generalizing s with
  | nil => simp [Ledger.run] at h; subst h; exact hi
  | cons op rest ih =>
    simp only [Ledger.run] at h
    cases hs : s.step op with
    | none => simp [hs] at h
    | some s1 =>
      simp only [hs] at h
      exact ih s1 (inv_step n0 s s1 op hi hs) h

/-- Contract of a history without over-refunds: at every point no more credit has been
handed back than has been received. -/
def NoOverRefund (s : Ledger) : List Op → Prop
  | [] => True
  | op :: rest => match s.step op with
    | none => True
    | some s' => s'.added ≤ s'.taken ∧ NoOverRefund s' rest

/-- Quiescence invariant: whenever everything received has been returned, the residue
satisfies both batching bounds. -/
def QInv (s : Ledger) : Prop :=
  s.added ≤ s.taken ∧
  (s.added = s.taken → s.f.unsent = 0 ∨ (s.f.unsent < inflowMinRefresh ∧ s.f.unsent < s.f.avail))

theorem qinv_step (s s' : Ledger) (op : Op) (hq : QInv s)
    (h : s.step op = some s') (hc : s'.added ≤ s'.taken) : QInv s' := by
  refine ⟨hc, ?_⟩
  cases op with
  | take n =>
    simp only [Ledger.step, Option.some.injEq] at h
    subst h
    have ts := take_spec s.f n
    cases hb : (s.f.take n).1 with
    | true =>
      simp only [if_true]
      intro he
      -- taken grew by n while added ≤ taken before: so n = 0 and nothing changed
      have hn : (n : Int) = 0 := by have := hq.1; omega
      have e := ts.2.1 hb
      rw [e]
      simp only [hn, Int.sub_zero]
      exact hq.2 (by omega)
    | false =>
      have e := ts.2.2 hb
      simp only [e]
      intro he
      exact hq.2 (by simpa using he)
  | add n =>
    simp only [Ledger.step] at h
    cases ha : s.f.add n with
    | none => simp [ha] at h
    | some rf =>
      obtain ⟨r, f'⟩ := rf
      simp only [ha, Option.some.injEq] at h
      subst h
      intro _
      exact add_residue s.f f' n r ha

theorem qinv_run (ops : List Op) (s s' : Ledger) (hq : QInv s)
    (hc : NoOverRefund s ops) (h : s.run ops = some s') : QInv s' := by
  induction ops generalizing s with
  | nil => simp [Ledger.run] at h; subst h; exact hq
  | cons op rest ih =>
    simp only [Ledger.run] at h
    cases hs : s.step op with
    | none => simp [hs] at h
    | some s1 =>
      simp only [hs] at h
      simp only [NoOverRefund, hs] at hc
      exact ih s1 (qinv_step s s1 op hq hs hc.1) hc.2 h

end NetVerif.Proofs.Flow
