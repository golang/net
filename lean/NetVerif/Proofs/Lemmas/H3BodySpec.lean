import NetVerif.Model.H3Conn
import NetVerif.Proofs.C22
import NetVerif.Proofs.Lemmas.H3Safe
/-!
What a request/response body may receive, specified without the stream machine (`frameHeader`,
`dataBytes`, `window`: frames split the naive way with the C22 varint model, DATA payloads
concatenated up to the first frame that ends the body), and the proof that the machine meets it.
-/
namespace NetVerif.Proofs.H3BodySpec
open NetVerif.Model.H3Stream NetVerif.Model.H3Conn NetVerif.Model.Qpack NetVerif.Model.VarintQuic
open NetVerif.Proofs.H3Safe NetVerif.Proofs.Lemmas

def Bytes (s : List Nat) : Prop := ∀ b ∈ s, b < 256

theorem Bytes.drop {d : List Nat} (h : Bytes d) (n : Nat) : Bytes (d.drop n) :=
  fun b hb => h b (List.mem_of_mem_drop hb)

theorem readVarint_consume (s : St) (hd : s.dead = false) (hl : s.lim < 0) (hb : Bytes s.data) :
    match consumeVarint s.data with
    | some (v, n) => readVarint s = .ok v { s with data := s.data.drop n, primed := true }
    | none => ∃ e s', readVarint s = .err e s' := by
  obtain ⟨data, primed, dead, lim, allocs⟩ := s
  subst hd
  have hrec : ∀ (st : St) n, st.lim = lim → recordBytesRead st n = .ok () st :=
    fun st n h => by unfold recordBytesRead; rw [h, if_pos hl]
  unfold consumeVarint readVarint
  cases data with
  | nil => exact ⟨_, _, rfl⟩
  | cons b0 rest =>
    have hb0 : b0 < 256 := hb b0 List.mem_cons_self
    have hcase : b0 / 64 = 0 ∨ b0 / 64 = 1 ∨ b0 / 64 = 2 ∨ b0 / 64 = 3 := by
      have : b0 / 64 < 4 := Nat.div_lt_of_lt_mul hb0
      omega
    simp only [qsReadByte, Bool.false_eq_true, if_false]
    rcases hcase with h0 | h0 | h0 | h0 <;> rw [h0]
    · rw [if_pos rfl]
      simp only [Nat.reducePow, Nat.reduceSub, qsReadBE, hrec, List.drop_succ_cons, List.drop_zero]
    · rw [if_neg (by decide), if_pos rfl]
      rcases rest with _ | ⟨b1, r⟩
      · exact ⟨_, _, rfl⟩
      · simp only [Nat.reducePow, Nat.reduceSub, qsReadBE, qsReadByte, Bool.false_eq_true, if_false, hrec, List.drop_succ_cons, List.drop_zero]
    · rw [if_neg (by decide), if_neg (by decide), if_pos rfl]
      rcases rest with _ | ⟨b1, _ | ⟨b2, _ | ⟨b3, r⟩⟩⟩
      · exact ⟨_, _, rfl⟩
      · exact ⟨_, _, rfl⟩
      · exact ⟨_, _, rfl⟩
      · simp only [Nat.reducePow, Nat.reduceSub, qsReadBE, qsReadByte, Bool.false_eq_true, if_false, hrec, List.drop_succ_cons, List.drop_zero]
        -- Horner form against positional form (`omega` is slow on these sums)
        exact congrArg (fun v => Out.ok v _) (by simp only [Nat.add_mul, Nat.mul_assoc, Nat.reduceMul])
    · rw [if_neg (by decide), if_neg (by decide), if_neg (by decide)]
      rcases rest with _ | ⟨b1, _ | ⟨b2, _ | ⟨b3, _ | ⟨b4, _ | ⟨b5, _ | ⟨b6, _ | ⟨b7, r⟩⟩⟩⟩⟩⟩⟩
      · exact ⟨_, _, rfl⟩
      · exact ⟨_, _, rfl⟩
      · exact ⟨_, _, rfl⟩
      · exact ⟨_, _, rfl⟩
      · exact ⟨_, _, rfl⟩
      · exact ⟨_, _, rfl⟩
      · exact ⟨_, _, rfl⟩
      · simp only [Nat.reducePow, Nat.reduceSub, qsReadBE, qsReadByte, Bool.false_eq_true, if_false, hrec, List.drop_succ_cons, List.drop_zero]
        exact congrArg (fun v => Out.ok v _) (by simp only [Nat.add_mul, Nat.mul_assoc, Nat.reduceMul])

/-- A frame header split off the naive way: type, declared size, bytes after the header. -/
def frameHeader (d : List Nat) : Option (Nat × Nat × List Nat) :=
  match consumeVarint d with
  | none => none
  | some (ft, n) =>
    match consumeVarint (d.drop n) with
    | none => none
    | some (sz, m) => some (ft, sz, (d.drop n).drop m)

theorem frameHeader_shorter (d rest : List Nat) (ft sz : Nat) (h : frameHeader d = some (ft, sz, rest)) :
    rest.length + 2 ≤ d.length := by
  unfold frameHeader at h
  split at h
  · cases h
  · rename_i ft' n h1
    split at h
    · cases h
    · rename_i sz' m h2
      simp at h
      obtain ⟨_, _, rfl⟩ := h
      have a := NetVerif.Proofs.C22.consume_within_input _ _ _ h1
      have b := NetVerif.Proofs.C22.consume_within_input _ _ _ h2
      simp at b ⊢
      omega

theorem readFrameHeader_spec (s : St) (hd : s.dead = false) (hl : s.lim < 0) (hb : Bytes s.data) :
    match frameHeader s.data with
    | some (ft, sz, rest) => readFrameHeader s = .ok ft { s with data := rest, primed := true, lim := sz }
    | none => ∃ e s', readFrameHeader s = .err e s' := by
  unfold frameHeader readFrameHeader
  have hl' : ¬ s.lim ≥ 0 := by omega
  simp only [hl', if_false]
  have h1 := readVarint_consume s hd hl hb
  cases hc : consumeVarint s.data with
  | none =>
    rw [hc] at h1
    obtain ⟨e, s', he⟩ := h1
    exact ⟨e, s', by rw [he]; rfl⟩
  | some p =>
    obtain ⟨ft, n⟩ := p
    rw [hc] at h1
    simp only at h1 ⊢
    rw [h1]
    simp only [Out.bind]
    have h2 := readVarint_consume { s with data := s.data.drop n, primed := true } hd hl (hb.drop n)
    simp only at h2
    cases hc2 : consumeVarint (s.data.drop n) with
    | none =>
      rw [hc2] at h2
      obtain ⟨e, s', he⟩ := h2
      rw [he]
      dsimp only
      split
      · exact ⟨_, _, rfl⟩
      · exact ⟨_, _, rfl⟩
    | some q =>
      obtain ⟨sz, m⟩ := q
      rw [hc2] at h2
      simp only at h2 ⊢
      rw [h2]

/-- The bytes a body may receive from a stream that is between frames: the DATA payloads (a final
one possibly cut short by the end of the stream), with completely present unknown frames skipped,
up to the first known non-DATA frame, malformed header or truncated unknown frame. -/
def dataBytes (d : List Nat) : List Nat :=
  match h : frameHeader d with
  | none => []
  | some (ft, sz, rest) =>
    if ft = 0 then rest.take sz ++ (if sz ≤ rest.length then dataBytes (rest.drop sz) else [])
    else if knownFrameType ft then []
    else if sz ≤ rest.length then dataBytes (rest.drop sz) else []
termination_by d.length
decreasing_by
  all_goals (have := frameHeader_shorter d rest ft sz h; simp; omega)

/-- The bytes a body may still receive from a stream in state `s`: the rest of the current frame's
window (the frame a `bodyReader` is inside of is a DATA frame), then `dataBytes` of what follows. -/
def window (s : St) : List Nat :=
  if s.lim < 0 then dataBytes s.data
  else s.data.take s.lim.toNat ++ (if s.lim.toNat ≤ s.data.length then dataBytes (s.data.drop s.lim.toNat) else [])

theorem dataBytes_some (d rest : List Nat) (ft sz : Nat) (h : frameHeader d = some (ft, sz, rest)) :
    dataBytes d =
      if ft = 0 then rest.take sz ++ (if sz ≤ rest.length then dataBytes (rest.drop sz) else [])
      else if knownFrameType ft then []
      else if sz ≤ rest.length then dataBytes (rest.drop sz) else [] := by
  rw [dataBytes]
  split
  · rename_i h'; rw [h] at h'; cases h'
  · rename_i ft' sz' rest' h'
    rw [h] at h'
    simp at h'
    obtain ⟨rfl, rfl, rfl⟩ := h'
    rfl

theorem frameHeader_rest_bytes (d rest : List Nat) (ft sz : Nat) (hb : Bytes d)
    (h : frameHeader d = some (ft, sz, rest)) : Bytes rest := by
  unfold frameHeader at h
  split at h
  · cases h
  · split at h <;> cases h
    exact (hb.drop _).drop _

/-- A read that delivered nothing and reported an error (or did not return). -/
def Failed : BRes → Prop
  | .done bs e _ _ => bs = [] ∧ e ≠ none
  | .panic => True
  | .hang => True

/-- `bodyNextFrame` from `s` either ended the read in failure or stopped inside a frame, on a live
stream of bytes whose window is still that of `s`. -/
def NextOK (s : St) : Option BRes × St → Prop
  | (some r, _) => Failed r
  | (none, s2) => s2.dead = false ∧ Bytes s2.data ∧ 0 ≤ s2.lim ∧ window s2 = window s

theorem NextOK.fail (s : St) (b : Body) (s' : St) (e : Err) (st : St) :
    NextOK s (some (bodyFail b s' e), st) := ⟨rfl, nofun⟩

theorem NextOK.mono {s s' : St} (hw : window s' = window s) : ∀ r, NextOK s' r → NextOK s r
  | (some _, _), h => h
  | (none, _), h => ⟨h.1, h.2.1, h.2.2.1, h.2.2.2.trans hw⟩

theorem bodyNextFrame_window (H : Huff) (tbl : List (List Nat × List Nat)) (b : Body) :
    ∀ (fuel : Nat) (s : St), s.dead = false → Bytes s.data → NextOK s (bodyNextFrame H tbl b fuel s) := by
  intro fuel
  induction fuel with
  | zero => intro s _ _; exact True.intro
  | succ f ih =>
    intro s hd hb
    unfold bodyNextFrame
    refine ite_ind (NextOK s) (fun hl => ?_) (fun hl => ⟨hd, hb, Int.not_lt.mp hl, rfl⟩)
    have hs := readFrameHeader_spec s hd hl hb
    cases hf : frameHeader s.data with
    | none =>
      rw [hf] at hs
      obtain ⟨e, s', he⟩ := hs
      rw [he]
      dsimp only
      refine ite_ind (NextOK s) (fun _ => ?_) (fun _ => ?_)
      · exact NextOK.fail _ _ _ _ _
      · exact NextOK.fail _ _ _ _ _
    | some p =>
      obtain ⟨ft, sz, rest⟩ := p
      rw [hf] at hs
      dsimp only at hs
      rw [hs]
      dsimp only
      have hrb := frameHeader_rest_bytes _ _ _ _ hb hf
      have hwin : window s = dataBytes s.data := if_pos hl
      have hdb := dataBytes_some _ _ _ _ hf
      refine ite_ind (NextOK s) (fun h0 => ?_) (fun h0 => ite_ind (NextOK s) (fun h1 => ?_) (fun h1 => ?_))
      · -- DATA: the frame just entered is the head of the window
        refine ite_ind (NextOK s) (fun _ => ?_) (fun _ => ⟨hd, hrb, Int.natCast_nonneg sz, ?_⟩)
        · exact NextOK.fail _ _ _ _ _
        rw [hwin, hdb, if_pos h0]
        unfold window
        rw [if_neg (Int.not_lt.mpr (Int.natCast_nonneg sz))]
        dsimp only
        rw [Int.toNat_natCast]
      · -- HEADERS ends the body one way or another
        refine ite_ind (NextOK s) (fun _ => ?_) (fun _ => ?_)
        · exact NextOK.fail _ _ _ _ _
        generalize (decode H tbl _).final = r
        cases r with
        | ok u s2 =>
          dsimp only
          generalize discardFrame s2 = r2
          cases r2 with
          | ok u s3 => exact NextOK.fail _ _ _ _ _
          | err e s3 => exact NextOK.fail _ _ _ _ _
          | panic => exact True.intro
          | hang => exact True.intro
        | err e s2 => exact NextOK.fail _ _ _ _ _
        | panic => exact True.intro
        | hang => exact True.intro
      · unfold discardUnknownFrame
        refine ite_ind (fun x : Out Unit => NextOK s (match x with
            | .ok _ s2 => bodyNextFrame H tbl b f s2
            | .err e s2 => (some (bodyFail b s2 e), s2)
            | .panic => (some .panic, _)
            | .hang => (some .hang, _))) (fun hk => ?_) (fun hk => ?_)
        · exact NextOK.fail _ _ _ _ _
        have hs := discardFrame_spec { s with data := rest, primed := true, lim := (sz : Int) } fun _ => hd
        dsimp only at hs
        rw [Int.toNat_natCast] at hs
        split at hs
        · -- a complete unknown frame: the window of what follows it is the window we started with
          rename_i hle
          rw [hs]
          refine NextOK.mono ?_ _ (ih _ hd (hrb.drop sz))
          rw [hwin, hdb, if_neg h0, if_neg hk, if_pos hle]
          exact if_pos (show ((-1 : Int) < 0) by decide)
        · obtain ⟨s2, hs⟩ := hs
          rw [hs]
          exact NextOK.fail _ _ _ _ _

theorem window_split (f : List Nat → List Nat) (d : List Nat) (L n : Nat) (hn : n ≤ L) (hnl : n ≤ d.length) :
    d.take L ++ (if L ≤ d.length then f (d.drop L) else []) =
    d.take n ++ ((d.drop n).take (L - n) ++
      (if L - n ≤ (d.drop n).length then f ((d.drop n).drop (L - n)) else [])) := by
  have h1 : d.take L = d.take n ++ (d.drop n).take (L - n) := by
    have : L = n + (L - n) := by omega
    conv => lhs; rw [this, List.take_add]
  have h2 : (d.drop n).drop (L - n) = d.drop L := by
    rw [List.drop_drop]; congr 1; omega
  have h3 : (L - n ≤ (d.drop n).length) ↔ (L ≤ d.length) := by rw [List.length_drop]; omega
  rw [h1, h2, List.append_assoc]
  by_cases hL : L ≤ d.length
  · rw [if_pos hL, if_pos (h3.mpr hL)]
  · have : ¬ (L - n ≤ (d.drop n).length) := fun h => hL (h3.mp h)
    rw [if_neg hL, if_neg this]

theorem window_inside (s : St) (h : 0 ≤ s.lim) :
    window s = s.data.take s.lim.toNat ++
      (if s.lim.toNat ≤ s.data.length then dataBytes (s.data.drop s.lim.toNat) else []) := by
  unfold window
  rw [if_neg (Int.not_lt.mpr h)]

/-- `NextOK` for `afterEnd`, which may also stop between frames (no `0 ≤ lim`). -/
def AfterOK (s : St) : Option BRes × St → Prop
  | (some r, _) => Failed r
  | (none, s1) => s1.dead = false ∧ Bytes s1.data ∧ window s1 = window s

theorem afterEnd_ok (b : Body) (s : St) (hd : s.dead = false) (hb : Bytes s.data) :
    AfterOK s (afterEnd b s) := by
  unfold afterEnd
  by_cases h0 : s.lim = 0
  · -- at the end of a frame the window is what follows it
    rw [if_pos h0]
    unfold endFrame
    rw [if_neg (fun h => h h0)]
    refine ⟨hd, hb, ?_⟩
    rw [window_inside s (by omega), h0]
    exact (List.nil_append _).symm
  · rw [if_neg h0]
    exact ⟨hd, hb, rfl⟩

/-- What one read from `s` may do (`bodyRead_window`); `e = none` is a read that reported no error. -/
def ReadOK (s : St) : BRes → Prop
  | .done bs e _ s' =>
    bs <+: window s ∧ (e = none → window s = bs ++ window s' ∧ s'.dead = false ∧ Bytes s'.data)
  | .panic => True
  | .hang => True

theorem readOK_of_failed (s : St) (r : BRes) (h : Failed r) : ReadOK s r := by
  cases r with
  | done bs e b' s' =>
    obtain ⟨rfl, hne⟩ := h
    exact ⟨List.nil_prefix, fun he => absurd he hne⟩
  | panic => trivial
  | hang => trivial

theorem bodyTail_window (b : Body) (s2 : St) (k' : Nat) (hb : Bytes s2.data)
    (hl : 0 ≤ s2.lim) : ReadOK s2 (bodyTail b s2 k') := by
  unfold bodyTail
  cases hr : NetVerif.Model.H3Stream.read s2 k' with
  | ok r s3 =>
    obtain ⟨bs, eof⟩ := r
    obtain ⟨h1, h2, h3, -, h4, h5⟩ := read_inv s2 s3 k' bs eof hr
    obtain ⟨h5a, h5b⟩ := h5 hl
    have hnl : bs.length ≤ s2.data.length := by
      have := congrArg List.length h1
      rw [List.length_take] at this
      omega
    have hw : window s2 = bs ++ window s3 := by
      obtain ⟨L, hL⟩ := Int.eq_ofNat_of_zero_le hl
      rw [window_inside s2 hl, window_inside s3 (by omega), h3, h5b, hL, Int.toNat_sub, Int.toNat_natCast,
        window_split dataBytes s2.data L bs.length (by omega) hnl, ← h1]
    have hpre : bs <+: window s2 := hw ▸ List.prefix_append _ _
    cases eof
    · simp only [Bool.false_eq_true, if_false]
      exact ⟨hpre, fun _ => ⟨hw, h4, h3 ▸ hb.drop _⟩⟩
    · simp only [if_true]
      exact ⟨hpre, by intro h; cases h⟩
  | err e s3 => exact ⟨List.nil_prefix, by intro h; cases h⟩
  | panic => trivial
  | hang => trivial

theorem bodyRead_window (H : Huff) (tbl : List (List Nat × List Nat)) (b : Body) (s : St) (k : Nat)
    (hd : s.dead = false) (hb : Bytes s.data) : ReadOK s (bodyRead H tbl b s k) := by
  rw [bodyRead_eq]
  unfold bodyRead'
  cases hbe : b.err with
  | some e0 => exact ⟨List.nil_prefix, by intro h; cases h⟩
  | none =>
    simp only
    have hae := afterEnd_ok b s hd hb
    cases hA : afterEnd b s with
    | mk r s1 =>
      rw [hA] at hae
      cases r with
      | some r => exact readOK_of_failed s r hae
      | none =>
        simp only
        obtain ⟨h1d, h1b, h1w⟩ := hae
        have hn := bodyNextFrame_window H tbl b (s1.data.length + 2) s1 h1d h1b
        cases hN : bodyNextFrame H tbl b (s1.data.length + 2) s1 with
        | mk r2 s2 =>
          rw [hN] at hn
          cases r2 with
          | some r2 => exact readOK_of_failed s r2 hn
          | none =>
            simp only
            obtain ⟨h2d, h2b, h2l, h2w⟩ := hn
            have ht := bodyTail_window b s2 (if (k : Int) > s2.lim then s2.lim.toNat else k) h2b h2l
            have hw : window s2 = window s := h2w.trans h1w
            revert ht
            cases bodyTail b s2 (if (k : Int) > s2.lim then s2.lim.toNat else k) with
            | done bs e b' s' => intro ht; exact ⟨hw ▸ ht.1, fun he => hw ▸ ht.2 he⟩
            | panic => intro _; trivial
            | hang => intro _; trivial

/-- Whatever the peer sends, however the reads are sized and however the body ends; C35's
`body_bytes_within_data` and `body_bytes_within_window` are its two readings. -/
theorem bodyDrain_window (H : Huff) (tbl : List (List Nat × List Nat)) (k : Nat) :
    ∀ (fuel : Nat) (b : Body) (s : St) (acc : List Nat), s.dead = false → Bytes s.data →
    ∃ out, (bodyDrain H tbl k fuel b s acc).1 = acc ++ out ∧ out <+: window s := by
  intro fuel
  induction fuel with
  | zero => intro b s acc _ _; exact ⟨[], by simp [bodyDrain], List.nil_prefix⟩
  | succ f ih =>
    intro b s acc hd hb
    unfold bodyDrain
    have hr := bodyRead_window H tbl b s k hd hb
    revert hr
    cases bodyRead H tbl b s k with
    | done bs e b' s' =>
      intro hr
      obtain ⟨hpre, hnone⟩ := hr
      cases e with
      | none =>
        obtain ⟨hw, hd', hb'⟩ := hnone rfl
        obtain ⟨out, ho, hp⟩ := ih b' s' (acc ++ bs) hd' hb'
        refine ⟨bs ++ out, by simp only; rw [ho, List.append_assoc], ?_⟩
        rw [hw]
        exact (List.prefix_append_right_inj bs).mpr hp
      | some e =>
        cases e <;> exact ⟨bs, rfl, hpre⟩
    | panic => intro _; exact ⟨[], by simp, List.nil_prefix⟩
    | hang => intro _; exact ⟨[], by simp, List.nil_prefix⟩

end NetVerif.Proofs.H3BodySpec
