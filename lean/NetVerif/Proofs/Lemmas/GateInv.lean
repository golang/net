import NetVerif.Model.ChanSem
/-!
One step of one goroutine on the gate (C29).  A step is quiet (`stepFacts_quiet`), a receive that
acquires (`step_recv`), a giving up (`stepFacts_fail`) or the send that releases (in place in
`step_local_err`, which only decides which kind a given step is).
-/
namespace NetVerif.Proofs.GateInv
open NetVerif.Model.ChanSem

/-- The two channels of a gate as `newGate` makes them: capacity one, never closed. -/
def SWf (σ : Store GCh) : Prop :=
  (σ .set).cap = 1 ∧ (σ .unset).cap = 1 ∧ (σ .set).closed = false ∧ (σ .unset).closed = false

/-- Per-goroutine invariant: where a goroutine can be inside a gate method, and how the
ghost `holding` relates to the client's belief `owns`. -/
def GG.wf (g : GG) : Prop :=
  (g.cont = [] ∧ g.owns = g.holding) ∨
  (g.holding = false ∧ g.owns = false ∧
     ((g.meth = .lock ∧ g.cont = gate.lock) ∨
      (g.meth = .waitAndLock ∧ (g.cont = gate.waitAndLock ∨ g.cont = gate.waitAndLock.tail)) ∨
      (g.meth = .lockIfSet ∧ g.cont = gate.lockIfSet))) ∨
  (g.holding = true ∧ g.owns = true ∧ g.meth = .unlock ∧ g.cont = instantiate gate.unlock g.arg)

/-- What the global invariants (`GInv`, `QInv`) and the C29 theorems need of one step `g → g'` of one
goroutine: the local invariants again, the token count, and which steps can take or return the token. -/
structure StepFacts (σ : Store GCh) (g : GG) (σ' : Store GCh) (g' : GG) : Prop where
  swf : SWf σ'
  wf : GG.wf g'
  cons : tokens σ' + b2n g'.holding = tokens σ + b2n g.holding
  frame : g'.holding = g.holding → σ' = σ
  /-- the token is given back only by the send that completes `unlock(arg)` -/
  release : g.holding = true → g'.holding = false →
    g.meth = .unlock ∧ g.cont ≠ [] ∧ g'.cont = [] ∧ g'.owns = false ∧
    (σ' .set).len = (σ .set).len + b2n g.arg ∧ (σ' .unset).len = (σ .unset).len + b2n (!g.arg)
  /-- the token is taken only by a receive that completes a locking call -/
  acquire : g.holding = false → g'.holding = true →
    g.cont ≠ [] ∧ g'.cont = [] ∧ g'.owns = true ∧
    ((g'.took = some .set ∧ 0 < (σ .set).len ∧ (g.meth = .lock → g'.last = some .tt)) ∨
     (g'.took = some .unset ∧ 0 < (σ .unset).len ∧ g.meth = .lock ∧ g'.last = some .ff))
  /-- `waitAndLock` returns nil only by receiving from `set`, an error only if ctx is done -/
  wait : g.meth = .waitAndLock → g.cont ≠ [] → g'.cont = [] →
    (g'.last = some .nil ∧ g'.holding = true ∧ g'.took = some .set ∧ 0 < (σ .set).len) ∨
    (g'.last = some .err ∧ g.ctx = true ∧ g'.holding = false ∧ σ' = σ)
  lockIfSet : g.meth = .lockIfSet → g.cont ≠ [] → g'.cont = [] →
    (g'.last = some .tt ∧ g'.holding = true ∧ g'.took = some .set ∧ 0 < (σ .set).len) ∨
    (g'.last = some .ff ∧ (σ .set).len = 0 ∧ g'.holding = false ∧ σ' = σ)
  lockDone : g.meth = .lock → g.cont ≠ [] → g'.cont = [] → g.holding = false ∧ g'.holding = true
  unl : g.meth = .unlock → g.cont ≠ [] → g'.cont = [] → g.holding = true ∧ g'.holding = false
  same : g.cont ≠ [] → g'.meth = g.meth ∧ g'.arg = g.arg
  idle : g.cont = [] → g'.holding = g.holding ∧ g'.owns = g.owns

theorem isUnlock_eq_true {m : GMeth} (h : m.isUnlock = true) : m = .unlock := by
  cases m with
  | unlock => rfl
  | lock => cases h
  | waitAndLock => cases h
  | lockIfSet => cases h

/-- The recorded condition changes exactly on the step that gives the token back. -/
theorem StepFacts.completes_unlock {σ σ' : Store GCh} {g g' : GG} (F : StepFacts σ g σ' g') :
    (g.meth.isUnlock && !g.cont.isEmpty && g'.cont.isEmpty) = true ↔
      g.holding = true ∧ g'.holding = false := by
  constructor
  · intro h
    simp only [Bool.and_eq_true, Bool.not_eq_true', List.isEmpty_iff] at h
    have hm := isUnlock_eq_true h.1.1
    exact F.unl hm (fun hc => by rw [hc] at h; cases h.1.2) h.2
  · rintro ⟨h1, h2⟩
    obtain ⟨hm, hne, he, _⟩ := F.release h1 h2
    simp [hm, GMeth.isUnlock, he, hne]

theorem swf_upd {σ : Store GCh} (hσ : SWf σ) (c : GCh) (n : Nat) :
    SWf (upd σ c { σ c with len := n }) := by
  cases c <;> simpa [SWf, upd] using hσ

theorem enabled_recv {σ : Store GCh} (hσ : SWf σ) (ctx : Bool) (c : GCh) :
    Arm.enabled σ ctx (.recv c) = decide (0 < (σ c).len) := by
  cases c <;> simp [Arm.enabled, hσ.2.2.1, hσ.2.2.2]

theorem fire_recv {σ : Store GCh} {c : GCh} (h : 0 < (σ c).len) :
    Arm.fire σ (.recv c) = upd σ c { σ c with len := (σ c).len - 1 } := by
  simp [Arm.fire, h]

/-- What a locking call returns when its receive from `ch` fires. -/
def lockRes : GMeth → GCh → Option GRes
  | .lock, .set => some .tt
  | .lock, .unset => some .ff
  | .waitAndLock, .set => some .nil
  | .lockIfSet, .set => some .tt
  | _, _ => none

theorem lockRes_ne_err (m : GMeth) (ch : GCh) : lockRes m ch ≠ some .err := by
  cases m <;> cases ch <;> nofun

/-- What the queue's flow check `safe` assumes of the gate: only `waitAndLock` fails. -/
def ErrOnlyWait (g g' : GG) : Prop :=
  g.cont ≠ [] → g'.cont = [] → g'.last = some .err → g.meth = .waitAndLock

/-- A call starts, the context is cancelled, or `waitAndLock` falls through its first select. -/
theorem stepFacts_quiet {σ : Store GCh} {g g' : GG} (hσ : SWf σ) (hwf : GG.wf g')
    (hh : g'.holding = g.holding) (ho : g'.owns = g.owns)
    (hk : g.cont ≠ [] → g'.cont ≠ [] ∧ g'.meth = g.meth ∧ g'.arg = g.arg) : StepFacts σ g σ g' where
  swf := hσ
  wf := hwf
  cons := by rw [hh]
  frame _ := rfl
  release h1 h2 := by rw [hh, h1] at h2; cases h2
  acquire h1 h2 := by rw [hh, h1] at h2; cases h2
  wait _ hne hd := absurd hd (hk hne).1
  lockIfSet _ hne hd := absurd hd (hk hne).1
  lockDone _ hne hd := absurd hd (hk hne).1
  unl _ hne hd := absurd hd (hk hne).1
  same hne := (hk hne).2
  idle _ := ⟨hh, ho⟩

theorem stepFacts_fail {σ : Store GCh} {g : GG} (hσ : SWf σ) (hnh : g.holding = false)
    (hne : g.cont ≠ []) {v : GRes}
    (hv : g.meth = .waitAndLock ∧ v = .err ∧ g.ctx = true ∨
          g.meth = .lockIfSet ∧ v = .ff ∧ (σ .set).len = 0) :
    StepFacts σ g σ { g with cont := [], last := some v, owns := acquired g.meth (some v) } := by
  have k : acquired g.meth (some v) = false := by
    rcases hv with ⟨hm, rfl, _⟩ | ⟨hm, rfl, _⟩ <;> rw [hm] <;> rfl
  rw [k]
  exact
    { swf := hσ
      wf := Or.inl ⟨rfl, hnh.symm⟩
      cons := rfl
      frame := fun _ => rfl
      release := fun h => by rw [hnh] at h; cases h
      acquire := fun _ h => by rw [hnh] at h; cases h
      wait := fun hm _ _ => by
        rcases hv with ⟨_, rfl, hx⟩ | ⟨hm', _⟩
        · exact Or.inr ⟨rfl, hx, hnh, rfl⟩
        · cases hm.symm.trans hm'
      lockIfSet := fun hm _ _ => by
        rcases hv with ⟨hm', _⟩ | ⟨_, rfl, hx⟩
        · cases hm.symm.trans hm'
        · exact Or.inr ⟨rfl, hx, hnh, rfl⟩
      lockDone := fun hm => by rcases hv with ⟨hm', _⟩ | ⟨hm', _⟩ <;> cases hm.symm.trans hm'
      unl := fun hm => by rcases hv with ⟨hm', _⟩ | ⟨hm', _⟩ <;> cases hm.symm.trans hm'
      same := fun _ => ⟨rfl, rfl⟩
      idle := fun h => absurd h hne }

theorem run_recv {σ : Store GCh} (hσ : SWf σ) (g : GG) {s : Sel GCh GRes} {rest : List (Sel GCh GRes)}
    (hc : g.cont = s :: rest) {k : Nat} {ch : GCh} {v : GRes} (hk : s.arms[k]? = some (.recv ch, .ret v)) :
    g.step gate σ (.run (.arm k)) =
      if 0 < (σ ch).len then
        some (Arm.fire σ (.recv ch),
          { g with cont := [], holding := true, took := some ch, last := some v,
                   owns := acquired g.meth (some v) })
      else none := by
  simp [GG.step, hc, Sel.step, hk, enabled_recv hσ, GG.after, holdAfter, tookAfter]

/-- The arm of a locking select that receives from `ch`. -/
def recvArm : GCh → Nat
  | .set => 0
  | .unset => 1

/-- Wherever a goroutine stands in a locking call, the receive that `lockRes` names fires as soon
as its channel holds the token, and completes the call with the gate acquired. -/
theorem recv_enabled {σ : Store GCh} {g : GG} (hσ : SWf σ) (hwf : GG.wf g) (hrun : g.cont ≠ [])
    {ch : GCh} {v : GRes} (hv : lockRes g.meth ch = some v) (hpos : 0 < (σ ch).len) :
    g.step gate σ (.run (.arm (recvArm ch))) =
      some (Arm.fire σ (.recv ch),
        { g with cont := [], holding := true, took := some ch, last := some v, owns := true }) := by
  rcases hwf with ⟨hc, _⟩ | ⟨_, _, hh⟩ | ⟨_, _, hm, _⟩
  · exact absurd hc hrun
  · -- four positions, two channels: `hv` rules the channel out or fixes `v`; then the select in front computes
    rcases hh with ⟨hm, hc⟩ | ⟨hm, hc | hc⟩ | ⟨hm, hc⟩ <;> rw [hm] at hv <;> cases ch <;> cases hv
    all_goals rw [run_recv hσ g hc (k := recvArm _) rfl, if_pos hpos, hm]; rfl
  · rw [hm] at hv
    cases ch <;> cases hv

theorem step_recv {σ σ' : Store GCh} {g g' : GG} (hσ : SWf σ) (hnh : g.holding = false)
    {s : Sel GCh GRes} {rest : List (Sel GCh GRes)} (hc : g.cont = s :: rest) {k : Nat} {ch : GCh}
    {v : GRes} (hk : s.arms[k]? = some (.recv ch, .ret v)) (hv : lockRes g.meth ch = some v)
    (h : g.step gate σ (.run (.arm k)) = some (σ', g')) : StepFacts σ g σ' g' ∧ ErrOnlyWait g g' := by
  rw [run_recv hσ g hc hk] at h
  split at h
  case isFalse => cases h
  rename_i hl
  cases h
  refine ⟨?_, fun _ _ hl => absurd (Option.some.inj hl ▸ hv) (lockRes_ne_err _ _)⟩
  have hne : g.cont ≠ [] := hc ▸ List.cons_ne_nil _ _
  -- `lockRes` read backwards: what a result `v` from channel `ch` says of the method
  have key : (ch = .set ∧ (g.meth = .lock → v = .tt) ∨ ch = .unset ∧ g.meth = .lock ∧ v = .ff) ∧
      (g.meth = .waitAndLock → v = .nil ∧ ch = .set) ∧ (g.meth = .lockIfSet → v = .tt ∧ ch = .set) ∧
      g.meth ≠ .unlock ∧ acquired g.meth (some v) = true := by
    generalize g.meth = m at hv ⊢
    cases m <;> cases ch <;> cases hv <;> decide
  obtain ⟨k1, k2, k3, k4, k5⟩ := key
  rw [fire_recv hl, k5]
  exact
    { swf := swf_upd hσ _ _
      wf := Or.inl ⟨rfl, rfl⟩
      cons := by cases ch <;> simp [tokens, upd, b2n, hnh] <;> omega
      frame := fun h => by rw [hnh] at h; cases h
      release := fun h => by rw [hnh] at h; cases h
      acquire := fun _ _ => ⟨hne, rfl, rfl, by
        rcases k1 with ⟨rfl, h⟩ | ⟨rfl, hm, rfl⟩
        · exact Or.inl ⟨rfl, hl, fun hm => by rw [h hm]⟩
        · exact Or.inr ⟨rfl, hl, hm, rfl⟩⟩
      wait := fun hm _ _ => by obtain ⟨rfl, rfl⟩ := k2 hm; exact Or.inl ⟨rfl, rfl, rfl, hl⟩
      lockIfSet := fun hm _ _ => by obtain ⟨rfl, rfl⟩ := k3 hm; exact Or.inl ⟨rfl, rfl, rfl, hl⟩
      lockDone := fun _ _ _ => ⟨hnh, rfl⟩
      unl := fun hm => absurd hm k4
      same := fun _ => ⟨rfl, rfl⟩
      idle := fun h => absurd h hne }

theorem run_send {σ : Store GCh} (hσ : SWf σ) (g : GG) {s : Sel GCh GRes} {rest : List (Sel GCh GRes)}
    (hc : g.cont = s :: rest) {k : Nat} {ch : GCh} {o : Out GRes} (hk : s.arms[k]? = some (.send ch, o)) :
    g.step gate σ (.run (.arm k)) =
      if (σ ch).len = 0 then some (g.after rest (Arm.fire σ (.send ch), some (.send ch), o)) else none := by
  cases ch
  · simp [GG.step, hc, Sel.step, hk, Arm.enabled, hσ.1]
  · simp [GG.step, hc, Sel.step, hk, Arm.enabled, hσ.2.1]

theorem unlock_cont (b : Bool) :
    instantiate gate.unlock b = [⟨some b, [(.send (if b then .set else .unset), .fall)], none⟩] := by
  cases b <;> rfl

theorem run_none {σ : Store GCh} {g : GG} {s : Sel GCh GRes} {rest : List (Sel GCh GRes)}
    (hc : g.cont = s :: rest) {p : Pick} (hp : s.step σ g.ctx p = none) :
    g.step gate σ (.run p) = none := by
  simp [GG.step, hc, hp]

theorem instantiate_body {m : GMeth} (h : m.isUnlock = false) (arg : Bool) :
    instantiate (gate.body m) arg = gate.body m := by
  cases m with
  | unlock => cases h
  | lock => cases arg <;> rfl
  | waitAndLock => cases arg <;> rfl
  | lockIfSet => cases arg <;> rfl

theorem wf_idle {g : GG} (hg : GG.wf g) (hc : g.cont = []) : g.owns = g.holding := by
  rcases hg with ⟨_, ho⟩ | ⟨_, _, hh⟩ | ⟨_, _, _, hh⟩
  · exact ho
  · rcases hh with ⟨_, hh⟩ | ⟨_, hh | hh⟩ | ⟨_, hh⟩ <;> cases hc.symm.trans hh
  · cases hb : g.arg <;> rw [hb] at hh <;> cases hc.symm.trans hh

theorem wf_running {g : GG} (hg : GG.wf g) (hc : g.cont ≠ []) :
    (g.meth = .unlock → g.holding = true ∧ g.cont = instantiate gate.unlock g.arg) ∧
    (g.meth ≠ .unlock → g.holding = false) := by
  rcases hg with ⟨h, _⟩ | ⟨hh, _, hm⟩ | ⟨hh, _, hm, hk⟩
  · exact absurd h hc
  · refine ⟨fun hu => ?_, fun _ => hh⟩
    rcases hm with ⟨hm, _⟩ | ⟨hm, _⟩ | ⟨hm, _⟩ <;> cases hm.symm.trans hu
  · exact ⟨fun _ => ⟨hh, hk⟩, fun hn => absurd hm hn⟩

theorem call_step {σ σ' : Store GCh} {g g' : GG} {m : GMeth} {b : Bool}
    (h : g.step gate σ (.call m b) = some (σ', g')) :
    g.cont = [] ∧ m.isUnlock = g.owns ∧ σ' = σ ∧
      g' = { g with cont := instantiate (gate.body m) b, meth := m, arg := b, last := none } := by
  simp [GG.step] at h
  obtain ⟨⟨hc, hu⟩, rfl, rfl⟩ := h
  exact ⟨hc, hu, rfl, rfl⟩

theorem cancel_step {σ σ' : Store GCh} {g g' : GG} (h : g.step gate σ .cancel = some (σ', g')) :
    σ' = σ ∧ g' = { g with ctx := true } := by
  simp [GG.step] at h
  exact ⟨h.2.1.symm, h.2.2.symm⟩

theorem step_local_err {σ σ' : Store GCh} {g g' : GG} {a : GAct}
    (hσ : SWf σ) (hg : GG.wf g) (h : g.step gate σ a = some (σ', g')) :
    StepFacts σ g σ' g' ∧ ErrOnlyWait g g' := by
  cases a with
  | call m arg =>
    obtain ⟨hc, hu, rfl, rfl⟩ := call_step h
    have ho := wf_idle hg hc
    refine ⟨stepFacts_quiet hσ ?_ rfl rfl (fun hne => absurd hc hne), fun hne => absurd hc hne⟩
    cases hm : m.isUnlock
    · rw [hm] at hu
      refine Or.inr (Or.inl ⟨ho ▸ hu.symm, hu.symm, ?_⟩)
      have hb := instantiate_body hm arg
      cases m
      · exact Or.inl ⟨rfl, hb⟩
      · exact Or.inr (Or.inl ⟨rfl, Or.inl hb⟩)
      · exact Or.inr (Or.inr ⟨rfl, hb⟩)
      · cases hm
    · rw [hm] at hu
      obtain rfl := isUnlock_eq_true hm
      exact Or.inr (Or.inr ⟨ho ▸ hu.symm, hu.symm, rfl, rfl⟩)
  | cancel =>
    obtain ⟨rfl, rfl⟩ := cancel_step h
    exact ⟨stepFacts_quiet hσ hg rfl rfl (fun hne => ⟨hne, rfl, rfl⟩), fun hne hd => absurd hd hne⟩
  | run p =>
    rcases hg with ⟨hc, ho⟩ | ⟨hh, ho, hm⟩ | ⟨hh, ho, hm, hc⟩
    · simp [GG.step, hc] at h
    · rcases hm with ⟨hm, hc⟩ | ⟨hm, hc | hc⟩ | ⟨hm, hc⟩
      · match p with
        | .arm 0 => exact step_recv hσ hh hc rfl (by rw [hm]; rfl) h
        | .arm 1 => exact step_recv hσ hh hc rfl (by rw [hm]; rfl) h
        | .arm (k+2) => rw [run_none hc rfl] at h; cases h
        | .dflt => rw [run_none hc rfl] at h; cases h
      · match p with
        | .arm 0 => exact step_recv hσ hh hc rfl (by rw [hm]; rfl) h
        | .arm (k+1) => rw [run_none hc rfl] at h; cases h
        | .dflt =>
          simp [GG.step, hc, gate, Sel.step, enabled_recv hσ, GG.after, holdAfter, tookAfter] at h
          obtain ⟨-, rfl, rfl⟩ := h
          exact ⟨stepFacts_quiet hσ (Or.inr (Or.inl ⟨hh, ho, Or.inr (Or.inl ⟨hm, Or.inr rfl⟩)⟩)) rfl rfl
            (fun _ => ⟨List.cons_ne_nil _ _, rfl, rfl⟩), fun _ hd => nomatch hd⟩
      · have hne : g.cont ≠ [] := by rw [hc]; decide
        match p with
        | .arm 0 => exact step_recv hσ hh hc rfl (by rw [hm]; rfl) h
        | .arm 1 =>
          cases hx : g.ctx <;>
            simp [GG.step, hc, gate, Sel.step, Arm.enabled, hx, GG.after, holdAfter, tookAfter, Arm.fire] at h
          obtain ⟨rfl, rfl⟩ := h
          have F := stepFacts_fail hσ hh hne (Or.inl ⟨hm, rfl, hx⟩)
          rw [hx] at F
          exact ⟨F, fun _ _ _ => hm⟩
        | .arm (k+2) => rw [run_none hc rfl] at h; cases h
        | .dflt => rw [run_none hc rfl] at h; cases h
      · have hne : g.cont ≠ [] := by rw [hc]; decide
        match p with
        | .arm 0 => exact step_recv hσ hh hc rfl (by rw [hm]; rfl) h
        | .arm (k+1) => rw [run_none hc rfl] at h; cases h
        | .dflt =>
          simp [GG.step, hc, gate, Sel.step, enabled_recv hσ, GG.after, holdAfter, tookAfter] at h
          obtain ⟨hl, rfl, rfl⟩ := h
          exact ⟨stepFacts_fail hσ hh hne (Or.inr ⟨hm, rfl, hl⟩), fun _ _ hl => nomatch hl⟩
    · have hc' := hc.trans (unlock_cont g.arg)
      have hne : g.cont ≠ [] := by rw [hc']; exact List.cons_ne_nil _ _
      match p with
      | .arm 0 =>
        rw [run_send hσ g hc' rfl] at h
        simp [GG.after, holdAfter, tookAfter] at h
        obtain ⟨-, rfl, rfl⟩ := h
        refine ⟨?_, fun _ _ hl => nomatch hl⟩
        -- `unlock(arg)` completes by sending the token to `set` or `unset`
        generalize hch : (if g.arg then GCh.set else GCh.unset) = ch
        have k : acquired g.meth none = false := by rw [hm]; rfl
        rw [k]
        exact
          { swf := swf_upd hσ _ _
            wf := Or.inl ⟨rfl, rfl⟩
            cons := by cases ch <;> simp [Arm.fire, tokens, upd, b2n, hh] <;> omega
            frame := fun h => by rw [hh] at h; cases h
            release := fun _ _ => ⟨hm, hne, rfl, rfl, by
              cases hb : g.arg
              · obtain rfl : GCh.unset = ch := by simpa [hb] using hch
                simp [Arm.fire, upd, b2n]
              · obtain rfl : GCh.set = ch := by simpa [hb] using hch
                simp [Arm.fire, upd, b2n]⟩
            acquire := fun h => by rw [hh] at h; cases h
            wait := fun h => by cases hm.symm.trans h
            lockIfSet := fun h => by cases hm.symm.trans h
            lockDone := fun h => by cases hm.symm.trans h
            unl := fun _ _ _ => ⟨hh, rfl⟩
            same := fun _ => ⟨rfl, rfl⟩
            idle := fun h => absurd h hne }
      | .arm (k+1) => rw [run_none hc' rfl] at h; cases h
      | .dflt => rw [run_none hc' rfl] at h; cases h

theorem step_local {σ σ' : Store GCh} {g g' : GG} {a : GAct}
    (hσ : SWf σ) (hg : GG.wf g) (h : g.step gate σ a = some (σ', g')) :
    StepFacts σ g σ' g' :=
  (step_local_err hσ hg h).1

theorem countP_set_add {α : Type} (p : α → Bool) {l : List α} {i : Nat} {x : α} (x' : α)
    (h : l[i]? = some x) :
    (l.set i x').countP p + (if p x then 1 else 0) = l.countP p + (if p x' then 1 else 0) := by
  obtain ⟨hlt, rfl⟩ := List.getElem?_eq_some_iff.mp h
  have : (if p l[i] then 1 else 0) ≤ l.countP p := by
    split
    · exact List.countP_pos_iff.mpr ⟨_, List.getElem_mem hlt, ‹_›⟩
    · exact Nat.zero_le _
  rw [List.countP_set hlt]
  omega

theorem holders_eq_countP (gs : List GG) : holders gs = gs.countP (·.holding) := by
  induction gs with
  | nil => rfl
  | cons g gs ih => rw [List.countP_cons, ← ih, Nat.add_comm]; rfl

theorem holders_replicate (n : Nat) : holders (List.replicate n ({} : GG)) = 0 := by
  rw [holders_eq_countP, List.countP_replicate]; rfl

theorem holders_set (gs : List GG) (i : Nat) (g g' : GG) (h : gs[i]? = some g) :
    holders (gs.set i g') + b2n g.holding = holders gs + b2n g'.holding := by
  rw [holders_eq_countP, holders_eq_countP]
  exact countP_set_add _ g' h

theorem holders_zero {gs : List GG} (h : holders gs = 0) : ∀ g ∈ gs, g.holding = false := by
  rw [holders_eq_countP, List.countP_eq_zero] at h
  exact fun g hg => Bool.eq_false_iff.mpr (h g hg)

theorem holders_pos {gs : List GG} {i : Nat} {g : GG} (h : gs[i]? = some g) (hh : g.holding = true) :
    1 ≤ holders gs := by
  rw [holders_eq_countP]
  exact List.countP_pos_iff.mpr ⟨g, List.mem_of_getElem? h, hh⟩

/-- The step of both global invariants, `GInv` of a bare gate (C29) and `QInv` of the queue: the token count
and the clause tying the token's channel to `cond` survive a step that has the local facts `cons`, `still`
and `rel`.  `cond` is whatever the gate's owner records: the last `unlock` argument for a bare gate,
"closed or non-empty" for the queue. -/
theorem tok_cond_step {σ σ' : Store GCh} {gs : List GG} {i : Nat} {g g' : GG} {cond cond' : Bool}
    (hg : gs[i]? = some g) (htok : tokens σ + holders gs = 1)
    (hcond : holders gs = 0 → ((σ .set).len = 1 ↔ cond = true))
    (cons : tokens σ' + b2n g'.holding = tokens σ + b2n g.holding)
    (still : g.holding = false → g'.holding = false → σ' = σ ∧ cond' = cond)
    (rel : g.holding = true → g'.holding = false → (σ' .set).len = (σ .set).len + b2n cond') :
    tokens σ' + holders (gs.set i g') = 1 ∧
      (holders (gs.set i g') = 0 → ((σ' .set).len = 1 ↔ cond' = true)) := by
  have hset := holders_set gs i g g' hg
  have hb : b2n true = 1 ∧ b2n false = 0 := ⟨rfl, rfl⟩
  refine ⟨by omega, fun h0 => ?_⟩
  cases hh : g.holding <;> cases hh' : g'.holding <;> rw [hh, hh'] at hset
  · obtain ⟨rfl, rfl⟩ := still hh hh'
    exact hcond (by omega)
  · omega
  · -- the holder had the token, so `set` was empty
    have h1 := holders_pos hg hh
    have h2 : (σ .set).len = 0 := by simp only [tokens] at htok; omega
    rw [rel hh hh', h2]
    cases cond' <;> simp [b2n]
  · have h1 := holders_pos hg hh
    omega

/-- Otherwise taking the token away from one of the two would leave the other: count two. -/
theorem holders_unique {gs : List GG} (h : holders gs ≤ 1) {i j : Nat} {g1 g2 : GG}
    (h1 : gs[i]? = some g1) (h2 : gs[j]? = some g2) (hh1 : g1.holding = true) (hh2 : g2.holding = true) :
    i = j := by
  refine Decidable.byContradiction fun hne => ?_
  have hs : holders (gs.set i { g1 with holding := false }) + b2n g1.holding = holders gs + 0 :=
    holders_set gs i g1 _ h1
  have hp := holders_pos (gs := gs.set i { g1 with holding := false }) (i := j)
    (by rw [List.getElem?_set_ne hne]; exact h2) hh2
  rw [hh1] at hs
  have : b2n true = 1 := rfl
  omega

end NetVerif.Proofs.GateInv
