import NetVerif.Model.NetIP
/-!
Mathematical reading of the byte-level `net.IP` operations of `Model/NetIP.lean`: `IP.Equal` is
equality of normalised addresses (IPv4-mapped IPv6 = IPv4), `IsLoopback` is 127.0.0.0/8 or ::1, and the
masked comparison of `IPNet.Contains` is equality of the first `ones` BITS.
Only `ipEqual_iff` is used further (C52 `ip_entry_meaning`).  The specifications of C52 and C53
(`EntryMatches`, `Bypass`, `AddMatches`) keep the raw `contains` and `isLoopback`; `contains_v4`,
`contains_v6`, `contains_v4mapped` and `isLoopback_iff` are how to read those.
-/
namespace NetVerif.Proofs.Lemmas.NetIP
open NetVerif.Model.NetIP

def IPWF (ip : List Nat) : Prop := ip.length = 4 ∨ ip.length = 16
def BytesWF (bs : List Nat) : Prop := ∀ b ∈ bs, b < 256

def norm (ip : List Nat) : List Nat := match to4 ip with | some x => x | none => ip

theorem to4_len4 (ip : List Nat) (h : ip.length = 4) : to4 ip = some ip := by simp [to4, h]

theorem to4_len16 (ip : List Nat) (h : ip.length = 16) :
    to4 ip = if ip.take 12 = v4InV6Prefix then some (ip.drop 12) else none := by
  simp [to4, h]

theorem norm_length (ip : List Nat) (h : IPWF ip) : (norm ip).length = 4 ∨ (norm ip).length = 16 := by
  rcases h with h | h
  · left; rw [norm, to4_len4 ip h]; exact h
  · rw [norm, to4_len16 ip h]
    by_cases hm : ip.take 12 = v4InV6Prefix
    · left; simp [hm, h]
    · right; simp [hm, h]

theorem norm_len4 (ip : List Nat) (h : ip.length = 4) : norm ip = ip := by simp [norm, to4_len4 ip h]

theorem norm_len16 (ip : List Nat) (h : ip.length = 16) :
    norm ip = if ip.take 12 = v4InV6Prefix then ip.drop 12 else ip := by
  rw [norm, to4_len16 ip h]
  by_cases hm : ip.take 12 = v4InV6Prefix <;> simp [hm]

private theorem ipEqual_4_16 (a b : List Nat) (ha : a.length = 4) (hb : b.length = 16) :
    ipEqual a b = true ↔ b.take 12 = v4InV6Prefix ∧ a = b.drop 12 := by
  simp [ipEqual, ha, hb]

private theorem ipEqual_16_4 (a b : List Nat) (ha : a.length = 16) (hb : b.length = 4) :
    ipEqual a b = true ↔ a.take 12 = v4InV6Prefix ∧ a.drop 12 = b := by
  simp [ipEqual, ha, hb]

private theorem ipEqual_same (a b : List Nat) (h : a.length = b.length) : ipEqual a b = (a == b) := by
  simp [ipEqual, h]

/-- `To4` loses nothing: a 16-byte address is its normal form, with the prefix put back if that
is 4 bytes long. -/
private theorem norm_inj16 (a b : List Nat) (ha : a.length = 16) (hb : b.length = 16)
    (h : norm a = norm b) : a = b := by
  have key : ∀ x : List Nat, x.length = 16 →
      x = if (norm x).length = 4 then v4InV6Prefix ++ norm x else norm x := by
    intro x hx
    rw [norm_len16 x hx]
    by_cases hm : x.take 12 = v4InV6Prefix
    · rw [if_pos hm, if_pos (by rw [List.length_drop, hx]), ← hm, List.take_append_drop]
    · rw [if_neg hm, if_neg (by omega)]
  rw [key a ha, key b hb, h]

private theorem eq_norm_4_16 (x y : List Nat) (hx : x.length = 4) (hy : y.length = 16) :
    y.take 12 = v4InV6Prefix ∧ x = y.drop 12 ↔ x = norm y := by
  rw [norm_len16 y hy]
  by_cases hm : y.take 12 = v4InV6Prefix
  · rw [if_pos hm, and_iff_right hm]
  · rw [if_neg hm, iff_false_left fun h => hm h.1]
    intro h; rw [h] at hx; omega

theorem ipEqual_iff (a b : List Nat) (ha : IPWF a) (hb : IPWF b) :
    ipEqual a b = true ↔ norm a = norm b := by
  rcases ha with ha | ha <;> rcases hb with hb | hb
  · rw [ipEqual_same a b (ha.trans hb.symm), norm_len4 a ha, norm_len4 b hb, beq_iff_eq]
  · rw [ipEqual_4_16 a b ha hb, norm_len4 a ha, eq_norm_4_16 a b ha hb]
  · rw [ipEqual_16_4 a b ha hb, norm_len4 b hb, eq_comm (a := a.drop 12), eq_norm_4_16 b a hb ha, eq_comm]
  · rw [ipEqual_same a b (ha.trans hb.symm), beq_iff_eq]
    exact ⟨congrArg norm, norm_inj16 a b ha hb⟩

theorem isLoopback_iff (ip : List Nat) (h : IPWF ip) :
    isLoopback ip = true ↔
      ((norm ip).length = 4 ∧ (norm ip).head? = some 127) ∨ ip = ipv6Loopback := by
  rcases h with h | h
  · have hne : ip ≠ ipv6Loopback := by intro e; rw [e] at h; simp [ipv6Loopback] at h
    simp [isLoopback, norm, to4_len4 ip h, h, hne]
  · rw [isLoopback, norm, to4_len16 ip h]
    by_cases hm : ip.take 12 = v4InV6Prefix
    · have hne : ip ≠ ipv6Loopback := by
        intro e; rw [e] at hm; revert hm; decide
      simp [hm, h, hne]
    · rw [if_neg hm, ipEqual_same ip ipv6Loopback h]
      simp [h]

/-- The 8 bits of a byte, most significant first. -/
def byteBits (b : Nat) : List Bool :=
  [decide (b / 128 % 2 = 1), decide (b / 64 % 2 = 1), decide (b / 32 % 2 = 1), decide (b / 16 % 2 = 1),
   decide (b / 8 % 2 = 1), decide (b / 4 % 2 = 1), decide (b / 2 % 2 = 1), decide (b % 2 = 1)]

def bitsOf : List Nat → List Bool
  | [] => []
  | b :: bs => byteBits b ++ bitsOf bs

def PrefixMatch (a b : List Nat) (ones : Nat) : Prop := (bitsOf a).take ones = (bitsOf b).take ones

/-- The low `w` bits of `n`, most significant first: `byteBits` for any width, by recursion. -/
def bitsW : Nat → Nat → List Bool
  | 0, _ => []
  | w + 1, n => bitsW w (n / 2) ++ [decide (n % 2 = 1)]

theorem byteBits_eq (n : Nat) : byteBits n = bitsW 8 n := by
  simp [byteBits, bitsW, Nat.div_div_eq_div_mul]

theorem bitsW_length (w n : Nat) : (bitsW w n).length = w := by
  induction w generalizing n with
  | zero => rfl
  | succ w ih => rw [bitsW, List.length_append, ih]; rfl

theorem take_bitsW (w k n : Nat) (h : k ≤ w) : (bitsW w n).take k = bitsW k (n / 2 ^ (w - k)) := by
  induction w generalizing n with
  | zero => rw [Nat.le_zero.1 h]; rfl
  | succ w ih =>
    rcases Nat.lt_or_eq_of_le h with h | rfl
    · rw [bitsW, List.take_append_of_le_length (by rw [bitsW_length]; omega), ih _ (by omega),
        Nat.div_div_eq_div_mul, ← Nat.pow_succ', Nat.succ_sub (by omega)]
    · rw [List.take_of_length_le (by rw [bitsW_length]; omega), Nat.sub_self, Nat.pow_zero, Nat.div_one]

theorem bitsW_inj (w n i : Nat) : bitsW w n = bitsW w i ↔ n % 2 ^ w = i % 2 ^ w := by
  induction w generalizing n i with
  | zero => simp [bitsW, Nat.mod_one]
  | succ w ih =>
    rw [bitsW, bitsW, List.append_singleton_inj, ih, decide_eq_decide, Nat.pow_succ', Nat.mod_mul,
      Nat.mod_mul]
    omega

theorem take_byteBits (k n i : Nat) (hk : k ≤ 8) (hn : n < 256) (hi : i < 256) :
    (byteBits n).take k = (byteBits i).take k ↔ n / 2 ^ (8 - k) = i / 2 ^ (8 - k) := by
  have lt : ∀ m < 256, m / 2 ^ (8 - k) < 2 ^ k := fun m hm =>
    Nat.div_lt_of_lt_mul (by rw [← Nat.pow_add, Nat.sub_add_cancel hk]; exact hm)
  rw [byteBits_eq, byteBits_eq, take_bitsW _ _ _ hk, take_bitsW _ _ _ hk, bitsW_inj,
    Nat.mod_eq_of_lt (lt n hn), Nat.mod_eq_of_lt (lt i hi)]

theorem take_bitsOf_cons (b : Nat) (bs : List Nat) (k : Nat) :
    (bitsOf (b :: bs)).take k = (byteBits b).take (min k 8) ++ (bitsOf bs).take (k - 8) := by
  rw [bitsOf, List.take_append, List.take_eq_take_min]
  rfl

/-- The mask byte with `k` leading ones clears the low `8 - k` bits of a byte: 9 masks × 256 bytes,
evaluated as one Boolean (the bounded-quantifier instances are far slower in the kernel). -/
private theorem andMask (k n : Nat) (hk : k ≤ 8) (hn : n < 256) :
    n &&& (255 - 255 / 2 ^ k) = n / 2 ^ (8 - k) * 2 ^ (8 - k) := by
  have : ((List.range 9).all fun k => (List.range 256).all fun n =>
      Nat.beq (n &&& (255 - 255 / 2 ^ k)) (n / 2 ^ (8 - k) * 2 ^ (8 - k))) = true := by decide +kernel
  simp only [List.all_eq_true, List.mem_range] at this
  exact Nat.eq_of_beq_eq_true (this k (Nat.lt_succ_of_le hk) n hn)

/-- Both branches of `CIDRMask`'s loop: the byte keeps `min n 8` bits, and `n - 8` are left. -/
theorem maskBytes_succ (l n : Nat) :
    maskBytes (l + 1) n = (255 - 255 / 2 ^ min n 8) :: maskBytes l (n - 8) := by
  rw [maskBytes]
  split
  · rw [Nat.min_eq_right ‹_›]
  · rw [Nat.min_eq_left (by omega), show n - 8 = 0 by omega]

theorem maskBytes_length (l n : Nat) : (maskBytes l n).length = l := by
  induction l generalizing n with
  | zero => rfl
  | succ l ih => rw [maskBytes_succ, List.length_cons, ih]

/-- The loop of `IPNet.Contains`: `nn[i] & m[i] == ip[i] & m[i]` for all `i`, with `m = CIDRMask(ones, 8·len)`. -/
theorem maskedEq_iff (nn ip : List Nat) (ones : Nat) (hl : nn.length = ip.length)
    (hn : BytesWF nn) (hi : BytesWF ip) :
    maskedEq nn (maskBytes nn.length ones) ip = true ↔ PrefixMatch nn ip ones := by
  unfold PrefixMatch
  induction nn generalizing ip ones with
  | nil => cases ip with
    | nil => simp [maskedEq, bitsOf]
    | cons _ _ => simp at hl
  | cons n ns ih => cases ip with
    | nil => simp at hl
    | cons i is =>
      have hk : min ones 8 ≤ 8 := Nat.min_le_right _ _
      have hnb : n < 256 := hn n List.mem_cons_self
      have hib : i < 256 := hi i List.mem_cons_self
      rw [List.length_cons, maskBytes_succ, maskedEq, Bool.and_eq_true, beq_iff_eq,
        andMask _ n hk hnb, andMask _ i hk hib, Nat.mul_left_inj (Nat.pos_iff_ne_zero.1 (Nat.two_pow_pos _)),
        ← take_byteBits _ n i hk hnb hib,
        ih is (ones - 8) (Nat.succ.inj hl) (fun b hb => hn b (List.mem_cons_of_mem _ hb))
          (fun b hb => hi b (List.mem_cons_of_mem _ hb)),
        take_bitsOf_cons, take_bitsOf_cons]
      constructor
      · rintro ⟨h1, h2⟩; rw [h1, h2]
      · intro h; exact List.append_inj h (by rw [List.length_take, List.length_take]; rfl)

theorem norm_bytes (ip : List Nat) (h : BytesWF ip) : BytesWF (norm ip) := by
  unfold norm to4
  split
  · rename_i x hx
    split at hx
    · cases hx; exact h
    · split at hx
      · cases hx; exact fun b hb => h b (List.mem_of_mem_drop hb)
      · cases hx
  · exact h

/-- `Contains`, once `networkNumberAndMask` has produced the network number `nn` and a CIDR mask of
its length: `ip` has the family of `nn` and shares its first `ones'` bits. -/
theorem contains_iff (nip ip nn : List Nat) (ones bits ones' : Nat)
    (hnm : networkNumberAndMask nip (maskBytes (bits / 8) ones) = (nn, maskBytes nn.length ones'))
    (hnb : BytesWF nn) (hib : BytesWF ip) :
    contains nip ones bits ip = true ↔
      (norm ip).length = nn.length ∧ PrefixMatch nn (norm ip) ones' := by
  have : contains nip ones bits ip =
      if (norm ip).length ≠ nn.length then false else maskedEq nn (maskBytes nn.length ones') (norm ip) := by
    unfold contains norm
    rw [hnm]
    rfl
  rw [this]
  by_cases hl : (norm ip).length = nn.length
  · rw [if_neg (fun h => h hl), maskedEq_iff nn _ ones' hl.symm hnb (norm_bytes ip hib), and_iff_right hl]
  · simp [hl]

theorem contains_v4 (nip ip : List Nat) (ones : Nat) (hn : nip.length = 4)
    (hnb : BytesWF nip) (hib : BytesWF ip) :
    contains nip ones 32 ip = true ↔ (norm ip).length = 4 ∧ PrefixMatch nip (norm ip) ones := by
  have := contains_iff nip ip nip ones 32 ones
    (by simp [networkNumberAndMask, to4_len4 nip hn, maskBytes_length, hn]) hnb hib
  rwa [hn] at this

theorem contains_v6 (nip ip : List Nat) (ones : Nat) (hn : nip.length = 16)
    (hm : nip.take 12 ≠ v4InV6Prefix) (hnb : BytesWF nip) (hib : BytesWF ip) :
    contains nip ones 128 ip = true ↔ (norm ip).length = 16 ∧ PrefixMatch nip (norm ip) ones := by
  have := contains_iff nip ip nip ones 128 ones
    (by simp [networkNumberAndMask, to4_len16 nip hn, hm, maskBytes_length, hn]) hnb hib
  rwa [hn] at this

theorem maskBytes_drop (a b n : Nat) : (maskBytes (a + b) n).drop a = maskBytes b (n - 8 * a) := by
  induction a generalizing n with
  | zero => simp
  | succ a ih =>
    rw [Nat.add_right_comm, maskBytes_succ, List.drop_succ_cons, ih]
    rw [Nat.sub_sub, Nat.mul_succ, Nat.add_comm]

/-- An IPv4-mapped IPv6 network `::ffff:a.b.c.d/ones`: it is the IPv4 network `a.b.c.d/(ones-96)`. -/
theorem contains_v4mapped (nip ip : List Nat) (ones : Nat) (hn : nip.length = 16)
    (hm : nip.take 12 = v4InV6Prefix) (hnb : BytesWF nip) (hib : BytesWF ip) :
    contains nip ones 128 ip = true ↔
      (norm ip).length = 4 ∧ PrefixMatch (nip.drop 12) (norm ip) (ones - 96) := by
  have hd : (nip.drop 12).length = 4 := by rw [List.length_drop, hn]
  have := contains_iff nip ip (nip.drop 12) ones 128 (ones - 96)
    (by simp [networkNumberAndMask, to4_len16 nip hn, hm, maskBytes_length, hn, maskBytes_drop 12 4 ones])
    (fun b hb => hnb b (List.mem_of_mem_drop hb)) hib
  rwa [hd] at this

end NetVerif.Proofs.Lemmas.NetIP
