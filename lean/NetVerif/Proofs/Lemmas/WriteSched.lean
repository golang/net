import NetVerif.Model.WriteSched
/-!
# Write schedulers: the tokens of a frame, and what `Frame.consume`, `WQ` and `splitFirst` do

`toks` reads a frame as the tokens it carries, so that a split DATA frame carries what its two pieces carry
(`consume_split_toks`); the ledger of `WriteSchedSpec` is kept in these tokens.
-/
namespace NetVerif.Proofs.WriteSchedLemmas
open NetVerif.Model.WriteSched

/-- What a frame carries (`toks`).  A DATA frame carries the bytes `(tag, off) … (tag, off+len-1)`
of the pushed payload `tag`, plus an end marker (with the END_STREAM flag) iff it is the piece that
keeps the `done` channel; a HEADERS-like frame carries one token. -/
inductive Tok where
  | byte (tag off : Nat)
  | fin (tag : Nat) (endStream : Bool)
  | hdr (tag : Nat)
  deriving DecidableEq, Repr

def bytesFrom (tag : Nat) : Nat → Nat → List Tok
  | _, 0 => []
  | off, n + 1 => .byte tag off :: bytesFrom tag (off + 1) n

def toks : Frame → List Tok
  | .data _ tag off len fin last => bytesFrom tag off len ++ (if last then [.fin tag fin] else [])
  | .hdr _ tag => [.hdr tag]
  | _ => []

def flatToks (l : List Frame) : List Tok := l.flatMap toks

theorem bytesFrom_add (tag off a b : Nat) :
    bytesFrom tag off (a + b) = bytesFrom tag off a ++ bytesFrom tag (off + a) b := by
  induction a generalizing off with
  | zero => simp [bytesFrom]
  | succ a ih =>
    have : a + 1 + b = (a + b) + 1 := by omega
    rw [this]
    simp only [bytesFrom, List.cons_append]
    rw [ih (off + 1)]
    have : off + 1 + a = off + (a + 1) := by omega
    rw [this]

@[simp] theorem flatToks_nil : flatToks [] = [] := rfl
@[simp] theorem flatToks_cons (f : Frame) (l : List Frame) : flatToks (f :: l) = toks f ++ flatToks l := by
  simp [flatToks]
@[simp] theorem flatToks_append (l₁ l₂ : List Frame) : flatToks (l₁ ++ l₂) = flatToks l₁ ++ flatToks l₂ := by
  simp [flatToks]

theorem consume_cases (e : Env) (n : Int) (f : Frame) :
    (f.consume e n = (e, .whole f) ∧ f.dataSize = 0) ∨
    (∃ sid tag off len fin last, f = .data sid tag off len fin last ∧ 0 < len ∧
      ((e.allowed sid n ≤ 0 ∧ f.consume e n = (e, .none)) ∨
       (0 < e.allowed sid n ∧ (len : Int) ≤ e.allowed sid n ∧ f.consume e n = (e.take sid len, .whole f)) ∨
       (∃ a : Nat, (a : Int) = e.allowed sid n ∧ 0 < a ∧ a < len ∧
          f.consume e n = (e.take sid a, .split (.data sid tag off a false false)
                                                 (.data sid tag (off + a) (len - a) fin last))))) := by
  cases f with
  | data sid tag off len fin last =>
    by_cases hl : len = 0
    · left; subst hl; simp [Frame.consume, Frame.dataSize]
    · right
      refine ⟨sid, tag, off, len, fin, last, rfl, by omega, ?_⟩
      by_cases h0 : e.allowed sid n ≤ 0
      · left; simp [Frame.consume, hl, h0]
      · by_cases h1 : (len : Int) > e.allowed sid n
        · right; right
          refine ⟨(e.allowed sid n).toNat, by omega, by omega, by omega, ?_⟩
          have : ((e.allowed sid n).toNat : Int) = e.allowed sid n := by omega
          simp [Frame.consume, hl, h0, h1, this]
        · right; left
          refine ⟨by omega, by omega, ?_⟩
          simp [Frame.consume, hl, h0, h1]
  | hdr sid tag => left; simp [Frame.consume, Frame.dataSize]
  | ctl tag => left; simp [Frame.consume, Frame.dataSize]
  | rst sid tag => left; simp [Frame.consume, Frame.dataSize]
  | empty => left; simp [Frame.consume, Frame.dataSize]

theorem consume_whole_eq {e e' : Env} {n : Int} {f g : Frame} (h : f.consume e n = (e', .whole g)) : g = f := by
  -- of the alternatives of `consume_cases`, read at the given result, only those with that result stand
  have hc := consume_cases e n f
  rw [h] at hc
  rcases hc with ⟨⟨⟩, _⟩ | ⟨sid, tag, off, len, fin, last, rfl, _, ⟨_, ⟨⟩⟩ | ⟨_, _, ⟨⟩⟩ | ⟨a, _, _, _, ⟨⟩⟩⟩ <;> rfl

theorem consume_split_toks {e e' : Env} {n : Int} {f c r : Frame} (h : f.consume e n = (e', .split c r)) :
    toks c ++ toks r = toks f ∧ c.streamID = f.streamID ∧ r.streamID = f.streamID ∧
    c.isControl = false ∧ r.isControl = false ∧
    (∃ sid tag off len, c = .data sid tag off len false false ∧ 0 < len) := by
  have hc := consume_cases e n f
  rw [h] at hc
  obtain ⟨⟨⟩, _⟩ | ⟨sid, tag, off, len, fin, last, rfl, _, ⟨_, ⟨⟩⟩ | ⟨_, _, ⟨⟩⟩ | ⟨a, _, ha0, hal, ⟨⟩⟩⟩ := hc
  refine ⟨?_, rfl, rfl, rfl, rfl, ⟨sid, tag, off, a, rfl, ha0⟩⟩
  have : len = a + (len - a) := by omega
  simp only [toks]
  conv => rhs; rw [this, bytesFrom_add]
  simp

theorem consume_none {e e' : Env} {n : Int} {f : Frame} (h : f.consume e n = (e', .none)) :
    e' = e ∧ ∃ sid tag off len fin last, f = .data sid tag off len fin last ∧ 0 < len ∧ e.allowed sid n ≤ 0 := by
  have hc := consume_cases e n f
  rw [h] at hc
  obtain ⟨⟨⟩, _⟩ | ⟨sid, tag, off, len, fin, last, rfl, hl, ⟨h0, ⟨⟩⟩ | ⟨_, _, ⟨⟩⟩ | ⟨a, _, _, _, ⟨⟩⟩⟩ := hc
  exact ⟨rfl, sid, tag, off, len, fin, last, rfl, hl, h0⟩

/-- With a positive limit, failure does not depend on the limit (RFC 7540 write throttling). -/
theorem allowed_nonpos_iff (e : Env) (sid : Nat) (n : Int) (hn : 0 < n) :
    e.allowed sid n ≤ 0 ↔ e.allowed sid maxInt32 ≤ 0 := by
  unfold Env.allowed maxInt32
  omega

theorem push_toList (q : WQ) (f : Frame) : (q.push f).toList = q.toList ++ [f] := by
  simp [WQ.push, WQ.toList]

theorem empty_toList : ({} : WQ).toList = [] := rfl

theorem isEmpty_iff (q : WQ) : q.isEmpty = true ↔ q.toList = [] := by
  cases q with
  | mk c n => cases c <;> cases n <;> simp [WQ.isEmpty, WQ.toList]

theorem peek_eq (q : WQ) : q.peek = q.toList.head? := by
  cases q with
  | mk c n => cases c <;> simp [WQ.peek, WQ.toList]

theorem shift_spec (q : WQ) : match q.shift with
    | none => q.toList = []
    | some (f, q') => q.toList = f :: q'.toList := by
  cases q with
  | mk c n => cases c <;> cases n <;> simp [WQ.shift, WQ.toList]

theorem shift_some {q q' : WQ} {f : Frame} (h : q.shift = some (f, q')) : q.toList = f :: q'.toList := by
  have := shift_spec q; rwa [h] at this

theorem shift_none {q : WQ} (h : q.shift = none) : q.toList = [] := by
  have := shift_spec q; rwa [h] at this

theorem shift_cons {q : WQ} {f : Frame} {rest : List Frame} (h : q.toList = f :: rest) :
    ∃ q', q.shift = some (f, q') ∧ q'.toList = rest := by
  have := shift_spec q
  cases hs : q.shift with
  | none => rw [hs, h] at this; cases this
  | some p => rw [hs, h] at this; cases this; exact ⟨_, rfl, rfl⟩

theorem setHead_cons {q : WQ} {f : Frame} {rest : List Frame} (h : q.toList = f :: rest) (g : Frame) :
    (q.setHead g).toList = g :: rest := by
  cases q with
  | mk c n => cases c <;> cases n <;> simp_all [WQ.setHead, WQ.toList]

theorem wq_consume_nil {q : WQ} (e : Env) (n : Int) (h : q.toList = []) : q.consume e n = (e, q, none) := by
  simp [WQ.consume, peek_eq, h]

theorem wq_consume_cons {q : WQ} {f : Frame} {rest : List Frame} (e : Env) (n : Int) (h : q.toList = f :: rest) :
    (∃ e', f.consume e n = (e', .none) ∧ q.consume e n = (e, q, none)) ∨
    (∃ e' q', f.consume e n = (e', .whole f) ∧ q.consume e n = (e', q', some f) ∧ q'.toList = rest) ∨
    (∃ e' c r, f.consume e n = (e', .split c r) ∧ q.consume e n = (e', q.setHead r, some c) ∧
      (q.setHead r).toList = r :: rest) := by
  have hp : q.peek = some f := by rw [peek_eq, h]; rfl
  rcases hc : f.consume e n with ⟨e', cr⟩
  cases cr with
  | none => left; exact ⟨e', rfl, by simp [WQ.consume, hp, hc]⟩
  | whole g =>
    right; left
    have hg := consume_whole_eq hc
    subst hg
    obtain ⟨q', hs, hq'⟩ := shift_cons h
    exact ⟨e', q', rfl, by simp [WQ.consume, hp, hc, hs], hq'⟩
  | split c r =>
    right; right
    exact ⟨e', c, r, rfl, by simp [WQ.consume, hp, hc], setHead_cons h r⟩

theorem sendable_false_iff {q : WQ} (e : Env) :
    sendable e q = false ↔ (q.toList = [] ∨ ∃ f rest e', q.toList = f :: rest ∧ f.consume e maxInt32 = (e', .none)) := by
  unfold sendable
  cases hl : q.toList with
  | nil => simp [wq_consume_nil e maxInt32 hl]
  | cons f rest =>
    rcases wq_consume_cons e maxInt32 hl with ⟨e', h1, h2⟩ | ⟨e', q', h1, h2, _⟩ | ⟨e', c, r, h1, h2, _⟩
    · simp [h2]; exact ⟨e', h1⟩
    · simp [h2, h1]
    · simp [h2, h1]

theorem sendable_false_of_nil {q : WQ} (e : Env) (h : q.toList = []) : sendable e q = false :=
  (sendable_false_iff e).2 (Or.inl h)

theorem splitFirst_spec (p : Nat → Bool) (l : List Nat) : match splitFirst p l with
    | none => ∀ y ∈ l, p y = false
    | some (pre, x, post) => l = pre ++ x :: post ∧ p x = true ∧ ∀ y ∈ pre, p y = false := by
  induction l with
  | nil => simp [splitFirst]
  | cons a l ih =>
    unfold splitFirst
    by_cases hp : p a = true
    · simp [hp]
    · simp only [hp, Bool.false_eq_true, if_false]
      split at ih <;> simp_all

theorem splitFirst_some {p : Nat → Bool} {l pre post : List Nat} {x : Nat}
    (h : splitFirst p l = some (pre, x, post)) :
    l = pre ++ x :: post ∧ p x = true ∧ ∀ y ∈ pre, p y = false := by
  have := splitFirst_spec p l; rwa [h] at this

theorem splitFirst_none {p : Nat → Bool} {l : List Nat} (h : splitFirst p l = none) : ∀ y ∈ l, p y = false := by
  have := splitFirst_spec p l; rwa [h] at this

/-- Serving `id` moves it to the tail of its ring (round robin, incremental classes) or to the head
(non-incremental classes); either way the ring keeps its members. -/
theorem rotate_tail_perm (pre post : List Nat) (id : Nat) : (post ++ pre ++ [id]).Perm (pre ++ id :: post) := by
  rw [List.append_assoc]
  exact List.perm_append_comm.trans (by simp)

theorem rotate_head_perm (pre post : List Nat) (id : Nat) : (id :: (post ++ pre)).Perm (pre ++ id :: post) :=
  (List.perm_middle.trans (List.Perm.cons _ List.perm_append_comm)).symm

theorem upd_same {α : Type} (f : Nat → α) (k : Nat) (v : α) : upd f k v k = v := by simp [upd]
theorem upd_other {α : Type} (f : Nat → α) {k x : Nat} (v : α) (h : x ≠ k) : upd f k v x = f x := by simp [upd, h]

theorem upd_eq_self {α : Type} (f : Nat → α) {k : Nat} {v : α} (h : f k = v) : upd f k v = f :=
  funext fun x => by
    simp only [upd]; split
    · rename_i hx; rw [hx, h]
    · rfl

end NetVerif.Proofs.WriteSchedLemmas
