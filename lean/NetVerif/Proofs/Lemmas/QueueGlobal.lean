import NetVerif.Proofs.Lemmas.QueueInv
/-!
Global invariant of the quic queue (C29) for every reachable configuration.  `QInv`: the gate's
token conservation, FIFO, and the token sitting in `set` exactly when the queue is closed or
non-empty while nobody holds the gate.  `QInvK` adds what each goroutine knows about `err`/`q`.
A step that changes the shared fields is made by the holder, and what the invariant asks of a
goroutine that does not hold the gate does not mention them (`qwf_frame`, `qk_frame`).
-/
namespace NetVerif.Proofs.QueueInv
open NetVerif.Model.ChanSem NetVerif.Proofs.GateInv

def qholders (gs : List QG) : Nat := holders (gs.map (·.g))

structure QInv (c : QConfig) : Prop where
  swf : SWf c.σ
  wf : ∀ qg ∈ c.gs, QWf c.sh qg
  tok : tokens c.σ + qholders c.gs = 1
  fifo : c.sh.accepted = c.sh.delivered ++ c.sh.q
  cond : qholders c.gs = 0 → ((c.σ .set).len = 1 ↔ condVal c.sh = true)

structure QInvK (c : QConfig) : Prop where
  inv : QInv c
  know : ∀ qg ∈ c.gs, QK c.sh qg

/-- Only a goroutine inside `unlock` has the shared fields in its `QWf`, and it holds the gate. -/
theorem qwf_frame {sh sh' : QShared} {x : QG} (h : QWf sh x) (hh : x.g.holding = false) : QWf sh' x := by
  obtain ⟨hg, hi, hr⟩ := h
  exact ⟨hg, hi, fun hne => (hr hne).imp id (Or.imp id fun ⟨hm, _⟩ =>
    nomatch hh.symm.trans ((wf_running hg hne).1 hm).1)⟩

/-- Only an owner between gate calls knows anything about the shared fields. -/
theorem qk_frame {sh sh' : QShared} {x : QG} (hw : GG.wf x.g) (h : QK sh x) (hh : x.g.holding = false) :
    QK sh' x where
  own hc ho := by rw [wf_idle hw hc, hh] at ho; cases ho
  stat := h.stat
  lock := h.lock
  wait := h.wait
  nopanic := h.nopanic

theorem forall_set {α : Type} {l : List α} {i : Nat} {a a' : α} (hi : l[i]? = some a) {P : α → Prop}
    (hnew : P a') (hold : ∀ (j : Nat) (x : α), l[j]? = some x → j ≠ i → P x) : ∀ x ∈ l.set i a', P x := by
  intro x hx
  obtain ⟨j, hx⟩ := List.mem_iff_getElem?.mp hx
  by_cases hji : j = i
  · subst hji
    rw [List.getElem?_set_self (List.getElem?_eq_some_iff.mp hi).1] at hx
    cases hx
    exact hnew
  · rw [List.getElem?_set_ne (Ne.symm hji)] at hx
    exact hold j x hx hji

theorem qstep_at {c c' : QConfig} {i : Nat} {a : QAct} (hI : QInvK c)
    (h : c.step queue gate i a = some c') :
    ∃ qg σ' sh' qg', c.gs[i]? = some qg ∧ c' = { σ := σ', sh := sh', gs := c.gs.set i qg' } ∧
      QStep c.σ c.sh qg σ' sh' qg' := by
  have hJ := hI.inv
  have htok := hJ.tok
  simp only [qholders, tokens] at htok
  simp only [QConfig.step] at h
  split at h
  · cases h
  · rename_i qg hg
    split at h
    · cases h
    · rename_i σ' sh' qg' hs
      cases h
      exact ⟨qg, σ', sh', qg', hg, rfl,
        qstep_both hJ.swf (hJ.wf qg (List.mem_of_getElem? hg)) (hI.know qg (List.mem_of_getElem? hg))
          (fun _ hl => (hJ.cond (by simp only [qholders]; omega)).mp (by omega)) hs⟩

/-- C29, the queue refines a sequential FIFO: with the abstraction `sh ↦ (sh.err, sh.q)` every step is a
stutter or one operation of the FIFO, and `accepted` / `delivered` record its puts and gets. -/
theorem qinvk_step {c c' : QConfig} {i : Nat} {a : QAct} (hI : QInvK c)
    (h : c.step queue gate i a = some c') :
    QInvK c' ∧ (c.sh.err = true → c'.sh = c.sh) ∧ StepKind c.sh c'.sh := by
  obtain ⟨qg, σ', sh', qg', hg, rfl, S⟩ := qstep_at hI h
  have F := S.facts
  have hJ := hI.inv
  have hgm : (c.gs.map (·.g))[i]? = some qg.g := by simp [hg]
  have htok := hJ.tok
  simp only [qholders, tokens] at htok
  -- a step that changes the shared fields is made by the holder, so no other goroutine holds
  have hothers : sh' ≠ c.sh → ∀ j x, c.gs[j]? = some x → j ≠ i → x.g.holding = false :=
    fun hsh j x hx hji => Bool.eq_false_iff.mpr fun hxh =>
      hji (holders_unique (by omega) (g1 := x.g) (by simp [hx]) hgm hxh (F.excl hsh).1)
  have hsame : qg.g.holding = false → sh' = c.sh := fun hh =>
    Decidable.byContradiction fun hsh => by rw [(F.excl hsh).1] at hh; cases hh
  have key := tok_cond_step (g' := qg'.g) (cond' := condVal sh') hgm hJ.tok hJ.cond F.cons
    (fun hh hh' => ⟨F.frame (hh'.trans hh.symm), by rw [hsame hh]⟩)
    (fun hh hh' => by obtain ⟨hsh, hs1, _⟩ := F.release hh hh'; rw [hs1, hsh])
  rw [← List.map_set] at key
  have hall : ∀ x ∈ c.gs.set i qg', QWf sh' x ∧ QK sh' x :=
    forall_set hg ⟨F.wf, S.know⟩ fun j x hx hji => by
      have hxw := hJ.wf x (List.mem_of_getElem? hx)
      have hxk := hI.know x (List.mem_of_getElem? hx)
      by_cases hsh : sh' = c.sh
      · rw [hsh]; exact ⟨hxw, hxk⟩
      · have hxh := hothers hsh j x hx hji
        exact ⟨qwf_frame hxw hxh, qk_frame hxw.1 hxk hxh⟩
  exact ⟨⟨⟨F.swf, fun x hx => (hall x hx).1, key.1, F.fifo hJ.fifo, key.2⟩, fun x hx => (hall x hx).2⟩,
    S.frozen, S.kind⟩

theorem qinvk_init (n : Nat) : QInvK (QConfig.init gate n) := by
  have hh : qholders (List.replicate n ({} : QG)) = 0 := by
    rw [qholders, List.map_replicate]; exact holders_replicate n
  have hmem : ∀ qg ∈ (QConfig.init gate n).gs, qg = {} := fun qg hqg => (List.mem_replicate.mp hqg).2
  refine ⟨⟨?_, fun qg hqg => ?_, ?_, rfl, ?_⟩, fun qg hqg => ?_⟩
  · simp [SWf, QConfig.init, gateStore, gate]
  · rw [hmem qg hqg]
    exact ⟨Or.inl ⟨rfl, rfl⟩, fun _ => Or.inl ⟨rfl, rfl, rfl⟩, fun h => absurd rfl h⟩
  · simp only [QConfig.init, hh]; simp [tokens, gateStore]
  · intro _; simp [QConfig.init, gateStore, condVal]
  · rw [hmem qg hqg]
    exact ⟨nofun, trivial, fun h => absurd rfl h, fun h => absurd rfl h, rfl⟩

theorem queue_invariant_know {c : QConfig} (h : QReachable queue gate c) : QInvK c := by
  induction h with
  | init n => exact qinvk_init n
  | step _ hs ih => exact (qinvk_step ih hs).1

theorem queue_invariant {c : QConfig} (h : QReachable queue gate c) : QInv c :=
  (queue_invariant_know h).inv

end NetVerif.Proofs.QueueInv
