import NetVerif.Model.Bpf
import NetVerif.Proofs.Lemmas.Bpf
import NetVerif.Proofs.Lemmas.IfCases
/-!
bpf `Assemble` / `Disassemble` are inverse on the canonical forms (lemmas for C48): one fact per direction,
both stated with the opcode table `Asm`. `Asm.disasm`: the decoder returns the typed side of every canonical
row. `Decoded r (disasmCore r)`: what the decoder returns reassembles to `r` when `r` spells it canonically
(`canonRawFor`; `{Op: 0x0100, K: 7}` decodes to `LoadConstant{A, 7}`, which assembles to `{Op: 0, K: 7}`);
proved class by class, with the opcode written as the sum of the fields the decoder reads, so that `r` is
compared with the row by linear arithmetic.
-/
namespace NetVerif.Proofs.Lemmas.BpfRoundTrip
open NetVerif NetVerif.Model.Bpf NetVerif.Proofs.Lemmas.Bpf

theorem _root_.NetVerif.Proofs.Lemmas.Bpf.Asm.disasm {i : Instr} {r : Raw} (h : Asm i r) (hnr : isRaw i = false) (hc : canonTyped i = true) :
    disasmCore r = i ∧ canonRawFor r i = true := by
  cases h with
  | raw => cases hnr
  | ldImm hd | ldMem hd hm | st hd hm =>
    rcases hd with rfl | rfl <;> simp [disasmCore, disasmLoad, disasmStore, canonRawFor] <;> omega
  | ldAbs hw k | ldInd hw k =>
    cases hw <;> simp [disasmCore, disasmLoad, canonRawFor] <;> simpa [canonTyped] using hc
  | @ldExt n hn h1 =>
    have h2 : 4294963199 < 4294963200 + n := by omega
    simp [disasmCore, disasmLoad, canonRawFor, h2]
    omega
  | aluK op k | aluX op =>
    rcases (isALUBinary_iff op).1 hc with rfl | rfl | rfl | rfl | rfl | rfl | rfl | rfl | rfl | rfl <;>
      simp [disasmCore, disasmALU, isALUBinary, canonRawFor]
  | jK h | jX h =>
    cases h
    all_goals simp [canonTyped, canonJump] at hc
    all_goals simp [disasmCore, disasmJump, jumpOpToTest, canonRawFor, hc]
  | _ => simp [disasmCore, disasmLoad, disasmALU, disasmJump, disasmRet, disasmMisc, isALUBinary, canonRawFor]

theorem asm_canon (i : Instr) (r : Raw) (hnr : isRaw i = false) (hc : canonTyped i = true)
    (h : asm i = some r) : disasmCore r = i ∧ canonRawFor r i = true :=
  (asm_iff.1 h).disasm hnr hc

theorem canonRaw_asm (i : Instr) (r : Raw) (hnr : isRaw i = false) (hc : canonTyped i = true)
    (h : asm i = some r) : canonRaw r = true := by
  obtain ⟨h1, h2⟩ := asm_canon i r hnr hc h
  rw [canonRaw, h1, h2]

/-- What the decoder owes for an output `i` on the raw instruction `r`: `i` is a canonical typed value
(a pass-through is `r` itself); when `r` has the Go field types, so has `i`, and `i` reassembles to `r`
whenever `r` spells `i` canonically. -/
structure Decoded (r : Raw) (i : Instr) : Prop where
  canon : match i with | .raw r' => r' = r | _ => canonTyped i = true
  wf : r.WF → i.WF
  asm_eq : r.WF → canonRawFor r i = true → asm i = some r

namespace Decoded

theorem raw {r : Raw} : Decoded r (.raw r) := ⟨rfl, id, fun _ _ => rfl⟩

/-- The leaf of every `decoded_*` case that is not a pass-through: name the row of the table. -/
theorem of_row {r r₀ : Raw} {i : Instr} (hc : canonTyped i = true) (hnr : isRaw i = false)
    (hi : r.WF → i.WF) (hrow : Asm i r₀) (heq : canonRawFor r i = true → r₀ = r) : Decoded r i :=
  ⟨by cases i <;> (first | exact hc | cases hnr), hi, fun _ h => heq h ▸ asm_iff.2 hrow⟩

end Decoded

theorem loadFields (op : Nat) (hcls : op % 8 ≤ 1) : ∃ a w m hi, (a = 0 ∨ a = 1) ∧ op = a + w + m + 256 * hi ∧
    op &&& opMaskLoadDest = a ∧ op &&& opMaskLoadWidth = w ∧ op &&& opMaskLoadMode = m :=
  ⟨op % 2, op / 8 % 4 * 8, op / 32 % 8 * 32, op / 256, by omega, by omega,
    and_maskLoadDest op, and_maskLoadWidth op, and_maskLoadMode op⟩

theorem operatorFields (op c : Nat) (hc : op % 8 = c) : ∃ x q hi, (x = 0 ∨ x = 8) ∧ q % 16 = 0 ∧ q < 256 ∧
    op = c + x + q + 256 * hi ∧ op &&& opMaskOperand = x ∧ op &&& opMaskOperator = q :=
  ⟨op / 8 % 2 * 8, op / 16 % 16 * 16, op / 256, by omega, by omega, by omega, by omega, and_maskOperand op,
    and_maskOperator op⟩

theorem or_operand (c x : Nat) (hc : c < 8) : c ||| (x / 8 % 2 * 8) = c + x / 8 % 2 * 8 :=
  or_eq_add_of_disjoint c _ 3 (by simpa using hc) (by simp)

theorem width_of {w : Nat} (hw : w = 0 ∨ w = 8 ∨ w = 16) :
    Width (if w = 0 then 4 else if w = 8 then 2 else 1) w := by
  rcases hw with rfl | rfl | rfl <;> constructor

/-- `K` in the extension window of an absolute load: `LoadExtension{Num: K - extOffset}`. Only here does
reassembly need the field type of `K`: beyond 32 bits the extension number no longer determines it. -/
theorem decoded_ext (r : Raw) (hk : extThreshold < r.k) :
    Decoded r (.loadExtension ((4096 + r.k) % 4294967296 : Nat)) := by
  obtain ⟨op, jt, jf, k⟩ := r
  have hk : 0xffffefff < k := hk
  refine ⟨rfl, fun _ => by simp only [Instr.WF, int64WF]; omega, fun hr hc => ?_⟩
  have hk' : k < 4294967296 := hr.2.2.2
  obtain ⟨n, hn, rfl⟩ : ∃ n, n < 4096 ∧ k = 0xfffff000 + n := ⟨k - 0xfffff000, by omega, by omega⟩
  rw [show (4096 + (0xfffff000 + n)) % 4294967296 = n by omega]
  simp [canonRawFor] at hc
  obtain ⟨⟨rfl, h1⟩, rfl, rfl⟩ := hc
  exact asm_iff.2 (.ldExt hn (by omega))

theorem decoded_load (r : Raw) (hcls : r.op % 8 ≤ 1) : Decoded r (disasmLoad r) := by
  obtain ⟨op, jt, jf, k⟩ := r
  obtain ⟨a, w, m, hi, ha, hop, h1, h2, h3⟩ := loadFields op hcls
  simp only [disasmLoad, h1, h2, h3, opLoadWidth4, opLoadWidth2, opLoadWidth1, opAddrModeImmediate, opAddrModeScratch,
    opAddrModeAbsolute, opAddrModeIndirect, opAddrModePacketLen, opAddrModeMemShift]
  clear hcls h2 h3
  refine ite_ind _ (fun hw => ?_) fun _ => .raw
  have hW := width_of hw
  generalize (if w = 0 then (4 : Int) else if w = 8 then 2 else 1) = sz at hW
  have h4 : ¬ sz ≠ 4 → w = 0 := fun h => by cases hW <;> simp_all
  have hsz : int64WF sz := by cases hW <;> decide
  -- mode by mode: the row of the table, and a canonical spelling of the output is that row because
  -- the opcode is the sum of the fields read
  refine ite_ind _ (fun h0 => ite_ind _ (fun _ => .raw) fun hs => ?_) fun _ => ?_
  · exact .of_row rfl rfl (fun hr => ⟨by omega, hr.2.2.2⟩) (.ldImm ha k) fun hc => by
      simp [canonRawFor] at hc ⊢; have := h4 hs; omega
  refine ite_ind _ (fun h0 => ite_ind _ (fun _ => .raw) fun hs => ?_) fun _ => ?_
  · have hk : k < 16 := by omega
    exact .of_row rfl rfl (fun _ => ⟨by omega, by simp only [int64WF]; omega⟩) (.ldMem ha hk) fun hc => by
      simp [canonRawFor] at hc ⊢; have := h4 (fun h => hs (.inl h)); omega
  refine ite_ind _ (fun h0 => ite_ind _ (decoded_ext ⟨op, jt, jf, k⟩) fun hk => ?_) fun _ => ?_
  · exact .of_row (by simpa [canonTyped] using hk) rfl (fun hr => ⟨hr.2.2.2, hsz⟩) (.ldAbs hW k) fun hc => by
      simp [canonRawFor, h1] at hc ⊢; omega
  refine ite_ind _ (fun h0 => ?_) fun _ => ?_
  · exact .of_row rfl rfl (fun hr => ⟨hr.2.2.2, hsz⟩) (.ldInd hW k) fun hc => by
      simp [canonRawFor, h1] at hc ⊢; omega
  refine ite_ind _ (fun h0 => ite_ind _ (fun _ => .raw) fun hs => ?_) fun _ => ?_
  · exact .of_row rfl rfl (fun _ => by decide) .ldLen fun hc => by
      simp [canonRawFor] at hc ⊢; have := h4 hs; omega
  refine ite_ind _ (fun h0 => ?_) fun _ => .raw
  · exact .of_row rfl rfl (fun hr => hr.2.2.2) (.ldMsh k) fun hc => by
      simp [canonRawFor] at hc ⊢; omega

theorem decoded_store (r : Raw) (cls reg : Nat) (h01 : (cls = 2 ∧ reg = 0) ∨ (cls = 3 ∧ reg = 1)) :
    Decoded r (disasmStore r cls reg) := by
  obtain ⟨op, jt, jf, k⟩ := r
  refine ite_ind _ (fun _ => .raw) fun (h : ¬ (op ≠ cls ∨ k > 15)) => ?_
  have hk : k < 16 := by omega
  exact .of_row rfl rfl (fun _ => ⟨by omega, by simp only [int64WF]; omega⟩) (.st (by omega) hk) fun hc => by
    simp [canonRawFor] at hc ⊢; omega

theorem decoded_alu (r : Raw) (hcls : r.op % 8 = 4) : Decoded r (disasmALU r) := by
  obtain ⟨op, jt, jf, k⟩ := r
  obtain ⟨x, q, hi, hx, hq, hq', hop, h1, h2⟩ := operatorFields op _ hcls
  have hor : ∀ a, a < 16 → a ||| q = a + q := fun a ha => or_eq_add_of_disjoint a q 4 ha hq
  simp only [disasmALU, h1, h2, opOperandX, opOperandConstant, aluOpNeg]
  clear h1 h2 hcls
  refine ite_ind _ (fun hb => ?_) fun _ => ite_ind _ (fun hn => ?_) fun _ => .raw
  · refine ite_ind _ (fun h8 => ?_) fun _ => ite_ind _ (fun h0 => ?_) fun _ => .raw
    · exact .of_row hb rfl (fun _ => by simp only [Instr.WF]; omega) (.aluX q) fun hc => by
        simp [canonRawFor, hor] at hc ⊢; omega
    · exact .of_row hb rfl (fun hr => ⟨by omega, hr.2.2.2⟩) (.aluK q k) fun hc => by
        simp [canonRawFor, hor] at hc ⊢; omega
  · exact .of_row rfl rfl (fun _ => trivial) .neg fun hc => by simp [canonRawFor] at hc ⊢; omega

/-- The decoder's table inverts `JumpRow`, reading a zero true-skip as the negated test. -/
theorem jumpOpToTest_row {c jt jf : Nat} (hc : c = 16 ∨ c = 32 ∨ c = 48 ∨ c = 64) :
    ∃ t st sf, jumpOpToTest c jt jf = (t, st, sf) ∧ canonJump t st sf = true ∧ t < 8 ∧
      (jt < 256 → jf < 256 → st < 256 ∧ sf < 256) ∧
      (∀ k, Asm (.jumpIf t k st sf) ⟨0x05 + c, jt, jf, k⟩) ∧ Asm (.jumpIfX t st sf) ⟨0x0d + c, jt, jf, 0⟩ := by
  by_cases hj : jt = 0
  · subst hj
    rcases hc with rfl | rfl | rfl | rfl <;>
      exact ⟨_, _, _, rfl, rfl, by decide, fun h1 h2 => ⟨h2, h1⟩, fun k => .jK (f := true) (by constructor) k jf 0,
        .jX (f := true) (by constructor) jf 0⟩
  · have hb : (jt != 0) = true := by simpa using hj
    rcases hc with rfl | rfl | rfl | rfl <;>
      exact ⟨_, _, _, if_neg hj, hb, by decide, fun h1 h2 => ⟨h1, h2⟩, fun k => .jK (f := false) (by constructor) k jt jf,
        .jX (f := false) (by constructor) jt jf⟩

theorem decoded_jump (r : Raw) (hcls : r.op % 8 = 5) : Decoded r (disasmJump r) := by
  obtain ⟨op, jt, jf, k⟩ := r
  obtain ⟨x, q, hi, hx, -, -, hop, h1, h2⟩ := operatorFields op _ hcls
  simp only [disasmJump, h1, h2, opJumpAlways, opJumpEqual, opJumpGT, opJumpGE, opJumpSet, opOperandX, opOperandConstant]
  clear h1 h2 hcls
  refine ite_ind _ (fun h0 => ?_) fun _ => ite_ind _ (fun hq4 => ?_) fun _ => .raw
  · exact .of_row rfl rfl (fun hr => hr.2.2.2) (.ja k) fun hc => by simp [canonRawFor] at hc ⊢; omega
  obtain ⟨t, st, sf, ht, hcan, ht8, hs, hK, hX⟩ := jumpOpToTest_row (jt := jt) (jf := jf) hq4
  rw [ht]
  refine ite_ind _ (fun h8 => ?_) fun _ => ite_ind _ (fun h8 => ?_) fun _ => .raw
  · exact .of_row hcan rfl (fun hr => ⟨by omega, hs hr.2.1 hr.2.2.1⟩) hX fun hc => by
      simp [canonRawFor] at hc ⊢; omega
  · exact .of_row hcan rfl (fun hr => ⟨by omega, hr.2.2.2, hs hr.2.1 hr.2.2.1⟩) (hK k) fun hc => by
      simp [canonRawFor] at hc ⊢; omega

theorem decoded_disasmCore (r : Raw) : Decoded r (disasmCore r) := by
  simp only [disasmCore, and_maskCls, opClsLoadA, opClsLoadX, opClsStoreA, opClsStoreX, opClsALU, opClsJump, opClsReturn]
  refine ite_ind _ (fun h => decoded_load r (by omega)) fun _ => ?_
  refine ite_ind _ (fun _ => decoded_store r _ _ (by simp)) fun _ => ?_
  refine ite_ind _ (fun _ => decoded_store r _ _ (by simp)) fun _ => ?_
  refine ite_ind _ (decoded_alu r) fun _ => ?_
  refine ite_ind _ (decoded_jump r) fun _ => ?_
  -- the return and miscellaneous classes compare the whole opcode
  obtain ⟨op, jt, jf, k⟩ := r
  simp only [disasmRet, disasmMisc, opClsReturn, opRetSrcA, opRetSrcConstant, opClsMisc, opMiscTAX, opMiscTXA,
    Nat.reduceOr]
  refine ite_ind _ (fun _ => ite_ind _ (fun h => ?_) fun _ => ite_ind _ (fun h => ?_) fun _ => .raw) fun _ =>
    ite_ind _ (fun h => ?_) fun _ => ite_ind _ (fun h => ?_) fun _ => .raw
  · exact .of_row rfl rfl (fun _ => trivial) .retA fun hc => by simp [canonRawFor] at hc ⊢; omega
  · exact .of_row rfl rfl (fun hr => hr.2.2.2) (.retK k) fun hc => by simp [canonRawFor] at hc ⊢; omega
  · exact .of_row rfl rfl (fun _ => trivial) .tax fun hc => by simp [canonRawFor] at hc ⊢; omega
  · exact .of_row rfl rfl (fun _ => trivial) .txa fun hc => by simp [canonRawFor] at hc ⊢; omega

theorem disasm_cases (r : Raw) :
    (disasm r = disasmCore r ∧ (isRaw (disasmCore r) = true ∨ asm (disasmCore r) = some r)) ∨
    (disasm r = .raw r ∧ isRaw (disasmCore r) = false ∧ asm (disasmCore r) ≠ some r) := by
  unfold disasm
  by_cases h1 : isRaw (disasmCore r) = true <;> by_cases h2 : asm (disasmCore r) = some r <;> simp [h1, h2]

theorem decoded_disasm (r : Raw) : Decoded r (disasm r) := by
  rcases disasm_cases r with ⟨h, _⟩ | ⟨h, _⟩ <;> rw [h]
  · exact decoded_disasmCore r
  · exact .raw

theorem disasm_raw_eq (r r' : Raw) (h : disasm r = .raw r') : r' = r := by
  have := (decoded_disasm r).canon
  rwa [h] at this

theorem disasm_wf (r : Raw) (hr : r.WF) : (disasm r).WF := (decoded_disasm r).wf hr

theorem canonTyped_disasm (r : Raw) : canonTyped (disasm r) = true := by
  have h := (decoded_disasm r).canon
  cases hd : disasm r <;> rw [hd] at h <;> try exact h
  subst h
  simp [canonTyped, hd, isRaw]

theorem asm_disasm (r : Raw) : asm (disasm r) = some r := by
  cases hd : disasm r with
  | raw r' => rw [disasm_raw_eq r r' hd]; rfl
  | _ =>
    rcases disasm_cases r with ⟨h1, h2 | h2⟩ | ⟨h1, _⟩
    · rw [← h1, hd] at h2; cases h2
    · rw [← hd, h1]; exact h2
    · rw [hd] at h1; cases h1

theorem disasm_asm_iff (i : Instr) (r : Raw) (h : asm i = some r) : disasm r = i ↔ canonTyped i = true := by
  refine ⟨fun hd => hd ▸ canonTyped_disasm r, fun hc => ?_⟩
  cases hraw : isRaw i
  · unfold disasm
    simp [(asm_canon i r hraw hc h).1, hraw, h]
  · cases i <;> simp [isRaw] at hraw
    cases h
    cases hd : disasm r <;> simp [canonTyped, hd, isRaw] at hc
    rw [disasm_raw_eq r _ hd]

theorem disasm_eq_core_iff (r : Raw) (hr : r.WF) : disasm r = disasmCore r ↔ canonRaw r = true := by
  constructor
  · intro h
    by_cases h1 : isRaw (disasmCore r) = true
    · unfold canonRaw
      cases hc : disasmCore r <;> simp [hc, isRaw] at h1
      simp [canonRawFor]
    · rcases disasm_cases r with ⟨_, h2 | h2⟩ | ⟨h2, _⟩
      · exact absurd h2 h1
      · exact canonRaw_asm _ r (by simpa using h1) (h ▸ canonTyped_disasm r) h2
      · rw [h2] at h; rw [← h] at h1; simp [isRaw] at h1
  · intro hc
    have := (decoded_disasmCore r).asm_eq hr hc
    unfold disasm
    by_cases h1 : isRaw (disasmCore r) = true <;> simp [h1, this]

end NetVerif.Proofs.Lemmas.BpfRoundTrip
