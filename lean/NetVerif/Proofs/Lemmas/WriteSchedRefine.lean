import NetVerif.Proofs.Lemmas.WriteSchedSpec
/-!
Refinement: every call of the round-robin, RFC 9218 and random scheduler models is a step of the
C12 specification (`StepSpec`) under the abstraction "queue of stream id = `(qs id).toList`".
-/
namespace NetVerif.Proofs.WriteSchedRefine
open NetVerif.Model.WriteSched NetVerif.Proofs.WriteSchedLemmas NetVerif.Proofs.WriteSchedSpec

def absOf (control : WQ) (qs : Nat → WQ) : Abs := ⟨control.toList, fun id => (qs id).toList⟩

theorem pop_ctl_spec {strict : Prop} {control c : WQ} {qs : Nat → WQ} {f : Frame} (e : Env) (h : control.shift = some (f, c)) :
    PopSpec strict e (absOf control qs) (.frame f) e (absOf c qs) := by
  have := shift_some h
  exact PopSpec.ctl (a := absOf control qs) (f := f) (rest := c.toList) this

theorem absOf_upd (control : WQ) (qs : Nat → WQ) (id : Nat) (q' : WQ) :
    absOf control (upd qs id q') = ⟨control.toList, upd (absOf control qs).q id q'.toList⟩ :=
  Abs.ext' rfl fun x => by simp only [absOf, upd]; split <;> rfl

theorem popSpec_of_consume {strict : Prop} {a : Abs} {q q' : WQ} {id : Nat} {n : Int} {e e' : Env} {f : Frame}
    (hctl : a.ctl = []) (hq : a.q id = q.toList) (hn : 0 < n) (hc : q.consume e n = (e', q', some f)) :
    PopSpec strict e a (.frame f) e' ⟨[], upd a.q id q'.toList⟩ := by
  cases hl : q.toList with
  | nil => rw [wq_consume_nil e n hl] at hc; cases hc
  | cons h rest =>
    rw [hl] at hq
    rcases wq_consume_cons e n hl with ⟨_, _, h2⟩ | ⟨_, _, h1, h2, h3⟩ | ⟨_, _, _, h1, h2, h3⟩
    · rw [h2] at hc; cases hc
    · rw [h2] at hc; cases hc; rw [h3]; exact .whole hctl hq hn h1
    · rw [h2] at hc; cases hc; rw [h3]; exact .split hctl hq hn h1

theorem pop_stream_spec {strict : Prop} {control : WQ} {qs : Nat → WQ} (e : Env) (hctl : control.toList = []) (id : Nat)
    (hs : sendable e (qs id) = true) :
    ∃ e' q' f, (qs id).consume e maxInt32 = (e', q', some f) ∧
      PopSpec strict e (absOf control qs) (.frame f) e' (absOf control (upd qs id q')) := by
  rcases hc : (qs id).consume e maxInt32 with ⟨e', q', _ | f⟩
  · simp [sendable, hc] at hs
  · exact ⟨e', q', f, rfl, by rw [absOf_upd, hctl]; exact popSpec_of_consume hctl rfl (by decide) hc⟩

theorem pop_none_spec {control : WQ} {qs : Nat → WQ} (e : Env) (hctl : control.toList = [])
    (hall : ∀ id, sendable e (qs id) = false) : PopSpec True e (absOf control qs) .none e (absOf control qs) := by
  refine PopSpec.none hctl fun _ id f rest hq => ?_
  rcases (sendable_false_iff e).1 (hall id) with h | ⟨f', rest', e', h1, h2⟩
  · rw [show (absOf control qs).q id = [] from h] at hq; cases hq
  · rw [show (absOf control qs).q id = f' :: rest' from h1] at hq; cases hq; exact ⟨e', h2⟩

theorem absOf_push_ctl (control : WQ) (qs : Nat → WQ) (f : Frame) (hc : f.isControl = true) :
    absOf (control.push f) qs = (absOf control qs).applyOp (.push f) := by
  simp [Abs.applyOp, hc, absOf, push_toList]

theorem absOf_push_str (control : WQ) (qs : Nat → WQ) (f : Frame) (hc : f.isControl = false) :
    absOf control (upd qs f.streamID ((qs f.streamID).push f)) = (absOf control qs).applyOp (.push f) := by
  rw [absOf_upd, push_toList]
  simp only [Abs.applyOp, hc, Bool.false_eq_true, if_false]
  rfl

theorem absOf_clear (control : WQ) (qs : Nat → WQ) (id : Nat) :
    absOf control (upd qs id {}) = (absOf control qs).applyOp (.closeS id) :=
  absOf_upd control qs id {}

theorem absOf_clear_of_nil (control : WQ) (qs : Nat → WQ) (id : Nat) (h : (qs id).toList = []) :
    absOf control (upd qs id {}) = absOf control qs := by
  rw [absOf_upd, upd_eq_self _ (show (absOf control qs).q id = WQ.toList {} from h)]; rfl

def absRR (s : RR) : Abs := absOf s.control s.qs

structure RRInv (s : RR) (opn : Nat → Bool) : Prop where
  mem : ∀ id, id ∈ s.ring ↔ opn id = true
  nodup : s.ring.Nodup

theorem step_win (e : Env) (s : Sched) (id : Nat) (d : Int) :
    s.step e (.win id d) = (envOp e (.win id d), s, .ok) := by
  simp only [Sched.step, envOp]; split <;> rfl

theorem rr_step {s : RR} {opn : Nat → Bool} {op : Op} (e : Env)
    (hi : RRInv s opn) (hwf : AbsWF (absRR s) opn) (hok : OpOK opn op) :
    ∃ e' s' r, (Sched.rr s).step e op = (e', .rr s', r) ∧ StepSpec True e (absRR s) op r e' (absRR s') ∧
      RRInv s' (opnOp opn op) := by
  cases op with
  | win id d => exact ⟨_, s, .ok, step_win e _ id d, .other (by simp), hi⟩
  | maxframe n => exact ⟨_, s, .ok, rfl, .other (by simp), hi⟩
  | adjust id d x w c => exact ⟨e, s, .ok, rfl, .other (by simp), hi⟩
  | openS id p c =>
    have hnot : id ∉ s.ring := by
      intro h; have := (hi.mem id).1 h; rw [hok.2.1] at this; cases this
    refine ⟨e, { s with qs := upd s.qs id {}, ring := s.ring ++ [id] }, .ok, by simp [Sched.step, RR.openStream, hnot],
      .other' (by simp) rfl (absOf_clear_of_nil _ _ _ (hwf.closed id hok.2.1)), ?_, ?_⟩
    · intro x
      simp only [opnOp, List.mem_append, List.mem_singleton]
      by_cases hx : x = id
      · subst hx; simp [upd]
      · simp [upd, hx]; exact hi.mem x
    · exact List.nodup_append.2 ⟨hi.nodup, by simp, fun a ha b hb hab => hnot (by simp at hb; rw [← hb, ← hab]; exact ha)⟩
  | closeS id =>
    have hmem : id ∈ s.ring := (hi.mem id).2 hok
    refine ⟨e, { s with qs := upd s.qs id {}, ring := s.ring.erase id }, .ok, by simp [Sched.step, RR.closeStream, hmem],
      .other' (by simp) rfl (absOf_clear _ _ _), ?_, hi.nodup.erase id⟩
    intro x
    simp only [opnOp]
    by_cases hx : x = id
    · subst hx; simp [upd]; exact hi.nodup.not_mem_erase
    · simp [upd, hx, List.mem_erase_of_ne hx]; exact hi.mem x
  | push f =>
    by_cases hc : f.isControl = true
    · exact ⟨e, { s with control := s.control.push f }, .ok, by simp [Sched.step, RR.push, hc],
        .other' (by simp) rfl (absOf_push_ctl _ _ _ hc), hi.mem, hi.nodup⟩
    · have hc' : f.isControl = false := by simpa using hc
      have hmem : f.streamID ∈ s.ring := (hi.mem _).2 (open_of_pushOK hok hc')
      exact ⟨e, { s with qs := upd s.qs f.streamID ((s.qs f.streamID).push f) }, .ok,
        by simp [Sched.step, RR.push, hc', hmem], .other' (by simp) rfl (absOf_push_str _ _ _ hc'), hi.mem, hi.nodup⟩
  | pop hint =>
    simp only [Sched.step, RR.pop, opnOp]
    cases hsh : s.control.shift with
    | some fc => exact ⟨e, { s with control := fc.2 }, .frame fc.1, rfl, .pop (pop_ctl_spec e hsh), hi.mem, hi.nodup⟩
    | none =>
      have hctl := shift_none hsh
      cases hsp : splitFirst (fun id => sendable e (s.qs id)) s.ring with
      | none =>
        refine ⟨e, s, .none, rfl, .pop (pop_none_spec e hctl fun id => ?_), hi⟩
        by_cases hm : id ∈ s.ring
        · exact splitFirst_none hsp id hm
        · refine sendable_false_of_nil e (hwf.closed id ?_)
          cases ho : opn id with
          | false => rfl
          | true => exact absurd ((hi.mem id).2 ho) hm
      | some t =>
        obtain ⟨pre, id, post⟩ := t
        obtain ⟨hring, hsend, _⟩ := splitFirst_some hsp
        obtain ⟨e', q', f, hcons, hps⟩ := pop_stream_spec (strict := True) (control := s.control) e hctl id hsend
        have hperm : (post ++ pre ++ [id]).Perm s.ring := hring ▸ rotate_tail_perm pre post id
        exact ⟨e', { s with qs := upd s.qs id q', ring := post ++ pre ++ [id] }, .frame f, by simp [hcons], .pop hps,
          fun x => (hperm.mem_iff).trans (hi.mem x), hperm.nodup_iff.2 hi.nodup⟩

def absP9 (s : P9218) : Abs := absOf s.control s.qs

structure P9Inv (s : P9218) (opn : Nat → Bool) : Prop where
  opn : ∀ id, (s.prio id).isSome = opn id
  cls : ∀ id c, s.prio id = some c → c < 16 ∧ id ∈ s.ring c
  buf : s.bufClass < 16

theorem classOrder_complete (pref : Nat → Bool) (c : Nat) (h : c < 16) : c ∈ classOrder pref := by
  simp only [classOrder, List.mem_flatMap, List.mem_range]
  refine ⟨c / 2, by omega, ?_⟩
  split <;> simp <;> omega

theorem firstClass_none {e : Env} {qs : Nat → WQ} {ring : Nat → List Nat} {cs : List Nat}
    (h : firstClass e qs ring cs = none) : ∀ c ∈ cs, ∀ id ∈ ring c, sendable e (qs id) = false := by
  induction cs with
  | nil => simp
  | cons c cs ih =>
    unfold firstClass at h
    split at h
    · cases h
    · rename_i hnone
      intro c' hc'
      simp at hc'
      rcases hc' with rfl | hc'
      · exact splitFirst_none hnone
      · exact ih h c' hc'

theorem firstClass_split {e : Env} {qs : Nat → WQ} {ring : Nat → List Nat} {cs : List Nat}
    {c id : Nat} {pre post : List Nat} (h : firstClass e qs ring cs = some (c, pre, id, post)) :
    ∃ l1 l2, cs = l1 ++ c :: l2 ∧ (∀ c' ∈ l1, ∀ x ∈ ring c', sendable e (qs x) = false) ∧
      splitFirst (fun id => sendable e (qs id)) (ring c) = some (pre, id, post) := by
  induction cs with
  | nil => cases h
  | cons c0 cs ih =>
    unfold firstClass at h
    cases hsp : splitFirst (fun id => sendable e (qs id)) (ring c0) with
    | some t => rw [hsp] at h; cases h; exact ⟨[], cs, rfl, nofun, hsp⟩
    | none =>
      rw [hsp] at h
      obtain ⟨l1, l2, rfl, hl1, hc⟩ := ih h
      exact ⟨c0 :: l1, l2, rfl, List.forall_mem_cons.2 ⟨splitFirst_none hsp, hl1⟩, hc⟩

theorem firstClass_some {e : Env} {qs : Nat → WQ} {ring : Nat → List Nat} {cs : List Nat}
    {c id : Nat} {pre post : List Nat} (h : firstClass e qs ring cs = some (c, pre, id, post)) :
    c ∈ cs ∧ ring c = pre ++ id :: post ∧ sendable e (qs id) = true ∧ (∀ y ∈ pre, sendable e (qs y) = false) := by
  obtain ⟨l1, l2, rfl, _, hsp⟩ := firstClass_split h
  exact ⟨by simp, splitFirst_some hsp⟩

theorem mem_upd_ring {ring : Nat → List Nat} {c x cx : Nat} {l : List Nat} (h : x ∈ ring cx) (hl : x ∈ ring c → x ∈ l) :
    x ∈ upd ring c l cx := by
  simp only [upd]; split
  · rename_i heq; subst heq; exact hl h
  · exact h

theorem P9Inv.setPrio {s s' : P9218} {opn : Nat → Bool} (hi : P9Inv s opn) {id : Nat} {v : Option Nat}
    (hp : s'.prio = upd s.prio id v) (hb : s'.bufClass = s.bufClass) (hv : ∀ c, v = some c → c < 16 ∧ id ∈ s'.ring c)
    (hr : ∀ x cx, x ≠ id → x ∈ s.ring cx → x ∈ s'.ring cx) : P9Inv s' (upd opn id v.isSome) := by
  refine ⟨fun x => ?_, fun x cx hpx => ?_, hb ▸ hi.buf⟩
  · rw [hp]; simp only [upd]; split
    · rfl
    · exact hi.opn x
  · rw [hp] at hpx; simp only [upd] at hpx; split at hpx
    · rename_i hx; subst hx; exact hv cx hpx
    · rename_i hx; exact ⟨(hi.cls x cx hpx).1, hr x cx hx (hi.cls x cx hpx).2⟩

theorem p9_step {s : P9218} {opn : Nat → Bool} {op : Op} (e : Env)
    (hi : P9Inv s opn) (hwf : AbsWF (absP9 s) opn) (hok : OpOK opn op) :
    ∃ e' s' r, (Sched.p9 s).step e op = (e', .p9 s', r) ∧ StepSpec True e (absP9 s) op r e' (absP9 s') ∧
      P9Inv s' (opnOp opn op) := by
  cases op with
  | win id d => exact ⟨_, s, .ok, step_win e _ id d, .other (by simp), hi⟩
  | maxframe n => exact ⟨_, s, .ok, rfl, .other (by simp), hi⟩
  | openS id p c =>
    have hnone : s.prio id = none := by simpa [hok.2.1] using hi.opn id
    let c' := if id = s.bufId then s.bufClass else c
    have hc' : c' < 16 := by
      simp only [c']; split
      · exact hi.buf
      · exact hok.2.2
    refine ⟨e, P9218.mk s.control (upd s.qs id {}) (upd s.ring c' (s.ring c' ++ [id])) (upd s.prio id (some c'))
      s.pref (if id = s.bufId then 0 else s.bufId) s.bufClass, .ok, by simp [Sched.step, P9218.openStream, hnone, c'],
      .other' (by simp) rfl (absOf_clear_of_nil _ _ _ (hwf.closed id hok.2.1)), ?_⟩
    refine hi.setPrio (id := id) (v := some c') rfl rfl (fun _ h => ?_) fun x cx _ h => mem_upd_ring h (List.mem_append_left _)
    cases h; exact ⟨hc', by simp [upd]⟩
  | closeS id =>
    cases hp : s.prio id with
    | none => have := hi.opn id; rw [hp, show opn id = true from hok] at this; cases this
    | some c =>
      exact ⟨e, { s with qs := upd s.qs id {}, prio := upd s.prio id none, ring := upd s.ring c ((s.ring c).erase id) },
        .ok, by simp [Sched.step, P9218.closeStream, hp], .other' (by simp) rfl (absOf_clear _ _ _),
        hi.setPrio (id := id) (v := none) rfl rfl (fun _ h => nomatch h) fun x cx hx h => mem_upd_ring h (List.mem_erase_of_ne hx).2⟩
  | adjust id d x w c =>
    cases hp : s.prio id with
    | none =>
      exact ⟨e, { s with bufId := id, bufClass := c }, .ok, by simp [Sched.step, P9218.adjustStream, hp],
        .other (by simp), hi.opn, hi.cls, hok.2⟩
    | some c0 =>
      refine ⟨e, { s with ring := upd (upd s.ring c0 ((s.ring c0).erase id)) c
                            (upd s.ring c0 ((s.ring c0).erase id) c ++ [id]),
                          prio := upd s.prio id (some c) }, .ok,
        by simp [Sched.step, P9218.adjustStream, hp], .other (by simp), ?_⟩
      have hopn : opn id = true := by rw [← hi.opn id, hp]; rfl
      refine upd_eq_self opn hopn ▸ hi.setPrio (id := id) (v := some c) rfl rfl (fun _ h => ?_) fun y cy hy h =>
        mem_upd_ring (mem_upd_ring h (List.mem_erase_of_ne hy).2) (List.mem_append_left _)
      cases h; exact ⟨hok.2, by simp [upd]⟩
  | push f =>
    by_cases hc : f.isControl = true
    · exact ⟨e, { s with control := s.control.push f }, .ok, by simp [Sched.step, P9218.push, hc],
        .other' (by simp) rfl (absOf_push_ctl _ _ _ hc), hi.opn, hi.cls, hi.buf⟩
    · have hc' : f.isControl = false := by simpa using hc
      have hsome : (s.prio f.streamID).isSome = true := by rw [hi.opn]; exact open_of_pushOK hok hc'
      exact ⟨e, { s with qs := upd s.qs f.streamID ((s.qs f.streamID).push f) }, .ok,
        by simp [Sched.step, P9218.push, hc', hsome], .other' (by simp) rfl (absOf_push_str _ _ _ hc'),
        hi.opn, hi.cls, hi.buf⟩
  | pop hint =>
    simp only [Sched.step, P9218.pop, opnOp]
    cases hsh : s.control.shift with
    | some fc =>
      exact ⟨e, { s with control := fc.2 }, .frame fc.1, rfl, .pop (pop_ctl_spec e hsh), hi.opn, hi.cls, hi.buf⟩
    | none =>
      have hctl := shift_none hsh
      cases hfc : firstClass e s.qs s.ring (classOrder s.pref) with
      | none =>
        refine ⟨e, s, .none, rfl, .pop (pop_none_spec (control := s.control) e hctl fun id => ?_), hi⟩
        cases hp : s.prio id with
        | none => exact sendable_false_of_nil e (hwf.closed id (by rw [← hi.opn id, hp]; rfl))
        | some c =>
          obtain ⟨h1, h2⟩ := hi.cls id c hp
          exact firstClass_none hfc c (classOrder_complete _ c h1) id h2
      | some t =>
        obtain ⟨c, pre, id, post⟩ := t
        obtain ⟨_, hring, hsend, _⟩ := firstClass_some hfc
        obtain ⟨e', q', f, hcons, hps⟩ := pop_stream_spec (strict := True) (control := s.control) e hctl id hsend
        refine ⟨e', { s with pref := upd s.pref (c / 2) (c % 2 == 0), qs := upd s.qs id q',
                             ring := upd s.ring c (if c % 2 = 1 then post ++ pre ++ [id] else id :: (post ++ pre)) },
          .frame f, by simp [hcons], .pop hps, hi.opn, fun y cy hpy => ?_, hi.buf⟩
        refine ⟨(hi.cls y cy hpy).1, mem_upd_ring (hi.cls y cy hpy).2 fun h => ?_⟩
        rw [hring] at h
        split
        · exact (rotate_tail_perm pre post id).mem_iff.2 h
        · exact (rotate_head_perm pre post id).mem_iff.2 h

def absRand (s : Rand) : Abs := absOf s.zero s.qs

def RandInv (s : Rand) : Prop := ∀ id, id ∉ s.sq → (s.qs id).toList = []

theorem RandInv.erase {s : Rand} (hi : RandInv s) (id : Nat) :
    ∀ x, x ∉ s.sq.erase id → (upd s.qs id {} x).toList = [] := by
  intro x hx
  simp only [upd]; split
  · rfl
  · rename_i hxi; exact hi x fun hmem => hx ((List.mem_erase_of_ne hxi).2 hmem)

theorem RandInv.set {s : Rand} (hi : RandInv s) {id : Nat} (hm : id ∈ s.sq) (q : WQ) :
    ∀ x, x ∉ s.sq → (upd s.qs id q x).toList = [] := by
  intro x hx
  have hxi : x ≠ id := fun h => hx (h ▸ hm)
  rw [upd_other _ _ hxi]; exact hi x hx

theorem rand_step {s : Rand} {op : Op} (e : Env) (hi : RandInv s) :
    ∃ e' s' r, (Sched.rnd s).step e op = (e', .rnd s', r) ∧ StepSpec True e (absRand s) op r e' (absRand s') ∧
      RandInv s' := by
  cases op with
  | win id d => exact ⟨_, s, .ok, step_win e _ id d, .other (by simp), hi⟩
  | maxframe n => exact ⟨_, s, .ok, rfl, .other (by simp), hi⟩
  | adjust id d x w c => exact ⟨e, s, .ok, rfl, .other (by simp), hi⟩
  | openS id p c => exact ⟨e, s, .ok, rfl, .other (by simp), hi⟩
  | closeS id =>
    by_cases hm : id ∈ s.sq
    · exact ⟨e, { s with qs := upd s.qs id {}, sq := s.sq.erase id }, .ok, by simp [Sched.step, Rand.closeStream, hm],
        .other' (by simp) rfl (absOf_clear _ _ _), hi.erase id⟩
    · exact ⟨e, s, .ok, by simp [Sched.step, Rand.closeStream, hm],
        .other' (by simp) rfl ((absOf_clear_of_nil s.zero s.qs id (hi id hm)).symm.trans (absOf_clear _ _ _)), hi⟩
  | push f =>
    by_cases hc : f.isControl = true
    · exact ⟨e, { s with zero := s.zero.push f }, .ok, by simp [Sched.step, Rand.push, hc],
        .other' (by simp) rfl (absOf_push_ctl _ _ _ hc), hi⟩
    · have hc' : f.isControl = false := by simpa using hc
      by_cases hm : f.streamID ∈ s.sq
      · exact ⟨e, { s with qs := upd s.qs f.streamID ((s.qs f.streamID).push f) }, .ok,
          by simp [Sched.step, Rand.push, hc', hm], .other' (by simp) rfl (absOf_push_str _ _ _ hc'), hi.set hm _⟩
      · refine ⟨e, { s with qs := upd s.qs f.streamID (WQ.push {} f), sq := f.streamID :: s.sq }, .ok,
          by simp [Sched.step, Rand.push, hc', hm], .other' (by simp) rfl ?_, fun x hx => ?_⟩
        · -- the queue of a stream that is not in the map is empty, so pushing on a fresh queue is the same
          show absOf s.zero (upd s.qs f.streamID (WQ.push {} f)) = (absOf s.zero s.qs).applyOp (.push f)
          rw [← absOf_push_str _ _ _ hc', absOf_upd, absOf_upd, push_toList, push_toList, hi _ hm]; rfl
        · simp only [List.mem_cons, not_or] at hx
          simp only [upd, hx.1, if_false]; exact hi x hx.2
  | pop hint =>
    simp only [Sched.step, Rand.pop]
    cases hsh : s.zero.shift with
    | some fc => exact ⟨e, { s with zero := fc.2 }, .frame fc.1, rfl, .pop (pop_ctl_spec e hsh), hi⟩
    | none =>
      have hctl := shift_none hsh
      cases hint with
      | none =>
        by_cases hany : s.sq.any (fun id => sendable e (s.qs id)) = true
        · exact ⟨e, s, .reject, by simp [hany], .reject, hi⟩
        · refine ⟨e, s, .none, by simp [hany], .pop (pop_none_spec (control := s.zero) e hctl fun id => ?_), hi⟩
          by_cases hm : id ∈ s.sq
          · simp only [List.any_eq_true, not_exists, not_and, Bool.not_eq_true] at hany
            exact hany id hm
          · exact sendable_false_of_nil e (hi id hm)
      | some id =>
        by_cases hm : id ∈ s.sq
        · cases hsend : sendable e (s.qs id) with
          | false =>
            refine ⟨e, s, .reject, ?_, .reject, hi⟩
            rcases hcq : (s.qs id).consume e maxInt32 with ⟨e1, q1, _ | _⟩
            · simp [hm, hcq]
            · simp [sendable, hcq] at hsend
          | true =>
            obtain ⟨e', q', f, hcons, hps⟩ := pop_stream_spec (strict := True) (control := s.zero) e hctl id hsend
            by_cases hemp : q'.isEmpty = true
            · refine ⟨e', { s with qs := upd s.qs id {}, sq := s.sq.erase id }, .frame f, by simp [hm, hcons, hemp],
                .pop ?_, hi.erase id⟩
              rw [absOf_upd, (isEmpty_iff q').1 hemp] at hps
              show PopSpec True e (absOf s.zero s.qs) (.frame f) e' (absOf s.zero (upd s.qs id {}))
              rw [absOf_upd]; exact hps
            · exact ⟨e', { s with qs := upd s.qs id q' }, .frame f, by simp [hm, hcons, hemp], .pop hps, hi.set hm _⟩
        · exact ⟨e, s, .reject, by simp [hm], .reject, hi⟩

end NetVerif.Proofs.WriteSchedRefine
