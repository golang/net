/- C61: every level of a time series along a history of operations. `LvInv` lifts the level invariant to the
list of levels, `MI` is the invariant of the series between operations, and `range_exact` the range theorem, of
which the finest-level and the every-level statements are instances. -/
import NetVerif.Proofs.Lemmas.TimeSeriesHistory
namespace NetVerif.Proofs.TSRange
open NetVerif.Model.TimeSeries

/-- The levels `ls` hold `H` except the pending `pv` at `pt`; resolutions are multiples of the finest one `sz0`
and fit `n` times into an int64 duration; the ends are sorted, from `lo` upwards; `B` bounds the sum of the
resolutions before each level, by which the time that `advance` passes down may exceed the one it was given. -/
def LvInv (n : Nat) (sz0 : Int) (H : Hist) (pt pv : Int) : Int → Int → List Level → Prop
  | _, _, [] => True
  | lo, B, l :: rest =>
    LInv l n H pt pv ∧ l.size % sz0 = 0 ∧ l.size * n ≤ maxDur ∧ lo ≤ l.end_ ∧ 0 ≤ B ∧
    LvInv n sz0 H pt pv l.end_ (B - l.size) rest

section
variable {n : Nat} {sz0 : Int} {H H' : Hist} {pt pv pt' pv' : Int}

/-- A change `f` of the levels that keeps ends and sizes and carries `LInv` level by level carries `LvInv`.
`lo0` bounds every end of the list from below; `hI` is told so, which only `lv_repoint` needs. -/
theorem lv_map (f : Level → Level) (lo0 : Int) (hf : ∀ l, (f l).end_ = l.end_ ∧ (f l).size = l.size)
    (hI : ∀ l, lo0 ≤ l.end_ → l.size % sz0 = 0 → l.size * n ≤ maxDur → LInv l n H pt pv →
      LInv (f l) n H' pt' pv') :
    ∀ (ls : List Level) (lo B : Int), lo0 ≤ lo → LvInv n sz0 H pt pv lo B ls →
      LvInv n sz0 H' pt' pv' lo B (ls.map f) := by
  intro ls
  induction ls with
  | nil => intro _ _ _ _; trivial
  | cons l r ih =>
    intro lo B hlo ⟨a, b, c, d, e, g⟩
    obtain ⟨m1, m2⟩ := hf l
    rw [List.map_cons]
    refine ⟨hI l (by omega) b c a, by rw [m2]; exact b, by rw [m2]; exact c, by rw [m1]; exact d, e, ?_⟩
    rw [m1, m2]
    exact ih _ _ (by omega) g

theorem lv_merge (t v : Int) (ht : t ≤ pt) (ls : List Level) (lo B : Int) (h : LvInv n sz0 H pt pv lo B ls) :
    LvInv n sz0 ((t, v) :: H) pt pv lo B (ls.map (Level.merge n (Obs.exact v) t)) :=
  lv_map _ lo (merge_end_size n _ t) (fun _ _ _ c a => a.merge t v (Int.le_trans ht a.pt_le) c) ls lo B (Int.le_refl _) h

theorem lv_flush (ls : List Level) (lo B : Int) (h : LvInv n sz0 H pt pv lo B ls) :
    LvInv n sz0 H pt 0 lo B (ls.map (Level.merge n (Obs.exact pv) pt)) :=
  lv_map _ lo (merge_end_size n _ pt) (fun _ _ _ c a => a.flush c) ls lo B (Int.le_refl _) h

theorem lv_repoint (ls : List Level) (lo B : Int) (h : LvInv n sz0 H pt 0 lo B ls) (hpt : pt' ≤ lo) :
    LvInv n sz0 H pt' 0 lo B ls :=
  List.map_id ls ▸ lv_map id lo (fun _ => ⟨rfl, rfl⟩) (fun _ hl _ _ a => a.repoint (Int.le_trans hpt hl)) ls lo B
    (Int.le_refl _) h

theorem lv_join (t v : Int) (hgrid : pt % sz0 = 0) (hZ0 : zeroTime % sz0 = 0) (ht : pt - sz0 < t ∧ t ≤ pt)
    (ls : List Level) (lo B : Int) (h : LvInv n sz0 H pt pv lo B ls) :
    LvInv n sz0 ((t, v) :: H) pt (pv + v) lo B ls :=
  List.map_id ls ▸ lv_map id lo (fun _ => ⟨rfl, rfl⟩) (fun _ _ b _ a => a.join sz0 t v hgrid b hZ0 ht) ls lo B
    (Int.le_refl _) h

/-- After a catch-up the pending time is the end of the finest level, below which no level ends. -/
theorem lv_end0 {l : Level} {rest : List Level} {lo B : Int} (h : LvInv n sz0 H pt 0 lo B (l :: rest)) :
    LvInv n sz0 H l.end_ 0 l.end_ B (l :: rest) :=
  ⟨h.1.repoint (Int.le_refl _), h.2.1, h.2.2.1, Int.le_refl _, h.2.2.2.2.1,
    lv_repoint _ _ _ h.2.2.2.2.2 (Int.le_refl _)⟩

/-- `advance` over all levels: each level that is behind is brought up to the end of the previous one. -/
theorem lv_adv :
    ∀ (ls : List Level) (lo B t : Int), LvInv n sz0 H pt pv lo B ls → minDur ≤ t → t + B ≤ maxDur →
      LvInv n sz0 H pt pv t B (advLevels n t ls) := by
  intro ls
  induction ls with
  | nil => intro _ _ _ _ _ _; trivial
  | cons l r ih =>
    intro lo B t ⟨a, b, c, d, e, g⟩ hmin hmax
    have hsz := a.szpos
    unfold advLevels
    by_cases hb : l.end_ < t
    · rw [if_neg (by omega)]
      simp only
      obtain ⟨a', b1, b2, _⟩ := a.advanceTo t ⟨hmin, by omega⟩ hb c
      have b3 := advanceTo_size n t l
      have hrec := ih l.end_ (B - l.size) (l.advanceTo n t).end_ g (by omega) (by omega)
      refine ⟨a', by rw [b3]; exact b, by rw [b3]; exact c, b1, e, ?_⟩
      rw [b3]; exact hrec
    · rw [if_pos (by omega)]
      exact ⟨a, b, c, by omega, e, g⟩

theorem lv_mem :
    ∀ (ls : List Level) (lo B : Int), LvInv n sz0 H pt pv lo B ls →
      ∀ l ∈ ls, LInv l n H pt pv ∧ l.size * n ≤ maxDur := by
  intro ls
  induction ls with
  | nil => intro _ _ _ l hl; exact (nomatch hl)
  | cons x r ih =>
    intro lo B ⟨a, _, c, _, _, g⟩ l hl
    rcases List.mem_cons.1 hl with e | e
    · rw [e]; exact ⟨a, c⟩
    · exact ih _ _ g l e

end

/-- What a list of resolutions has to satisfy for `LvInv`. -/
def ResOK (n : Nat) (sz0 : Int) : Int → List Int → Prop
  | _, [] => True
  | B, r :: rest => 0 < r ∧ r % sz0 = 0 ∧ r * n ≤ maxDur ∧ 0 ≤ B ∧ ResOK n sz0 (B - r) rest

theorem linv_fresh (n : Nat) (sz : Int) (hn : 1 ≤ n) (hsz : 0 < sz) :
    LInv (Level.fresh n sz) n [] zeroTime 0 := by
  refine ⟨hn, hsz, List.length_replicate .., by show 0 < n; omega, Or.inr rfl, fun i _ => ?_,
    fun _ hp => (nomatch hp), Int.le_refl _⟩
  show valB ((List.replicate n (none : Option Obs)).getD ((0 + i) % n) none) = _
  rw [List.getD_eq_getElem?_getD, List.getElem?_replicate, merged_zero]
  split <;> rfl

theorem lv_fresh (n : Nat) (sz0 : Int) (hn : 1 ≤ n) :
    ∀ (rs : List Int) (B : Int), ResOK n sz0 B rs →
      LvInv n sz0 [] zeroTime 0 zeroTime B (rs.map (Level.fresh n))
  | [], _, _ => trivial
  | r :: rest, B, ⟨h1, h2, h3, h4, h5⟩ =>
    ⟨linv_fresh n r hn h1, h2, h3, Int.le_refl _, h4, lv_fresh n sz0 hn rest (B - r) h5⟩

theorem lv_resOK {n : Nat} {sz0 : Int} {H : Hist} {pt pv : Int} :
    ∀ (ls : List Level) (lo B : Int), LvInv n sz0 H pt pv lo B ls → ResOK n sz0 B (ls.map (·.size))
  | [], _, _, _ => trivial
  | _ :: r, _, _, ⟨a, b, c, _, e, g⟩ => ⟨a.szpos, b, c, e, lv_resOK r _ _ g⟩

theorem obs_exact (o : Obs) (h : o.approx = false) : o = Obs.exact o.v := congrArg (Obs.mk o.v) h

/-- `mergePendingUpdates` on the first `m` levels, whatever the ends are bounded by from below. -/
theorem lv_mergePending {s : TS} {sz : Int} {H : Hist} {lo B : Int} (m : Nat)
    (h : LvInv s.n sz H s.pendingTime s.pending.v lo B (s.levels.take m))
    (hex : s.pending.approx = false) (hcl : s.dirty = false → s.pending.v = 0) :
    LvInv s.n sz H s.pendingTime 0 lo B (s.mergePending.levels.take m) ∧ s.mergePending.pending = Obs.zero ∧
      s.mergePending.dirty = false := by
  unfold TS.mergePending
  by_cases hd : s.dirty = true
  · rw [if_pos hd]
    refine ⟨?_, rfl, rfl⟩
    show LvInv s.n sz H s.pendingTime 0 lo B ((s.levels.map (Level.merge s.n s.pending s.pendingTime)).take m)
    rw [← List.map_take, obs_exact _ hex]
    exact lv_flush _ _ _ h
  · rw [if_neg hd]
    have hd' : s.dirty = false := by simpa using hd
    have hv := hcl hd'
    rw [hv] at h
    exact ⟨h, (obs_exact _ hex).trans (congrArg Obs.exact hv), hd'⟩

/-- The invariant of the series between operations. Its first `k + 1` levels hold the observations `H` except
the pending one, which belongs to the newest bucket of the finest level (resolution `sz`):
`pendingTime = levels[0].end` is what `Latest`/`LatestBuckets` restore after advancing. `B` is the room the
times leave below `maxDur` (see `LvInv`). -/
structure MI (k : Nat) (sz B : Int) (s : TS) (H : Hist) : Prop where
  ne : s.levels ≠ []
  lv : LvInv s.n sz H s.pendingTime s.pending.v s.pendingTime B (s.levels.take (k + 1))
  pe : s.pendingTime = s.end0
  size0 : s.size0 = sz
  hz : zeroTime % sz = 0
  exact : s.pending.approx = false
  clean : s.dirty = false → s.pending.v = 0
  last : ∀ p ∈ H, p.1 ≤ s.lastAdd

section
variable {k : Nat} {sz B : Int} {s : TS} {H : Hist}

theorem MI.head (h : MI k sz B s H) : ∃ l0 rest, s.levels = l0 :: rest ∧ l0.size = sz ∧ l0.end_ = s.pendingTime ∧
    LInv l0 s.n H s.pendingTime s.pending.v ∧ sz * s.n ≤ maxDur := by
  obtain ⟨l0, rest, hl⟩ := List.exists_cons_of_ne_nil h.ne
  have h1 := h.lv
  have h2 := h.size0
  have h3 := h.pe
  unfold TS.size0 at h2
  unfold TS.end0 at h3
  rw [hl] at h1 h2 h3
  exact ⟨l0, rest, hl, h2, h3.symm, h1.1, h2 ▸ h1.2.2.1⟩

theorem MI.pt_grid (h : MI k sz B s H) : s.pendingTime % sz = 0 := by
  obtain ⟨l0, _, _, h2, h3, h4, _⟩ := h.head
  rw [← h3]
  rcases h4.grid with g | z
  · rw [← h2]; exact g
  · rw [z]; exact h.hz

/-- Merge the pending observation and move the pending bucket to the end of the finest level: the second half of
a catch-up, from a state whose levels `advance` has brought to `lo` or beyond. -/
theorem mi_settle {lo : Int} (hne : s.levels ≠ [])
    (hlv : LvInv s.n sz H s.pendingTime s.pending.v lo B (s.levels.take (k + 1))) (hsz : s.size0 = sz)
    (hz : zeroTime % sz = 0) (hex : s.pending.approx = false) (hcl : s.dirty = false → s.pending.v = 0)
    (hlast : ∀ p ∈ H, p.1 ≤ s.lastAdd) :
    MI k sz B { s.mergePending with pendingTime := s.mergePending.end0 } H ∧ s.mergePending.pending = Obs.zero ∧
      lo ≤ s.mergePending.end0 := by
  obtain ⟨_, m2, _, m4, m5⟩ := mergePending_fields s
  obtain ⟨a, b, _⟩ := lv_mergePending (k + 1) hlv hex hcl
  obtain ⟨l1, rest1, e1⟩ := List.exists_cons_of_ne_nil (mergePending_ne _ hne)
  have hend : s.mergePending.end0 = l1.end_ := by unfold TS.end0; rw [e1]
  rw [e1, List.take_succ_cons] at a
  refine ⟨⟨mergePending_ne _ hne, ?_, rfl, m2.trans hsz, hz, by rw [b]; rfl, fun _ => by rw [b]; rfl,
    by rw [m4]; exact hlast⟩, b, hend ▸ a.2.2.2.1⟩
  show LvInv s.mergePending.n sz H s.mergePending.end0 s.mergePending.pending.v s.mergePending.end0 B
    (s.mergePending.levels.take (k + 1))
  rw [hend, b, m5, e1, List.take_succ_cons]
  exact lv_end0 a

/-- Between operations the pending bucket is at the end of the finest level already, and merging leaves it there. -/
theorem mi_mergePending (h : MI k sz B s H) : MI k sz B s.mergePending H := by
  obtain ⟨m1, _, m3, _, _⟩ := mergePending_fields s
  have := (mi_settle h.ne h.lv h.size0 h.hz h.exact h.clean h.last).1
  rwa [m1, ← h.pe, ← m3] at this

/-- `advance` to `now`, merge, and move the pending bucket to the new end: the prefix of `Latest`,
`LatestBuckets` and of an `AddWithTime` beyond the pending bucket. `now` falls into the newest bucket if the
finest level moved. -/
theorem mi_catchUp (h : MI k sz B s H) (now : Int) (hmin : minDur ≤ now) (hmax : now + B ≤ maxDur) :
    MI k sz B (s.catchUp now) H ∧ (s.catchUp now).pending = Obs.zero ∧ (s.catchUp now).lastAdd = s.lastAdd ∧
      now ≤ (s.catchUp now).pendingTime ∧ (s.pendingTime < now → (s.catchUp now).pendingTime - sz < now) := by
  obtain ⟨l0, rest, hl, h2, h3, h4, hc⟩ := h.head
  have hB : 0 ≤ B := by have := h.lv; rw [hl] at this; exact this.2.2.2.2.1
  -- the finest level is still there after `advance`, and has passed `now` by less than a bucket if it moved
  obtain ⟨f1, f2, f3⟩ : (s.advance now).levels ≠ [] ∧ (s.advance now).size0 = sz ∧
      (s.pendingTime < now → (s.advance now).end0 - sz < now) := by
    rw [advance_eq]
    unfold TS.size0 TS.end0
    simp only [hl, advLevels]
    by_cases hb : l0.end_ < now
    · rw [if_neg (by omega)]
      obtain ⟨_, _, b2, _⟩ := h4.advanceTo now ⟨hmin, by omega⟩ hb (h2 ▸ hc)
      exact ⟨List.cons_ne_nil _ _, (advanceTo_size ..).trans h2, fun _ => h2 ▸ b2⟩
    · rw [if_pos (by omega)]
      exact ⟨List.cons_ne_nil _ _, h2, fun _ => by omega⟩
  rw [catchUp_eq]
  rw [advance_eq] at f1 f2 f3 ⊢
  have hadv : LvInv s.n sz H s.pendingTime s.pending.v now B ((advLevels s.n now s.levels).take (k + 1)) := by
    rw [advLevels_take]
    exact lv_adv _ _ _ now h.lv hmin hmax
  obtain ⟨c, cp, c1⟩ := mi_settle f1 hadv f2 h.hz h.exact h.clean h.last
  exact ⟨c, cp, (mergePending_fields _).2.2.2.1, c1, fun hlt => by
    show TS.end0 (TS.mergePending _) - sz < now
    rw [(mergePending_fields _).1]; exact f3 hlt⟩

theorem mi_add (h : MI k sz B s H) (t v : Int) (hmin : minDur ≤ t) (hmax : t + B ≤ maxDur) :
    MI k sz B (s.addWithTime (Obs.exact v) t) ((t, v) :: H) := by
  rw [addWithTime_eq]
  obtain ⟨h0, hla⟩ : MI k sz B (if t > s.lastAdd then { s with lastAdd := t } else s) H ∧
      t ≤ (if t > s.lastAdd then { s with lastAdd := t } else s).lastAdd := by
    split
    · exact ⟨⟨h.ne, h.lv, h.pe, h.size0, h.hz, h.exact, h.clean,
        fun p hp => Int.le_trans (h.last p hp) (by show s.lastAdd ≤ t; omega)⟩, Int.le_refl _⟩
    · exact ⟨h, by omega⟩
  generalize (if t > s.lastAdd then { s with lastAdd := t } else s) = s0 at h0 hla
  have hlast : ∀ p ∈ (t, v) :: H, p.1 ≤ s0.lastAdd := List.forall_mem_cons.2 ⟨hla, h0.last⟩
  have hsz : 0 < sz := by
    obtain ⟨_, _, _, h2, _, h4, _⟩ := h0.head
    exact h2 ▸ h4.szpos
  simp only
  by_cases b1 : t > s0.pendingTime
  · -- a new pending bucket, after catching up to `t`
    rw [if_pos b1]
    obtain ⟨c, cp, cl, c1, c2⟩ := mi_catchUp h0 t hmin hmax
    have hj := lv_join t v c.pt_grid c.hz ⟨c2 b1, c1⟩ _ _ _ c.lv
    rw [cp, show Obs.zero.v + v = v from Int.zero_add v] at hj
    exact ⟨c.ne, hj, c.pe, c.size0, c.hz, rfl, fun hc => (nomatch hc), cl ▸ hlast⟩
  · rw [if_neg b1]
    by_cases b2 : t > s0.pendingTime + (-1) * s0.size0
    · -- joins the pending bucket
      rw [if_pos b2]
      rw [h0.size0] at b2
      exact ⟨h0.ne, lv_join t v h0.pt_grid h0.hz ⟨by omega, by omega⟩ _ _ _ h0.lv, h0.pe, h0.size0, h0.hz,
        by show (s0.pending.approx || false) = false; rw [h0.exact]; rfl, fun hc => (nomatch hc), hlast⟩
    · -- older than the pending bucket: merged straight into the levels
      rw [if_neg b2]
      rw [h0.size0] at b2
      obtain ⟨e1, e2⟩ := end0_mergeValue s0 (Obs.exact v) t
      refine ⟨by simpa [TS.mergeValue] using h0.ne, ?_, h0.pe.trans e1.symm, e2.trans h0.size0, h0.hz, h0.exact,
        h0.clean, hlast⟩
      show LvInv s0.n sz ((t, v) :: H) s0.pendingTime s0.pending.v s0.pendingTime B
        ((s0.levels.map (Level.merge s0.n (Obs.exact v) t)).take (k + 1))
      rw [← List.map_take]
      exact lv_merge t v (by omega) _ _ _ h0.lv

theorem mi_init (n : Nat) (sz : Int) (rest : List Int) (k : Nat) (B : Int) (hn : 1 ≤ n) (hZ : zeroTime % sz = 0)
    (hres : ResOK n sz B ((sz :: rest).take (k + 1))) : MI k sz B (TS.init n (sz :: rest)) [] := by
  refine ⟨List.cons_ne_nil _ _, ?_, rfl, rfl, hZ, rfl, fun _ => rfl, fun _ hp => (nomatch hp)⟩
  show LvInv n sz [] zeroTime 0 zeroTime B (((sz :: rest).map (Level.fresh n)).take (k + 1))
  rw [← List.map_take]
  exact lv_fresh n sz hn _ B hres

theorem mi_clear (h : MI k sz B s H) : MI k sz B s.clear [] := by
  obtain ⟨l0, rest, hl, h2, _, h4, _⟩ := h.head
  have hres := lv_resOK _ _ _ h.lv
  rw [List.map_take, hl, List.map_cons, h2] at hres
  rw [clear_eq_init, hl, List.map_cons, h2]
  exact mi_init s.n sz _ k B h4.npos h.hz hres

end

/-- `ComputeRange` picks one of the first `m` levels for `a`; `(a, b]` is made of buckets of that level and starts
inside its window. -/
def PicksAligned (m : Nat) (s : TS) (a b : Int) : Prop :=
  ∃ l, pickLevel s.mergePending.n a s.mergePending.levels = some l ∧ l ∈ s.mergePending.levels.take m ∧
    l.end_ - l.size * s.mergePending.n ≤ a ∧ a ≤ b ∧ b - a ≤ maxDur ∧
    (l.end_ - a) % l.size = 0 ∧ (b - a) % l.size = 0

theorem mi_range {k : Nat} {sz B : Int} {s : TS} {H : Hist} (h : MI k sz B s H) (a b : Int)
    (hal : PicksAligned (k + 1) s a b) : (s.range a b).2 = some ⟨sumIn a b H, false⟩ := by
  obtain ⟨l, hp, hk, h1, h2, h3, h4, h5⟩ := hal
  have m := mi_mergePending h
  obtain ⟨hl, hc⟩ := lv_mem _ _ _ m.lv l hk
  rw [(lv_mergePending (k + 1) h.lv h.exact h.clean).2.1] at hl
  unfold TS.range TS.computeRange
  rw [if_neg (show ¬ a > b by omega)]
  simp only [show ¬ ((1 : Int) < 0) by omega, if_false, hp, show ¬ ((1 : Int) = 0) by omega]
  rw [show (1 : Int).toNat = 1 from rfl, extract_aligned hl _ a b m.last hc h1 h2 h3 h4 h5]

def noClear : List Op → Bool
  | [] => true
  | .clear :: _ => false
  | _ :: rest => noClear rest

/-- Every time that reaches `advance` leaves room for the level ends above it (`S` = sum of resolutions).
`timesInRange` gives `timesFit 0` (`timesFit_zero`). -/
def timesFit (S : Int) : List Op → Bool
  | [] => true
  | .add t _ :: rest => decide (minDur ≤ t ∧ t + S ≤ maxDur) && timesFit S rest
  | .latest now _ _ :: rest => decide (minDur ≤ now ∧ now + S ≤ maxDur) && timesFit S rest
  | .latestBuckets now _ _ :: rest => decide (minDur ≤ now ∧ now + S ≤ maxDur) && timesFit S rest
  | _ :: rest => timesFit S rest

theorem mi_run (k : Nat) (sz B : Int) (ops : List Op) :
    ∀ (s : TS) (H : Hist), MI k sz B s H → timesFit B ops = true → MI k sz B (s.run ops) (histList ops H) := by
  induction ops with
  | nil => intro s H h _; exact h
  | cons op rest ih =>
    intro s H h hin
    show MI k sz B ((s.step op).run rest) _
    cases op with
    | add t v =>
      simp only [timesFit, Bool.and_eq_true, decide_eq_true_eq] at hin
      exact ih _ _ (mi_add h t v hin.1.1 hin.1.2) hin.2
    | total => exact ih _ _ (mi_mergePending h) hin
    | latest now level num =>
      simp only [timesFit, Bool.and_eq_true, decide_eq_true_eq] at hin
      show MI k sz B ((s.latest now level num).1.run rest) _
      rw [latest_state]
      exact ih _ _ (mi_catchUp h now hin.1.1 hin.1.2).1 hin.2
    | latestBuckets now level num =>
      simp only [timesFit, Bool.and_eq_true, decide_eq_true_eq] at hin
      show MI k sz B ((s.latestBuckets now level num).1.run rest) _
      rcases latestBuckets_state s now level num with e | e <;> rw [e]
      · exact ih _ _ h hin.2
      · exact ih _ _ (mi_catchUp h now hin.1.1 hin.1.2).1 hin.2
    | computeRange a b num =>
      show MI k sz B ((s.computeRange a b num).1.run rest) _
      rcases computeRange_state s a b num with e | e <;> rw [e]
      · exact ih _ _ h hin
      · exact ih _ _ (mi_mergePending h) hin
    | clear => exact ih _ _ (mi_clear h) hin

/-- **Aligned ranges are exact at every level that the invariant follows** (the first `k + 1`; `B` bounds the sum
of the first `k` resolutions): `Range(a, b)` is the sum of the observations added in `(a, b]` since the last
`Clear`, with no approximation. -/
theorem range_exact (n : Nat) (sz : Int) (rest : List Int) (k : Nat) (B : Int) (hn : 1 ≤ n)
    (hZ : zeroTime % sz = 0) (hres : ResOK n sz B ((sz :: rest).take (k + 1))) (ops : List Op) (a b : Int)
    (hin : timesFit B ops = true) (hal : PicksAligned (k + 1) ((TS.init n (sz :: rest)).run ops) a b) :
    (((TS.init n (sz :: rest)).run ops).range a b).2 = some ⟨obsIn a b 0 ops, false⟩ := by
  rw [mi_range (mi_run k sz B ops _ [] (mi_init n sz rest k B hn hZ hres) hin) a b hal]
  exact congrArg (fun x => some (Obs.mk x false)) (obsIn_histList a b ops []).symm

theorem timesFit_zero : ∀ ops : List Op, timesInRange ops = true → timesFit 0 ops = true
  | [], _ => rfl
  | .add .. :: rest, h | .latest .. :: rest, h | .latestBuckets .. :: rest, h => by
    simp only [timesInRange, timesFit, inI64, Int.add_zero, Bool.and_eq_true] at h ⊢
    exact ⟨h.1, timesFit_zero rest h.2⟩
  | .total :: rest, h | .computeRange .. :: rest, h | .clear :: rest, h => timesFit_zero rest h

theorem picks_of_alignedFinest (s : TS) (a b : Int) (m : Nat) (h : alignedFinest s a b = true) :
    PicksAligned (m + 1) s a b := by
  unfold alignedFinest at h
  cases hl : s.levels with
  | nil => rw [hl] at h; exact absurd h Bool.false_ne_true
  | cons l0 r0 =>
    obtain ⟨l1, r1, hl1⟩ := List.exists_cons_of_ne_nil (mergePending_ne s (hl ▸ List.cons_ne_nil _ _))
    obtain ⟨e1, e2, _, _, en⟩ := mergePending_fields s
    unfold TS.end0 at e1
    unfold TS.size0 at e2
    rw [hl1, hl] at e1 e2
    change l1.end_ = l0.end_ at e1
    change l1.size = l0.size at e2
    rw [hl, decide_eq_true_eq, ← e1, ← e2, ← en] at h
    exact ⟨l1, by rw [hl1]; exact pickLevel_first _ _ _ _ h.1, by rw [hl1]; exact List.mem_cons_self, h⟩

/-- **Bucket-aligned ranges of the finest level are exact, for every history with in-range times.** -/
theorem range_exact_full (n : Nat) (sz : Int) (rest : List Int) (hn : 1 ≤ n) (hsz : 0 < sz)
    (hcap : sz * n ≤ maxDur) (hZ : zeroTime % sz = 0) (ops : List Op) (a b : Int)
    (hin : timesInRange ops = true)
    (hal : alignedFinest ((TS.init n (sz :: rest)).run ops) a b = true) :
    (((TS.init n (sz :: rest)).run ops).range a b).2 = some ⟨obsIn a b 0 ops, false⟩ :=
  range_exact n sz rest 0 0 hn hZ ⟨hsz, Int.emod_self, hcap, Int.le_refl _, trivial⟩ ops a b (timesFit_zero ops hin)
    (picks_of_alignedFinest _ a b 0 hal)

/-- An add later than `pendingTime` but a bucket or more before the finest end: it would be filed under the
newest bucket. It cannot happen between operations, where `pendingTime` is that end (`MI.pe`). -/
def addBehind (s : TS) (t : Int) : Bool := decide (s.pendingTime < t ∧ t ≤ s.end0 - s.size0)

def noAddBehind (s : TS) : List Op → Bool
  | [] => true
  | .add t v :: rest => !addBehind s t && noAddBehind (s.step (.add t v)) rest
  | op :: rest => noAddBehind (s.step op) rest

/-- `range_exact_full` with the further hypothesis that no add falls behind an advanced level, which the
proof does not use. -/
theorem range_exact_general (n : Nat) (sz : Int) (rest : List Int) (hn : 1 ≤ n) (hsz : 0 < sz)
    (hcap : sz * n ≤ maxDur) (hZ : zeroTime % sz = 0) (ops : List Op) (a b : Int)
    (hin : timesInRange ops = true) (_ : noAddBehind (TS.init n (sz :: rest)) ops = true)
    (hal : alignedFinest ((TS.init n (sz :: rest)).run ops) a b = true) :
    (((TS.init n (sz :: rest)).run ops).range a b).2 = some ⟨obsIn a b 0 ops, false⟩ :=
  range_exact_full n sz rest hn hsz hcap hZ ops a b hin hal

/-- `(a, b]` (the bucket convention of `mergeValue`: a bucket ending at `E` holds `E - size < t ≤ E`) is
aligned to the grid of the level `ComputeRange` picks for `a` (the finest level whose retained window contains `a`, else the
coarsest) and starts inside that level's window. -/
def alignedPicked (s : TS) (a b : Int) : Bool :=
  match pickLevel s.mergePending.n a s.mergePending.levels with
  | none => false
  | some l => decide (l.end_ - l.size * s.mergePending.n ≤ a ∧ a ≤ b ∧ b - a ≤ maxDur ∧
                      (l.end_ - a) % l.size = 0 ∧ (b - a) % l.size = 0)

theorem picks_of_alignedPicked (s : TS) (a b : Int) (m : Nat) (hm : s.mergePending.levels.length ≤ m)
    (h : alignedPicked s a b = true) : PicksAligned m s a b := by
  unfold alignedPicked at h
  cases hp : pickLevel s.mergePending.n a s.mergePending.levels with
  | none => rw [hp] at h; exact absurd h Bool.false_ne_true
  | some l =>
    rw [hp] at h
    exact ⟨l, hp, by rw [List.take_of_length_le hm]; exact pickLevel_mem _ _ _ _ hp, of_decide_eq_true h⟩

/-- What `ResOK` asks of each resolution by itself, without the running bound `B` on their sum, which
`resOK_sum` supplies. -/
def resOK (n : Nat) (sz0 : Int) (rs : List Int) : Prop :=
  ∀ r ∈ rs, 0 < r ∧ r % sz0 = 0 ∧ r * n ≤ maxDur

theorem ResOK.take {n : Nat} {sz0 : Int} :
    ∀ (rs : List Int) (B : Int) (m : Nat), ResOK n sz0 B rs → ResOK n sz0 B (rs.take m)
  | _, _, 0, _ => trivial
  | [], _, _ + 1, _ => trivial
  | r :: rest, B, m + 1, ⟨h1, h2, h3, h4, h5⟩ => ⟨h1, h2, h3, h4, ResOK.take rest (B - r) m h5⟩

theorem resOK_sum {n : Nat} {sz0 : Int} : ∀ (rs : List Int) (B : Int), resOK n sz0 rs → 0 ≤ B →
    ResOK n sz0 (B + rs.sum) rs ∧ 0 ≤ rs.sum
  | [], _, _, _ => ⟨trivial, Int.le_refl _⟩
  | r :: rest, B, h, hB => by
    obtain ⟨h1, h2, h3⟩ := h r List.mem_cons_self
    obtain ⟨a, b⟩ := resOK_sum rest B (fun x hx => h x (List.mem_cons_of_mem _ hx)) hB
    rw [List.sum_cons]
    exact ⟨⟨h1, h2, h3, by omega, by rw [show B + (r + rest.sum) - r = B + rest.sum by omega]; exact a⟩, by omega⟩

/-- **C61, second clause, every level.** For every configuration whose resolutions are positive multiples
of the finest one (the finest one dividing the zero time) and fit `numBuckets` times into an int64 duration, and for every
history of adds (any order, any rollovers, far jumps), reads (`Total`, `Latest`, `LatestBuckets`,
`ComputeRange`) and `Clear`s whose times leave room for the level ends (`t + Σ resolutions ≤ maxDur`): if the range
`(a, b]` is aligned to the bucket grid of the level `ComputeRange` picks (the finest level whose retained
window contains `a`) and starts inside that level's window, `Range(a, b)` reports exactly the observations
added in it — the proportional-interpolation branch of `extract` is never taken (no approximation flag).
`hsz` and `hcap` repeat `hres` for the finest resolution, and `hS` is not used. -/
theorem range_aligned_exact (n : Nat) (sz : Int) (rest : List Int) (hn : 1 ≤ n) (hsz : 0 < sz)
    (hcap : sz * n ≤ maxDur) (hZ : zeroTime % sz = 0) (hres : resOK n sz (sz :: rest))
    (hS : zeroTime + (sz :: rest).sum ≤ maxDur) (ops : List Op) (a b : Int)
    (hin : timesFit (sz :: rest).sum ops = true)
    (hal : alignedPicked ((TS.init n (sz :: rest)).run ops) a b = true) :
    (((TS.init n (sz :: rest)).run ops).range a b).2 = some ⟨obsIn a b 0 ops, false⟩ := by
  have hR : ResOK n sz (0 + (sz :: rest).sum) (sz :: rest) := (resOK_sum _ 0 hres (Int.le_refl _)).1
  rw [Int.zero_add] at hR
  -- the invariant follows as many levels as the final state has (`k` is found from `Nat.le_succ`), so that no
  -- count of the levels is kept
  exact range_exact n sz rest _ (sz :: rest).sum hn hZ (hR.take _ _ _) ops a b hin
    (picks_of_alignedPicked _ a b _ (Nat.le_succ _) hal)

end NetVerif.Proofs.TSRange
