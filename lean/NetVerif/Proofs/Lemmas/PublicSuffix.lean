import NetVerif.Model.PublicSuffix
/-! The loop of `PublicSuffix`, one round at a time (`walk_cons` over a trie, `flatWalk_cons` over the packed tables, with
`nextSt` / `stopRes`): on the trie gen.go builds from a rule list (`nodeAt`) it simulates the PSL scan (`walk_eq_spec`), and
over the packed tables it is the loop over any trie that agrees with them along the domain (`flatWalk_eq_walk`). -/
namespace NetVerif.Proofs.Lemmas.PublicSuffix
open NetVerif.Model.PublicSuffix

/-- A trie node has one `ntype`, that of the first non-wildcard rule with its labels (`nodeAt`), so it cannot record a
normal and an exception rule on the same labels, both of which the PSL scan sees; `nodeAt_type` rests on this. -/
def NoConflict (rules : List Rule) : Prop :=
  ∀ p, ¬ (hasNormal rules p = true ∧ hasExc rules p = true)

theorem hasKind_iff (rules : List Rule) (k : Kind) (p : List Nat) :
    hasKind rules k p = true ↔ ∃ r ∈ rules, r.kind = k ∧ r.labels = p := by
  simp [hasKind]

@[simp] theorem listIndex_exc (rules : List Rule) : (listIndex rules).exc = hasExc rules := rfl
@[simp] theorem listIndex_normal (rules : List Rule) : (listIndex rules).normal = hasNormal rules := rfl
@[simp] theorem listIndex_wild (rules : List Rule) : (listIndex rules).wild = hasWild rules := rfl

theorem nodeAt_none (rules : List Rule) (p : List Nat) (h : nodeAt rules p = none) :
    ∀ r ∈ rules, ¬ p <+: r.labels := by
  unfold nodeAt at h
  by_cases hany : rules.any (fun r => p.isPrefixOf r.labels) = true
  · rw [if_pos hany] at h; exact absurd h (Option.some_ne_none _)
  · simp only [List.any_eq_true, not_exists, not_and, Bool.not_eq_true] at hany
    intro r hr hp
    have := hany r hr
    have hh := List.isPrefixOf_iff_prefix.mpr hp
    rw [this] at hh
    exact Bool.noConfusion hh

theorem hasKind_dead (rules : List Rule) (k : Kind) (p : List Nat) (h : ∀ r ∈ rules, ¬ p <+: r.labels) :
    hasKind rules k p = false :=
  Bool.eq_false_iff.mpr fun hc => by
    obtain ⟨r, hr, _, hl⟩ := (hasKind_iff _ _ _).mp hc
    exact h r hr (hl ▸ List.prefix_refl _)

theorem spec_dead (rules : List Rule) : ∀ (more p : List Nat) (best : Option Nat) (flag : Bool),
    (∀ r ∈ rules, ¬ p <+: r.labels) →
      specGo (listIndex rules) p more best = best ∧ specFlagGo rules p more flag = flag
  | [], _, _, _, _ => ⟨rfl, rfl⟩
  | l :: more, p, best, flag, h => by
    have hp : ∀ r ∈ rules, ¬ (p ++ [l]) <+: r.labels := fun r hr hpre =>
      h r hr ((List.prefix_append p [l]).trans hpre)
    have e1 : hasExc rules (p ++ [l]) = false := hasKind_dead rules _ _ hp
    have e2 : hasNormal rules (p ++ [l]) = false := hasKind_dead rules _ _ hp
    have e3 : hasWild rules p = false := hasKind_dead rules _ _ h
    simp only [specGo, specFlagGo, listIndex_exc, listIndex_normal, listIndex_wild, e1, e2, e3,
      Bool.false_eq_true, if_false, Bool.or_self]
    exact spec_dead rules more (p ++ [l]) best flag hp

theorem nodeAt_some (rules : List Rule) (p : List Nat) (nd : NodeInfo) (h : nodeAt rules p = some nd) :
    nd = { icann := rules.all (fun r => !decide (r.labels = p) || r.icann)
           ntype := match rules.find? (fun r => decide (r.labels = p) && !decide (r.kind = .wildcard)) with
             | some r => if r.kind = .exception then 1 else 0
             | none => 2
           wildcard := hasWild rules p } := by
  unfold nodeAt at h
  split at h
  · exact (Option.some.inj h).symm
  · cases h

theorem nodeAt_wild (rules : List Rule) (p : List Nat) (nd : NodeInfo) (h : nodeAt rules p = some nd) :
    nd.wildcard = hasWild rules p := by
  rw [nodeAt_some rules p nd h]

theorem nodeAt_type (rules : List Rule) (hnc : NoConflict rules) (p : List Nat) (nd : NodeInfo)
    (h : nodeAt rules p = some nd) :
    (nd.ntype = 1 ↔ hasExc rules p = true) ∧ (nd.ntype = 0 ↔ hasNormal rules p = true) := by
  rw [nodeAt_some rules p nd h]
  simp only
  cases hf : rules.find? (fun r => decide (r.labels = p) && !decide (r.kind = .wildcard)) with
  | some r =>
    have hmem := List.mem_of_find?_eq_some hf
    have hpr := List.find?_some hf
    simp only [Bool.and_eq_true, decide_eq_true_eq, Bool.not_eq_true', decide_eq_false_iff_not] at hpr
    simp only
    cases hk : r.kind with
    | wildcard => exact absurd hk hpr.2
    | exception =>
      have hex : hasExc rules p = true := (hasKind_iff _ _ _).mpr ⟨r, hmem, hk, hpr.1⟩
      have hno : hasNormal rules p ≠ true := fun hn => hnc p ⟨hn, hex⟩
      rw [if_pos rfl]
      exact ⟨iff_of_true rfl hex, iff_of_false (by decide) hno⟩
    | normal =>
      have hn : hasNormal rules p = true := (hasKind_iff _ _ _).mpr ⟨r, hmem, hk, hpr.1⟩
      have hne : hasExc rules p ≠ true := fun he => hnc p ⟨hn, he⟩
      rw [if_neg (by decide)]
      exact ⟨iff_of_false (by decide) hne, iff_of_true rfl hn⟩
  | none =>
    have hnone := List.find?_eq_none.mp hf
    have hno : ∀ k, k ≠ Kind.wildcard → hasKind rules k p ≠ true := by
      intro k hk hc
      obtain ⟨r, hr, hkk, hl⟩ := (hasKind_iff _ _ _).mp hc
      exact hnone r hr (by rw [hl, hkk]; simpa using hk)
    exact ⟨iff_of_false (by decide) (hno _ (by decide)), iff_of_false (by decide) (hno _ (by decide))⟩

theorem find_sound (lab : Nat → Nat) (x : Nat) (fuel : Nat) : ∀ (lo hi i : Nat),
    find lab x fuel lo hi = some i → lo ≤ i ∧ i < hi ∧ lab i = x := by
  induction fuel with
  | zero => intro _ _ _ h; cases h
  | succ fuel ih =>
    intro lo hi i h
    rw [find] at h
    by_cases hlt : lo < hi
    · rw [if_pos hlt] at h
      have hm : lo ≤ lo + (hi - lo) / 2 ∧ lo + (hi - lo) / 2 < hi := by omega
      simp only at h
      generalize lo + (hi - lo) / 2 = mid at h hm
      by_cases c1 : lab mid < x
      · rw [if_pos c1] at h
        have := ih _ _ _ h
        omega
      · rw [if_neg c1] at h
        by_cases c2 : lab mid = x
        · rw [if_pos c2] at h
          cases h
          exact ⟨hm.1, hm.2, c2⟩
        · rw [if_neg c2] at h
          have := ih _ _ _ h
          omega
    · rw [if_neg hlt] at h
      cases h

theorem find_complete (lab : Nat → Nat) (x : Nat) (fuel : Nat) : ∀ (lo hi i : Nat),
    (∀ a b, lo ≤ a → a < b → b < hi → lab a < lab b) → lo ≤ i → i < hi → lab i = x → hi - lo < fuel →
    find lab x fuel lo hi = some i := by
  induction fuel with
  | zero => intro _ _ _ _ _ _ _ hf; omega
  | succ fuel ih =>
    intro lo hi i hs h1 h2 hx hf
    have hm1 : lo ≤ lo + (hi - lo) / 2 := by omega
    have hm2 : lo + (hi - lo) / 2 < hi := by omega
    rw [find, if_pos (by omega)]
    show (if lab (lo + (hi - lo) / 2) < x then _ else _) = _
    generalize lo + (hi - lo) / 2 = mid at hm1 hm2
    -- `lab` is monotone, so comparing `lab mid` with `lab i` locates `i`
    rcases Nat.lt_trichotomy i mid with hlt | heq | hgt
    · have := hs i mid h1 hlt hm2
      rw [if_neg (by omega), if_neg (by omega)]
      exact ih lo mid i (fun a b ha hab hb => hs a b ha hab (by omega)) h1 hlt hx (by omega)
    · rw [← heq, if_neg (by omega), if_pos hx]
    · have := hs mid i hm1 hgt h2
      rw [if_pos (by omega)]
      exact ih (mid + 1) hi i (fun a b ha hab hb => hs a b (by omega) hab hb) (by omega) h2 hx (by omega)

theorem reach_snoc (f : Flat) (p : List Nat) (l : Nat) :
    f.reach (p ++ [l]) = (f.reach p).bind (fun x => f.child x.2.1 x.2.2 l) := by
  simp [Flat.reach, List.foldl_append]

/-- The state with which the loop of `PublicSuffix` goes on below a node `nd` that is no exception rule, `depth` labels
from the TLD. -/
def nextSt (st : WalkSt) (depth : Nat) (nd : NodeInfo) : WalkSt :=
  { wild := nd.wildcard, icannNode := nd.icann,
    suffix := if nd.ntype = 0 then some (depth + 1) else if st.wild then some (depth + 1) else st.suffix,
    icann := if nd.ntype = 0 then nd.icann else if st.wild then st.icannNode else st.icann }

/-- What the loop returns when it stops above a missing node. -/
def stopRes (st : WalkSt) (depth : Nat) : Option Nat × Bool :=
  (if st.wild then some (depth + 1) else st.suffix, if st.wild then st.icannNode else st.icann)

/-- One round of the loop; the test `dot == -1` after the last label returns what the next round would return. -/
theorem walk_cons (look : List Nat → Option NodeInfo) (path : List Nat) (l : Nat) (more : List Nat) (st : WalkSt) :
    walk look path (l :: more) st =
      match look (path ++ [l]) with
      | none => stopRes st path.length
      | some nd => if nd.ntype = 1 then (some path.length, nd.icann)
          else walk look (path ++ [l]) more (nextSt st path.length nd) := by
  rw [walk]
  cases look (path ++ [l]) with
  | none => rfl
  | some nd => cases more <;> rfl

theorem flatWalk_cons (f : Flat) (depth l : Nat) (more : List Nat) (lo hi : Nat) (st : WalkSt) :
    flatWalk f depth (l :: more) lo hi st =
      match f.child lo hi l with
      | none => stopRes st depth
      | some (nd, lo', hi') => if nd.ntype = 1 then (some depth, nd.icann)
          else flatWalk f (depth + 1) more lo' hi' (nextSt st depth nd) := by
  rw [flatWalk]
  cases f.child lo hi l with
  | none => rfl
  | some y => cases more <;> rfl

/-- Only non-empty paths are compared: the loop never looks up the root, where `Flat.look` gives a fixed record and
`nodeAt` the node of an empty label sequence. -/
theorem flatWalk_eq_walk (f : Flat) (look : List Nat → Option NodeInfo) :
    ∀ (rest path : List Nat) (lo hi : Nat) (st : WalkSt) (x : NodeInfo),
    (∀ p, p ≠ [] → p <+: path ++ rest → f.look p = look p) → f.reach path = some (x, lo, hi) →
    flatWalk f path.length rest lo hi st = walk look path rest st
  | [], _, _, _, _, _, _, _ => rfl
  | l :: more, path, lo, hi, st, x, hl, hr => by
    have hl' : ∀ p, p ≠ [] → p <+: (path ++ [l]) ++ more → f.look p = look p := by rw [List.append_assoc]; exact hl
    have hstep : f.reach (path ++ [l]) = f.child lo hi l := by rw [reach_snoc, hr]; rfl
    rw [flatWalk_cons, walk_cons, ← hl' (path ++ [l]) (by simp) (List.prefix_append _ _), Flat.look, hstep]
    cases hc : f.child lo hi l with
    | none => rfl
    | some y =>
      obtain ⟨nd, lo', hi'⟩ := y
      have := flatWalk_eq_walk f look more (path ++ [l]) lo' hi' (nextSt st path.length nd) nd hl' (hstep.trans hc)
      rw [List.length_append] at this
      exact congrArg (fun r => if nd.ntype = 1 then (some path.length, nd.icann) else r) this

/-- Rules with the same label sequence (e.g. `b.c` and `*.b.c`) are in the same section: the packed
trie has one ICANN bit per node. -/
def FlagConsistent (rules : List Rule) : Prop :=
  ∀ r1 ∈ rules, ∀ r2 ∈ rules, r1.labels = r2.labels → r1.icann = r2.icann

theorem nodeAt_icann (rules : List Rule) (hfc : FlagConsistent rules) (p : List Nat) (nd : NodeInfo)
    (h : nodeAt rules p = some nd) (k : Kind) (hk : hasKind rules k p = true) :
    nd.icann = firstFlag rules k p := by
  rw [nodeAt_some rules p nd h]
  simp only
  unfold firstFlag
  obtain ⟨r, hr, hkk, hl⟩ := (hasKind_iff _ _ _).mp hk
  cases hf : rules.find? (fun r => decide (r.kind = k) && decide (r.labels = p)) with
  | none =>
    have := List.find?_eq_none.mp hf r hr
    simp [hkk, hl] at this
  | some r0 =>
    have hmem := List.mem_of_find?_eq_some hf
    have hpr := List.find?_some hf
    simp only [Bool.and_eq_true, decide_eq_true_eq] at hpr
    simp only
    cases hi : r0.icann with
    | true =>
      rw [List.all_eq_true]
      intro r' hr'
      by_cases hl' : r'.labels = p
      · have := hfc r' hr' r0 hmem (by rw [hl', hpr.2])
        simp [this, hi]
      · simp [hl']
    | false =>
      rw [Bool.eq_false_iff]
      intro hall
      have := List.all_eq_true.mp hall r0 hmem
      simp [hpr.2, hi] at this

/-- The loop's state carries the wildcard bit and the flag of the node just passed; the scan reads the same off the
rules at `path`. -/
theorem walk_eq_spec (rules : List Rule) (hnc : NoConflict rules) (hfc : FlagConsistent rules) :
    ∀ (rest path : List Nat) (st : WalkSt), st.wild = hasWild rules path →
      (st.wild = true → st.icannNode = firstFlag rules .wildcard path) →
      walk (nodeAt rules) path rest st =
        (specGo (listIndex rules) path rest st.suffix, specFlagGo rules path rest st.icann)
  | [], _, _, _, _ => rfl
  | l :: more, path, st, hw, hin => by
    rw [walk_cons, specGo, specFlagGo]
    have hic1 : (if hasWild rules path = true then st.icannNode else st.icann) =
        (if hasWild rules path = true then firstFlag rules .wildcard path else st.icann) := by
      by_cases hwt : hasWild rules path = true
      · rw [if_pos hwt, if_pos hwt, hin (hw.trans hwt)]
      · rw [if_neg hwt, if_neg hwt]
    cases hlook : nodeAt rules (path ++ [l]) with
    | none =>
      have hdead := nodeAt_none rules _ hlook
      have e1 : hasExc rules (path ++ [l]) = false := hasKind_dead rules _ _ hdead
      have e2 : hasNormal rules (path ++ [l]) = false := hasKind_dead rules _ _ hdead
      simp only [listIndex_exc, listIndex_normal, listIndex_wild, e1, e2, Bool.false_eq_true, if_false,
        Bool.false_or, (spec_dead rules more (path ++ [l]) _ false hdead).1,
        (spec_dead rules more (path ++ [l]) none _ hdead).2, stopRes, hw, hic1]
    | some nd =>
      obtain ⟨ht1, ht0⟩ := nodeAt_type rules hnc _ nd hlook
      have hwd := nodeAt_wild rules _ nd hlook
      simp only [listIndex_exc, listIndex_normal, listIndex_wild]
      by_cases h1 : nd.ntype = 1
      · have hex := ht1.mp h1
        simp only [h1, if_true, hex, nodeAt_icann rules hfc _ nd hlook .exception hex, Nat.add_sub_cancel]
      · have hex : hasExc rules (path ++ [l]) = false := Bool.eq_false_iff.mpr fun hc => h1 (ht1.mpr hc)
        simp only [h1, if_false, hex, Bool.false_eq_true]
        rw [walk_eq_spec rules hnc hfc more (path ++ [l]) _ hwd fun hwt =>
          nodeAt_icann rules hfc _ nd hlook .wildcard (hwd.symm.trans hwt)]
        by_cases h0 : nd.ntype = 0
        · have hn := ht0.mp h0
          simp only [nextSt, h0, if_true, hn, Bool.true_or, nodeAt_icann rules hfc _ nd hlook .normal hn]
        · have hn : hasNormal rules (path ++ [l]) = false :=
            Bool.eq_false_iff.mpr fun hc => h0 (ht0.mpr hc)
          simp only [nextSt, h0, if_false, hn, Bool.false_eq_true, Bool.false_or, hw, hic1]

end NetVerif.Proofs.Lemmas.PublicSuffix
