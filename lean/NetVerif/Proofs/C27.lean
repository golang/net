import NetVerif.Model.AntiAmp
import NetVerif.Gen.C27
import NetVerif.Proofs.Lemmas.IfCases
/-!
C27 — QUIC servers never amplify beyond three times the received bytes until the
client's address is validated. `sent + credit = 3·received` is invariant PROVIDED every send is
preceded by `size ≤ maxSendSize()`: under that precondition the `max(0, …)` clamp of `packetSent`
is never active, without it the clamp absorbs the excess and the invariant fails. The gating of
`Conn.maybeSend` is the hypothesis `AllCPre` (`Model.AntiAmp.CPre`, read off conn_send.go and tied to the code
by the wire monitor, not derived from a model of `maybeSend`): a datagram that needs padding to 1200 bytes is
only built when `maxSendSize()` covers it. Under it every send meets the precondition (`cpre_pre`), hence `holds`.
-/
namespace NetVerif.Proofs.C27
open NetVerif NetVerif.Model.AntiAmp

theorem gen_consts_eq :
    Gen.C27.antiAmplificationUnlimited = unlimited ∧ Gen.C27.minPacketSize = minPacketSize ∧
    Gen.C27.smallestMaxDatagramSize = maxDatagramSize ∧ Gen.C27.connMaxDatagramSize = maxDatagramSize ∧
    Gen.C27.paddedInitialDatagramSize = paddedInitial ∧
    Gen.C27.clientSide = clientSide ∧ Gen.C27.serverSide = serverSide := by decide

/-- The credit is assigned in exactly these four functions of package quic. -/
theorem gen_writers_eq :
    Gen.C27.creditWriters = ["lossState.datagramReceived", "lossState.init", "lossState.packetSent",
      "lossState.validateClientAddress"] := by decide

theorem gen_initCredit_eq (l side : Int) : Gen.C27.initCredit l side = some (initCredit l side) := by
  unfold Gen.C27.initCredit initCredit clientSide unlimited; split <;> rfl

theorem gen_datagramReceived_eq (l n : Int) :
    Gen.C27.datagramReceived l n = some (datagramReceived l n) := by
  unfold Gen.C27.datagramReceived datagramReceived unlimited; split <;> rfl

theorem gen_packetSent_eq (l n : Int) : Gen.C27.packetSent l n = some (packetSent l n) := by
  unfold Gen.C27.packetSent packetSent unlimited; split <;> rfl

theorem gen_validateClientAddress_eq (l : Int) :
    Gen.C27.validateClientAddress l = some (validateClientAddress l) := rfl

theorem gen_maxSendSize_eq (l m : Int) : Gen.C27.maxSendSize l m = some (maxSendSize l m) := rfl

theorem gen_blocked_eq (l : Int) : Gen.C27.blocked l = some (blocked l) := rfl

def NoValidate : List Op → Prop
  | [] => True
  | .validate :: _ => False
  | _ :: t => NoValidate t

instance : (ops : List Op) → Decidable (NoValidate ops)
  | [] => .isTrue trivial
  | .validate :: _ => .isFalse id
  | .recv _ :: t => by unfold NoValidate; exact instDecidableNoValidate t
  | .send _ :: t => by unfold NoValidate; exact instDecidableNoValidate t

theorem packetSent_of_le {l n d : Int} (hu : l ≠ unlimited) (h : n ≤ maxSendSize l d) : packetSent l n = l - n := by
  simp only [packetSent, hu, ne_eq, not_false_eq_true, if_true, maxSendSize] at *; omega

private theorem recvTotal_nonneg (ops : List Op) : ∀ s, AllPre s ops → 0 ≤ recvTotal ops := by
  induction ops with
  | nil => intro _ _; simp [recvTotal]
  | cons op t ih =>
    intro s hp
    obtain ⟨hp1, hp2⟩ := hp
    have := ih _ hp2
    cases op with
    | recv n => exact Int.add_nonneg hp1 this
    | _ => exact this

/-- C27, the counter: under `AllPre` no byte of credit is lost to the clamp, at any point of the history: `p ++ q` is
the history, which the hypotheses speak of, and `p` the part already run, which the conclusion speaks of. -/
theorem counter_exact_at (p q : List Op) : ∀ (s : St), s.credit ≠ unlimited → 0 ≤ s.credit →
    AllPre s (p ++ q) → NoValidate (p ++ q) → s.credit + 3 * recvTotal (p ++ q) < unlimited →
    (run s p).sent + (run s p).credit = s.sent + s.credit + 3 * recvTotal p ∧
    (run s p).recvd = s.recvd + recvTotal p ∧
    0 ≤ (run s p).credit ∧ (run s p).credit ≠ unlimited := by
  induction p with
  | nil => intro s h1 h2 _ _ _; simp [run, recvTotal]; exact ⟨h2, h1⟩
  | cons op t ih =>
    intro s h1 h2 hp hv hb
    obtain ⟨hp1, hp2⟩ := hp
    have hnn : 0 ≤ recvTotal (t ++ q) := recvTotal_nonneg _ _ hp2
    cases op with
    | validate => exact absurd hv (by simp [NoValidate])
    | recv n =>
      simp only [Pre] at hp1
      simp only [List.cons_append, recvTotal] at hb ⊢
      have hc : (step s (.recv n)).credit = s.credit + 3 * n := by
        simp [step, datagramReceived, h1]
      have := ih (step s (.recv n)) (by rw [hc]; unfold unlimited at *; omega) (by rw [hc]; omega) hp2
        (by simpa [NoValidate] using hv) (by rw [hc]; omega)
      rw [show run s (.recv n :: t) = run (step s (.recv n)) t from rfl]
      rw [hc, show (step s (.recv n)).sent = s.sent from rfl,
        show (step s (.recv n)).recvd = s.recvd + n from rfl] at this
      exact ⟨by omega, by omega, this.2.2⟩
    | send n =>
      simp only [Pre] at hp1
      simp only [List.cons_append, recvTotal] at hb ⊢
      have hc : (step s (.send n)).credit = s.credit - n := packetSent_of_le h1 hp1.2
      have := ih (step s (.send n)) (by rw [hc]; unfold unlimited at *; omega)
        (by rw [hc]; simp only [maxSendSize] at hp1; omega) hp2 (by simpa [NoValidate] using hv) (by rw [hc]; omega)
      rw [show run s (.send n :: t) = run (step s (.send n)) t from rfl]
      rw [hc, show (step s (.send n)).sent = s.sent + n from rfl,
        show (step s (.send n)).recvd = s.recvd from rfl] at this
      exact ⟨by omega, by omega, this.2.2⟩

theorem counter_exact (ops : List Op) : ∀ (s : St), s.credit ≠ unlimited → 0 ≤ s.credit →
    AllPre s ops → NoValidate ops → s.credit + 3 * recvTotal ops < unlimited →
    (run s ops).sent + (run s ops).credit = s.sent + s.credit + 3 * recvTotal ops ∧
    (run s ops).recvd = s.recvd + recvTotal ops ∧
    0 ≤ (run s ops).credit ∧ (run s ops).credit ≠ unlimited := by
  have := counter_exact_at ops []
  rwa [List.append_nil] at this

private theorem server_exact_at (p q : List Op) (hp : AllPre St.server (p ++ q)) (hv : NoValidate (p ++ q))
    (hb : 3 * recvTotal (p ++ q) < unlimited) :
    (run St.server p).sent + (run St.server p).credit = 3 * (run St.server p).recvd ∧
    0 ≤ (run St.server p).credit := by
  have h := counter_exact_at p q St.server (by decide) (by decide) hp hv
    (by show (0 : Int) + _ < _; omega)
  rw [show St.server.sent = 0 from rfl, show St.server.credit = 0 from rfl, show St.server.recvd = 0 from rfl] at h
  omega

/-- C27 on the counter model, at every point of the history. -/
theorem sent_le_three_recv_always (p q : List Op) (hp : AllPre St.server (p ++ q))
    (hv : NoValidate (p ++ q)) (hb : 3 * recvTotal (p ++ q) < unlimited) :
    (run St.server p).sent ≤ 3 * (run St.server p).recvd := by
  have := server_exact_at p q hp hv hb
  omega

theorem sent_le_three_recv (ops : List Op) (hp : AllPre St.server ops) (hv : NoValidate ops)
    (hb : 3 * recvTotal ops < unlimited) :
    (run St.server ops).sent ≤ 3 * (run St.server ops).recvd := by
  have := sent_le_three_recv_always ops []
  rw [List.append_nil] at this
  exact this hp hv hb

theorem clamp_never_active (s : St) (n : Int) (h1 : s.credit ≠ unlimited) (hp : Pre s (.send n)) :
    packetSent s.credit n = s.credit - n := packetSent_of_le h1 hp.2

/-- Without `AllPre` the bound fails: the clamp absorbs the excess of the last send silently. -/
theorem precondition_needed :
    ∃ ops, NoValidate ops ∧ (run St.server ops).sent > 3 * (run St.server ops).recvd :=
  ⟨[.recv 1250, .send 1200, .send 1200, .send 1200, .send 1200], by decide⟩

/-- A datagram made of several packets is charged packet by packet; the clamps compose. -/
theorem packetSent_compose (l a b : Int) (hl : l ≤ unlimited) (ha : 0 ≤ a) (hb : 0 ≤ b) :
    packetSent (packetSent l a) b = packetSent l (a + b) := by
  unfold packetSent unlimited at *
  repeat' split
  all_goals omega

def NoValidateC : List COp → Prop
  | [] => True
  | .validate :: _ => False
  | _ :: t => NoValidateC t

instance : (ops : List COp) → Decidable (NoValidateC ops)
  | [] => .isTrue trivial
  | .validate :: _ => .isFalse id
  | .recv _ :: t => by unfold NoValidateC; exact instDecidableNoValidateC t
  | .csend _ _ :: t => by unfold NoValidateC; exact instDecidableNoValidateC t

/-- C27 on the model of the send path: whatever the gating of `Conn.maybeSend`
(`sendLimit ≠ ccBlocked`, packets fit `maxSendSize()`) lets through stays within 3×. -/
def CodeStatement : Prop :=
  ∀ ops : List COp, AllCPre St.server ops → NoValidateC ops → 3 * crecvTotal ops < unlimited →
    (crun St.server ops).sent ≤ 3 * (crun St.server ops).recvd

/-- The known finding `padded-initial-exceeds-credit` (repaired in /repo): a 1250-byte client Initial, three padded 1200-byte replies (credit 150
left), then a PTO probe whose 150 bytes of packets are padded to 1200. -/
def witness : List COp :=
  [.recv 1250, .csend 1200 true, .csend 1200 true, .csend 1200 true, .csend 150 true]

def toOp : COp → Op
  | .recv n => .recv n
  | .csend k pad => .send (codeDatagramSize k pad)
  | .validate => .validate

private theorem cstep_eq (s : St) (op : COp) : cstep s op = step s (toOp op) := by cases op <;> rfl

private theorem crun_eq (ops : List COp) : ∀ s, crun s ops = run s (ops.map toOp) := by
  induction ops with
  | nil => intro _; rfl
  | cons op t ih => intro s; simp only [crun, run, List.foldl, List.map] at *; rw [cstep_eq]; exact ih _

theorem cpre_pre (s : St) (op : COp) (h : CPre s op) : Pre s (toOp op) := by
  cases op with
  | recv n => exact h
  | validate => trivial
  | csend k pad =>
    simp only [CPre] at h
    obtain ⟨_, hk, hm, hp⟩ := h
    simp only [toOp, Pre, codeDatagramSize]
    cases pad with
    | false => exact ⟨by omega, hm⟩
    | true => have := hp rfl; simp only [if_true]; omega

private theorem allCPre_allPre (ops : List COp) : ∀ s, AllCPre s ops → AllPre s (ops.map toOp) := by
  induction ops with
  | nil => intro _ _; trivial
  | cons op t ih => intro s h; exact ⟨cpre_pre s op h.1, by rw [← cstep_eq]; exact ih _ h.2⟩

private theorem noValidateC_map (ops : List COp) : NoValidateC ops → NoValidate (ops.map toOp) := by
  induction ops with
  | nil => intro _; trivial
  | cons op t ih =>
    intro h
    cases op with
    | validate => exact h
    | _ => exact ih h

private theorem crecvTotal_map (ops : List COp) : recvTotal (ops.map toOp) = crecvTotal ops := by
  induction ops with
  | nil => rfl
  | cons op t ih => cases op <;> simp [recvTotal, crecvTotal, toOp, ih]

theorem holds : CodeStatement := by
  intro ops hp hv hb
  rw [crun_eq]
  exact sent_le_three_recv _ (allCPre_allPre ops _ hp) (noValidateC_map ops hv) (by rw [crecvTotal_map]; exact hb)

theorem code_exact (ops : List COp) (hp : AllCPre St.server ops) (hv : NoValidateC ops)
    (hb : 3 * crecvTotal ops < unlimited) :
    (crun St.server ops).sent + (crun St.server ops).credit = 3 * (crun St.server ops).recvd := by
  rw [crun_eq]
  have := server_exact_at (ops.map toOp) []
  rw [List.append_nil] at this
  exact (this (allCPre_allPre ops _ hp) (noValidateC_map ops hv) (by rw [crecvTotal_map]; exact hb)).1

/-- Bytes received from address `a`, summed over the trace itself and not read off the monitor's
tables; likewise `sentOf`, `hsOf`. -/
def recvOf (a : Nat) : List Ev → Int
  | [] => 0
  | .recv b n _ _ :: t => (if b = a then n else 0) + recvOf a t
  | _ :: t => recvOf a t

def sentOf (a : Nat) : List Ev → Int
  | [] => 0
  | .send b n _ _ _ :: t => (if b = a then n else 0) + sentOf a t
  | _ :: t => sentOf a t

def hsOf (a : Nat) : List Ev → Bool
  | [] => false
  | .recv b _ _ h :: t => (decide (b = a) && h) || hsOf a t
  | _ :: t => hsOf a t

def Inv (m : Mon) : Prop := ∀ a, m.validated a = false → m.sent a ≤ 3 * m.recvd a

theorem inv_init : Inv Mon.init := by intro a _; simp [Mon.init]

/-- What an accepted event does to the four per-address tables; the other fields are the monitor's picture of the
connection and do not enter the property, except that a send by the connection is charged as `packetSent` charges it
and leaves the credit the trace reports. -/
private theorem mstep_send (m m' : Mon) (b n byConn c k) (h : mstep m (.send b n byConn c k) = .ok m') :
    m'.sent = bump m.sent b n ∧ m'.recvd = m.recvd ∧ m'.hs = m.hs ∧
        m'.validated = m.validated ∧ (m'.validated b = false → m'.sent b ≤ 3 * m'.recvd b) ∧
        (byConn = true → m'.credit = packetSent m.credit n ∧ c = packetSent m.credit n) := by
  have amp : ∀ {m₁ : Mon}, ¬ ((!m₁.validated b) = true ∧ m₁.sent b > 3 * m₁.recvd b) →
      m₁.validated b = false → m₁.sent b ≤ 3 * m₁.recvd b :=
    fun hc hv => Int.not_lt.mp fun hgt => hc ⟨by rw [hv]; rfl, hgt⟩
  simp only [mstep] at h
  obtain ⟨_, h⟩ := Lemmas.ok_of_ite_error h
  cases byConn
  · obtain ⟨hc, h⟩ := Lemmas.ok_of_ite_error h
    cases h
    exact ⟨rfl, rfl, rfl, rfl, amp hc, nofun⟩
  · obtain ⟨_, h⟩ := Lemmas.ok_of_ite_error h
    obtain ⟨_, h⟩ := Lemmas.ok_of_ite_error h
    obtain ⟨_, h⟩ := Lemmas.ok_of_ite_error h
    obtain ⟨hcm, h⟩ := Lemmas.ok_of_ite_error h
    split at h
    · obtain ⟨hc, h⟩ := Lemmas.ok_of_ite_error h
      cases h
      exact ⟨rfl, rfl, rfl, rfl, amp hc, fun _ => ⟨rfl, (Decidable.not_not.mp hcm).symm⟩⟩
    · cases h

private theorem mstep_recv (m m' : Mon) (b n r hs) (h : mstep m (.recv b n r hs) = .ok m') :
    0 ≤ n ∧ m'.sent = m.sent ∧ m'.recvd = bump m.recvd b n ∧
        m'.hs = (if hs then setB m.hs b else m.hs) ∧ m'.validated = m.validated := by
  simp only [mstep] at h
  obtain ⟨hn, h⟩ := Lemmas.ok_of_ite_error h
  cases r
  · cases h
    exact ⟨Int.not_lt.mp hn, rfl, rfl, rfl, rfl⟩
  · obtain ⟨_, h⟩ := Lemmas.ok_of_ite_error h
    split at h <;> cases h <;> exact ⟨Int.not_lt.mp hn, rfl, rfl, rfl, rfl⟩
  · obtain ⟨_, h⟩ := Lemmas.ok_of_ite_error h
    cases h
    exact ⟨Int.not_lt.mp hn, rfl, rfl, rfl, rfl⟩

private theorem mstep_validated (m m' : Mon) (h : mstep m .validated = .ok m') :
   m'.sent = m.sent ∧ m'.recvd = m.recvd ∧ m'.hs = m.hs ∧
        m'.validated = setB m.validated m.connAddr ∧ m.hs m.connAddr = true := by
  simp only [mstep] at h
  obtain ⟨_, h⟩ := Lemmas.ok_of_ite_error h
  obtain ⟨hh, h⟩ := Lemmas.ok_of_ite_error h
  cases h
  exact ⟨rfl, rfl, rfl, rfl, by simpa using hh⟩

private theorem mstep_cred (m m' : Mon) (c) (h : mstep m (.cred c) = .ok m') : m' = m := by
  simp only [mstep] at h
  repeat' split at h
  all_goals cases h
  all_goals rfl

private theorem bump_apply (f : Nat → Int) (a : Nat) (n : Int) (x : Nat) :
    bump f a n x = f x + if a = x then n else 0 := by
  unfold bump
  by_cases h : x = a
  · simp [h]
  · simp [h, Ne.symm h]

private theorem setB_apply (f : Nat → Bool) (a x : Nat) : setB f a x = (f x || decide (a = x)) := by
  unfold setB
  by_cases h : x = a
  · simp [h]
  · simp [h, Ne.symm h]

/-- Validation was legitimate: the address had sent a genuine Handshake packet. -/
def Legit (m : Mon) : Prop := ∀ a, m.validated a = true → m.hs a = true

/-- An accepted event moves its own share of the trace sums `sentOf`, `recvOf`, `hsOf` of any trace `e :: t` into the
tables, and keeps both invariants at every address. -/
private theorem mstep_facts (m m' : Mon) (e : Ev) (h : mstep m e = .ok m') (a : Nat) (t : List Ev) :
    m'.sent a + sentOf a t = m.sent a + sentOf a (e :: t) ∧ m'.recvd a + recvOf a t = m.recvd a + recvOf a (e :: t) ∧
    (m'.hs a || hsOf a t) = (m.hs a || hsOf a (e :: t)) ∧
    (Legit m → m'.validated a = true → m'.hs a = true) ∧
    (Inv m → m'.validated a = false → m'.sent a ≤ 3 * m'.recvd a) := by
  cases e with
  | recv b n r hs =>
    obtain ⟨hn, h1, h2, h3, h4⟩ := mstep_recv m m' b n r hs h
    rw [h1, h2, h3, h4, bump_apply]
    refine ⟨by simp [sentOf], by simp only [recvOf]; omega, ?_, fun hl hv => ?_, fun hi hv => ?_⟩
    · cases hs <;> simp [hsOf, setB_apply, Bool.or_assoc]
    · cases hs <;> simp [setB_apply, hl a hv]
    · have := hi a hv
      split <;> omega
  | send b n byConn c k =>
    obtain ⟨h1, h2, h3, h4, h5, _⟩ := mstep_send m m' b n byConn c k h
    refine ⟨by simp only [h1, bump_apply, sentOf]; omega, by simp [h2, recvOf], by simp [h3, hsOf],
      fun hl hv => h3 ▸ hl a (h4 ▸ hv), fun hi hv => ?_⟩
    by_cases hab : b = a
    · exact hab ▸ h5 (hab ▸ hv)
    · have := hi a (h4 ▸ hv)
      rw [h1, h2, bump_apply, if_neg hab]
      omega
  | validated =>
    obtain ⟨h1, h2, h3, h4, h5⟩ := mstep_validated m m' h
    rw [h1, h2, h3, h4, setB_apply]
    refine ⟨by simp [sentOf], by simp [recvOf], by simp [hsOf], fun hl hv => ?_, fun hi hv => hi a ?_⟩
    · by_cases hab : m.connAddr = a
      · exact hab ▸ h5
      · exact hl a (by simpa [hab] using hv)
    · cases hm : m.validated a
      · rfl
      · simp [hm] at hv
  | cred c =>
    cases mstep_cred m m' c h
    exact ⟨by simp [sentOf], by simp [recvOf], by simp [hsOf], fun hl => hl a, fun hi => hi a⟩

theorem mrun_facts (evs : List Ev) : ∀ m m', mrun m evs = .ok m' → Inv m → Legit m →
    Inv m' ∧ Legit m' ∧ ∀ a, m'.sent a = m.sent a + sentOf a evs ∧ m'.recvd a = m.recvd a + recvOf a evs ∧
      m'.hs a = (m.hs a || hsOf a evs) := by
  induction evs with
  | nil =>
    intro m m' h hi hl
    simp only [mrun] at h; cases h
    exact ⟨hi, hl, fun a => by simp [sentOf, recvOf, hsOf]⟩
  | cons e t ih =>
    intro m m' h hi hl
    simp only [mrun] at h
    split at h
    · rename_i m1 h1
      have f := fun a => mstep_facts m m1 e h1 a t
      obtain ⟨hi', hl', g⟩ := ih m1 m' h (fun a => (f a).2.2.2.2 hi) (fun a => (f a).2.2.2.1 hl)
      refine ⟨hi', hl', fun a => ?_⟩
      obtain ⟨g1, g2, g4⟩ := g a
      obtain ⟨f1, f2, f4, _, _⟩ := f a
      exact ⟨by omega, by omega, by rw [g4, f4]⟩
    · cases h

/-- C27, soundness of the wire monitor of the V-tie. -/
theorem monitor_sound (evs : List Ev) (m : Mon) (h : mrun Mon.init evs = .ok m) (a : Nat)
    (hv : m.validated a = false) : sentOf a evs ≤ 3 * recvOf a evs := by
  obtain ⟨hi, _, g⟩ := mrun_facts evs _ _ h inv_init (by intro a h; simp [Mon.init] at h)
  have := hi a hv
  obtain ⟨g1, g2, _⟩ := g a
  simp only [Mon.init] at g1 g2
  omega

theorem validated_legit (evs : List Ev) (m : Mon) (h : mrun Mon.init evs = .ok m) (a : Nat)
    (hv : m.validated a = true) : hsOf a evs = true := by
  obtain ⟨_, hl, g⟩ := mrun_facts evs _ _ h inv_init (by intro a h; simp [Mon.init] at h)
  have := hl a hv
  rw [(g a).2.2] at this
  simpa [Mon.init] using this

theorem mrun_append (p q : List Ev) : ∀ m m', mrun m (p ++ q) = .ok m' →
    ∃ mp, mrun m p = .ok mp ∧ mrun mp q = .ok m' := by
  induction p with
  | nil => intro m m' h; exact ⟨m, rfl, h⟩
  | cons e t ih =>
    intro m m' h
    simp only [List.cons_append, mrun] at h ⊢
    split at h
    · rename_i m1 h1
      exact ih m1 m' h
    · cases h

/-- C27 on accepted traces, at every prefix. -/
theorem accepted_trace_property (p q : List Ev) (m : Mon) (h : mrun Mon.init (p ++ q) = .ok m) (a : Nat) :
    ∃ mp, mrun Mon.init p = .ok mp ∧ (mp.validated a = false → sentOf a p ≤ 3 * recvOf a p) := by
  obtain ⟨mp, h1, _⟩ := mrun_append p q _ _ h
  exact ⟨mp, h1, fun hv => monitor_sound p mp h1 a hv⟩

/-- The monitor's credit bookkeeping is the counter model's. -/
theorem monitor_send_exact (m m' : Mon) (a : Nat) (n c k : Int) (h : mstep m (.send a n true c k) = .ok m')
    (hu : m.credit ≠ unlimited) (hp : n ≤ maxSendSize m.credit maxDatagramSize) :
    m'.credit = m.credit - n ∧ c = m.credit - n := by
  obtain ⟨h1, h2⟩ := (mstep_send m m' a n true c k h).2.2.2.2.2 rfl
  rw [h1, h2]
  exact ⟨packetSent_of_le hu hp, packetSent_of_le hu hp⟩

instance (s : St) (op : Op) : Decidable (Pre s op) := by cases op <;> unfold Pre <;> infer_instance
instance : (s : St) → (ops : List Op) → Decidable (AllPre s ops)
  | _, [] => .isTrue trivial
  | s, op :: rest => by
    unfold AllPre
    have := instDecidableAllPre (step s op) rest
    infer_instance
example : AllPre St.server [.recv 1250, .send 1200, .send 1200, .send 1200, .send 150] ∧
    NoValidate [.recv 1250, .send 1200, .send 1200, .send 1200, .send 150] := by decide
/-- `witness` is not a behaviour of the code: its last send (150 bytes of packets
padded to 1200 with 150 bytes of credit) fails the gating; the history up to there satisfies the bound. -/
example : ¬ AllCPre St.server witness := by decide
example : AllCPre St.server witness.dropLast ∧ NoValidateC witness.dropLast ∧
    (crun St.server witness.dropLast).sent ≤ 3 * (crun St.server witness.dropLast).recvd := by decide
example : AllCPre St.server [.recv 1200, .csend 1200 true, .csend 1200 true, .csend 1200 true] := by decide
/-- With 150 bytes of credit left an unpadded datagram may still go out. -/
example : AllCPre St.server [.recv 1250, .csend 1200 true, .csend 1200 true, .csend 1200 true, .csend 150 false] := by
  decide
/-- On the wire, the input of `witness` (case 0 of corpus/C27) with a last datagram within the credit is accepted. -/
example : (match mrun Mon.init [.recv 0 1250 .new false, .send 0 1200 true 2550 500, .send 0 1200 true 1350 500,
    .send 0 1200 true 150 500, .send 0 140 true 10 140] with | .ok _ => "ok" | .error e => e) = "ok" := by decide
/-- With the finding's last datagram, padded to 1200 with 150 bytes of credit, it is rejected. -/
example : (match mrun Mon.init [.recv 0 1250 .new false, .send 0 1200 true 2550 500, .send 0 1200 true 1350 500,
    .send 0 1200 true 150 500, .send 0 1200 true 0 150] with | .ok _ => "ok" | .error e => e) = "send-exceeds-credit" := by
  decide
example : (match mrun Mon.init [.recv 0 1200 .new false, .send 0 1200 true 2400 700, .send 0 1201 true 1199 1201] with
    | .ok _ => "ok" | .error e => e) = "send-exceeds-credit" := by decide

end NetVerif.Proofs.C27
