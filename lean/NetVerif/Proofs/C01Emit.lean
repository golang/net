import NetVerif.Proofs.C01
/-!
C01, continued — the decoder's dynamic table does not depend on whether emission is enabled
(`SetEmitEnabled`, switched off by http2's Framer from inside the emit callback): a representation
that is accepted with emission on and with emission off consumes the same bytes and leaves the same
table (`parseRepr_dyn_indep_emit`), indeed the same state but for the switch (`parseRepr_indep_emit`).
-/
namespace NetVerif.Proofs.C01
open NetVerif.Model.Hpack NetVerif.Model.HpackEnc
open NetVerif.Proofs.Lemmas.Hpack
open NetVerif.Model
open NetVerif

theorem parseAction_indep_emit (d : DecCore) (b : Bool) (buf : Bytes) :
    parseAction { d with emitEnabled := b } buf = parseAction d buf := by
  cases buf <;> rfl

theorem applyAction_indep_emit (d : DecCore) (b : Bool) (a : Action) (d1 d2 : DecCore) (em1 em2 : Option Field)
    (h1 : applyAction d a = .ok d1 em1) (h2 : applyAction { d with emitEnabled := b } a = .ok d2 em2) :
    d2 = { d1 with emitEnabled := b } := by
  cases a with
  | indexed e => rw [(finishEmit_ok h1).1, (finishEmit_ok h2).1]
  | sizeUpdate s => cases h1; cases h2; rfl
  | literal it tn un uv =>
    obtain ⟨n1, v1, hn1, hv1, rfl, _⟩ := applyLiteral_ok h1
    obtain ⟨n2, v2, hn2, hv2, rfl, _⟩ := applyLiteral_ok h2
    unfold afterLiteral
    cases hit : it.indexed with
    | false => rfl
    | true =>
      -- an indexed literal's strings are decoded whether or not anything is emitted
      -- (`wantStr := d.emitEnabled || it.indexed()` in `parseFieldLiteral`)
      simp only [litName, litValue, hit, Bool.or_true, ↓reduceIte] at hn1 hn2 hv1 hv2
      cases Except.ok.inj (hn2.symm.trans hn1)
      cases Except.ok.inj (hv2.symm.trans hv1)
      rfl

theorem applyAction_dyn_indep_emit (d : DecCore) (b : Bool) (a : Action) (d1 d2 : DecCore) (em1 em2 : Option Field)
    (h1 : applyAction d a = .ok d1 em1) (h2 : applyAction { d with emitEnabled := b } a = .ok d2 em2) :
    d2.dyn = d1.dyn :=
  applyAction_indep_emit d b a d1 d2 em1 em2 h1 h2 ▸ rfl

theorem parseRepr_indep_emit (d : DecCore) (b : Bool) (buf : Bytes) (d1 d2 : DecCore) (r1 r2 : Bytes)
    (em1 em2 : Option Field) (h1 : parseRepr d buf = .ok d1 r1 em1)
    (h2 : parseRepr { d with emitEnabled := b } buf = .ok d2 r2 em2) :
    d2 = { d1 with emitEnabled := b } ∧ r2 = r1 := by
  obtain ⟨a1, hpa1, ha1⟩ := parseRepr_ok_iff.1 h1
  obtain ⟨a2, hpa2, ha2⟩ := parseRepr_ok_iff.1 h2
  rw [parseAction_indep_emit, hpa1] at hpa2
  cases hpa2
  exact ⟨applyAction_indep_emit d b a1 d1 d2 em1 em2 ha1 ha2, rfl⟩

theorem parseRepr_dyn_indep_emit (d : DecCore) (b : Bool) (buf : Bytes) (d1 d2 : DecCore) (r1 r2 : Bytes)
    (em1 em2 : Option Field) (h1 : parseRepr d buf = .ok d1 r1 em1)
    (h2 : parseRepr { d with emitEnabled := b } buf = .ok d2 r2 em2) : d2.dyn = d1.dyn ∧ r2 = r1 :=
  have h := parseRepr_indep_emit d b buf d1 d2 r1 r2 em1 em2 h1 h2
  ⟨h.1 ▸ rfl, h.2⟩

end NetVerif.Proofs.C01
