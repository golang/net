import NetVerif.Model.LimitListener
import NetVerif.Gen.C58
import NetVerif.Proofs.Lemmas.MonitorSound
import NetVerif.Proofs.Lemmas.GateInv
import NetVerif.Proofs.Lemmas.IfCases
/-!
C58 — LimitListener never exceeds its connection limit.

Theorems over every configuration reachable in the ChanSem semantics of `netutil/listen.go`
(`Model.LimitListener`), for any limit `n`, any number of goroutines calling Accept, Close
and Conn.Close (repeatedly) in any interleaving.
-/
namespace NetVerif.Proofs.C58
open NetVerif.Model.ChanSem NetVerif.Model.LimitListener
open NetVerif.Proofs.Lemmas (ite_cases)

/-- T-tie: the DSL term regenerated from `netutil/listen.go` is the modelled one. -/
theorem gen_listen : NetVerif.Gen.C58.listen = listen := by decide

theorem cnt_eq_countP {α : Type} (f : α → Bool) (l : List α) : cnt f l = l.countP f := by
  induction l with
  | nil => rfl
  | cons x xs ih => rw [List.countP_cons, ← ih, Nat.add_comm]; rfl

theorem cnt_set {α : Type} (f : α → Bool) (l : List α) (i : Nat) (x x' : α) (h : l[i]? = some x) :
    cnt f (l.set i x') + (if f x then 1 else 0) = cnt f l + (if f x' then 1 else 0) := by
  rw [cnt_eq_countP, cnt_eq_countP]
  exact GateInv.countP_set_add f x' h

theorem cnt_le_cnt {α : Type} (f g : α → Bool) (l : List α) (h : ∀ x ∈ l, f x = true → g x = true) :
    cnt f l ≤ cnt g l := by
  rw [cnt_eq_countP, cnt_eq_countP]
  exact List.countP_mono_left h

theorem cnt_replicate_false {α : Type} (f : α → Bool) (x : α) (m : Nat) (h : f x = false) :
    cnt f (List.replicate m x) = 0 := by
  rw [cnt_eq_countP, List.countP_replicate, h]
  rfl

theorem cnt_pos {α : Type} (f : α → Bool) {l : List α} {i : Nat} {x : α} (h : l[i]? = some x)
    (hx : f x = true) : 1 ≤ cnt f l := by
  rw [cnt_eq_countP]
  exact List.countP_pos_iff.mpr ⟨x, List.mem_of_getElem? h, hx⟩

/-- Every connection record was returned by Accept; the semaphore was released for it at most
once, and only after its Close was called. -/
def ConnOK (cn : LConn) : Prop :=
  cn.returned = true ∧ (cn.released = true → cn.closeCalled = true) ∧
  cn.releases = (if cn.released then 1 else 0)

/-- Where a goroutine can be, and what it knows there. -/
def LGwf (c : LConfig) (g : LG) : Prop :=
  (g.cont = [] ∧ g.slot = false) ∨
  (g.meth = .accept ∧
     ((g.cont = listen.accept ∧ g.slot = false) ∨
      (g.cont = listen.accept.drop 1 ∧ g.slot = true ∧ g.draining = false) ∨
      (g.cont = listen.accept.drop 2 ∧ g.slot = true ∧ g.draining = false ∧ (g.err = false → g.conn = true)) ∨
      (g.cont = listen.accept.drop 3 ∧ g.slot = true ∧ g.draining = false ∧ g.conn = true))) ∨
  (g.meth = .close ∧ g.slot = false ∧
     (g.cont = listen.close ∨ (g.cont = listen.close.drop 1 ∧ c.innerClosed = true) ∨
      (g.cont = listen.close.drop 2 ∧ c.closeOnceDone = true ∧ c.innerClosed = true))) ∨
  (∃ k cn, g.meth = .connClose k ∧ g.slot = false ∧ c.conns[k]? = some cn ∧
     (g.cont = listen.connClose ∨ (g.cont = listen.connClose.drop 1 ∧ cn.closeCalled = true) ∨
      (g.cont = listen.connClose.drop 2 ∧ cn.released = true)))

/-- An Accept invoked after a Close has returned never obtains a connection. -/
def AfterOK (c : LConfig) (g : LG) : Prop :=
  (g.afterClose = true → c.closeReturned = true) ∧
  (g.afterClose = true → g.meth = .accept → g.conn = false ∧ (g.cont = [] → g.result = some .err))

structure LInv (c : LConfig) : Prop where
  cap : (c.σ .sem).cap = c.n
  le : (c.σ .sem).len ≤ c.n
  semOpen : (c.σ .sem).closed = false
  tok : (c.σ .sem).len = cnt (fun g => g.slot) c.gs + cnt (fun cn => !cn.released) c.conns
  conns : ∀ cn ∈ c.conns, ConnOK cn
  gwf : ∀ g ∈ c.gs, LGwf c g ∧ AfterOK c g
  closed : c.closeReturned = true → c.innerClosed = true ∧ c.closeOnceDone = true
  done : c.closeOnceDone = true → (c.σ .done).closed = true

/-- Monotone growth of the shared state (what other goroutines rely on). -/
def Ext (c c' : LConfig) : Prop :=
  (c.innerClosed = true → c'.innerClosed = true) ∧ (c.closeOnceDone = true → c'.closeOnceDone = true) ∧
  (c.closeReturned = true → c'.closeReturned = true) ∧
  ∀ (k : Nat) (cn : LConn), c.conns[k]? = some cn → ∃ cn' : LConn, c'.conns[k]? = some cn' ∧
    (cn.closeCalled = true → cn'.closeCalled = true) ∧ (cn.released = true → cn'.released = true)

theorem wf_ext {c c' : LConfig} {g : LG} (h : LGwf c g ∧ AfterOK c g) (e : Ext c c') :
    LGwf c' g ∧ AfterOK c' g := by
  obtain ⟨e1, e2, e3, e4⟩ := e
  refine ⟨?_, fun ha => e3 (h.2.1 ha), h.2.2⟩
  rcases h.1 with hi | ha | ⟨hm, hs, hp⟩ | ⟨k, cn, hm, hs, hk, hp⟩
  · exact .inl hi
  · exact .inr (.inl ha)
  · -- inside `Close`: the flags it has seen set stay set
    exact .inr (.inr (.inl ⟨hm, hs, hp.imp id (.imp (.imp_right e1) (.imp_right (.imp e2 e1)))⟩))
  · -- inside `Conn.Close`: so do the flags of its connection record
    obtain ⟨cn', hk', h1, h2⟩ := e4 k cn hk
    exact .inr (.inr (.inr ⟨k, cn', hm, hs, hk', hp.imp id (.imp (.imp_right h1) (.imp_right h2))⟩))

theorem ext_refl (c : LConfig) : Ext c c := ⟨id, id, id, fun _ cn h => ⟨cn, h, id, id⟩⟩

def cntR (l : List LConn) : Nat := cnt (fun cn => !cn.released) l
/-- The same function as `ChanSem.b2n`. -/
def s2n (b : Bool) : Nat := if b then 1 else 0

/-- What `linv_step` needs of one step `g → g'` of one goroutine, which takes `c` to `c1` before `g'` is
written back into `gs`. -/
structure LFacts (c : LConfig) (g : LG) (c1 : LConfig) (g' : LG) : Prop where
  gs : c1.gs = c.gs
  n : c1.n = c.n
  ext : Ext c c1
  wf : LGwf c1 g' ∧ AfterOK c1 g'
  cap : (c1.σ .sem).cap = (c.σ .sem).cap
  semOpen : (c1.σ .sem).closed = (c.σ .sem).closed
  le : (c1.σ .sem).len ≤ c.n
  tok : (c1.σ .sem).len + s2n g.slot + cntR c.conns = (c.σ .sem).len + s2n g'.slot + cntR c1.conns
  conns : ∀ cn ∈ c1.conns, ConnOK cn
  closed : c1.closeReturned = true → c1.innerClosed = true ∧ c1.closeOnceDone = true
  done : c1.closeOnceDone = true → (c1.σ .done).closed = true

theorem lgwf_idle_slot {c : LConfig} {g : LG} (hw : LGwf c g) (hidle : g.cont = []) : g.slot = false := by
  rcases hw with ⟨_, hs⟩ | ⟨_, hp⟩ | ⟨_, hs, _⟩ | ⟨_, _, _, hs, _⟩
  · exact hs
  · rcases hp with ⟨hc, _⟩ | ⟨hc, _⟩ | ⟨hc, _⟩ | ⟨hc, _⟩ <;> cases hidle.symm.trans hc
  · exact hs
  · exact hs

/-- What the invariant sees of a step's effect on the store; `l` is the semaphore's length afterwards. -/
def SemLen (σ σ' : Store LCh) (l : Nat) : Prop :=
  (σ' .sem).cap = (σ .sem).cap ∧ (σ' .sem).closed = (σ .sem).closed ∧ (σ' .sem).len = l ∧
    (σ' .done).closed = (σ .done).closed

theorem lfacts_sem {c : LConfig} {g g' : LG} {σ' : Store LCh} {l : Nat} (hI : LInv c)
    (hwf : LGwf c g' ∧ AfterOK c g') (hσ : SemLen c.σ σ' l) (hl : l ≤ c.n)
    (htok : l + s2n g.slot = (c.σ .sem).len + s2n g'.slot) :
    LFacts c g { c with σ := σ' } g' :=
  { gs := rfl, n := rfl, ext := ext_refl c, wf := hwf, cap := hσ.1, semOpen := hσ.2.1,
    le := hσ.2.2.1 ▸ hl, tok := by rw [Nat.add_right_cancel_iff, hσ.2.2.1]; exact htok,
    conns := hI.conns, closed := hI.closed, done := fun h => hσ.2.2.2.trans (hI.done h) }

theorem lfacts_local {c : LConfig} {g g' : LG} (hI : LInv c) (hwf : LGwf c g' ∧ AfterOK c g')
    (hs : g'.slot = g.slot) : LFacts c g c g' :=
  lfacts_sem hI hwf ⟨rfl, rfl, rfl, rfl⟩ hI.le (by rw [hs])

/-- `acquire` is one select: `<-l.done` (false) or `l.sem <- struct{}{}` (true). -/
theorem acquire_step {σ σ' : Store LCh} {ch : Nat} {a : Option (Arm LCh)} {o : Out LRes}
    (h : runSingle listen.acquire σ (.arm ch) = some (σ', a, o)) :
    (o = .ret .ff ∧ SemLen σ σ' (σ .sem).len) ∨
    (o = .ret .tt ∧ (σ .sem).len < (σ .sem).cap ∧ SemLen σ σ' ((σ .sem).len + 1)) := by
  match ch with
  | 0 =>
    simp [runSingle, listen, Sel.step] at h
    obtain ⟨_, rfl, _, rfl⟩ := h
    refine Or.inl ⟨rfl, ?_⟩
    simp only [Arm.fire, SemLen]
    split <;> simp [upd]
  | 1 =>
    simp [runSingle, listen, Sel.step, Arm.enabled, Arm.fire] at h
    obtain ⟨hlt, rfl, _, rfl⟩ := h
    exact Or.inr ⟨rfl, hlt, by simp [SemLen, upd]⟩
  | k+2 => simp [runSingle, listen, Sel.step] at h

/-- `release` is one receive from the (never closed) semaphore. -/
theorem release_step {σ σ' : Store LCh} {a : Option (Arm LCh)} {o : Out LRes}
    (hopen : (σ .sem).closed = false) (h : runSingle listen.release σ (.arm 0) = some (σ', a, o)) :
    ∃ l, (σ .sem).len = l + 1 ∧ SemLen σ σ' l := by
  simp [runSingle, listen, Sel.step, Arm.enabled, Arm.fire, hopen] at h
  obtain ⟨hlt, h, _⟩ := h
  simp [hlt] at h
  subst h
  exact ⟨(σ .sem).len - 1, by omega, by simp [SemLen, upd, hopen]⟩

theorem lfacts_flags {c c1 : LConfig} {g g' : LG} (hI : LInv c)
    (hc1 : c1.gs = c.gs ∧ c1.n = c.n ∧ c1.conns = c.conns ∧ c1.σ .sem = c.σ .sem)
    (hs : g'.slot = g.slot) (e1 : c.innerClosed = true → c1.innerClosed = true)
    (e2 : c.closeOnceDone = true → c1.closeOnceDone = true)
    (e3 : c.closeReturned = true → c1.closeReturned = true) (hwf : LGwf c1 g' ∧ AfterOK c1 g')
    (hcl : c1.closeReturned = true → c1.innerClosed = true ∧ c1.closeOnceDone = true)
    (hd : c1.closeOnceDone = true → (c1.σ .done).closed = true) : LFacts c g c1 g' := by
  obtain ⟨h1, h2, h3, h4⟩ := hc1
  exact
    { gs := h1, n := h2, ext := ⟨e1, e2, e3, fun k cn h => ⟨cn, h3 ▸ h, id, id⟩⟩, wf := hwf,
      cap := by rw [h4], semOpen := by rw [h4], le := by rw [h4]; exact hI.le,
      tok := by rw [h4, h3, hs], conns := h3 ▸ hI.conns, closed := hcl, done := hd }

theorem afterOK_other {c : LConfig} {g : LG} (ha1 : g.afterClose = true → c.closeReturned = true)
    (hm : g.meth ≠ .accept) : AfterOK c g :=
  ⟨ha1, fun _ h => absurd h hm⟩

theorem lfacts_conn {c : LConfig} {g g' : LG} {σ' : Store LCh} {k : Nat} {cn cn' : LConn} (hI : LInv c)
    (hk : c.conns[k]? = some cn) (h1 : cn.closeCalled = true → cn'.closeCalled = true)
    (h2 : cn.released = true → cn'.released = true) (hok : ConnOK cn') (hs : g'.slot = g.slot)
    (hwf : LGwf { c with σ := σ', conns := c.conns.set k cn' } g' ∧
           AfterOK { c with σ := σ', conns := c.conns.set k cn' } g')
    {l : Nat} (hσ : SemLen c.σ σ' l) (hl : l ≤ c.n)
    (htok : l + (if !cn.released then 1 else 0) = (c.σ .sem).len + (if !cn'.released then 1 else 0)) :
    LFacts c g { c with σ := σ', conns := c.conns.set k cn' } g' where
  gs := rfl
  n := rfl
  ext := by
    refine ⟨id, id, id, fun j x hj => ?_⟩
    by_cases hjk : j = k
    · subst hjk
      cases hk.symm.trans hj
      exact ⟨cn', by simp [(List.getElem?_eq_some_iff.mp hk).1], h1, h2⟩
    · exact ⟨x, by simp only [List.getElem?_set_ne (Ne.symm hjk)]; exact hj, id, id⟩
  wf := hwf
  cap := hσ.1
  semOpen := hσ.2.1
  le := hσ.2.2.1 ▸ hl
  tok := by
    have := cnt_set (fun cn : LConn => !cn.released) c.conns k cn cn' hk
    simp only [cntR, hs, hσ.2.2.1] at this ⊢; omega
  conns x hx := by
    rcases List.mem_or_eq_of_mem_set hx with hx | rfl
    · exact hI.conns x hx
    · exact hok
  closed := hI.closed
  done h := hσ.2.2.2.trans (hI.done h)

theorem lstep_local {c c1 : LConfig} {g g' : LG} {a : LAct} (hI : LInv c)
    (hg : LGwf c g ∧ AfterOK c g) (h : g.step listen c a = some (c1, g')) : LFacts c g c1 g' := by
  obtain ⟨hw, ha1, ha2⟩ := hg
  cases a with
  | call m =>
    simp only [LG.step] at h
    split at h
    · rename_i hc
      have hs := lgwf_idle_slot hw (List.isEmpty_iff.mp hc)
      cases m with
      | accept =>
        cases h
        exact lfacts_local hI ⟨Or.inr (Or.inl ⟨rfl, Or.inl ⟨rfl, hs⟩⟩), id, fun _ _ => ⟨rfl, fun h => nomatch h⟩⟩ rfl
      | close =>
        cases h
        exact lfacts_local hI ⟨Or.inr (Or.inr (Or.inl ⟨rfl, hs, Or.inl rfl⟩)), id, fun _ h => nomatch h⟩ rfl
      | connClose k =>
        simp only at h
        split at h
        · rename_i cn hk
          split at h
          · cases h
            exact lfacts_local hI
              ⟨Or.inr (Or.inr (Or.inr ⟨k, cn, rfl, hs, hk, Or.inl rfl⟩)), id, fun _ h => nomatch h⟩ rfl
          · cases h
        · cases h
    · cases h
  | stmt ch =>
    rcases hw with ⟨hc, hs⟩ | ⟨hm, hp⟩ | ⟨hm, hs, hp⟩ | ⟨k, cn, hm, hs, hk, hp⟩
    · simp [LG.step, hc] at h
    · -- `Accept`
      rcases hp with ⟨hc, hs⟩ | ⟨hc, hs, hd⟩ | ⟨hc, hs, hd, he⟩ | ⟨hc, hs, hd, he⟩
      · have hc' : g.cont = .ifNotAcquireDrain :: listen.accept.drop 1 := hc
        simp only [LG.step, hc'] at h
        rcases ite_cases h with ⟨-, h⟩ | ⟨hd, h⟩
        · rcases ite_cases h with ⟨-, h⟩ | ⟨-, h⟩
          · cases h
            exact lfacts_local hI ⟨Or.inl ⟨rfl, hs⟩, ha1, fun ha hm' => ⟨(ha2 ha hm').1, fun _ => rfl⟩⟩ rfl
          · rcases ite_cases h with ⟨-, h⟩ | ⟨-, h⟩
            · cases h
            · cases h
              exact lfacts_local hI ⟨Or.inr (Or.inl ⟨hm, Or.inl ⟨hc, hs⟩⟩), ha1, ha2⟩ rfl
        · split at h
          · rename_i σ' _ hr
            cases h
            obtain ⟨ho, _⟩ | ⟨_, hlt, hσ⟩ := acquire_step hr
            · cases ho
            · have hcap := hI.cap
              exact lfacts_sem hI
                ⟨Or.inr (Or.inl ⟨hm, Or.inr (Or.inl ⟨rfl, rfl, Bool.eq_false_iff.mpr hd⟩)⟩), ha1,
                  fun ha hm' => ⟨(ha2 ha hm').1, fun h => nomatch h⟩⟩
                hσ (by omega) (by rw [hs]; rfl)
          · rename_i σ' _ hr
            cases h
            obtain ⟨_, hσ⟩ | ⟨ho, _⟩ := acquire_step hr
            · exact lfacts_sem hI
                ⟨Or.inr (Or.inl ⟨hm, Or.inl ⟨rfl, hs⟩⟩), ha1, fun ha hm' => ⟨(ha2 ha hm').1, fun h => nomatch h⟩⟩
                hσ hI.le rfl
            · cases ho
          · cases h
      · have hc' : g.cont = .innerAccept :: listen.accept.drop 2 := hc
        simp only [LG.step, hc'] at h
        rcases ite_cases h with ⟨-, h⟩ | ⟨-, h⟩
        · cases h
          exact lfacts_local hI
            ⟨Or.inr (Or.inl ⟨hm, Or.inr (Or.inr (Or.inl ⟨rfl, hs, hd, fun h => nomatch h⟩))⟩), ha1,
              fun _ _ => ⟨rfl, fun h => nomatch h⟩⟩ rfl
        · rcases ite_cases h with ⟨-, h⟩ | ⟨hic, h⟩
          · cases h
          · -- a wrapped listener that still hands out connections has not been closed
            cases h
            exact lfacts_local hI
              ⟨Or.inr (Or.inl ⟨hm, Or.inr (Or.inr (Or.inl ⟨rfl, hs, hd, fun _ => rfl⟩))⟩), ha1,
                fun ha _ => absurd (hI.closed (ha1 ha)).1 hic⟩ rfl
      · have hc' : g.cont = .ifErrReleaseRet :: listen.accept.drop 3 := hc
        simp only [LG.step, hc'] at h
        rcases ite_cases h with ⟨-, h⟩ | ⟨her, h⟩
        · split at h
          · rename_i σ' _ hr
            cases h
            obtain ⟨l, hl, hσ⟩ := release_step hI.semOpen hr
            have hle := hI.le
            exact lfacts_sem hI ⟨Or.inl ⟨rfl, rfl⟩, ha1, fun ha hm' => ⟨(ha2 ha hm').1, fun _ => rfl⟩⟩
              hσ (by omega) (by rw [hl, hs]; rfl)
          · cases h
        · cases h
          have hconn := he (Bool.eq_false_iff.mpr her)
          exact lfacts_local hI
            ⟨Or.inr (Or.inl ⟨hm, Or.inr (Or.inr (Or.inr ⟨rfl, hs, hd, hconn⟩))⟩), ha1,
              fun ha hm' => absurd hconn (by rw [(ha2 ha hm').1]; decide)⟩ rfl
      · have hc' : g.cont = [.retConn] := hc
        simp only [LG.step, hc', he, if_true] at h
        cases h
        refine { gs := rfl, n := rfl, ext := ⟨id, id, id, ?_⟩, wf := ?_, cap := rfl, semOpen := rfl, le := hI.le,
                 tok := ?_, conns := ?_, closed := hI.closed, done := hI.done }
        · intro k cn hk
          exact ⟨cn, by rw [List.getElem?_append_left (List.getElem?_eq_some_iff.mp hk).1]; exact hk, id, id⟩
        · exact ⟨Or.inl ⟨rfl, rfl⟩, ha1, fun ha hm' => absurd he (by rw [(ha2 ha hm').1]; decide)⟩
        · simp [cntR, cnt, finish, s2n, hs]; omega
        · intro cn hcn
          rcases List.mem_append.mp hcn with hcn | hcn
          · exact hI.conns cn hcn
          · cases List.mem_singleton.mp hcn
            simp [ConnOK]
    · -- `Close`
      have hna : g.meth ≠ .accept := fun h => nomatch hm.symm.trans h
      rcases hp with hc | ⟨hc, hi⟩ | ⟨hc, hj, hi⟩
      · have hc' : g.cont = .innerClose :: listen.close.drop 1 := hc
        simp only [LG.step, hc', hm] at h
        cases h
        exact lfacts_flags hI ⟨rfl, rfl, rfl, rfl⟩ rfl (fun _ => rfl) id id
          ⟨Or.inr (Or.inr (Or.inl ⟨rfl, hs, Or.inr (Or.inl ⟨rfl, rfl⟩)⟩)), afterOK_other ha1 (fun h => nomatch h)⟩
          (fun h => ⟨rfl, (hI.closed h).2⟩) hI.done
      · have hc' : g.cont = .onceCloseDone :: listen.close.drop 2 := hc
        simp only [LG.step, hc'] at h
        rcases ite_cases h with ⟨hj, h⟩ | ⟨-, h⟩
        · cases h
          exact lfacts_local hI
            ⟨Or.inr (Or.inr (Or.inl ⟨hm, hs, Or.inr (Or.inr ⟨rfl, hj, hi⟩)⟩)), afterOK_other ha1 hna⟩ rfl
        · cases h
          exact lfacts_flags hI ⟨rfl, rfl, rfl, by simp [upd]⟩ rfl id (fun _ => rfl) id
            ⟨Or.inr (Or.inr (Or.inl ⟨hm, hs, Or.inr (Or.inr ⟨rfl, rfl, hi⟩)⟩)), afterOK_other ha1 hna⟩
            (fun h => ⟨(hI.closed h).1, rfl⟩) (fun _ => by simp [upd])
      · have hc' : g.cont = [.retErr] := hc
        simp only [LG.step, hc', hm] at h
        cases h
        exact lfacts_flags hI ⟨rfl, rfl, rfl, rfl⟩ rfl id id (fun _ => rfl)
          ⟨Or.inl ⟨rfl, hs⟩, fun _ => rfl, fun _ h => absurd h hna⟩ (fun _ => ⟨hi, hj⟩) hI.done
    · -- `limitListenerConn.Close` of connection `k`
      have hna : g.meth ≠ .accept := fun h => nomatch hm.symm.trans h
      have hlt := (List.getElem?_eq_some_iff.mp hk).1
      obtain ⟨hc1, hc2, hc3⟩ := hI.conns cn (List.mem_of_getElem? hk)
      -- the goroutine after it has replaced record `k` by `cn'` and moved on to `rest`
      have wf' : ∀ (c1 : LConfig) (cn' : LConn) (rest : List LStmt), c1.conns = c.conns.set k cn' →
          c1.closeReturned = c.closeReturned →
          (rest = listen.connClose.drop 1 ∧ cn'.closeCalled = true ∨
           rest = listen.connClose.drop 2 ∧ cn'.released = true) →
          LGwf c1 { g with cont := rest, meth := .connClose k } ∧
            AfterOK c1 { g with cont := rest, meth := .connClose k } :=
        fun c1 cn' rest h1 h2 hr =>
          ⟨Or.inr (Or.inr (Or.inr ⟨k, cn', rfl, hs, by rw [h1]; simp [hlt], Or.inr hr⟩)),
            fun ha => h2 ▸ ha1 ha, fun _ h => nomatch h⟩
      rcases hp with hc | ⟨hc, hi⟩ | ⟨hc, hi⟩
      · have hc' : g.cont = .innerClose :: listen.connClose.drop 1 := hc
        simp only [LG.step, hc', hm, hk] at h
        cases h
        exact lfacts_conn hI hk (fun _ => rfl) id ⟨hc1, fun _ => rfl, hc3⟩ rfl
          (wf' _ _ _ rfl rfl (Or.inl ⟨rfl, rfl⟩)) ⟨rfl, rfl, rfl, rfl⟩ hI.le rfl
      · have hc' : g.cont = .onceRelease :: listen.connClose.drop 2 := hc
        simp only [LG.step, hc', hm, hk] at h
        rcases ite_cases h with ⟨hr, h⟩ | ⟨hnr, h⟩
        · cases h
          exact lfacts_local hI
            ⟨Or.inr (Or.inr (Or.inr ⟨k, cn, rfl, hs, hk, Or.inr (Or.inr ⟨rfl, hr⟩)⟩)),
              afterOK_other ha1 (fun h => nomatch h)⟩ rfl
        · have hnr' : cn.released = false := Bool.eq_false_iff.mpr hnr
          split at h
          · rename_i σ' _ hr
            cases h
            obtain ⟨l, hl, hσ⟩ := release_step hI.semOpen hr
            have hle := hI.le
            exact lfacts_conn hI hk id (fun _ => rfl) ⟨hc1, fun _ => hi, by simp [hnr'] at hc3 ⊢; exact hc3⟩ rfl
              (wf' _ _ _ rfl rfl (Or.inr ⟨rfl, rfl⟩)) hσ (by omega) (by rw [hl, hnr']; rfl)
          · cases h
      · have hc' : g.cont = [.retErr] := hc
        simp only [LG.step, hc', hm] at h
        cases h
        exact lfacts_local hI ⟨Or.inl ⟨rfl, hs⟩, afterOK_other ha1 hna⟩ rfl

theorem lstep_cases {c c' : LConfig} {i : Nat} {a : LAct} (h : c.step listen i a = some c') :
    ∃ g c1 g', c.gs[i]? = some g ∧ g.step listen c a = some (c1, g') ∧
      c' = { c1 with gs := c.gs.set i g' } := by
  simp only [LConfig.step] at h
  split at h
  · cases h
  · rename_i hg
    split at h
    · cases h
    · rename_i hs
      cases h
      exact ⟨_, _, _, hg, hs, rfl⟩

theorem linv_step {c c' : LConfig} {i : Nat} {a : LAct} (hI : LInv c)
    (h : c.step listen i a = some c') : LInv c' := by
  obtain ⟨g, c1, g', hg, hs, rfl⟩ := lstep_cases h
  have hmem : g ∈ c.gs := List.mem_of_getElem? hg
  have F := lstep_local hI (hI.gwf g hmem) hs
  have hset := cnt_set (fun g : LG => g.slot) c.gs i g g' hg
  constructor
  · simp only; rw [F.cap, F.n]; exact hI.cap
  · simp only; rw [F.n]; exact F.le
  · simp only; rw [F.semOpen]; exact hI.semOpen
  · have := F.tok
    have := hI.tok
    simp only [s2n, cntR] at *
    omega
  · exact F.conns
  · intro x hx
    rcases List.mem_or_eq_of_mem_set hx with hx | rfl
    · exact wf_ext (hI.gwf x hx) F.ext
    · exact F.wf
  · exact F.closed
  · exact F.done

theorem linv_init (n m : Nat) : LInv (LConfig.init listen n m) where
  cap := rfl
  le := Nat.zero_le _
  semOpen := rfl
  tok := by
    show 0 = cnt (fun g : LG => g.slot) (List.replicate m {}) + 0
    rw [cnt_replicate_false _ _ m rfl]
  conns _ h := nomatch h
  gwf g hg := by
    rw [(List.mem_replicate.mp hg).2]
    exact ⟨Or.inl ⟨rfl, rfl⟩, nofun, nofun⟩
  closed := nofun
  done := nofun

theorem listener_invariant {c : LConfig} (h : LReachable listen c) : LInv c := by
  induction h with
  | init n m => exact linv_init n m
  | step _ hs ih => exact linv_step ih hs

theorem semaphore_capacity_is_limit {c : LConfig} (h : LReachable listen c) :
    (c.σ .sem).cap = c.n ∧ (c.σ .sem).len ≤ c.n :=
  ⟨(listener_invariant h).cap, (listener_invariant h).le⟩

/-- Token accounting: every value in the semaphore channel belongs to a goroutine that is
inside Accept past `acquire`, or to a returned connection whose `releaseOnce` has not fired. -/
theorem semaphore_accounting {c : LConfig} (h : LReachable listen c) :
    (c.σ .sem).len = cnt (fun g => g.slot) c.gs + cnt (fun cn => !cn.released) c.conns :=
  (listener_invariant h).tok

/-- **C58**: at every point of every interleaving, the number of accepted connections that
have not been closed is at most `n`. -/
theorem limit_never_exceeded {c : LConfig} (h : LReachable listen c) : openConns c ≤ c.n := by
  have hI := listener_invariant h
  have h1 : openConns c ≤ cnt (fun cn => !cn.released) c.conns := by
    apply cnt_le_cnt
    intro cn hcn hx
    obtain ⟨_, h2, _⟩ := hI.conns cn hcn
    simp at hx ⊢
    cases hr : cn.released
    · rfl
    · have := h2 hr; simp [this] at hx
  have := hI.tok
  have := hI.le
  omega

/-- Closing a connection, even several times and concurrently, releases the semaphore at most once: the
release counter of a connection is 0 before `releaseOnce` fires and 1 ever after.  That it is exactly once
for a `Close` that has returned is `conn_close_returns_released`. -/
theorem conn_released_at_most_once {c : LConfig} (h : LReachable listen c) :
    ∀ cn ∈ c.conns, cn.releases ≤ 1 ∧ (cn.released = true ↔ cn.releases = 1) ∧
      (cn.released = true → cn.closeCalled = true) := by
  intro cn hcn
  obtain ⟨_, h2, h3⟩ := (listener_invariant h).conns cn hcn
  rw [h3]
  cases hr : cn.released
  · simp
  · simp [h2 hr]

/-- A `Conn.Close` call returns only after the release has happened. -/
theorem conn_close_returns_released {c : LConfig} (h : LReachable listen c) {i k : Nat} {g : LG}
    (hg : c.gs[i]? = some g) (hm : g.meth = .connClose k) (hc : g.cont = [.retErr]) :
    ∃ cn, c.conns[k]? = some cn ∧ cn.released = true ∧ cn.releases = 1 := by
  have hI := listener_invariant h
  obtain ⟨hw, _⟩ := hI.gwf g (List.mem_of_getElem? hg)
  -- only the last position inside `Conn.Close` of record `k` has this continuation
  simp [LGwf, hm, hc, listen] at hw
  obtain ⟨-, cn, hk, hr⟩ := hw
  obtain ⟨_, _, h3⟩ := hI.conns cn (List.mem_of_getElem? hk)
  exact ⟨cn, hk, hr, by rw [h3, if_pos hr]⟩

theorem after_close_done_closed {c : LConfig} (h : LReachable listen c) (hc : c.closeReturned = true) :
    (c.σ .done).closed = true ∧ c.innerClosed = true := by
  have hI := listener_invariant h
  obtain ⟨h1, h2⟩ := hI.closed hc
  exact ⟨hI.done h2, h1⟩

/-- **Accept after Close returns an error**: a completed Accept call that was invoked after
some Close() had returned has result `err` (it never hands out a connection). -/
theorem accept_after_close_returns_error {c : LConfig} (h : LReachable listen c) {i : Nat} {g : LG}
    (hg : c.gs[i]? = some g) (hm : g.meth = .accept) (ha : g.afterClose = true) (hidle : g.cont = []) :
    g.result = some .err := by
  obtain ⟨_, _, h2⟩ := (listener_invariant h).gwf g (List.mem_of_getElem? hg)
  exact (h2 ha hm).2 hidle

/-- **... without blocking**: once a Close() has returned, a goroutine anywhere inside Accept
always has an enabled step; in particular the `acquire` select is never blocked on the
semaphore because its `<-l.done` arm is ready. -/
theorem accept_after_close_never_blocks {c : LConfig} (h : LReachable listen c)
    (hcl : c.closeReturned = true) {i : Nat} {g : LG}
    (hg : c.gs[i]? = some g) (hm : g.meth = .accept) (hrun : g.cont ≠ []) :
    ∃ ch c', c.step listen i (.stmt ch) = some c' := by
  have hI := listener_invariant h
  obtain ⟨hdone, hinner⟩ := after_close_done_closed h hcl
  obtain ⟨hw, _⟩ := hI.gwf g (List.mem_of_getElem? hg)
  rcases hw with ⟨hc, _⟩ | ⟨_, hp⟩ | ⟨hm', _⟩ | ⟨k', cn, hm', _⟩
  · exact absurd hc hrun
  · refine ⟨0, ?_⟩
    rcases hp with ⟨hc, hs⟩ | ⟨hc, hs, hd⟩ | ⟨hc, hs, hd, he⟩ | ⟨hc, hs, hd, he⟩
    · -- `<-l.done` is ready because `done` is closed; in the drain loop the listener may fail
      simp only [listen] at hc
      cases hdr : g.draining
      · simp [LConfig.step, hg, LG.step, hc, hdr, runSingle, listen, Sel.step, Arm.enabled, hdone]
      · simp [LConfig.step, hg, LG.step, hc, hdr]
    · simp only [listen, List.drop] at hc
      simp [LConfig.step, hg, LG.step, hc]
    · simp only [listen, List.drop] at hc
      have h1 := cnt_pos (fun g : LG => g.slot) hg hs
      have h2 := hI.tok
      -- `release` can receive: the goroutine's own token is in `sem`
      have h3 : 0 < (c.σ LCh.sem).len := by omega
      cases her : g.err
      · simp [LConfig.step, hg, LG.step, hc, her]
      · simp [LConfig.step, hg, LG.step, hc, her, runSingle, listen, Sel.step, Arm.enabled, h3]
    · simp only [listen, List.drop] at hc
      simp [LConfig.step, hg, LG.step, hc, he]
  · simp [hm] at hm'
  · simp [hm] at hm'

/-- A goroutine that is not inside a call owns no semaphore token, whatever its last call was and however
it ended; so an Accept that returned an error of the wrapped listener, temporary or not, has given its slot
back, and one that returned a connection has passed it on (`accept_return_transfers_slot`). -/
theorem accept_returns_without_spare_slot {c : LConfig} (h : LReachable listen c) {i : Nat} {g : LG}
    (hg : c.gs[i]? = some g) (hidle : g.cont = []) : g.slot = false :=
  lgwf_idle_slot ((listener_invariant h).gwf g (List.mem_of_getElem? hg)).1 hidle

/-- The step that returns a connection creates its record with the release still pending and
moves the goroutine's token to it: the semaphore is untouched. -/
theorem accept_return_transfers_slot {c c' : LConfig} {i : Nat} {g : LG} (h : LReachable listen c)
    (hg : c.gs[i]? = some g) (hc : g.cont = [.retConn])
    (hs : c.step listen i (.stmt 0) = some c') :
    c'.σ = c.σ ∧ c'.conns = c.conns ++ [{ returned := true }] ∧ g.slot = true := by
  obtain ⟨hw, _⟩ := (listener_invariant h).gwf g (List.mem_of_getElem? hg)
  -- only the last position inside `Accept` has this continuation
  simp [LGwf, hc, listen] at hw
  obtain ⟨-, hsl, -, hcn⟩ := hw
  simp [LConfig.step, hg, LG.step, hc, hcn] at hs
  subst hs
  exact ⟨rfl, rfl, hsl⟩

open NetVerif.Model.ChanSemMonitor NetVerif.Proofs.MonitorSound in
theorem listener_monitor_sound (n : Nat) (es : List LEv) (m' : LMon)
    (h : ({ limit := n } : LMon).run es = .ok m') :
    ∀ pre suf, es = pre ++ suf → (openOf [] pre).length ≤ n := by
  intro pre suf he
  subst he
  obtain ⟨m1, ⟨-, h1, h2, h3⟩, -⟩ :=
    run_prefix lmon_run_cons (lmon_step n) (pre0 := []) pre (lmon_init n) h
  rw [List.nil_append] at h1
  rw [h1, ← h3]
  exact h2

def runSteps (c : LConfig) : List (Nat × LAct) → Option LConfig
  | [] => some c
  | (i, a) :: r => match c.step listen i a with
    | some c' => runSteps c' r
    | none => none

theorem reachable_runSteps {c c' : LConfig} (steps : List (Nat × LAct)) (h : LReachable listen c)
    (hr : runSteps c steps = some c') : LReachable listen c' := by
  induction steps generalizing c with
  | nil => simp [runSteps] at hr; subst hr; exact h
  | cons s r ih =>
    obtain ⟨i, a⟩ := s
    simp only [runSteps] at hr
    split at hr
    · rename_i c1 hs; exact ih (LReachable.step h hs) hr
    · simp at hr

/-- A reachable configuration with limit 1 in which one connection is accepted and unclosed
(goroutine 0 called Accept: acquire, wrapped Accept, return) and goroutine 1 has called Accept and
now sits at the `acquire` select with the semaphore full. -/
def demoSteps : List (Nat × LAct) :=
  [(0, .call .accept), (0, .stmt 1), (0, .stmt 1), (0, .stmt 0), (0, .stmt 0), (1, .call .accept)]

example : ∃ c, LReachable listen c ∧ openConns c = 1 ∧ c.n = 1 ∧ (c.σ .sem).len = 1 := by
  have hs : (runSteps (LConfig.init listen 1 2) demoSteps).isSome = true := by rfl
  refine ⟨(runSteps (LConfig.init listen 1 2) demoSteps).get hs, ?_, by rfl, by rfl, by rfl⟩
  exact reachable_runSteps demoSteps (LReachable.init 1 2) (Option.some_get hs).symm

end NetVerif.Proofs.C58
