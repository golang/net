import NetVerif.Model.QuicRetryToken
import NetVerif.Proofs.Lemmas.IfCases
/-!
C31 — Retry tokens are bound to their context (connection IDs, address, port, time) under
explicitly stated hypotheses on the abstract AEAD; of the stateless-reset token only that it is
the first 16 bytes of the uninterpreted HMAC is recorded.
-/
namespace NetVerif.Proofs.C31
open NetVerif.Model.VarintQuic NetVerif.Model.QuicRetryToken

private theorem additionalData_some {s a : List Nat} {p : Nat} {x : List Nat} (h : additionalData s a p = some x) :
    x = s.length :: (s ++ (a ++ [p / 256 % 256, p % 256])) := by
  unfold additionalData appendUint8Bytes at h
  by_cases c : s.length > 255
  · rw [if_pos c] at h; cases h
  · rw [if_neg c] at h; exact (Option.some.inj h).symm

/-- C31, first clause (`retry.go: additionalData`). -/
theorem additionalData_injective (s1 s2 a1 a2 : List Nat) (p1 p2 : Nat) (x : List Nat)
    (hp1 : p1 < 65536) (hp2 : p2 < 65536)
    (h1 : additionalData s1 a1 p1 = some x) (h2 : additionalData s2 a2 p2 = some x) :
    s1 = s2 ∧ a1 = a2 ∧ p1 = p2 := by
  -- the length byte is the same, so the connection IDs end at the same place
  obtain ⟨hlen, hrest⟩ := List.cons.inj ((additionalData_some h1).symm.trans (additionalData_some h2))
  obtain ⟨hs1, hs2⟩ := List.append_inj hrest hlen
  obtain ⟨ha, hb⟩ := List.append_inj' hs2 rfl
  obtain ⟨hb1, hb2⟩ := List.cons.inj hb
  have hb2 := (List.cons.inj hb2).1
  exact ⟨hs1, ha, by omega⟩

/-- `when` of `validateToken`, `time.Unix(int64(be64(plaintext[:8])), 0)`, in nanoseconds. -/
def whenNs (pt : List Nat) : Int := int64OfU64 (beNat (pt.take 8)) * 1000000000

/-- `validateToken` is a chain of `if bad then reject else …`: an accepted token passed each test. -/
private theorem accept_of_reject_else {c : Prop} [Decidable c] {x : VR} {od : List Nat}
    (h : (if c then VR.reject else x) = VR.accept od) : ¬ c ∧ x = VR.accept od :=
  (Lemmas.ite_cases h).resolve_left fun h => nomatch h.2

/-- C31, second clause: what `validateToken` has checked when it accepts, with the additional data
of the presented source connection ID, address and port. `satSub` is the saturating `now.Sub(when)`. -/
theorem validate_accept_spec (a : AEAD) (now : Int) (token src dst addr : List Nat) (port : Nat)
    (od : List Nat) (h : validateToken a now token src dst addr port = VR.accept od) :
    ∃ ad pt, additionalData src addr port = some ad ∧
      (dst ++ token.take 4).length = 24 ∧ 4 ≤ token.length ∧
      a.aeadOpen (dst ++ token.take 4) (token.drop 4) ad = some pt ∧
      8 ≤ pt.length ∧ od = pt.drop 8 ∧
      satSub now (whenNs pt) ≤ 5000000000 ∧ -5000000000 ≤ satSub now (whenNs pt) := by
  unfold validateToken at h
  obtain ⟨h1, h⟩ := accept_of_reject_else h
  obtain ⟨h2, h⟩ := accept_of_reject_else h
  split at h
  · cases h
  rename_i ad had
  split at h
  · cases h
  rename_i pt hpt
  obtain ⟨h3, h⟩ := accept_of_reject_else h
  obtain ⟨h4, h⟩ := accept_of_reject_else h
  cases h
  refine ⟨ad, pt, had, ?_, ?_, hpt, by omega, rfl, ?_⟩
  · simpa [nonceSize] using h2
  · simp [nonceSize, maxConnIDLen] at h1; omega
  · simp [validityNs] at h4
    simp only [whenNs]
    omega

/-- C31, freshness, with the exact difference in place of the saturating `now.Sub(when)`. -/
theorem tokenFresh_holds (a : AEAD) (now : Int) (token src dst addr : List Nat) (port : Nat)
    (od : List Nat) (h : validateToken a now token src dst addr port = VR.accept od) :
    ∃ ad pt, additionalData src addr port = some ad ∧
      a.aeadOpen (dst ++ token.take 4) (token.drop 4) ad = some pt ∧
      now - whenNs pt ≤ 5000000000 ∧ whenNs pt - now ≤ 5000000000 := by
  obtain ⟨ad, pt, had, _, _, hpt, _, _, hle, hge⟩ := validate_accept_spec a now token src dst addr port od h
  refine ⟨ad, pt, had, hpt, ?_⟩
  unfold satSub at hle hge
  simp only at hle hge
  -- both saturated values lie outside ±5 s, so the difference did not saturate
  by_cases c1 : now - whenNs pt > 9223372036854775807
  · rw [if_pos c1] at hle
    omega
  · rw [if_neg c1] at hle hge
    by_cases c2 : now - whenNs pt < -9223372036854775808
    · rw [if_pos c2] at hge
      omega
    · rw [if_neg c2] at hle hge
      omega

/-- An AEAD that opens everything to the timestamp 2^40 s (~34865 years): `now.Sub(when)` saturates
at MinInt64, whose `abs` is negative, so a test `abs(d) > 5 s` in place of the two-sided one accepts it. -/
private def farFuture : AEAD := { aeadSeal := fun _ _ _ => [], aeadOpen := fun _ _ _ => some [0, 0, 1, 0, 0, 0, 0, 0] }

example : validateToken farFuture 0 [0, 0, 0, 0] [] (List.replicate 20 0) [1, 2, 3, 4] 80 = VR.reject := by
  decide

/-- C31, binding. The cryptography is the two hypotheses on the abstract AEAD. `hOpen`, whatever opens was sealed
with the same nonce and additional data, is trusted of the real one. `hInj`, `seal` is injective in (nonce,
plaintext, additional data), is an idealisation of "no collision can be found": no real AEAD has it, since the
ciphertext is 16 bytes longer than the plaintext whatever the length of the additional data. `toy` of the model
does not have it either, so the `example`s below exercise `validateToken` and not this theorem. -/
theorem token_binding (a : AEAD)
    (hOpen : ∀ n c ad p, a.aeadOpen n c ad = some p → c = a.aeadSeal n p ad)
    (hInj : ∀ n p ad n' p' ad', a.aeadSeal n p ad = a.aeadSeal n' p' ad' → n = n' ∧ p = p' ∧ ad = ad')
    (nonce : List Nat) (hn : nonce.length = 24) (t : Nat) (src od addr : List Nat) (port : Nat)
    (token newDst : List Nat) (hmk : makeToken a nonce t src od addr port = some (token, newDst))
    (now : Int) (src' dst' addr' : List Nat) (port' : Nat) (od' : List Nat)
    (hp : port < 65536) (hp' : port' < 65536)
    (hv : validateToken a now token src' dst' addr' port' = VR.accept od') :
    src' = src ∧ addr' = addr ∧ port' = port ∧ dst' = newDst ∧ od' = od := by
  obtain ⟨ad', pt, had', hlen, _, hopen, hpt8, hod, _, _⟩ := validate_accept_spec a now token src' dst' addr' port' od' hv
  unfold makeToken at hmk
  split at hmk <;> simp at hmk
  rename_i ad had
  obtain ⟨htok, hdst⟩ := hmk
  have h4 : (nonce.drop maxConnIDLen).length = 4 := by simp [maxConnIDLen, hn]
  have htake : token.take 4 = nonce.drop maxConnIDLen := by
    rw [← htok, ← h4]; simp
  have hdrop : token.drop 4 = a.aeadSeal nonce (u64be t ++ od) ad := by
    rw [← htok, ← h4]; simp
  have hseal := hOpen _ _ _ _ hopen
  rw [hdrop] at hseal
  obtain ⟨hnn, hpp, hadd⟩ := hInj _ _ _ _ _ _ hseal
  subst hadd
  obtain ⟨hs, ha, hpo⟩ := additionalData_injective src' src addr' addr port' port _ hp' hp had' had
  -- nonce = dst' ++ token[:4]  and  nonce = nonce[:20] ++ nonce[20:]
  have hsplit : nonce = nonce.take maxConnIDLen ++ nonce.drop maxConnIDLen := by simp
  rw [htake] at hnn
  have hdl : (nonce.take maxConnIDLen).length = dst'.length := by
    simp [htake, h4] at hlen
    simp [maxConnIDLen, hn]; omega
  have := List.append_inj (hsplit.symm.trans hnn) hdl
  refine ⟨hs, ha, hpo, ?_, ?_⟩
  · rw [← hdst]; exact this.1.symm
  · rw [hod, ← hpp]; simp [u64be]

/-- C31, stateless reset (`stateless_reset.go: tokenForConnID`), HMAC uninterpreted: determinism is `rfl`. -/
theorem resetToken_deterministic (hmac : List Nat → List Nat → List Nat) (k c : List Nat) :
    resetToken hmac k c = (hmac k c).take 16 := rfl

/-- Distinct tokens are a collision statement about the first 16 bytes of HMAC, and nothing more is proved. -/
theorem resetToken_distinct_iff (hmac : List Nat → List Nat → List Nat) (k k' c c' : List Nat) :
    resetToken hmac k c ≠ resetToken hmac k' c' ↔ (hmac k c).take 16 ≠ (hmac k' c').take 16 := Iff.rfl

example : (makeToken toy (List.range 24) 1000 [1, 2] [9, 9, 9] [10, 0, 0, 1] 8000).map
    (fun r => validateToken toy (1003 * 1000000000 + 5) r.1 [1, 2] r.2 [10, 0, 0, 1] 8000)
    = some (VR.accept [9, 9, 9]) := by decide
example : (makeToken toy (List.range 24) 1000 [1, 2] [9, 9, 9] [10, 0, 0, 1] 8000).map
    (fun r => validateToken toy (1003 * 1000000000 + 5) r.1 [1, 2] r.2 [10, 0, 0, 1] 8001)
    = some VR.reject := by decide
example : (makeToken toy (List.range 24) 1000 [1, 2] [9, 9, 9] [10, 0, 0, 1] 8000).map
    (fun r => validateToken toy (1006 * 1000000000) r.1 [1, 2] r.2 [10, 0, 0, 1] 8000)
    = some VR.reject := by decide

end NetVerif.Proofs.C31
