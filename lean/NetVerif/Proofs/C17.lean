import NetVerif.Model.H2Client
import NetVerif.Gen.C17
import NetVerif.Proofs.Lemmas.IfCases
/-!
C17: HTTP/2 client, stream limits and stream-ID order.
Theorems about the mechanism model (`CC`) for all histories of mechanism steps; then soundness
of the trace monitor: every trace `accepts` lets through satisfies the wire-level property
(`WireProp`) and its readable corollaries.
-/
namespace NetVerif.Proofs.C17
open NetVerif.Model.H2Client

theorem await_go_below_limit (c : CC) (h : c.await = .go) :
    c.streams.length + c.pendingResets < c.maxConc := by
  unfold CC.await at h
  split at h
  · cases h
  · split at h
    · cases h
    · split at h
      · assumption
      · cases h

theorem await_go_not_closed (c : CC) (h : c.await = .go) : c.closed = false := by
  unfold CC.await at h
  split at h
  · cases h
  · split at h
    · cases h
    · rename_i h2
      cases hc : c.closed
      · rfl
      · simp [hc] at h2

/-- Steps of the mechanism (every way the Go code changes the counters). -/
inductive Act where
  | reserve                      -- ClientConn.ReserveNewRequest (pool)
  | enter                        -- writeRequest: decrStreamReservationsLocked
  | release                      -- cleanupWriteRequest with cs.ID == 0
  | openStream                   -- awaitOpenSlotForStreamLocked returns nil; addStreamLocked
  | forget (id : Nat)            -- forgetStreamID
  | cancelReset (id : Nat)       -- cleanupWriteRequest's RST_STREAM(CANCEL) path, then forgetStreamID
  | settings (m : Option Nat)    -- processSettingsNoWrite
  | pingAck                      -- processPing (ack)
  | frameRead (hd : Bool)        -- streamByID
  | goAway (last code : Nat)     -- setGoAway
  | close                        -- closeForError / read loop cleanup / closeIfIdle
  | doNotReuse
deriving Repr, DecidableEq

/-- `none`: the step is not enabled (only `openStream` has a guard: it blocks or fails). -/
def step (c : CC) : Act → Option CC
  | .reserve => some c.reserve.2
  | .enter => some c.decrReservation
  | .release => some c.decrReservation
  | .openStream => if c.await = .go then some c.addStream else none
  | .forget id => some (c.forget id)
  | .cancelReset id => some ((c.noteCancelReset id).1.forget id)
  | .settings m => some (c.settings m)
  | .pingAck => some c.pingAck
  | .frameRead hd => some (c.frameRead hd)
  | .goAway l code => some (c.setGoAway l code).1
  | .close => some { c with closed := true }
  | .doNotReuse => some { c with doNotReuse := true }

/-- Run a history; the second component logs the stream IDs opened, oldest first. -/
def run (c : CC) : List Act → Option (CC × List Nat)
  | [] => some (c, [])
  | a :: as =>
    match step c a with
    | none => none
    | some c' =>
      match run c' as with
      | none => none
      | some (c'', log) => some (c'', if a = .openStream then c.nextID :: log else log)

/-- The two fields the history theorems follow: `nextID` (`run_log`) and `goAway` (`C18.no_stream_after_goaway`). -/
theorem step_frame (c c' : CC) (a : Act) (h : step c a = some c') :
    c'.nextID = (if a = .openStream then c.nextID + 2 else c.nextID) ∧ (c.goAway = true → c'.goAway = true) := by
  -- for the operations that are an `if` between two updates of other fields
  have keep {α : Type} (f : α → CC) :=
    @Lemmas.ite_ind α (fun x => (f x).nextID = c.nextID ∧ (c.goAway = true → (f x).goAway = true))
  cases a with
  | reserve => cases h; exact keep (fun x : Bool × CC => x.2) (fun _ => ⟨rfl, id⟩) fun _ => ⟨rfl, id⟩
  | openStream =>
    simp only [step] at h
    split at h <;> cases h
    exact ⟨rfl, id⟩
  | cancelReset i =>
    cases h
    exact keep (fun x : CC × Bool => x.1.forget i) (fun _ => ⟨rfl, id⟩) fun _ => ⟨rfl, id⟩
  | settings m =>
    cases h
    cases m with
    | none => exact keep id (fun _ => ⟨rfl, id⟩) fun _ => ⟨rfl, id⟩
    | some v => exact ⟨rfl, id⟩
  | pingAck => cases h; exact keep id (fun _ => ⟨rfl, id⟩) fun _ => ⟨rfl, id⟩
  | goAway l code => cases h; exact ⟨rfl, fun _ => rfl⟩
  | _ => cases h; exact ⟨rfl, id⟩

theorem run_cons {c c' : CC} {a : Act} {as : List Act} {log : List Nat} (h : run c (a :: as) = some (c', log)) :
    ∃ c1 log2, step c a = some c1 ∧ run c1 as = some (c', log2) ∧
      log = if a = .openStream then c.nextID :: log2 else log2 := by
  simp only [run] at h
  split at h
  · cases h
  · rename_i c1 hs
    split at h
    · cases h
    · rename_i c2 log2 hr
      cases h
      exact ⟨c1, log2, hs, hr, rfl⟩

theorem run_log (c : CC) (acts : List Act) (c' : CC) (log : List Nat)
    (h : run c acts = some (c', log)) :
    log.Pairwise (· < ·) ∧ (∀ id ∈ log, c.nextID ≤ id ∧ id % 2 = c.nextID % 2) := by
  induction acts generalizing c c' log with
  | nil => simp [run] at h; obtain ⟨_, rfl⟩ := h; simp
  | cons a as ih =>
    obtain ⟨c1, log2, hs, hr, rfl⟩ := run_cons h
    have hn := (step_frame c c1 a hs).1
    have ⟨hp, hall⟩ := ih c1 c' log2 hr
    by_cases ha : a = .openStream
    · simp only [ha, if_true] at hn ⊢
      refine ⟨List.pairwise_cons.mpr ⟨?_, hp⟩, ?_⟩
      · intro x hx
        have := (hall x hx).1
        omega
      · intro id hid
        rcases List.mem_cons.mp hid with rfl | hid
        · exact ⟨Nat.le_refl _, rfl⟩
        · have := hall id hid
          omega
    · simp only [ha, if_false] at hn ⊢
      refine ⟨hp, ?_⟩
      intro id hid
      have := hall id hid
      rw [hn] at this
      exact this

/-- C17, first clause, for all histories of a fresh connection: the IDs the client assigns are
odd and strictly increasing. -/
theorem ids_odd_increasing (strict : Bool) (acts : List Act) (c' : CC) (log : List Nat)
    (h : run { strict := strict } acts = some (c', log)) :
    log.Pairwise (· < ·) ∧ ∀ id ∈ log, id % 2 = 1 := by
  have ⟨hp, hall⟩ := run_log _ acts c' log h
  exact ⟨hp, fun id hid => (hall id hid).2⟩

/-- C17, strict clause on the mechanism. -/
theorem open_within_limit (c c' : CC) (h : step c .openStream = some c') :
    c.streams.length + c.pendingResets < c.maxConc ∧
    c'.streams.length + c'.pendingResets ≤ c'.maxConc ∧ c'.streams.length ≤ c'.maxConc := by
  simp only [step] at h
  split at h
  · rename_i hgo
    have hlt := await_go_below_limit c hgo
    simp only [Option.some.injEq] at h
    subst h
    simp only [CC.addStream, List.length_cons] at hlt ⊢
    omega
  · cases h

/-- At the limit no stream is opened. What is compared with the limit is `streams + pendingResets`,
as in `awaitOpenSlotForStreamLocked`; `CC.count` also counts reservations. -/
theorem at_limit_blocks (c : CC) (h : c.maxConc ≤ c.streams.length + c.pendingResets) :
    step c .openStream = none := by
  simp only [step]
  split
  · rename_i hgo
    have := await_go_below_limit c hgo
    omega
  · rfl

/-- C17, limit lowered mid-flight by SETTINGS: in every state, hence along every history. -/
theorem lowered_limit_blocks (c : CC) (m : Nat) (h : m ≤ c.streams.length + c.pendingResets) :
    step (c.settings (some m)) .openStream = none := by
  apply at_limit_blocks
  simpa [CC.settings] using h

/-- Progress (the repaired stall): on an open, usable connection a waiting request is let through
as soon as streams + pending resets are below the limit, however many requests are queued
behind it with reservations. -/
theorem waiter_let_through (c : CC) (hc : c.closed = false) (hi : c.idleCanTake = true)
    (h : c.streams.length + c.pendingResets < c.maxConc) : c.await = .go := by
  unfold CC.await
  simp [hc, hi, h]

theorem waiter_progress (c : CC) (hc : c.closed = false) (hi : c.idleCanTake = true)
    (h : c.streams.length + c.pendingResets < c.maxConc) :
    step c .openStream = some c.addStream := by
  simp [step, waiter_let_through c hc hi h]

/-- C17, non-strict clause on the mechanism: `ReserveNewRequest` (what the pool calls) refuses a
connection at its limit. The only exception in the code is a closed connection that was never
used (it takes one request, which fails without opening a stream: `closed_never_opens`). -/
theorem nonstrict_reserve_below_limit (c : CC) (hs : c.strict = false) (h : c.reserve.1 = true) :
    c.count < c.maxConc ∨ (c.nextID = 1 ∧ c.reserved = 0 ∧ c.closed = true ∧ c.closedOnIdle = false) := by
  unfold CC.reserve at h
  split at h
  · rename_i hc
    unfold CC.idleCanTake at hc
    split at hc
    · cases hc
    · simp only [hs] at hc
      split at hc
      · rename_i hex
        right
        simp at hex
        exact ⟨hex.1.1.1, hex.1.1.2, hex.1.2, hex.2⟩
      · left
        simp at hc
        exact hc.1
  · cases h

theorem closed_never_opens (c : CC) (h : c.closed = true) : step c .openStream = none := by
  simp only [step]
  split
  · rename_i hgo
    have := await_go_not_closed c hgo
    simp [h] at this
  · rfl

/-- Strict mode: the pool is always told yes on a usable connection (requests then wait in
`awaitOpenSlotForStreamLocked`). -/
theorem strict_reserve_ignores_limit (c : CC) (hs : c.strict = true) (hu : c.isUsable = true)
    (hsu : c.singleUse = false) : c.reserve.1 = true := by
  unfold CC.reserve CC.idleCanTake
  simp [hs, hu, hsu]

/-- The history that stalled before the repair (limit 1, one finished stream, two queued
requests; corpus/C17/strict_stall.ops): the head waiter is let through. -/
example :
    ∃ c log, run { strict := true }
        [.settings (some 1), .reserve, .enter, .openStream, .reserve, .enter, .reserve, .forget 1]
        = some (c, log) ∧ c.streams = [] ∧ c.reserved = 1 ∧ c.await = .go := by
  refine ⟨_, _, rfl, ?_, ?_, ?_⟩ <;> decide

example : step ({ maxConc := 1 } : CC) .openStream = some { maxConc := 1, streams := [1], nextID := 3 } := by decide
example : step ({ maxConc := 1, streams := [1], nextID := 3 } : CC) .openStream = none := by decide
example : ({ maxConc := 1, streams := [1], nextID := 3 } : CC).reserve.1 = false := by decide
example : ({ maxConc := 1, streams := [1], nextID := 3, strict := true } : CC).reserve.1 = true := by decide

/-! T-tie: the comparison sites regenerated from transport.go equal the model's. -/

theorem gen_initialMax_eq : NetVerif.Gen.C17.initialMaxConcurrentStreams = initialMaxConcurrentStreams := rfl

theorem gen_defaultMax_eq : NetVerif.Gen.C17.defaultMaxConcurrentStreams = defaultMaxConcurrentStreams := rfl

/-- `currentRequestCountLocked` as written in Go is the model's `count`. -/
theorem gen_count_eq (c : CC) :
    NetVerif.Gen.C17.count c.streams.length c.reserved c.pendingResets = c.count := rfl

/-- On an open, usable connection `awaitOpenSlotForStreamLocked` proceeds exactly when the
comparison written in Go holds. -/
theorem gen_slotFree_eq (c : CC) (hc : c.closed = false) (hi : c.idleCanTake = true) :
    c.await = .go ↔
      NetVerif.Gen.C17.slotFree c.streams.length c.reserved c.pendingResets c.maxConc = true := by
  unfold CC.await NetVerif.Gen.C17.slotFree
  simp only [hc, hi, Bool.false_and, Bool.not_true, Bool.or_self, decide_eq_true_eq]
  by_cases h : c.streams.length + c.pendingResets < c.maxConc
  · simp [h]
  · simp [h]

/-- Non-strict `idleStateLocked` on an open connection is the comparison written in Go and
`isUsableLocked`. -/
theorem gen_poolOkay_eq (c : CC) (hs : c.strict = false) (hsu : c.singleUse = false)
    (hc : c.closed = false) :
    c.idleCanTake =
      (NetVerif.Gen.C17.poolOkay c.streams.length c.reserved c.pendingResets c.maxConc && c.isUsable) := by
  unfold CC.idleCanTake NetVerif.Gen.C17.poolOkay NetVerif.Gen.C17.count CC.count
  simp [hs, hsu, hc]

/-- The wire-level property of a whole trace: every event passes `wireCheck` in the wire state
reached by the events before it. -/
def WireProp (strict : Bool) (tr : List Ev) : Prop :=
  ∀ pre e post, tr = pre ++ e :: post → wireCheck strict (fun c => wireState c pre) e = true

theorem ev_ok {m m' : Mon} {e : Ev} (h : m.ev e = .ok m') :
    wireCheck m.strict m.w e = true ∧ m'.strict = m.strict ∧ m'.w = fun c => (m.w c).upd c e := by
  unfold Mon.ev at h
  split at h
  · cases h
  · rename_i hc
    split at h
    · cases h
    · cases h
      simp at hc
      exact ⟨hc, rfl, rfl⟩

theorem run_ok (m m' : Mon) (tr : List Ev) (h : m.run tr = .ok m') :
    ∀ pre e post, tr = pre ++ e :: post →
      wireCheck m.strict (fun c => pre.foldl (fun w e => w.upd c e) (m.w c)) e = true := by
  induction tr generalizing m with
  | nil => intro pre e post hp; simp at hp
  | cons a as ih =>
    simp only [Mon.run] at h
    split at h
    · cases h
    · rename_i m1 h1
      have ⟨hc, hs, hw⟩ := ev_ok h1
      intro pre e post hp
      cases pre with
      | nil =>
        simp at hp
        obtain ⟨rfl, _⟩ := hp
        simpa using hc
      | cons p ps =>
        simp at hp
        obtain ⟨rfl, rfl⟩ := hp
        have := ih m1 h ps e post rfl
        rw [hs, hw] at this
        simpa [List.foldl_cons] using this

theorem accepted_wireProp (strict : Bool) (tr : List Ev) (h : accepts strict tr = true) :
    WireProp strict tr := by
  unfold accepts at h
  split at h
  · rename_i m' hr
    intro pre e post hp
    have := run_ok (Mon.init strict) m' tr hr pre e post hp
    simpa [Mon.init, wireState] using this
  · cases h

theorem wireCheck_hdr {strict : Bool} {ws : Nat → WConn} {c id r : Nat} {es : Bool}
    (h : wireCheck strict ws (.hdr c id r es) = true) :
    id % 2 = 1 ∧ (ws c).lastID < id ∧ (strict = true → (ws c).opn.length + 1 ≤ (ws c).limit) ∧
      (ws c).goneAway = false := by
  simp only [wireCheck, Bool.and_eq_true, Bool.or_eq_true, Bool.not_eq_true', decide_eq_true_eq] at h
  exact ⟨h.1.1.1, h.1.1.2, fun hs => h.1.2.resolve_left (by rw [hs]; exact Bool.noConfusion), h.2⟩

theorem wireCheck_pick {strict : Bool} {ws : Nat → WConn} {r c : Nat} {f : Bool}
    (h : wireCheck strict ws (.pick r c f) = true) :
    (strict = false → (ws c).opn.length + (ws c).pend.length < (ws c).limit) ∧ (ws c).goneAway = false := by
  simp only [wireCheck, Bool.and_eq_true, Bool.or_eq_true, Bool.not_eq_true', decide_eq_true_eq] at h
  exact ⟨fun hs => h.1.resolve_left (by rw [hs]; exact Bool.false_ne_true), h.2⟩

theorem accepted_ids_odd (strict : Bool) (tr pre post : List Ev) (c id r : Nat) (es : Bool)
    (h : accepts strict tr = true) (hp : tr = pre ++ .hdr c id r es :: post) : id % 2 = 1 := by
  exact (wireCheck_hdr (accepted_wireProp strict tr h pre _ post hp)).1

theorem upd_lastID_mono (w : WConn) (c : Nat) (e : Ev)
    (h : ∀ id r es, e = .hdr c id r es → w.lastID < id) : w.lastID ≤ (w.upd c e).lastID := by
  cases e with
  | hdr c' id r es =>
    exact Lemmas.ite_ind (fun x : WConn => w.lastID ≤ x.lastID)
      (fun hc => Nat.le_of_lt (h id r es (by rw [hc]))) fun _ => Nat.le_refl _
  -- the other updates conditional on the connection leave `lastID` alone in both branches
  | pick | cend | crst | srst | sresp | sdata | setMax | goaway | sclose =>
    exact Lemmas.ite_ind (fun x : WConn => w.lastID ≤ x.lastID) (fun _ => Nat.le_refl _) fun _ => Nat.le_refl _
  | _ => exact Nat.le_refl _

theorem lastID_mono (c : Nat) (w : WConn) (tr : List Ev)
    (h : ∀ pre e post, tr = pre ++ e :: post → ∀ id r es, e = .hdr c id r es →
      (pre.foldl (fun w e => w.upd c e) w).lastID < id) :
    w.lastID ≤ (tr.foldl (fun w e => w.upd c e) w).lastID := by
  induction tr generalizing w with
  | nil => simp
  | cons a as ih =>
    simp only [List.foldl_cons]
    have h0 := upd_lastID_mono w c a (fun id r es he => by
      have := h [] a as rfl id r es he
      simpa using this)
    have h1 := ih (w.upd c a) (fun pre e post hp id r es he => by
      have := h (a :: pre) e post (by simp [hp]) id r es he
      simpa using this)
    omega

theorem accepted_ids_increasing (strict : Bool) (tr pre mid post : List Ev) (c id r id' r' : Nat)
    (es es' : Bool) (h : accepts strict tr = true)
    (hp : tr = pre ++ .hdr c id r es :: (mid ++ .hdr c id' r' es' :: post)) : id < id' := by
  have hw := accepted_wireProp strict tr h
  -- the second HEADERS is checked against the state after pre ++ hdr :: mid
  have h2 := hw (pre ++ .hdr c id r es :: mid) (.hdr c id' r' es') post (by simp [hp])
  have hlt := (wireCheck_hdr h2).2.1
  -- lastID after `pre ++ [hdr]` is id, and it does not decrease over `mid`
  have hsplit : wireState c (pre ++ .hdr c id r es :: mid)
      = mid.foldl (fun w e => w.upd c e) ((wireState c pre).upd c (.hdr c id r es)) := by
    simp [wireState, List.foldl_append]
  have hid : ((wireState c pre).upd c (.hdr c id r es)).lastID = id := by simp [WConn.upd]
  have hmono := lastID_mono c ((wireState c pre).upd c (.hdr c id r es)) mid
    (fun p e q hpq id2 r2 es2 he => by
      have := hw (pre ++ .hdr c id r es :: p) e (q ++ .hdr c id' r' es' :: post)
        (by simp [hp, hpq])
      subst he
      have := (wireCheck_hdr this).2.1
      simpa [wireState, List.foldl_append] using this)
  rw [hsplit] at hlt
  omega

/-- C17, strict clause on the wire: the new stream included, against the limit of the last SETTINGS the client was given. -/
theorem accepted_strict_limit (tr pre post : List Ev) (c id r : Nat) (es : Bool)
    (h : accepts true tr = true) (hp : tr = pre ++ .hdr c id r es :: post) :
    (wireState c pre).opn.length + 1 ≤ (wireState c pre).limit := by
  exact (wireCheck_hdr (accepted_wireProp true tr h pre _ post hp)).2.2.1 rfl

theorem accepted_lowered_limit_no_new_stream (tr pre post : List Ev) (c : Nat) (e : Ev)
    (h : accepts true tr = true) (hp : tr = pre ++ e :: post)
    (hfull : (wireState c pre).limit ≤ (wireState c pre).opn.length) :
    ∀ id r es, e ≠ .hdr c id r es := by
  intro id r es he
  subst he
  have := accepted_strict_limit tr pre post c id r es h hp
  omega

/-- C17, non-strict clause on the wire. -/
theorem accepted_pool_below_limit (tr pre post : List Ev) (r c : Nat) (f : Bool)
    (h : accepts false tr = true) (hp : tr = pre ++ .pick r c f :: post) :
    (wireState c pre).opn.length + (wireState c pre).pend.length < (wireState c pre).limit := by
  exact (wireCheck_pick (accepted_wireProp false tr h pre _ post hp)).1 rfl

/-! Non-vacuity: a trace that exercises the limit is accepted; opening past the limit and a
pool selection at the limit are rejected. -/
def demoOK : List Ev :=
  [.pick 0 0 true, .hdr 0 1 0 true, .setMax 0 (some 1), .pick 1 0 false, .sresp 0 1 true, .hdr 0 3 1 true]

example : accepts true demoOK = true := by decide
example : accepts true [.pick 0 0 true, .hdr 0 1 0 true, .setMax 0 (some 1), .pick 1 0 false, .hdr 0 3 1 true] = false := by decide
example : accepts false [.pick 0 0 true, .hdr 0 1 0 true, .setMax 0 (some 1), .pick 1 0 false] = false := by decide
example : accepts false [.pick 0 0 true, .hdr 0 1 0 true, .pick 1 0 false, .hdr 0 1 1 true] = false := by decide

end NetVerif.Proofs.C17
