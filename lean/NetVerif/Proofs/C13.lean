import NetVerif.Proofs.C12
import NetVerif.Model.RFC9218Priority
/-!
# C13 — the RFC 9218 scheduler respects urgency and serves every ready stream

A priority class is `c = 2*urgency + incremental`.  One `Pop` of `P9218` is read through `Served` (which class and
stream it serves).  `urgency_respected` and `alternation` speak of open streams and need the representation invariant
`P9Inv` (every state reachable by a contract-respecting history has it: `reachable_inv`); the other theorems about one
`Pop` hold of any state.  Consecutive `Pop`s are `iter`; `level_fair` is a monitor over whole histories, with no
contract.
-/
namespace NetVerif.Proofs.C13
open NetVerif.Model.WriteSched NetVerif.Proofs.WriteSchedLemmas NetVerif.Proofs.WriteSchedSpec
  NetVerif.Proofs.WriteSchedRefine NetVerif.Proofs.C12

theorem reachable_inv (ops : List Op) : ∀ (s : Sched) (opn : Nat → Bool) (e : Env),
    InvS opn s → AbsWF (absS s) opn → Contract opn ops →
    ∃ opn', InvS opn' (s.run e ops).2.1 ∧ AbsWF (absS (s.run e ops).2.1) opn' := fun s opn e hi hwf hc =>
  let ⟨_, opn', _, h⟩ := run_sim ops s opn e Ledger.empty hi hwf hc
  ⟨opn', h⟩

/-- The outcome of a `Pop` that reaches the stream queues and serves stream `id` of class `c`. -/
structure Served (e : Env) (s : P9218) (c id : Nat) (pre post : List Nat) : Prop where
  noctl : s.control.shift = none
  found : firstClass e s.qs s.ring (classOrder s.pref) = some (c, pre, id, post)

theorem pop_of_served {e : Env} {s : P9218} {c id : Nat} {pre post : List Nat} (h : Served e s c id pre post) :
    ∃ e' q' f, (s.qs id).consume e maxInt32 = (e', q', some f) ∧
      s.pop e = (e', P9218.mk s.control (upd s.qs id q')
                   (upd s.ring c (if c % 2 = 1 then post ++ pre ++ [id] else id :: (post ++ pre)))
                   s.prio (upd s.pref (c / 2) (c % 2 == 0)) s.bufId s.bufClass, .frame f) := by
  obtain ⟨_, _, hsend, _⟩ := firstClass_some h.found
  obtain ⟨e', q', f, hcons, _⟩ := pop_stream_spec (strict := True) (control := s.control) e (shift_none h.noctl) id hsend
  refine ⟨e', q', f, hcons, ?_⟩
  simp [P9218.pop, h.noctl, h.found, hcons]

/-- Converse of `pop_of_served`: `Served` reads every `Pop` that returns a frame from a stream queue. -/
theorem served_of_pop {e e' : Env} {s s' : P9218} {f : Frame} (hn : s.control.shift = none)
    (h : s.pop e = (e', s', .frame f)) : ∃ c id pre post, Served e s c id pre post := by
  simp only [P9218.pop, hn] at h
  cases hfc : firstClass e s.qs s.ring (classOrder s.pref) with
  | none => simp [hfc] at h
  | some t => obtain ⟨c, pre, id, post⟩ := t; exact ⟨c, id, pre, post, hn, hfc⟩

theorem firstClass_before {e : Env} {qs : Nat → WQ} {ring : Nat → List Nat} {cs : List Nat}
    {c id : Nat} {pre post : List Nat} (h : firstClass e qs ring cs = some (c, pre, id, post)) :
    ∀ c' ∈ cs.takeWhile (· != c), ∀ x ∈ ring c', sendable e (qs x) = false := by
  obtain ⟨l1, l2, rfl, hl1, _⟩ := firstClass_split h
  intro c' hc'
  have : ((l1 ++ c :: l2).takeWhile (· != c)) <+: l1 := by
    rw [List.takeWhile_append]
    split
    · simp
    · exact List.takeWhile_prefix _
  exact hl1 c' (this.subset hc')

/-! The facts below on classes and their urgency level (`c = 2 * (c / 2) + c % 2`) keep `omega` away from `/ 2` and
`% 2`, on which it is slow. -/

theorem class_ext {c c' : Nat} (h2 : c' / 2 = c / 2) (hm : c' % 2 = c % 2) : c' = c := by
  rw [← Nat.div_add_mod c' 2, ← Nat.div_add_mod c 2, h2, hm]

theorem sibling_odd {c c' : Nat} (hu : c' / 2 = c / 2) (hne : c' ≠ c) : decide (c' % 2 = 1) = (c % 2 == 0) := by
  have : c' % 2 ≠ c % 2 := fun hm => hne (class_ext hu hm)
  rcases Nat.mod_two_eq_zero_or_one c with h | h <;> rw [h] at this ⊢
  · rw [Nat.mod_two_ne_zero.1 this]; rfl
  · rw [Nat.mod_two_ne_one.1 this]; rfl

/-- of the two classes of an urgency level exactly one has the turn -/
theorem turn_sibling {pref : Nat → Bool} {c c' : Nat} (hu : c' / 2 = c / 2) (hne : c' ≠ c) :
    decide (c' % 2 = 1) = pref (c / 2) ↔ ¬ decide (c % 2 = 1) = pref (c / 2) := by
  rw [sibling_odd hu hne]
  rcases Nat.mod_two_eq_zero_or_one c with h | h <;> cases pref (c / 2) <;> simp [h]

theorem class_two {x y c' : Nat} (hxy : x / 2 = y / 2) (hne : x ≠ y) (hc : c' / 2 = x / 2) : c' = x ∨ c' = y := by
  by_cases h : c' = x
  · exact Or.inl h
  · refine Or.inr (class_ext (hc.trans hxy) ?_)
    -- `c'` and `y` both have the parity that `x` has not
    have h1 : c' % 2 ≠ x % 2 := fun hm => h (class_ext hc hm)
    have h2 : y % 2 ≠ x % 2 := fun hm => hne (class_ext hxy hm.symm)
    rcases Nat.mod_two_eq_zero_or_one x with hx | hx <;> rw [hx] at h1 h2
    · rw [Nat.mod_two_ne_zero.1 h1, Nat.mod_two_ne_zero.1 h2]
    · rw [Nat.mod_two_ne_one.1 h1, Nat.mod_two_ne_one.1 h2]

/-- the two classes of urgency level `u`, in the order `Pop` tries them -/
def pairOf (pref : Nat → Bool) (u : Nat) : List Nat := if pref u then [2 * u + 1, 2 * u] else [2 * u, 2 * u + 1]

theorem classOrder_eq (pref : Nat → Bool) : classOrder pref = (List.range' 0 8).flatMap (pairOf pref) := by
  simp only [classOrder, List.range_eq_range']; rfl

/-- Place of class `c` in the order in which `Pop` visits the classes: by urgency level, and within a level
first the class whose turn it is. -/
def place (pref : Nat → Bool) (c : Nat) : Nat := 2 * (c / 2) + if decide (c % 2 = 1) = pref (c / 2) then 0 else 1

theorem place_bounds (pref : Nat → Bool) (c : Nat) : 2 * (c / 2) ≤ place pref c ∧ place pref c ≤ 2 * (c / 2) + 1 := by
  unfold place; generalize c / 2 = u; split <;> omega

theorem place_lt_of_level {pref : Nat → Bool} {c c' : Nat} (h : c' / 2 < c / 2) : place pref c' < place pref c := by
  have h1 := (place_bounds pref c').2
  have h2 := (place_bounds pref c).1
  generalize c / 2 = u at *; generalize c' / 2 = u' at *
  omega

theorem place_lt_of_turn {pref : Nat → Bool} {c c' : Nat} (hu : c' / 2 = c / 2) (hne : c' ≠ c)
    (hp : decide (c' % 2 = 1) = pref (c / 2)) : place pref c' < place pref c := by
  simp only [place, hu, hp, (turn_sibling hu hne).1 hp, if_true, if_false]
  exact Nat.lt_succ_self _

theorem levels_place (pref : Nat → Bool) (n : Nat) : ∀ a,
    ((List.range' a n).flatMap (pairOf pref)).map (place pref) = List.range' (2 * a) (2 * n) := by
  induction n with
  | zero => intro a; rfl
  | succ n ih =>
    intro a
    have h0 : 2 * a / 2 = a := Nat.mul_div_cancel_left a (by decide)
    have h1 : (2 * a + 1) / 2 = a := by rw [Nat.mul_add_div (by decide)]; rfl
    have h2 : 2 * a % 2 = 0 := Nat.mul_mod_right 2 a
    have h3 : (2 * a + 1) % 2 = 1 := by rw [Nat.mul_add_mod]
    have hp : (pairOf pref a).map (place pref) = [2 * a, 2 * a + 1] := by
      cases hb : pref a <;> simp [pairOf, place, h0, h1, h2, h3, hb]
    rw [List.range'_succ, List.flatMap_cons, List.map_append, hp, ih (a + 1),
      show 2 * (n + 1) = 2 * n + 1 + 1 from by omega, List.range'_succ, List.range'_succ]
    rfl

theorem mem_pairOf {pref : Nat → Bool} {u c : Nat} : c ∈ pairOf pref u ↔ c / 2 = u := by
  have : c / 2 = u ↔ c = 2 * u ∨ c = 2 * u + 1 := by omega
  rw [this]; unfold pairOf; split <;> simp [or_comm]

theorem mem_levels {pref : Nat → Bool} {a n c : Nat} :
    c ∈ (List.range' a n).flatMap (pairOf pref) ↔ a ≤ c / 2 ∧ c / 2 < a + n := by
  simp only [List.mem_flatMap, List.mem_range'_1, mem_pairOf, exists_eq_right']

theorem mem_left_of_lt {k : Nat → Nat} {cs l1 l2 : List Nat} {c c' : Nat}
    (hs : cs.Pairwise fun a b => k a < k b) (h : cs = l1 ++ c :: l2) (hm : c' ∈ cs) (hk : k c' < k c) : c' ∈ l1 := by
  subst h
  rcases List.mem_append.1 hm with h | h
  · exact h
  · obtain ⟨_, h2, _⟩ := List.pairwise_append.1 hs
    rcases List.mem_cons.1 h with rfl | h
    · exact absurd hk (Nat.lt_irrefl _)
    · exact absurd (Nat.lt_trans ((List.pairwise_cons.1 h2).1 c' h) hk) (Nat.lt_irrefl _)

theorem firstClass_levels {e : Env} {qs : Nat → WQ} {ring : Nat → List Nat} {pref : Nat → Bool} (n : Nat) :
    ∀ (a : Nat) {c id : Nat} {pre post : List Nat},
    firstClass e qs ring ((List.range' a n).flatMap (pairOf pref)) = some (c, pre, id, post) →
    a ≤ c / 2 ∧ c / 2 < a + n ∧
    (∀ c', a ≤ c' / 2 → c' / 2 < c / 2 → ∀ y ∈ ring c', sendable e (qs y) = false) ∧
    (∀ c', c' / 2 = c / 2 → c' ≠ c → decide (c' % 2 = 1) = pref (c / 2) → ∀ y ∈ ring c', sendable e (qs y) = false) := by
  intro a c id pre post h
  obtain ⟨l1, l2, hcs, hl1, _⟩ := firstClass_split h
  have hc := mem_levels.1 (hcs ▸ List.mem_append_right l1 List.mem_cons_self)
  have hs : ((List.range' a n).flatMap (pairOf pref)).Pairwise fun x y => place pref x < place pref y :=
    List.pairwise_map.1 (levels_place pref n a ▸ List.pairwise_lt_range')
  exact ⟨hc.1, hc.2,
    fun c' h1 h2 => hl1 c' (mem_left_of_lt hs hcs (mem_levels.2 ⟨h1, by omega⟩) (place_lt_of_level h2)),
    fun c' hu hne hp => hl1 c' (mem_left_of_lt hs hcs (mem_levels.2 (hu ▸ hc)) (place_lt_of_turn hu hne hp))⟩

theorem served_order {e : Env} {s : P9218} {c id : Nat} {pre post : List Nat} (h : Served e s c id pre post) :
    c < 16 ∧ (∀ c', c' / 2 < c / 2 → ∀ y ∈ s.ring c', sendable e (s.qs y) = false) ∧
    (∀ c', c' / 2 = c / 2 → c' ≠ c → decide (c' % 2 = 1) = s.pref (c / 2) →
      ∀ y ∈ s.ring c', sendable e (s.qs y) = false) := by
  have hf := h.found
  rw [classOrder_eq] at hf
  obtain ⟨_, h2, h3, h4⟩ := firstClass_levels 8 0 hf
  exact ⟨by omega, fun c' hlt => h3 c' (by omega) hlt, h4⟩

/-- **Urgency.**  When `Pop` serves a stream of class `c`, no open stream of strictly smaller urgency
value (`c'/2 < c/2`) has a sendable frame. -/
theorem urgency_respected {e : Env} {s : P9218} {opn : Nat → Bool} {c id : Nat} {pre post : List Nat}
    (hi : P9Inv s opn) (h : Served e s c id pre post) (x c' : Nat) (hx : s.prio x = some c') (hlt : c' / 2 < c / 2) :
    sendable e (s.qs x) = false := by
  obtain ⟨_, hmem⟩ := hi.cls x c' hx
  exact (served_order h).2.1 c' hlt x hmem

/-- **Alternation.**  When a stream of class `c` is served while a stream of the other class of the same
urgency is sendable, `c` is the class whose turn it is at that urgency level
(incremental iff `prioritizeIncremental[u]` is set). -/
theorem alternation {e : Env} {s : P9218} {opn : Nat → Bool} {c id : Nat} {pre post : List Nat}
    (hi : P9Inv s opn) (h : Served e s c id pre post) (x c' : Nat) (hx : s.prio x = some c')
    (hu : c' / 2 = c / 2) (hne : c' ≠ c) (hs : sendable e (s.qs x) = true) :
    decide (c % 2 = 1) = s.pref (c / 2) := by
  -- otherwise `c'` has the turn, and `served_order` says that nothing of it is sendable
  apply Classical.byContradiction; intro hd
  have := (served_order h).2.2 c' hu hne ((turn_sibling hu hne).2 hd) x (hi.cls x c' hx).2
  rw [this] at hs; cases hs

/-- **The alternation state is per urgency level and changes only when that level is served**: a `Pop` that
serves class `c` sets `prioritizeIncremental[c/2]` to "the other class next" and leaves all other levels alone.
That nothing else changes it is `control_pop_keeps_toggle`, `pop_none_unchanged` and `step_pref`. -/
theorem toggle_flips {e : Env} {s : P9218} {c id : Nat} {pre post : List Nat} (h : Served e s c id pre post) :
    (s.pop e).2.1.pref = upd s.pref (c / 2) (c % 2 == 0) := by
  obtain ⟨e', q', f, _, hp⟩ := pop_of_served h
  rw [hp]

theorem pop_none_unchanged {e : Env} {s : P9218} (hn : s.control.shift = none)
    (hf : firstClass e s.qs s.ring (classOrder s.pref) = none) : s.pop e = (e, s, .none) := by
  simp [P9218.pop, hn, hf]

theorem control_pop_keeps_toggle {e : Env} {s : P9218} {f : Frame} {c : WQ} (h : s.control.shift = some (f, c)) :
    s.pop e = (e, { s with control := c }, .frame f) ∧ (s.pop e).2.1.pref = s.pref ∧
      (s.pop e).2.1.ring = s.ring := by
  have : s.pop e = (e, { s with control := c }, .frame f) := by simp [P9218.pop, h]
  rw [this]; exact ⟨rfl, rfl, rfl⟩

/-- **Non-incremental streams are served to completion**, first half: after serving stream `id` of a
non-incremental class, `id` is the head of its ring.  With `head_served_first` the same non-incremental stream is
served by every `Pop` that reaches its class until it has nothing sendable (`noninc_served_until`). -/
theorem noninc_becomes_head {e : Env} {s : P9218} {c id : Nat} {pre post : List Nat}
    (h : Served e s c id pre post) (hc : c % 2 = 0) : ((s.pop e).2.1.ring c).head? = some id := by
  obtain ⟨e', q', f, _, hp⟩ := pop_of_served h
  rw [hp]
  have : ¬ c % 2 = 1 := by omega
  simp [upd, this]

/-- Second half: a `Pop` that serves class `c` serves the head of the ring if the head is sendable. -/
theorem head_served_first {e : Env} {s : P9218} {c id hd : Nat} {pre post tl : List Nat}
    (h : Served e s c id pre post) (hr : s.ring c = hd :: tl) (hs : sendable e (s.qs hd) = true) :
    id = hd ∧ pre = [] := by
  obtain ⟨_, hring, _, hpre⟩ := firstClass_some h.found
  rw [hr] at hring
  cases pre with
  | nil => simp at hring; exact ⟨hring.1.symm, rfl⟩
  | cons p pre' =>
    simp at hring
    have := hpre p (by simp)
    rw [← hring.1, hs] at this; cases this

def pos (x : Nat) : List Nat → Nat
  | [] => 0
  | y :: l => if y = x then 0 else pos x l + 1

theorem pos_eq_idxOf (x : Nat) (l : List Nat) : pos x l = l.idxOf x := by
  induction l with
  | nil => rfl
  | cons y l ih => simp only [pos, List.idxOf_cons, ih, beq_iff_eq, cond_eq_ite]

/-- One step towards "incremental streams are not starved" (`inc_served_within_2k` is the statement over
consecutive Pops). -/
theorem inc_moves_forward {e : Env} {s : P9218} {c id : Nat} {pre post : List Nat}
    (h : Served e s c id pre post) (hc : c % 2 = 1) (x : Nat) (hx : x ∈ s.ring c) (hne : x ≠ id)
    (hs : sendable e (s.qs x) = true) :
    pos x ((s.pop e).2.1.ring c) + pre.length + 1 = pos x (s.ring c) ∧ pos x (s.ring c) < (s.ring c).length := by
  obtain ⟨e', q', f, _, hp⟩ := pop_of_served h
  obtain ⟨_, hring, _, hpre⟩ := firstClass_some h.found
  refine ⟨?_, pos_eq_idxOf x _ ▸ List.idxOf_lt_length_of_mem hx⟩
  have hnp : x ∉ pre := fun hm => by have := hpre x hm; rw [hs] at this; cases this
  have hpost : x ∈ post := by simpa [hring, hnp, hne] using hx
  have : (id == x) = false := beq_false_of_ne fun hh => hne hh.symm
  -- `x` stood behind `pre ++ [id]`; now it stands where it stood in `post`
  simp [hp, upd, hc, hring, pos_eq_idxOf, List.idxOf_append, List.idxOf_cons, hnp, hpost, this]
  omega

theorem pop_other_rings {e : Env} {s : P9218} {c id : Nat} {pre post : List Nat}
    (h : Served e s c id pre post) (c' : Nat) (hne : c' ≠ c) : (s.pop e).2.1.ring c' = s.ring c' := by
  obtain ⟨e', q', f, _, hp⟩ := pop_of_served h
  rw [hp]; simp [upd, hne]

/-- An `OpenStream` between two Pops appends to a ring: the distance `pos` that `inc_moves_forward` lowers stays. -/
theorem open_keeps_pos (s : P9218) (id c x : Nat) (hn : s.prio id = none) (hb : id ≠ s.bufId) (c0 : Nat)
    (hx : x ∈ s.ring c0) : pos x ((s.openStream id c).1.ring c0) = pos x (s.ring c0) := by
  simp only [P9218.openStream, hn, hb, if_false]
  simp only [upd]
  split
  · rename_i heq; subst heq; simp [pos_eq_idxOf, List.idxOf_append, hx]
  · rfl

/-- **Buffered PRIORITY_UPDATE.**  A priority update for a stream that is not open yet is applied when the
stream is opened (it overrides the priority passed to `OpenStream`).  The statement is the two calls in a row:
there is one buffer slot (`priorityUpdateBuf`), and an update for another stream that is not open, coming in
between, takes it over. -/
theorem buffered_update_applied (s : P9218) (id c c2 : Nat) (hn : s.prio id = none) :
    let s1 := (s.adjustStream id c).1
    let s2 := (s1.openStream id c2).1
    s2.prio id = some c ∧ id ∈ s2.ring c ∧ s2.bufId = 0 := by
  simp [P9218.adjustStream, P9218.openStream, hn, upd]

/-- One step of bounded service: a `Pop` that serves the incremental class `c` while its stream `x` is sendable
serves `x` or moves it closer to the head.  (The statement over consecutive Pops is `inc_served_within_2k`.)
`P9Inv s opn` is not needed, and `c1` with `c1 = c` only names the served class a second time. -/
def BoundedServiceStatement : Prop :=
  ∀ (e : Env) (s : P9218) (opn : Nat → Bool) (c x : Nat), P9Inv s opn → c % 2 = 1 → x ∈ s.ring c →
    ∀ (c1 id : Nat) (pre post : List Nat), Served e s c1 id pre post → c1 = c → sendable e (s.qs x) = true →
      id = x ∨ pos x ((s.pop e).2.1.ring c) < pos x (s.ring c)

theorem bounded_service_step : BoundedServiceStatement := by
  intro e s opn c x _ hc hx c1 id pre post hsv hc1 hs
  subst hc1
  by_cases hxe : x = id
  · exact Or.inl hxe.symm
  · right
    have := (inc_moves_forward hsv hc x hx hxe hs).1
    omega

def exEnv : Env := { maxFrame := 16384, connWin := 65535, win := fun _ => 65535 }

/-- three incremental streams of urgency 3 (class 7), one non-incremental of urgency 3 (class 6),
one of urgency 1 (class 2) -/
def exState : P9218 :=
  let s0 : P9218 := {}
  let s1 := (s0.openStream 1 7).1
  let s2 := (s1.openStream 3 7).1
  let s3 := (s2.openStream 5 7).1
  let s4 := (s3.openStream 7 6).1
  let s5 := (s4.openStream 9 2).1
  let s6 := (s5.push (.hdr 1 1)).1
  let s7 := (s6.push (.hdr 3 2)).1
  let s8 := (s7.push (.hdr 5 3)).1
  let s9 := (s8.push (.hdr 7 4)).1
  (s9.push (.hdr 9 5)).1

example : (exState.pop exEnv).2.2 = .frame (.hdr 9 5) := by decide
example : Served exEnv exState 2 9 [] [] := ⟨by decide, by decide⟩
example : ((exState.pop exEnv).2.1.pop exEnv).2.2 = .frame (.hdr 1 1) := by decide

abbrev St := Env × P9218

def popSt (st : St) : St := ((st.2.pop st.1).1, (st.2.pop st.1).2.1)

/-- The state after `n` consecutive `Pop`s: nothing else happens in between, and the windows only change by what
the Pops themselves consume. -/
def iter : Nat → St → St
  | 0, st => st
  | n + 1, st => iter n (popSt st)

/-- the `j`-th Pop (counting from 0) serves stream `x` of class `c` -/
def ServesAt (st : St) (j c x : Nat) : Prop := ∃ pre post, Served (iter j st).1 (iter j st).2 c x pre post

/-- `x` is sendable before the `j`-th Pop -/
def SendableAt (st : St) (j x : Nat) : Prop := sendable (iter j st).1 ((iter j st).2.qs x) = true

/-- before the `j`-th Pop no stream of a class more urgent than `c` is sendable -/
def LowestAt (st : St) (j c : Nat) : Prop :=
  ∀ c', c' / 2 < c / 2 → ∀ y ∈ (iter j st).2.ring c', sendable (iter j st).1 ((iter j st).2.qs y) = false

theorem served_exists {st : St} {c x : Nat} (hn : st.2.control.shift = none) (hc : c < 16) (hx : x ∈ st.2.ring c)
    (hs : sendable st.1 (st.2.qs x) = true) : ∃ c' id pre post, Served st.1 st.2 c' id pre post := by
  cases hf : firstClass st.1 st.2.qs st.2.ring (classOrder st.2.pref) with
  | none =>
    have := firstClass_none hf c (classOrder_complete st.2.pref c hc) x hx
    rw [hs] at this; cases this
  | some t => obtain ⟨c', pre, id, post⟩ := t; exact ⟨c', id, pre, post, hn, hf⟩

theorem mem_ring_pop {e : Env} {s : P9218} {c' id : Nat} {pre post : List Nat} (h : Served e s c' id pre post)
    (c x : Nat) : x ∈ (s.pop e).2.1.ring c ↔ x ∈ s.ring c := by
  obtain ⟨e', q', f, _, hp⟩ := pop_of_served h
  obtain ⟨_, hring, _, _⟩ := firstClass_some h.found
  rw [hp]
  simp only [upd]
  split
  · rename_i heq; subst heq
    rw [hring]
    split
    · exact (rotate_tail_perm pre post id).mem_iff
    · exact (rotate_head_perm pre post id).mem_iff
  · rfl

theorem control_pop {e : Env} {s : P9218} {c' id : Nat} {pre post : List Nat} (h : Served e s c' id pre post) :
    (s.pop e).2.1.control = s.control := by
  obtain ⟨e', q', f, _, hp⟩ := pop_of_served h
  rw [hp]

/-- the next Pop is answered from the urgency level of class `c` -/
def levelOf (st : St) (c : Nat) : Bool :=
  match firstClass st.1 st.2.qs st.2.ring (classOrder st.2.pref) with
  | some (c', _) => c' / 2 == c / 2
  | none => false

/-- how many of the next `n` Pops are answered from the urgency level of class `c` -/
def levelCount (c : Nat) : Nat → St → Nat
  | 0, _ => 0
  | n + 1, st => (if levelOf st c then 1 else 0) + levelCount c n (popSt st)

/-- potential: twice the distance of `x` from the head of its ring, plus one if at its level the
non-incremental class goes first -/
def phi (c x : Nat) (s : P9218) : Nat := 2 * pos x (s.ring c) + (if s.pref (c / 2) then 0 else 1)

/-- One Pop that does not serve `x`: the potential drops if the Pop is answered from `x`'s urgency level and
is unchanged otherwise (Pops answered from other levels touch neither the ring nor the level's turn). -/
theorem phi_step {st : St} {c x : Nat} (hc : c < 16) (hodd : c % 2 = 1) (hn : st.2.control.shift = none)
    (hx : x ∈ st.2.ring c) (hs : sendable st.1 (st.2.qs x) = true)
    (hnot : ¬ ∃ pre post, Served st.1 st.2 c x pre post) :
    phi c x (popSt st).2 + (if levelOf st c then 1 else 0) ≤ phi c x st.2 ∧
      (popSt st).2.control.shift = none ∧ x ∈ (popSt st).2.ring c := by
  obtain ⟨c', id, pre, post, hsv⟩ := served_exists hn hc hx hs
  have hctl := control_pop hsv
  have hpref := toggle_flips hsv
  have hmem := (mem_ring_pop hsv c x).2 hx
  refine ⟨?_, by simp only [popSt]; rw [hctl]; exact hn, hmem⟩
  have hlv : levelOf st c = (c' / 2 == c / 2) := by simp [levelOf, hsv.found]
  simp only [phi, popSt, hpref, hlv]
  by_cases hlev : c' / 2 = c / 2
  · by_cases hcc : c' = c
    · subst hcc
      have hid : x ≠ id := by intro hh; subst hh; exact hnot ⟨pre, post, hsv⟩
      have := (inc_moves_forward hsv hodd x hx hid hs).1
      have h0 : (c' % 2 == 0) = false := by simp [hodd]
      simp [upd, h0]
      split <;> omega
    · have hpf : st.2.pref (c / 2) = false := by
        cases hb : st.2.pref (c / 2) with
        | false => rfl
        | true =>
          have := (served_order hsv).2.2 c hlev.symm (fun h => hcc h.symm) (by rw [← hlev] at hb; simp [hodd, hb]) x hx
          rw [hs] at this; cases this
      have h0 : (c' % 2 == 0) = true := (sibling_odd hlev.symm fun h => hcc h.symm).symm.trans (by simp [hodd])
      rw [pop_other_rings hsv c (fun h => hcc h.symm)]
      simp [upd, hlev, h0, hpf]
  · rw [pop_other_rings hsv c (fun h => hlev (by rw [h]))]
    have : ¬ (c / 2 = c' / 2) := fun h => hlev h.symm
    have hb : (c' / 2 == c / 2) = false := by simpa using hlev
    simp [upd, this, hb]

theorem inc_potential (c x : Nat) (hc : c < 16) (hodd : c % 2 = 1) : ∀ (n : Nat) (st : St),
    st.2.control.shift = none → x ∈ st.2.ring c →
    (∀ j, j < n → SendableAt st j x) → (∀ j, j < n → ¬ ServesAt st j c x) →
    levelCount c n st + phi c x (iter n st).2 ≤ phi c x st.2 := by
  intro n
  induction n with
  | zero => intro st _ _ _ _; simp [iter, levelCount]
  | succ k ih =>
    intro st hn hx hs hnot
    obtain ⟨h1, h2, h3⟩ := phi_step (st := st) hc hodd hn hx (hs 0 (by omega)) (hnot 0 (by omega))
    have := ih (popSt st) h2 h3 (fun j hj => hs (j + 1) (by omega)) (fun j hj => hnot (j + 1) (by omega))
    simp only [iter, levelCount]
    omega

/-- **Each sendable incremental stream is served within a bounded number of Pops of its urgency level.**
If the ring of the incremental class `c` holds `k` streams and stream `x` of it stays sendable, then `x` is
served before `2 * k` Pops have been answered from its urgency level — whatever more urgent (or less urgent)
streams do in between. -/
theorem inc_served_within_2k (c x : Nat) (hc : c < 16) (hodd : c % 2 = 1) (n : Nat) (st : St)
    (hn : st.2.control.shift = none) (hx : x ∈ st.2.ring c)
    (hs : ∀ j, j < n → SendableAt st j x) (hcount : 2 * (st.2.ring c).length ≤ levelCount c n st) :
    ∃ j, j < n ∧ ServesAt st j c x := by
  apply Classical.byContradiction; intro hno
  have hnot : ∀ j, j < n → ¬ ServesAt st j c x := fun j hj hh => hno ⟨j, hj, hh⟩
  have h := inc_potential c x hc hodd n st hn hx hs hnot
  have hp := pos_eq_idxOf x _ ▸ List.idxOf_lt_length_of_mem hx
  have : phi c x st.2 ≤ 2 * pos x (st.2.ring c) + 1 := by
    simp only [phi]; split <;> omega
  omega

theorem noninc_keeps_head {st : St} {c x : Nat} {tl : List Nat} (hev : c % 2 = 0) (hn : st.2.control.shift = none)
    (hr : st.2.ring c = x :: tl) (hs : sendable st.1 (st.2.qs x) = true) :
    (popSt st).2.control.shift = none ∧ ((popSt st).2.ring c).head? = some x := by
  simp only [popSt]
  cases hf : firstClass st.1 st.2.qs st.2.ring (classOrder st.2.pref) with
  | none => rw [pop_none_unchanged hn hf]; exact ⟨hn, by rw [hr]; rfl⟩
  | some t =>
    obtain ⟨c', pre, id, post⟩ := t
    have hsv : Served st.1 st.2 c' id pre post := ⟨hn, hf⟩
    refine ⟨control_pop hsv ▸ hn, ?_⟩
    by_cases hcc : c' = c
    · subst hcc
      exact (head_served_first hsv hr hs).1 ▸ noninc_becomes_head hsv hev
    · rw [pop_other_rings hsv c (fun h => hcc h.symm), hr]; rfl

/-- **A non-incremental stream is served until it has nothing sendable.**  Once stream `x` of the
non-incremental class `c` is at the head of its ring (it is after being served: `noninc_becomes_head`),
then over any number of consecutive Pops during which `x` stays sendable, every Pop that serves class `c`
serves `x`, and `x` stays at the head. -/
theorem noninc_served_until (c x : Nat) (hev : c % 2 = 0) : ∀ (n : Nat) (st : St),
    st.2.control.shift = none → (st.2.ring c).head? = some x → (∀ j, j < n → SendableAt st j x) →
    (∀ j id, j < n → ServesAt st j c id → id = x) ∧ ((iter n st).2.ring c).head? = some x := by
  intro n
  induction n with
  | zero => intro st _ hh _; exact ⟨fun j id hj => absurd hj (by omega), hh⟩
  | succ k ih =>
    intro st hn hh hs
    obtain ⟨tl, hring⟩ : ∃ tl, st.2.ring c = x :: tl := by
      cases hr : st.2.ring c with
      | nil => rw [hr] at hh; cases hh
      | cons a tl => rw [hr] at hh; cases hh; exact ⟨tl, rfl⟩
    have hs0 : sendable st.1 (st.2.qs x) = true := hs 0 (by omega)
    obtain ⟨f2, f3⟩ := noninc_keeps_head hev hn hring hs0
    obtain ⟨g1, g2⟩ := ih (popSt st) f2 f3 (fun j hj => hs (j + 1) (by omega))
    refine ⟨fun j id hj hsv => ?_, g2⟩
    cases j with
    | zero => obtain ⟨pre, post, h⟩ := hsv; exact (head_served_first h hring hs0).1
    | succ j' => exact g1 j' id (by omega) hsv

/-! Examples for `iter`: three incremental streams of urgency 3 with two frames
each; stream 5 is last in the ring (k = 3), stays sendable for three Pops and is served by the third.  (`hcount` of
`inc_served_within_2k` asks for `n ≥ 2 * 3` Pops here; the examples stop at three.) -/

def exInc : P9218 :=
  let s0 : P9218 := {}
  let s1 := (s0.openStream 1 7).1
  let s2 := (s1.openStream 3 7).1
  let s3 := (s2.openStream 5 7).1
  let s4 := (s3.push (.hdr 1 1)).1
  let s5 := (s4.push (.hdr 3 2)).1
  let s6 := (s5.push (.hdr 5 3)).1
  let s7 := (s6.push (.hdr 1 4)).1
  let s8 := (s7.push (.hdr 3 5)).1
  (s8.push (.hdr 5 6)).1

example : exInc.ring 7 = [1, 3, 5] ∧ exInc.control.shift = none := by decide
example : ((List.range 6).map fun j => ((iter j (exEnv, exInc)).2.pop exEnv).2.2) =
    [.frame (.hdr 1 1), .frame (.hdr 3 2), .frame (.hdr 5 3), .frame (.hdr 1 4), .frame (.hdr 3 5), .frame (.hdr 5 6)] := by
  decide
example : ServesAt (exEnv, exInc) 2 7 5 := ⟨[], [1, 3], by decide, by decide⟩
example : ∀ j, j < 3 → SendableAt (exEnv, exInc) j 5 := by
  simp only [SendableAt]; decide

/-! `parseRFC9218Priority` always yields a valid priority class.  The scheduler indexes `heads[urgency][incremental]`
(an `[8][2]` array) with the parsed priority; the theorems above assume `urgency ≤ 7`, `incremental ≤ 1`.  On the
model of `parseRFC9218Priority` over the C56 model of `httpsfv.ParseDictionary` this holds for every input string. -/

open NetVerif.Model.RFC9218Priority in
theorem applyMember_range (p : Nat × Nat) (cb : List Nat × List Nat × List Nat) (h : p.1 ≤ 7 ∧ p.2 ≤ 1) :
    (applyMember p cb).1 ≤ 7 ∧ (applyMember p cb).2 ≤ 1 := by
  unfold applyMember
  split
  · split
    · split
      · rename_i u _ hu; exact ⟨by simp only; omega, h.2⟩
      · exact h
    · exact h
  · split
    · split
      · rename_i b _; exact ⟨h.1, by cases b <;> simp⟩
      · exact h
    · exact h

open NetVerif.Model.RFC9218Priority in
/-- **For every field value and both defaults the parsed priority lies in `[0,7] × {0,1}`**, and a field
that does not parse as a dictionary yields the default. -/
theorem parsePriority_range (s : List Nat) (cud : Bool) :
    (parsePriority s cud).1.1 ≤ 7 ∧ (parsePriority s cud).1.2 ≤ 1 ∧
      ((parsePriority s cud).2 = false → (parsePriority s cud).1 = defaultPrio cud) := by
  have hd : (defaultPrio cud).1 ≤ 7 ∧ (defaultPrio cud).2 ≤ 1 := by cases cud <;> decide
  unfold parsePriority
  split
  · exact ⟨hd.1, hd.2, fun _ => rfl⟩
  · rename_i cbs _
    obtain ⟨h1, h2⟩ := Lemmas.foldl_inv applyMember (fun p => p.1 ≤ 7 ∧ p.2 ≤ 1) applyMember_range cbs _ hd
    exact ⟨h1, h2, fun h => by cases h⟩

theorem parsePriority_class_lt (s : List Nat) (cud : Bool) :
    2 * (NetVerif.Model.RFC9218Priority.parsePriority s cud).1.1 +
      (NetVerif.Model.RFC9218Priority.parsePriority s cud).1.2 < 16 := by
  obtain ⟨h1, h2, _⟩ := parsePriority_range s cud
  omega

-- "u=-1" is ignored (urgency stays the default 3); "u=7, i"; a duplicated key (last one wins)
example : NetVerif.Model.RFC9218Priority.parsePriority [117, 61, 45, 49] true = ((3, 0), true) := by decide
example : NetVerif.Model.RFC9218Priority.parsePriority [117, 61, 55, 44, 32, 105] true = ((7, 1), true) := by decide
example : NetVerif.Model.RFC9218Priority.parsePriority [117, 61, 49, 44, 32, 117, 61, 53] false = ((5, 1), true) := by decide

/-- Monitor over a history: `streak b` counts the consecutive Pops answered from `b`'s urgency level that
served the sibling class while class `b` had a sendable stream.  `true` = some streak reached 2. -/
def altViolates (e : Env) (s : P9218) (streak : Nat → Nat) : List Op → Bool
  | [] => false
  | .pop _ :: ops =>
    match s.control.shift with
    | some _ => altViolates (s.pop e).1 (s.pop e).2.1 streak ops
    | none =>
      match firstClass e s.qs s.ring (classOrder s.pref) with
      | none => altViolates (s.pop e).1 (s.pop e).2.1 streak ops
      | some (c, _, _, _) =>
        let other := if c % 2 = 1 then c - 1 else c + 1
        let so := if (s.ring other).any (fun y => sendable e (s.qs y)) then streak other + 1 else 0
        if so ≥ 2 then true
        else altViolates (s.pop e).1 (s.pop e).2.1 (upd (upd streak other so) c 0) ops
  | op :: ops => altViolates ((Sched.p9 s).step e op).1
      (match ((Sched.p9 s).step e op).2.1 with | .p9 s' => s' | _ => s) streak ops

theorem step_pref (e : Env) (s : P9218) (op : Op) (h : ∀ hh, op ≠ .pop hh) :
    ∃ s', ((Sched.p9 s).step e op).2.1 = .p9 s' ∧ s'.pref = s.pref := by
  cases op with
  | pop hh => exact absurd rfl (h hh)
  | win id d => simp only [Sched.step]; split <;> exact ⟨s, rfl, rfl⟩
  | maxframe n => exact ⟨s, rfl, rfl⟩
  | openS id p c =>
    simp only [Sched.step, P9218.openStream]
    split
    · exact ⟨s, rfl, rfl⟩
    · exact ⟨_, rfl, rfl⟩
  | closeS id =>
    simp only [Sched.step, P9218.closeStream]
    split
    · exact ⟨s, rfl, rfl⟩
    · exact ⟨_, rfl, rfl⟩
  | adjust id d x w c =>
    simp only [Sched.step, P9218.adjustStream]
    split
    · exact ⟨_, rfl, rfl⟩
    · exact ⟨_, rfl, rfl⟩
  | push f =>
    simp only [Sched.step, P9218.push]
    split
    · exact ⟨_, rfl, rfl⟩
    · split
      · exact ⟨_, rfl, rfl⟩
      · split
        · exact ⟨s, rfl, rfl⟩
        · exact ⟨_, rfl, rfl⟩

/-- monitor invariant: a class that has just been passed over is the one whose turn it is at its level -/
def AltInv (s : P9218) (streak : Nat → Nat) : Prop :=
  ∀ b, 1 ≤ streak b → streak b = 1 ∧ s.pref (b / 2) = decide (b % 2 = 1)

theorem altViolates_other (e : Env) (s : P9218) (streak : Nat → Nat) (op : Op) (ops : List Op)
    (h : ∀ hh, op ≠ .pop hh) :
    altViolates e s streak (op :: ops) = altViolates ((Sched.p9 s).step e op).1
      (match ((Sched.p9 s).step e op).2.1 with | .p9 s' => s' | _ => s) streak ops := by
  cases op with
  | pop hh => exact absurd rfl (h hh)
  | _ => rfl

theorem altViolates_false (ops : List Op) : ∀ (e : Env) (s : P9218) (streak : Nat → Nat), AltInv s streak →
    altViolates e s streak ops = false := by
  induction ops with
  | nil => intro e s streak _; rfl
  | cons op ops ih =>
    intro e s streak hI
    by_cases hp : ∃ hh, op = .pop hh
    · obtain ⟨hh, rfl⟩ := hp
      simp only [altViolates]
      cases hsh : s.control.shift with
      | some fc =>
        exact ih _ _ _ fun b hb => by rw [(control_pop_keeps_toggle (e := e) hsh).2.1]; exact hI b hb
      | none =>
        cases hf : firstClass e s.qs s.ring (classOrder s.pref) with
        | none => simp only; rw [pop_none_unchanged hsh hf]; exact ih e s streak hI
        | some t =>
          obtain ⟨c, pre, id, post⟩ := t
          have hsv : Served e s c id pre post := ⟨hsh, hf⟩
          simp only
          generalize hother : (if c % 2 = 1 then c - 1 else c + 1) = other
          have ho : other / 2 = c / 2 ∧ other ≠ c := by rw [← hother]; split <;> omega
          generalize hso : (if (s.ring other).any (fun y => sendable e (s.qs y)) = true then streak other + 1 else 0) = so
          -- a class that was passed over has the turn, so nothing of it is sendable when its sibling is served
          have hso1 : so ≤ 1 := by
            rw [← hso]; split
            · rename_i hany
              obtain ⟨y, hy, hys⟩ := List.any_eq_true.1 hany
              have hz : ¬ 1 ≤ streak other := fun h1 => by
                have := (served_order hsv).2.2 other ho.1 ho.2 (by rw [← ho.1]; exact (hI other h1).2.symm) y hy
                rw [this] at hys; cases hys
              omega
            · omega
          rw [if_neg (by omega)]
          refine ih _ _ _ fun b hb => ?_
          rw [toggle_flips hsv]
          simp only [upd] at hb ⊢
          by_cases hbc : b = c
          · subst hbc; simp at hb
          · simp only [hbc, if_false] at hb ⊢
            by_cases hbo : b = other
            · subst hbo
              simp only [if_true, ho.1] at hb ⊢
              exact ⟨by omega, (sibling_odd ho.1 ho.2).symm⟩
            · simp only [hbo, if_false] at hb ⊢
              have : ¬ (b / 2 = c / 2) := fun hh => (class_two ho.1.symm (Ne.symm ho.2) hh).elim hbc hbo
              simp only [this, if_false]; exact hI b hb
    · have hnp : ∀ hh, op ≠ .pop hh := fun hh h => hp ⟨hh, h⟩
      obtain ⟨s', h1, h2⟩ := step_pref e s op hnp
      rw [altViolates_other e s streak op ops hnp, h1]
      exact ih _ s' streak fun b hb => by rw [h2]; exact hI b hb

/-- **Level fairness** ("among sendable streams of equal urgency no stream is starved", read on the Pops answered
from ONE urgency level): on every history (no contract needed), from the freshly constructed scheduler, two
consecutive Pops answered from one urgency level never serve the same class while the other class of that level has a
sendable stream, whatever happens at other urgency levels in between. -/
theorem level_fair (e : Env) (ops : List Op) : altViolates e {} (fun _ => 0) ops = false :=
  altViolates_false ops e {} (fun _ => 0) (fun b hb => by simp at hb)

/-- A short form of the regression input `corpus/C13/parity.ops`: stream 1 (u=0), stream 3 (u=3, non-incremental),
stream 5 (u=3, incremental), 3 and 5 with frames queued; one frame is pushed on stream 1 before every second Pop.  One
alternation bit for all levels, flipped by the Pops answered from urgency 0 as well, would starve one class of
urgency 3; the Pops answered from urgency 3 alternate between stream 5 and stream 3. -/
def parityWitness : List Op :=
  [.openS 1 0 0, .openS 3 0 6, .openS 5 0 7,
   .push (.hdr 3 1), .push (.hdr 5 2), .push (.hdr 3 3), .push (.hdr 5 4), .push (.hdr 3 5), .push (.hdr 5 6),
   .push (.hdr 1 7), .pop none, .pop none, .push (.hdr 1 8), .pop none, .pop none]

example : Contract (fun _ => false) parityWitness := by
  simp [parityWitness, Contract, OpOK, opnOp, pushOK, upd]

example : ((Sched.p9 {}).run exEnv parityWitness).2.2.drop 9 =
    [.ok, .frame (.hdr 1 7), .frame (.hdr 5 2), .ok, .frame (.hdr 1 8), .frame (.hdr 3 1)] := by decide

end NetVerif.Proofs.C13
