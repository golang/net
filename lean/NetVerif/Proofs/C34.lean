import NetVerif.Model.H3Body
import NetVerif.Gen.C34
import NetVerif.Proofs.C22
/-!
C34 — HTTP/3 request/response exchange is delivered faithfully end to end: over `Model.H3Body`, the
`remain` accounting of `bodyWriter` and `bodyReader.Read` for every frame chunking and every sequence
of read sizes (bytes handed out are a prefix of the body; clean EOF iff the body has the declared
length; every mismatch ends in an error), composed writer → stream → reader with QUIC delivery as an
explicit hypothesis. "Never a clean EOF on mismatch" is false where `http.NoBody` is selected for a
declared length of 0 (known finding `declared-zero-body-ignored`) and proved outside that region.
-/
namespace NetVerif.Proofs.C34
open NetVerif.Model.H3Body NetVerif.Model.VarintQuic

theorem gen_constants_eq :
    Gen.C34.defaultBodyBufferCap = (defaultBodyBufferCap : Int) ∧
    Gen.C34.frameTypeData = (frameTypeData : Int) ∧ Gen.C34.frameTypeHeaders = (frameTypeHeaders : Int) := by
  decide

theorem gen_writer_eq (remain x : Int) :
    Gen.C34.bwTooLong remain x = some (bwTooLong remain x) ∧
    Gen.C34.bwAccount remain x = some (bwAccount remain x) ∧
    Gen.C34.bwCloseShort remain = some (bwCloseShort remain) := by
  refine ⟨rfl, ?_, rfl⟩
  unfold Gen.C34.bwAccount bwAccount
  split <;> rfl

theorem gen_reader_eq (remain x : Int) :
    Gen.C34.brShortEOF remain = some (brShort remain) ∧
    Gen.C34.brShortTrailer remain = some (brShort remain) ∧
    Gen.C34.brDataTooLong remain x = some (brDataTooLong remain x) ∧
    Gen.C34.brAccount remain x = some (brAccount remain x) ∧
    Gen.C34.brClamp remain x = some (brClamp remain x) := by
  refine ⟨rfl, rfl, rfl, ?_, ?_⟩
  · unfold Gen.C34.brAccount brAccount; split <;> rfl
  · unfold Gen.C34.brClamp brClamp; split <;> rfl

theorem gen_bodyKind_eq (cl ntr st : Int) (isHead : Bool) :
    Gen.C34.srvHasBody cl ntr = some (srvHasBody cl ntr) ∧
    Gen.C34.cliBodyLen cl isHead st = some (cliBodyLen cl isHead st) ∧
    Gen.C34.cliHasBody cl ntr = some (cliHasBody cl ntr) ∧
    Gen.C34.actualContentLength isHead cl = some (actualContentLength isHead cl) := by
  refine ⟨rfl, ?_, rfl, ?_⟩
  · unfold Gen.C34.cliBodyLen cliBodyLen
    split <;> rfl
  · unfold Gen.C34.actualContentLength actualContentLength
    cases isHead <;> simp
    split <;> rfl

theorem gen_responseWriter_eq (a b c : Int) (wrote : Bool) :
    Gen.C34.responseCanHaveBody a = some (responseCanHaveBody a) ∧
    Gen.C34.trimWrite a b = some (trimWrite a b) ∧
    Gen.C34.bbTake a b c = some (bbTake a b c) ∧
    Gen.C34.rwBuffers wrote a b c = some (rwBuffers wrote a b c) := by
  refine ⟨?_, ?_, rfl, ?_⟩
  · unfold Gen.C34.responseCanHaveBody responseCanHaveBody
    rw [apply_ite some, apply_ite some, apply_ite some]
  · unfold Gen.C34.trimWrite trimWrite
    rw [apply_ite some]
  · unfold Gen.C34.rwBuffers rwBuffers
    cases wrote <;> simp

theorem write_single (r : Int) (c : List Nat) (hc : c ≠ []) :
    (BodyWriter.mk r).write [c] =
      if r ≥ 0 ∧ (c.length : Int) > r then ⟨⟨r⟩, 0, some .tooLong, none⟩
      else ⟨⟨if r ≥ 0 then r - c.length else r⟩, c.length, none, some c⟩ := by
  have hl : c.length ≠ 0 := by
    intro h; exact hc (List.length_eq_zero_iff.mp h)
  simp [BodyWriter.write, sumLens, hl, bwTooLong, accountLoop, bwAccount]

/-- The latent multi-slice defect of `bodyWriter.write` (running total subtracted once per slice):
with 10 bytes declared, `write(a, b)` with 3 + 3 bytes leaves `remain = 1` instead of 4.  Not
reachable at this commit: the only caller with a known length (`io.Copy` in `writeBodyAndTrailer`)
passes one slice, and the server's two-slice call has `remain = -1`. -/
theorem write_multislice_overcount :
    ((BodyWriter.mk 10).write [[1, 2, 3], [4, 5, 6]]).w.remain = 1 := by decide

/-- `io.Copy` into a writer with `remain = r` fails exactly when the chunks are longer than a declared
length; otherwise every byte went out and the account is what one `Write` of all of them would leave. -/
private theorem copyChunks_spec (cs : List (List Nat)) : ∀ (r : Int),
    let res := copyChunks ⟨r⟩ cs
    (res.2.2 = true ↔ r ≥ 0 ∧ (cs.flatten.length : Int) > r) ∧
    (res.2.2 = false → res.2.1.flatten = cs.flatten ∧ res.1.remain = bwAccount r cs.flatten.length) ∧
    (∃ tl, cs.flatten = res.2.1.flatten ++ tl) := by
  induction cs with
  | nil =>
    intro r
    exact ⟨⟨nofun, fun h => by dsimp only [List.flatten_nil, List.length_nil] at h; omega⟩,
      fun _ => ⟨rfl, by unfold bwAccount; split <;> simp [copyChunks]⟩, _, rfl⟩
  | cons c cs ih =>
    intro r
    rw [copyChunks, List.flatten_cons, List.length_append]
    by_cases hc : c.length = 0
    · rw [if_pos hc, List.eq_nil_of_length_eq_zero hc]
      simp only [List.length_nil, Nat.zero_add, List.nil_append]
      exact ih r
    · rw [if_neg hc, write_single r c (fun h => hc (h ▸ rfl))]
      by_cases hlong : r ≥ 0 ∧ (c.length : Int) > r
      · rw [if_pos hlong]
        exact ⟨⟨fun _ => ⟨hlong.1, by omega⟩, fun _ => rfl⟩, nofun, _, rfl⟩
      · rw [if_neg hlong]
        obtain ⟨h1, h2, tl, h3⟩ := ih (bwAccount r c.length)
        dsimp only
        rw [show (if r ≥ 0 then r - (c.length : Int) else r) = bwAccount r c.length from rfl]
        generalize copyChunks ⟨bwAccount r c.length⟩ cs = res at h1 h2 h3 ⊢
        -- `c` fitted, so accounting for `c` and then for the rest is accounting for both at once
        refine ⟨h1.trans ?_, fun he => ⟨by rw [List.flatten_cons, (h2 he).1], (h2 he).2.trans ?_⟩,
          tl, by rw [List.flatten_cons, h3, List.append_assoc]⟩
        · unfold bwAccount; split <;> omega
        · unfold bwAccount; split <;> omega

private theorem bodyOf_map_data {α : Type} (ps : List (List Nat)) (tl : List (Frame α)) :
    bodyOf (ps.map Frame.data ++ tl) = ps.flatten ++ bodyOf tl := by
  induction ps with
  | nil => rfl
  | cons p ps ih => rw [List.map_cons, List.cons_append, bodyOf, ih, List.flatten_cons, List.append_assoc]

private theorem trailerOf_map_data {α : Type} (ps : List (List Nat)) (tl : List (Frame α)) :
    trailerOf (ps.map Frame.data ++ tl) = trailerOf tl := by
  induction ps with
  | nil => rfl
  | cons p ps ih => rw [List.map_cons, List.cons_append, trailerOf, ih]

/-- C34, sending side, all chunkings: the request stream ends with FIN (rather than RESET) exactly when
the length is unknown or the supplied bytes add up to the declared length. -/
theorem sendBody_fin_iff {α : Type} (d : Int) (chunks : List (List Nat)) (tr : Option α) :
    (sendBody d chunks tr).ending = .fin ↔ (d < 0 ∨ (chunks.flatten.length : Int) = d) := by
  obtain ⟨hfail, hok, -⟩ := copyChunks_spec chunks d
  unfold sendBody
  generalize copyChunks ⟨d⟩ chunks = res at hfail hok ⊢
  obtain ⟨w, ps, failed⟩ := res
  dsimp only at hfail hok ⊢
  cases failed with
  | true =>
    have := hfail.mp rfl
    rw [if_pos rfl]
    exact ⟨nofun, fun h => by omega⟩
  | false =>
    have hfit : ¬ (d ≥ 0 ∧ (chunks.flatten.length : Int) > d) := fun h => nomatch hfail.mpr h
    have hrem := (hok rfl).2
    unfold bwAccount at hrem
    rw [if_neg Bool.false_ne_true]
    unfold BodyWriter.close bwCloseShort
    by_cases hs : w.remain > 0
    · rw [decide_eq_true hs, if_pos rfl]
      exact ⟨nofun, fun h => by split at hrem <;> omega⟩
    · rw [decide_eq_false hs, if_neg Bool.false_ne_true]
      cases tr <;> exact ⟨fun _ => by split at hrem <;> omega, fun _ => rfl⟩

/-- What is on the wire: only DATA frames and — on the FIN path — the trailers; the DATA payloads
are the supplied bytes (all of them on the FIN path, a prefix after an abort). -/
theorem sendBody_frames {α : Type} (d : Int) (chunks : List (List Nat)) (tr : Option α) :
    let s := sendBody d chunks tr
    (s.ending = .fin → bodyOf s.frames = chunks.flatten ∧ trailerOf s.frames = tr) ∧
    (s.ending = .reset → trailerOf s.frames = none) ∧
    (∃ tl, chunks.flatten = bodyOf s.frames ++ tl) := by
  have h := copyChunks_spec chunks d
  unfold sendBody
  generalize copyChunks ⟨d⟩ chunks = res at h ⊢
  obtain ⟨w, ps, failed⟩ := res
  dsimp only at h ⊢
  obtain ⟨-, hA, tl, h3⟩ := h
  have hb : ∀ fs : List (Frame α), bodyOf fs = [] → bodyOf (ps.map Frame.data ++ fs) = ps.flatten :=
    fun fs h => by rw [bodyOf_map_data, h, List.append_nil]
  have hb0 := List.append_nil _ ▸ hb [] rfl
  have ht0 : trailerOf (ps.map (Frame.data (α := α))) = none := by
    rw [← List.append_nil (ps.map _), trailerOf_map_data]; rfl
  have hreset : ∀ x : SendRes α, x = ⟨ps.map Frame.data, .reset⟩ →
      (x.ending = .fin → bodyOf x.frames = chunks.flatten ∧ trailerOf x.frames = tr) ∧
      (x.ending = .reset → trailerOf x.frames = none) ∧ (∃ tl, chunks.flatten = bodyOf x.frames ++ tl) :=
    fun x hx => hx ▸ ⟨nofun, fun _ => ht0, tl, hb0 ▸ h3⟩
  cases failed with
  | true => exact hreset _ (if_pos rfl)
  | false =>
    have hf := (hA rfl).1
    rw [if_neg Bool.false_ne_true]
    cases w.close with
    | some e => exact hreset _ rfl
    | none =>
      cases tr with
      | none => exact ⟨fun _ => ⟨hb0.trans hf, ht0⟩, nofun, tl, hb0 ▸ h3⟩
      | some t =>
        have hbt := hb [Frame.headers t] rfl
        exact ⟨fun _ => ⟨hbt.trans hf, trailerOf_map_data ps _⟩, nofun, tl, hbt ▸ h3⟩

/-- The unread body. -/
def pend {α : Type} (r : BodyReader α) : List Nat := r.cur.getD [] ++ bodyOf r.rest

/-- Every successful `Read` of at least one byte lowers it (`Step`), so more than `mu r` non-empty
reads report an ending (`run_reports_ending`). -/
def mu {α : Type} (r : BodyReader α) : Nat := (pend r).length + r.rest.length

/-- Invariant of a reader that has not ended: the rest of the current frame fits `remain`. -/
def Fit {α : Type} (r : BodyReader α) : Prop :=
  r.err = none ∧ (r.remain ≥ 0 → ((r.cur.getD []).length : Int) ≤ r.remain)

/-- What the ending `e` says about the reader `r` it was reached from, after `bs` was handed out on
the way and with `t` the trailers reported.  The same for the frame search, one `Read` and a run. -/
def Ends {α : Type} (r : BodyReader α) (bs : List Nat) (t : Option α) : RRes → Prop
  | .ok => False
  | .eof => bs = pend r ∧ (r.remain < 0 ∨ r.remain = (pend r).length) ∧
      t = trailerOf r.rest ∧ (r.ending = .fin ∨ (trailerOf r.rest).isSome)
  | .errShort => bs = pend r ∧ r.remain > (pend r).length
  | .errLong => r.remain ≥ 0 ∧ ((pend r).length : Int) > r.remain
  | .errReset => bs = pend r ∧ r.ending = .reset ∧ trailerOf r.rest = none

/-- `Ends` looks at a reader only through these four. -/
private theorem Ends.of_view {α : Type} {r r' : BodyReader α} {bs : List Nat} {t : Option α} {e : RRes}
    (h : Ends r bs t e) (hp : pend r' = pend r) (hr : r'.remain = r.remain)
    (ht : trailerOf r'.rest = trailerOf r.rest) (he : r'.ending = r.ending) : Ends r' bs t e := by
  unfold Ends
  rw [hp, hr, ht, he]
  exact h

private theorem brAccount_fit (rem : Int) (n : Nat) (h : rem ≥ 0 → (n : Int) ≤ rem) :
    rem < 0 ∧ brAccount rem n = rem ∨ (n : Int) ≤ rem ∧ brAccount rem n = rem - n := by
  unfold brAccount
  split <;> omega

private theorem brClamp_min (k l : Nat) : (brClamp k l).toNat = min k l := by
  unfold brClamp
  split
  · rename_i h
    rw [Int.toNat_natCast, Nat.min_eq_right (Int.ofNat_le.mp (Int.le_of_lt h))]
  · rename_i h
    rw [Int.toNat_natCast, Nat.min_eq_left (Int.ofNat_le.mp (Int.not_lt.mp h))]

private theorem seek_spec {α : Type} (rem : Int) (e : StreamEnd) (fs : List (Frame α)) :
    match seek rem e fs with
    | .data p fs' => bodyOf fs = p ++ bodyOf fs' ∧ trailerOf fs = trailerOf fs' ∧
        fs'.length < fs.length ∧ (rem ≥ 0 → (p.length : Int) ≤ rem)
    | .eof t => Ends (.mk0 rem fs e) [] t .eof
    | .err x => ∀ t, Ends (.mk0 rem fs e) [] t x := by
  induction fs with
  | nil =>
    cases e with
    | fin =>
      by_cases h : rem > 0
      · simp [seek, brShort, h, Ends, pend, BodyReader.mk0, bodyOf]
      · simp [seek, brShort, h, Ends, pend, BodyReader.mk0, bodyOf, trailerOf]; omega
    | reset => simp [seek, Ends, pend, BodyReader.mk0, bodyOf, trailerOf]
  | cons f fs ih =>
    cases f with
    | headers h =>
      by_cases hr : rem > 0
      · simp [seek, brShort, hr, Ends, pend, BodyReader.mk0, bodyOf]
      · simp [seek, brShort, hr, Ends, pend, BodyReader.mk0, bodyOf, trailerOf]; omega
    | data p =>
      by_cases hr : rem ≥ 0 ∧ (p.length : Int) > rem
      · simp [seek, brDataTooLong, hr, Ends, pend, BodyReader.mk0, bodyOf]; omega
      · simp [seek, brDataTooLong, hr, bodyOf, trailerOf]; omega
    | unknown t p =>
      simp only [seek, bodyOf, trailerOf]
      generalize seek rem e fs = s at ih ⊢
      cases s with
      | data p fs' => exact ⟨ih.1, ih.2.1, Nat.lt_succ_of_lt ih.2.2.1, ih.2.2.2⟩
      | eof t => exact ih
      | err e' => exact ih

/-- What one `Read` does to a `Fit` reader, in terms of `pend`. -/
def Step {α : Type} (r : BodyReader α) (k : Nat) : BodyReader α × List Nat × RRes → Prop
  | (r', bs, .ok) => Fit r' ∧ pend r = bs ++ pend r' ∧
      (r.remain < 0 ∧ r'.remain = r.remain ∨ (bs.length : Int) ≤ r.remain ∧ r'.remain = r.remain - bs.length) ∧
      trailerOf r'.rest = trailerOf r.rest ∧ r'.ending = r.ending ∧ (0 < k → mu r' < mu r)
  | (r', _, e) => Ends r [] r'.trailer e

/-- `r0` is `r` after skipping frames, `c` the frame being handed out. -/
private theorem deliver_step {α : Type} (r r0 : BodyReader α) (c : List Nat) (k : Nat) (h0 : r0.err = none)
    (hrem : r0.remain = r.remain) (hend : r0.ending = r.ending)
    (hc : r.remain ≥ 0 → (c.length : Int) ≤ r.remain) (hp : pend r = c ++ bodyOf r0.rest)
    (htr : trailerOf r0.rest = trailerOf r.rest)
    (hm : r0.rest.length < r.rest.length ∨ (r0.rest.length = r.rest.length ∧ c ≠ [])) :
    Step r k (deliver r0 c k) := by
  unfold deliver
  rw [brClamp_min]
  dsimp only
  have hn : min k c.length ≤ c.length := Nat.min_le_right _ _
  have hpos : 0 < k → c ≠ [] → 0 < min k c.length :=
    fun hk hne => Nat.lt_min.mpr ⟨hk, List.length_pos_iff.mpr hne⟩
  generalize min k c.length = n at hn hpos ⊢
  have hlen : (c.take n).length = n := by rw [List.length_take, Nat.min_eq_left hn]
  have hacc := brAccount_fit r0.remain n (by rw [hrem]; omega)
  rw [hrem] at hacc ⊢
  refine ⟨⟨h0, fun h => ?_⟩, ?_, by rw [hlen]; exact hacc, htr, hend, fun hk => ?_⟩
  · dsimp only [Option.getD_some] at h ⊢
    rw [List.length_drop]
    omega
  · rw [hp]
    unfold pend
    dsimp only [Option.getD_some]
    rw [← List.append_assoc, List.take_append_drop]
  · unfold mu
    rw [hp]
    unfold pend
    dsimp only [Option.getD_some]
    rw [List.length_append, List.length_append, List.length_drop]
    rcases hm with hm | ⟨hm, hne⟩
    · omega
    · have := hpos hk hne
      omega

private theorem read_step {α : Type} (r : BodyReader α) (k : Nat) (h : Fit r) : Step r k (r.read k) := by
  obtain ⟨herr, hfit⟩ := h
  unfold BodyReader.read
  split
  · rename_i e he; rw [herr] at he; cases he
  have hsk : pend r = bodyOf r.rest → Step r k
      (match seek r.remain r.ending r.rest with
        | .err e => ({ r with cur := none, err := some e }, [], e)
        | .eof t => ({ r with cur := none, err := some .eof, trailer := t, rest := [] }, [], .eof)
        | .data p fs => deliver { r with rest := fs } p k) := by
    intro hp
    have hs := seek_spec r.remain r.ending r.rest
    cases hsk : seek r.remain r.ending r.rest with
    | err e =>
      rw [hsk] at hs
      cases e with
      | ok => exact (hs none).elim
      | _ => exact (hs r.trailer).of_view hp rfl rfl rfl
    | eof t =>
      rw [hsk] at hs
      exact hs.of_view hp rfl rfl rfl
    | data p fs =>
      rw [hsk] at hs
      exact deliver_step r { r with rest := fs } p k herr rfl rfl hs.2.2.2 (hp.trans hs.1) hs.2.1.symm
        (Or.inl hs.2.2.1)
  unfold pend at hsk
  cases hcur : r.cur with
  | none => rw [hcur] at hsk; exact hsk rfl
  | some cur =>
    rw [hcur] at hsk hfit
    cases cur with
    | nil => exact hsk rfl
    | cons c cs =>
      exact deliver_step r r (c :: cs) k herr rfl rfl hfit (by unfold pend; rw [hcur]; rfl) rfl
        (Or.inr ⟨rfl, List.cons_ne_nil _ _⟩)

/-- What `run` may report from state `r`: a prefix of `pend r`, and what its ending implies. -/
def RunSpec {α : Type} (r : BodyReader α) (out : List Nat × Option RRes × Option α) : Prop :=
  (∃ tl, pend r = out.1 ++ tl) ∧ ∀ e, out.2.1 = some e → Ends r out.1 out.2.2 e

/-- An ending keeps its meaning when looked at from before a successful `Read`. -/
private theorem Ends.cons {α : Type} {r r' : BodyReader α} {k : Nat} {bs o : List Nat} {t : Option α}
    {e : RRes} (hs : Step r k (r', bs, .ok)) (h : Ends r' o t e) : Ends r (bs ++ o) t e := by
  obtain ⟨-, hp, hrem', htr, hend, -⟩ := hs
  have hlen : (pend r).length = bs.length + (pend r').length := by rw [hp, List.length_append]
  unfold Ends at h ⊢
  rw [htr, hend] at h
  cases e with
  | ok => exact h
  | eof => exact ⟨by rw [hp, ← h.1], by have := h.2.1; omega, h.2.2⟩
  | errShort => exact ⟨by rw [hp, ← h.1], by have := h.2; omega⟩
  | errLong => exact ⟨by omega, by omega⟩
  | errReset => exact ⟨by rw [hp, ← h.1], h.2⟩

private theorem run_spec {α : Type} (ks : List Nat) : ∀ (r : BodyReader α), Fit r → RunSpec r (r.run ks) := by
  induction ks with
  | nil => intro r _; exact ⟨⟨_, rfl⟩, nofun⟩
  | cons k ks ih =>
    intro r h
    have hs := read_step r k h
    unfold BodyReader.run
    generalize r.read k = res at hs ⊢
    obtain ⟨r', bs, e⟩ := res
    cases e with
    | ok =>
      obtain ⟨⟨tl, i1⟩, i2⟩ := ih r' hs.1
      exact ⟨⟨tl, by rw [hs.2.1, i1, List.append_assoc]⟩, fun e he => Ends.cons hs (i2 e he)⟩
    | _ => exact ⟨⟨_, rfl⟩, fun _ he => Option.some.inj he ▸ hs⟩

private theorem run_reports_ending {α : Type} (ks : List Nat) : ∀ (r : BodyReader α), Fit r →
    (∀ k ∈ ks, 0 < k) → mu r < ks.length → (r.run ks).2.1 ≠ none := by
  induction ks with
  | nil => intro r _ _ h; exact absurd h (Nat.not_lt_zero _)
  | cons k ks ih =>
    intro r h hpos hmu
    have hs := read_step r k h
    unfold BodyReader.run
    generalize r.read k = res at hs ⊢
    obtain ⟨r', bs, e⟩ := res
    cases e with
    | ok =>
      have := hs.2.2.2.2.2 (hpos k List.mem_cons_self)
      exact ih r' hs.1 (fun k' hk' => hpos k' (List.mem_cons_of_mem _ hk'))
        (by rw [List.length_cons] at hmu; omega)
    | _ => nofun

private theorem fit_mk0 {α : Type} (d : Int) (fs : List (Frame α)) (e : StreamEnd) : Fit (BodyReader.mk0 d fs e) :=
  ⟨rfl, fun h => h⟩

/-- C34, reading side, all frame chunkings and all read schedules: what the caller gets is a prefix of
the body on the stream. -/
theorem read_prefix {α : Type} (d : Int) (fs : List (Frame α)) (e : StreamEnd) (ks : List Nat) :
    ∃ tl, bodyOf fs = ((BodyReader.mk0 d fs e).run ks).1 ++ tl :=
  (run_spec ks _ (fit_mk0 d fs e)).1

/-- A clean EOF is reported only after the WHOLE body was handed out, only when its length is the
declared one (or none was declared), and only at a FIN or a trailer section; the trailers are the
ones on the stream. -/
theorem read_eof_exact {α : Type} (d : Int) (fs : List (Frame α)) (e : StreamEnd) (ks : List Nat)
    (h : ((BodyReader.mk0 d fs e).run ks).2.1 = some .eof) :
    ((BodyReader.mk0 d fs e).run ks).1 = bodyOf fs ∧
    (d < 0 ∨ d = ((bodyOf fs).length : Int)) ∧
    ((BodyReader.mk0 d fs e).run ks).2.2 = trailerOf fs ∧
    (e = .fin ∨ (trailerOf fs).isSome) :=
  -- `Ends (.mk0 d fs e) …` unfolds to this: at `mk0`, `pend` is `[] ++ bodyOf fs`, `remain` is `d`, `rest` is `fs`
  (run_spec ks _ (fit_mk0 d fs e)).2 _ h

/-- C34, Content-Length mismatch ⇒ error on the reader, for every chunking into DATA frames and every
sequence of read sizes. -/
theorem read_mismatch_never_clean {α : Type} (d : Int) (fs : List (Frame α)) (e : StreamEnd)
    (ks : List Nat) (hd : d ≥ 0) (hne : ((bodyOf fs).length : Int) ≠ d) :
    ((BodyReader.mk0 d fs e).run ks).2.1 ≠ some .eof := by
  intro h
  have := (read_eof_exact d fs e ks h).2.1
  omega

theorem read_error_sound {α : Type} (d : Int) (fs : List (Frame α)) (e : StreamEnd) (ks : List Nat) :
    (((BodyReader.mk0 d fs e).run ks).2.1 = some .errShort →
        ((BodyReader.mk0 d fs e).run ks).1 = bodyOf fs ∧ d > ((bodyOf fs).length : Int)) ∧
    (((BodyReader.mk0 d fs e).run ks).2.1 = some .errLong → d ≥ 0 ∧ ((bodyOf fs).length : Int) > d) ∧
    (((BodyReader.mk0 d fs e).run ks).2.1 = some .errReset → e = .reset ∧ trailerOf fs = none) :=
  -- `Ends` at `mk0` unfolds as in `read_eof_exact`
  have hs := (run_spec ks _ (fit_mk0 d fs e)).2
  ⟨hs _, hs _, fun h => (hs _ h).2⟩

/-- `hlen`: more reads than `mu` of the initial reader. -/
private theorem read_ends {α : Type} (d : Int) (fs : List (Frame α)) (ks : List Nat)
    (hpos : ∀ k ∈ ks, 0 < k) (hlen : (bodyOf fs).length + fs.length < ks.length) :
    ((BodyReader.mk0 d fs .fin).run ks).2.1 = some .eof ∨
    ((BodyReader.mk0 d fs .fin).run ks).2.1 = some .errShort ∨
    ((BodyReader.mk0 d fs .fin).run ks).2.1 = some .errLong := by
  have hterm := run_reports_ending ks _ (fit_mk0 d fs .fin) hpos hlen
  have hsp := (run_spec ks _ (fit_mk0 d fs .fin)).2
  cases hres : ((BodyReader.mk0 d fs .fin).run ks).2.1 with
  | none => exact absurd hres hterm
  | some e =>
    have hsp := hsp e hres
    cases e with
    | ok => exact hsp.elim
    | eof => exact Or.inl rfl
    | errShort => exact Or.inr (Or.inl rfl)
    | errLong => exact Or.inr (Or.inr rfl)
    | errReset => exact nomatch hsp.2.1

/-- C34, completeness on a stream that ends with FIN, for a matching or undeclared length. -/
theorem read_complete {α : Type} (d : Int) (fs : List (Frame α)) (ks : List Nat)
    (hpos : ∀ k ∈ ks, 0 < k) (hlen : (bodyOf fs).length + fs.length < ks.length)
    (hok : d < 0 ∨ d = ((bodyOf fs).length : Int)) :
    ((BodyReader.mk0 d fs .fin).run ks).1 = bodyOf fs ∧
    ((BodyReader.mk0 d fs .fin).run ks).2.1 = some .eof ∧
    ((BodyReader.mk0 d fs .fin).run ks).2.2 = trailerOf fs := by
  have hs := read_error_sound d fs .fin ks
  rcases read_ends d fs ks hpos hlen with h | h | h
  · have := read_eof_exact d fs .fin ks h
    exact ⟨this.1, h, this.2.2.1⟩
  · have := (hs.1 h).2; omega
  · have := hs.2.1 h; omega

/-- C34, completeness for a mismatch: one of the two Content-Length errors (H3_MESSAGE_ERROR), never
running out of data. -/
theorem read_mismatch_errors {α : Type} (d : Int) (fs : List (Frame α)) (ks : List Nat)
    (hpos : ∀ k ∈ ks, 0 < k) (hlen : (bodyOf fs).length + fs.length < ks.length)
    (hd : d ≥ 0) (hne : ((bodyOf fs).length : Int) ≠ d) :
    ((BodyReader.mk0 d fs .fin).run ks).2.1 = some .errShort ∨
    ((BodyReader.mk0 d fs .fin).run ks).2.1 = some .errLong :=
  (read_ends d fs ks hpos hlen).resolve_left (read_mismatch_never_clean d fs .fin ks hd hne)

/-- The assumption about QUIC (property C19): a stream hands the receiver exactly the frames that
were written, in order, followed by the same terminal event: equality, under a name that says what
is assumed. -/
def ReliableOrdered {α : Type} (sent recv : List (Frame α) × StreamEnd) : Prop := recv = sent

/-- Request direction, every chunking of the writes and every schedule of reads: the handler only
ever sees a prefix of the supplied bytes; a clean EOF means it saw all of them, the supplied length
was the declared one and the trailers are the submitted ones; a mismatch never yields a clean EOF. -/
theorem e2e_request {α : Type} (d : Int) (chunks : List (List Nat)) (tr : Option α)
    (recv : List (Frame α) × StreamEnd)
    (hq : ReliableOrdered ((sendBody d chunks tr).frames, (sendBody d chunks tr).ending) recv)
    (ks : List Nat) :
    (∃ tl, chunks.flatten = ((BodyReader.mk0 d recv.1 recv.2).run ks).1 ++ tl) ∧
    (((BodyReader.mk0 d recv.1 recv.2).run ks).2.1 = some .eof →
        (d < 0 ∨ (chunks.flatten.length : Int) = d) ∧
        ((BodyReader.mk0 d recv.1 recv.2).run ks).1 = chunks.flatten ∧
        ((BodyReader.mk0 d recv.1 recv.2).run ks).2.2 = tr) ∧
    ((d ≥ 0 ∧ (chunks.flatten.length : Int) ≠ d) →
        ((BodyReader.mk0 d recv.1 recv.2).run ks).2.1 ≠ some .eof) := by
  unfold ReliableOrdered at hq
  subst hq
  dsimp only
  have hf := sendBody_frames d chunks tr
  dsimp only at hf
  obtain ⟨hfin, hreset, ⟨tl2, hpre⟩⟩ := hf
  have key : ((BodyReader.mk0 d (sendBody d chunks tr).frames (sendBody d chunks tr).ending).run ks).2.1
      = some .eof → (sendBody d chunks tr).ending = .fin := by
    intro he
    have := (read_eof_exact _ _ _ ks he).2.2.2
    rcases this with h | h
    · exact h
    · cases hend : (sendBody d chunks tr).ending with
      | fin => rfl
      | reset => rw [hreset hend] at h; simp at h
  refine ⟨?_, ?_, ?_⟩
  · obtain ⟨tl, h⟩ := read_prefix d (sendBody d chunks tr).frames (sendBody d chunks tr).ending ks
    exact ⟨tl ++ tl2, by rw [hpre, h, List.append_assoc]⟩
  · intro he
    have hfin' := key he
    obtain ⟨hb, ht⟩ := hfin hfin'
    have hx := read_eof_exact _ _ _ ks he
    exact ⟨(sendBody_fin_iff d chunks tr).mp hfin', by rw [hx.1, hb], by rw [hx.2.2.1, ht]⟩
  · intro ⟨hd, hne⟩ he
    have := (sendBody_fin_iff d chunks tr).mp (key he)
    omega

theorem e2e_request_complete {α : Type} (d : Int) (chunks : List (List Nat)) (tr : Option α)
    (recv : List (Frame α) × StreamEnd)
    (hq : ReliableOrdered ((sendBody d chunks tr).frames, (sendBody d chunks tr).ending) recv)
    (ks : List Nat) (hpos : ∀ k ∈ ks, 0 < k)
    (hlen : chunks.flatten.length + (sendBody d chunks tr).frames.length < ks.length)
    (hok : d < 0 ∨ (chunks.flatten.length : Int) = d) :
    ((BodyReader.mk0 d recv.1 recv.2).run ks).1 = chunks.flatten ∧
    ((BodyReader.mk0 d recv.1 recv.2).run ks).2.1 = some .eof ∧
    ((BodyReader.mk0 d recv.1 recv.2).run ks).2.2 = tr := by
  unfold ReliableOrdered at hq
  subst hq
  dsimp only
  have hfin := (sendBody_fin_iff d chunks tr).mpr hok
  obtain ⟨hb, ht⟩ := (sendBody_frames d chunks tr).1 hfin
  rw [hfin]
  have := read_complete d (sendBody d chunks tr).frames ks hpos (by rw [hb]; exact hlen)
    (by rw [hb]; omega)
  rw [hb, ht] at this
  exact this

/-- The full statement for the server side: whatever frames a request stream carries, a DATA total
different from the declared Content-Length is never read as a clean EOF by the handler. -/
def ServerNoSilentMismatch : Prop :=
  ∀ (cl : Int) (ntr : Nat) (fs : List (Frame Unit)) (ks : List Nat),
    cl ≥ 0 → ((bodyOf fs).length : Int) ≠ cl →
    (recvBody (serverBodyKind cl ntr) fs .fin ks).2.1 ≠ some .eof

/-- The same for the client side (response body of a status that can carry content, not to HEAD). -/
def ClientNoSilentMismatch : Prop :=
  ∀ (cl : Int) (st : Nat) (ntr : Nat) (fs : List (Frame Unit)) (ks : List Nat),
    cl ≥ 0 → st ≠ 304 → ((bodyOf fs).length : Int) ≠ cl →
    (recvBody (clientBodyKind cl false st ntr) fs .fin ks).2.1 ≠ some .eof

/-- Known finding `declared-zero-body-ignored`: the statement is false on the code as it is.
`Content-Length: 0` without declared trailers makes both sides use `http.NoBody`, which reports a
clean EOF without looking at the stream. -/
theorem serverNoSilentMismatch_full_false : ¬ ServerNoSilentMismatch := by
  intro h
  exact h 0 0 [Frame.data [7]] [1] (by decide) (by decide) (by decide)

theorem clientNoSilentMismatch_full_false : ¬ ClientNoSilentMismatch := by
  intro h
  exact h 0 200 0 [Frame.data [7]] [1] (by decide) (by decide) (by decide) (by decide)

theorem serverNoSilentMismatch_holds_partial (cl : Int) (ntr : Nat) (fs : List (Frame Unit))
    (ks : List Nat) (hcl : cl ≥ 0) (hne : ((bodyOf fs).length : Int) ≠ cl)
    (hregion : ¬ (cl = 0 ∧ ntr = 0)) :
    (recvBody (serverBodyKind cl ntr) fs .fin ks).2.1 ≠ some .eof := by
  have hk : serverBodyKind cl ntr = .reader cl := by
    unfold serverBodyKind srvHasBody
    simp
    omega
  rw [hk]
  exact read_mismatch_never_clean cl fs .fin ks hcl hne

theorem clientNoSilentMismatch_holds_partial (cl : Int) (st ntr : Nat) (fs : List (Frame Unit))
    (ks : List Nat) (hcl : cl ≥ 0) (hst : st ≠ 304) (hne : ((bodyOf fs).length : Int) ≠ cl)
    (hregion : ¬ (cl = 0 ∧ ntr = 0)) :
    (recvBody (clientBodyKind cl false st ntr) fs .fin ks).2.1 ≠ some .eof := by
  have hk : clientBodyKind cl false st ntr = .reader cl := by
    have hs : ¬ ((st : Int) = 304) := by omega
    unfold clientBodyKind cliHasBody cliBodyLen
    simp [hs]
    omega
  rw [hk]
  exact read_mismatch_never_clean cl fs .fin ks hcl hne

/-- A response to HEAD and a 304 response carry no DATA frames.  Whatever Content-Length they declare
(RFC 9110 8.6: it describes the selected representation) and whether or not trailers are announced,
the client's body reads as a clean, empty body once enough non-empty reads are made, never as
"body shorter than content-length" (finding `bodyless-response-content-length-read-error`, fix 2e483c4
in /repo). -/
theorem bodyless_response_reads_clean (cl : Int) (isHead : Bool) (st ntr : Nat) (fs : List (Frame Unit))
    (ks : List Nat) (hbl : isHead = true ∨ st = 304) (hno : bodyOf fs = [])
    (hpos : ∀ k ∈ ks, 0 < k) (hlen : fs.length < ks.length) :
    recvBody (clientBodyKind cl isHead st ntr) fs .fin ks =
      ([], some .eof, (match clientBodyKind cl isHead st ntr with | .noBody => none | .reader _ => trailerOf fs)) := by
  have hb : cliBodyLen cl isHead st = 0 := by
    unfold cliBodyLen
    have : isHead = true ∨ (st : Int) = 304 := by rcases hbl with h | h <;> simp [h]
    simp [this]
  unfold clientBodyKind
  simp only [hb]
  by_cases hk : cliHasBody 0 ntr = true
  · simp only [hk, if_true, recvBody]
    have := read_complete (0 : Int) fs ks hpos (by rw [hno]; simpa using hlen) (by rw [hno]; simp)
    rw [hno] at this
    obtain ⟨a, b, c⟩ := this
    exact Prod.ext a (Prod.ext b c)
  · simp only [hk, recvBody]
    cases ks with
    | nil => simp at hlen
    | cons k ks => simp

/-- The failing input of that finding: the handler sets `Content-Length: 10` and answers 304; no DATA on
the wire, and the client reads a clean empty body. -/
example :
    let evs := (respond (α := Unit) false 10 (some 304) [] none).1
    evFrames evs = [] ∧ recvBody (clientBodyKind 10 false 304 0) (evFrames evs) .fin [1] = ([], some .eof, none) :=
  ⟨rfl, rfl⟩

/-- A bodyless response that nevertheless carries DATA while trailers are announced is an error. -/
example :
    (recvBody (clientBodyKind 3 true 200 1) [Frame.data [1, 2, 3], Frame.headers ()] .fin [9, 9]).2.1
      = some .errLong :=
  rfl

/-- The client's response-header loop skips every interim response, whatever their number and
statuses, also a 100 the request did not ask for (finding `unsolicited-100-returned-as-final`, fix
8913907 in /repo): what it returns is decided by the rest alone. -/
theorem clientFinal_skips_interim {α : Type} (interim : List Nat) (es : List (Ev α)) :
    clientFinal (interimEvents interim ++ es) = clientFinal es := by
  induction interim with
  | nil => simp [interimEvents]
  | cons st sts ih =>
    have : interimEvents (st :: sts) ++ es = Ev.infoHeaders st :: Ev.flush :: (interimEvents sts ++ es) := by
      simp [interimEvents]
    rw [this]
    simp only [clientFinal]
    exact ih

/-- End to end: a handler that sends interim responses first (`w.WriteHeader(100)`, `(103)`, …) is
seen by the client exactly like the same handler without them — same final status, same body part,
same `Write` results. -/
theorem respondInterim_same_final {α : Type} (isHead : Bool) (d : Int) (interim : List Nat)
    (ex : Option Nat) (ops : List HOp) (tr : Option α) :
    clientFinal (respondInterim isHead d interim ex ops tr).1 = clientFinal (respond isHead d ex ops tr).1 ∧
    (respondInterim isHead d interim ex ops tr).2 = (respond isHead d ex ops tr).2 := by
  exact ⟨clientFinal_skips_interim interim _, rfl⟩

/-- The failing input of that finding: `w.WriteHeader(100); w.WriteHeader(200); w.Write(body)` to a GET
without `Expect: 100-continue`; the client's response is the 200 with the body. -/
example :
    (clientFinal (respondInterim (α := Unit) false (-1) [100] (some 200) [.write [1, 2, 3]] none).1).map
        (fun r => (r.1, bodyOf (evFrames r.2))) = some (200, [1, 2, 3]) :=
  rfl

/-- One frame: `readFrameHeader` + payload undoes `writeVarint(type); writeVarint(len); Write(payload)`,
whatever follows on the stream. -/
theorem decFrame_encFrame (t : Nat) (p bytes tail : List Nat) (h : encFrame t p = some bytes) :
    decFrame (bytes ++ tail) = some (t, p, bytes.length) ∧ bytes ≠ [] := by
  unfold encFrame at h
  cases ha : appendVarint t with
  | none => simp [ha] at h
  | some a =>
    cases hb : appendVarint p.length with
    | none => simp [ha, hb] at h
    | some b =>
      simp [ha, hb] at h
      subst h
      have h1 := NetVerif.Proofs.C22.consume_append t a (b ++ p ++ tail) ha
      have h2 := NetVerif.Proofs.C22.consume_append p.length b (p ++ tail) hb
      have hne := List.ne_nil_of_length_pos (NetVerif.Proofs.C22.append_length_range t a ha).1
      refine ⟨?_, by simp [hne]⟩
      unfold decFrame
      have e1 : a ++ (b ++ p) ++ tail = a ++ (b ++ p ++ tail) := by simp
      rw [e1, h1]
      simp only [List.drop_left]
      have e2 : b ++ p ++ tail = b ++ (p ++ tail) := by simp
      rw [e2, h2]
      simp only [List.drop_left]
      simp
      omega

theorem decFrames_encRaw (rs : List (Nat × List Nat)) : ∀ (bytes : List Nat), encRaw rs = some bytes →
    ∀ fuel, bytes.length ≤ fuel → decFrames fuel bytes = some rs := by
  induction rs with
  | nil =>
    intro bytes h fuel _
    simp [encRaw] at h
    subst h
    cases fuel <;> simp [decFrames]
  | cons r rs ih =>
    intro bytes h fuel hf
    obtain ⟨t, p⟩ := r
    unfold encRaw at h
    cases ha : encFrame t p with
    | none => simp [ha] at h
    | some a =>
      cases hb : encRaw rs with
      | none => simp [ha, hb] at h
      | some b =>
        simp [ha, hb] at h
        subst h
        obtain ⟨hd, hne⟩ := decFrame_encFrame t p a b ha
        cases hab : a ++ b with
        | nil => simp at hab; exact absurd hab.1 hne
        | cons x xs =>
          cases fuel with
          | zero => rw [hab] at hf; simp at hf
          | succ fuel =>
            rw [decFrames, ← hab, hd]
            simp only [List.drop_left]
            rw [ih b hb fuel (by
              have : 0 < a.length := List.length_pos_iff.mpr hne
              simp at hf; omega)]

private theorem decRest_chunks {α : Type} (encF : α → List Nat) (decF : List Nat → Option α)
    (hF : ∀ f, decF (encF f) = some f) (chunks : List (List Nat)) (tr : Option α) :
    decRest decF ((chunks.map fun c => (frameTypeData, c)) ++ trailerRaw encF tr) =
      some (chunks.flatten, tr) := by
  induction chunks with
  | nil =>
    cases tr with
    | none => simp [decRest, trailerRaw]
    | some t => simp [decRest, trailerRaw, frameTypeData, frameTypeHeaders, hF]
  | cons c cs ih =>
    simp only [List.map_cons, List.cons_append, decRest, if_true, ih, List.flatten_cons]

/-- Message composition: for EVERY chunking of the body into DATA frames, decoding the encoded
message returns the field section, the concatenated body and the trailers.  The field-section codec
(QPACK, C33) enters as the hypothesis `decF (encF f) = some f`; `sent` is what the reader's stream
delivers (QUIC as a reliable ordered byte stream, C19). -/
theorem decode_encode {α : Type} (encF : α → List Nat) (decF : List Nat → Option α)
    (hF : ∀ f, decF (encF f) = some f) (fields : α) (chunks : List (List Nat)) (tr : Option α)
    (sent : List Nat) (hs : encodeMsg encF fields chunks tr = some sent) :
    decodeMsg decF sent = some ⟨fields, chunks.flatten, tr⟩ := by
  unfold encodeMsg at hs
  have := decFrames_encRaw _ sent hs sent.length (Nat.le_refl _)
  unfold decodeMsg
  rw [this]
  simp only [rawOfMsg, List.cons_append, if_true, hF]
  rw [decRest_chunks encF decF hF]

/-- `encodeMsg` is defined (no "varint too large" panic) whenever every payload is shorter than 2^62. -/
theorem encode_defined {α : Type} (encF : α → List Nat) (fields : α) (chunks : List (List Nat))
    (tr : Option α) (hf : (encF fields).length ≤ maxVarint) (hc : ∀ c ∈ chunks, c.length ≤ maxVarint)
    (ht : ∀ t, tr = some t → (encF t).length ≤ maxVarint) :
    (encodeMsg encF fields chunks tr).isSome := by
  have encFrame_some : ∀ (t : Nat) (p : List Nat), t ≤ 1 → p.length ≤ maxVarint → (encFrame t p).isSome := by
    intro t p ht hp
    obtain ⟨a, ha⟩ := Option.isSome_iff_exists.mp
      ((NetVerif.Proofs.C22.append_accepts_iff t).mpr (Nat.le_trans ht (by decide)))
    obtain ⟨b, hb⟩ := Option.isSome_iff_exists.mp ((NetVerif.Proofs.C22.append_accepts_iff p.length).mpr hp)
    unfold encFrame
    rw [ha, hb]
    rfl
  have encRaw_some : ∀ rs : List (Nat × List Nat), (∀ r ∈ rs, r.1 ≤ 1 ∧ r.2.length ≤ maxVarint) →
      (encRaw rs).isSome := by
    intro rs
    induction rs with
    | nil => intro _; rfl
    | cons r rs ih =>
      intro h
      obtain ⟨t, p⟩ := r
      obtain ⟨a, ha⟩ := Option.isSome_iff_exists.mp
        (encFrame_some t p (h _ List.mem_cons_self).1 (h _ List.mem_cons_self).2)
      obtain ⟨b, hb⟩ := Option.isSome_iff_exists.mp (ih fun r hr => h r (List.mem_cons_of_mem _ hr))
      unfold encRaw
      rw [ha, hb]
      rfl
  unfold encodeMsg
  apply encRaw_some
  intro r hr
  simp only [rawOfMsg, List.cons_append, List.mem_cons, List.mem_append, List.mem_map] at hr
  rcases hr with rfl | ⟨c, hc', rfl⟩ | hr
  · exact ⟨by simp [frameTypeHeaders], hf⟩
  · exact ⟨by simp [frameTypeData], hc c hc'⟩
  · cases tr with
    | none => simp [trailerRaw] at hr
    | some t =>
      simp [trailerRaw] at hr
      subst hr
      exact ⟨by simp [frameTypeHeaders], ht t rfl⟩

/-- declared 5, written as 2 + 3 with trailers: FIN; read with sizes 1,1,… : the 5 bytes, EOF, trailers. -/
example :
    let s := sendBody (α := Nat) 5 [[1, 2], [], [3, 4, 5]] (some 9)
    s.ending = .fin ∧ s.frames = [.data [1, 2], .data [3, 4, 5], .headers 9] ∧
    (BodyReader.mk0 5 s.frames s.ending).run [1, 1, 1, 1, 1, 1, 1, 1, 1] = ([1, 2, 3, 4, 5], some .eof, some 9) :=
  ⟨rfl, rfl, rfl⟩

/-- declared 5, only 4 supplied: RESET after the data; the reader ends in an error, never EOF. -/
example :
    let s := sendBody (α := Nat) 5 [[1, 2], [3, 4]] none
    s.ending = .reset ∧ ((BodyReader.mk0 5 s.frames s.ending).run [9, 9, 9, 9]).2.1 = some .errReset :=
  ⟨rfl, rfl⟩

/-- raw peer: declared 3, DATA total 4 (longer) and declared 5, DATA total 4 (shorter). -/
example :
    ((BodyReader.mk0 (α := Nat) 3 [.data [1, 2], .unknown 33 [0], .data [3, 4]] .fin).run [8, 8, 8]).2.1 = some .errLong ∧
    (BodyReader.mk0 (α := Nat) 5 [.data [1, 2], .data [3, 4]] .fin).run [8, 8, 8, 8] =
      ([1, 2, 3, 4], some .errShort, none) :=
  ⟨rfl, rfl⟩

/-- responseWriter: Content-Length 3, the handler writes 2 + 2 bytes: the second write is trimmed. -/
example :
    respond (α := Nat) false 3 none [.write [1, 2], .write [3, 4]] none =
      ([.respHeaders 200, .frame (.data [1, 2, 3]), .flush, .fin], [(2, .nil), (1, .contentLength)]) :=
  rfl

/-- byte level: HEADERS "h", DATA "ab", DATA "c", trailing HEADERS "t" (identity field codec). -/
example :
    encodeMsg (α := List Nat) id [104] [[97, 98], [99]] (some [116]) =
      some [1, 1, 104, 0, 2, 97, 98, 0, 1, 99, 1, 1, 116] ∧
    decodeMsg (α := List Nat) some [1, 1, 104, 0, 2, 97, 98, 0, 1, 99, 1, 1, 116] =
      some ⟨[104], [97, 98, 99], some [116]⟩ :=
  ⟨rfl, rfl⟩

end NetVerif.Proofs.C34
