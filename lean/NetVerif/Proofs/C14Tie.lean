import NetVerif.Model.H2Norm
import NetVerif.Gen.C14
/-!
C14 — T-tie: what the model mirrors is what the Go source currently says.
`Gen/C14.lean` is regenerated from /repo on every check. The header-block fragmentation loops are
tied by their (comment-stripped, whitespace-normalised) source text: the model's `splitLoop` /
`headerFrames` were written against exactly this text, so any edit of these functions breaks a
proof here and forces a re-validation of the model. Names and constants are compared by value.
-/
namespace NetVerif.Proofs.C14
open NetVerif NetVerif.Model.H2Frame NetVerif.Model.H2Msg NetVerif.Model.H2Norm

/-- `splitHeaderBlock` (write.go) is the loop `splitLoop`/`headerFrames` model. -/
theorem gen_splitHeaderBlock_src : Gen.C14.splitHeaderBlockSrc =
    "func splitHeaderBlock(ctx writeContext, headerBlock []byte, fn func(ctx writeContext, frag []byte, firstFrag, lastFrag bool) error) error { const maxFrameSize = 16384 first := true for len(headerBlock) > 0 { frag := headerBlock if len(frag) > maxFrameSize { frag = frag[:maxFrameSize] } headerBlock = headerBlock[len(frag):] if err := fn(ctx, frag, first, len(headerBlock) == 0); err != nil { return err } first = false } return nil }" := by
  rfl

/-- `writeResHeaders.writeHeaderBlock`: first fragment HEADERS (END_STREAM = w.endStream,
END_HEADERS = lastFrag), others CONTINUATION (END_HEADERS = lastFrag). -/
theorem gen_writeHeaderBlock_src : Gen.C14.writeHeaderBlockSrc =
    "func (w *writeResHeaders) writeHeaderBlock(ctx writeContext, frag []byte, firstFrag, lastFrag bool) error { if firstFrag { return ctx.Framer().WriteHeaders(HeadersFrameParam{ StreamID: w.streamID, BlockFragment: frag, EndStream: w.endStream, EndHeaders: lastFrag, }) } else { return ctx.Framer().WriteContinuation(w.streamID, lastFrag, frag) } }" := by
  rfl

/-- `ClientConn.writeHeaders` (transport.go): the same loop with the peer's MAX_FRAME_SIZE. -/
theorem gen_clientWriteHeaders_src : Gen.C14.clientWriteHeadersSrc =
    "func (cc *ClientConn) writeHeaders(streamID uint32, endStream bool, maxFrameSize int, hdrs []byte) error { first := true for len(hdrs) > 0 && cc.werr == nil { chunk := hdrs if len(chunk) > maxFrameSize { chunk = chunk[:maxFrameSize] } hdrs = hdrs[len(chunk):] endHeaders := len(hdrs) == 0 if first { cc.fr.WriteHeaders(HeadersFrameParam{ StreamID: streamID, BlockFragment: chunk, EndStream: endStream, EndHeaders: endHeaders, }) first = false } else { cc.fr.WriteContinuation(streamID, endHeaders, chunk) } } cc.bw.Flush() return cc.werr }" := by
  rfl

/-- `clientStream.encodeAndWriteHeaders`: END_STREAM on the request HEADERS iff the request has no
body (`endStream := !res.HasBody`, `Req.earlyEnd`) — announced trailers of a body-less request
are not sent. -/
theorem gen_encodeAndWriteHeaders_src : Gen.C14.encodeAndWriteHeadersSrc =
    "func (cs *clientStream) encodeAndWriteHeaders(req *http.Request) error { cc := cs.cc ctx := cs.ctx cc.wmu.Lock() defer cc.wmu.Unlock() select { case <-cs.abort: return cs.abortErr case <-ctx.Done(): return ctx.Err() case <-cs.reqCancel: return errRequestCanceled default: } cc.hbuf.Reset() res, err := encodeRequestHeaders(req, cs.requestedGzip, cc.peerMaxHeaderListSize, func(name, value string) { cc.writeHeader(name, value) }) if err != nil { return fmt.Errorf(\"http2: %w\", err) } hdrs := cc.hbuf.Bytes() endStream := !res.HasBody cs.sentHeaders = true err = cc.writeHeaders(cs.ID, endStream, int(cc.maxFrameSize), hdrs) traceWroteHeaders(cs.trace) return err }" := by
  rfl

theorem gen_bodyAllowedForStatus_src : Gen.C14.bodyAllowedForStatusSrc =
    "func bodyAllowedForStatus(status int) bool { switch { case status >= 100 && status <= 199: return false case status == 204: return false case status == 304: return false } return true }" := by
  rfl

theorem gen_constants_eq :
    Gen.C14.splitHeaderBlockMaxFrameSize = serverHdrFragmentMax ∧
    Gen.C14.minMaxFrameSize = serverHdrFragmentMax ∧
    Gen.C14.handlerChunkWriteSize = handlerChunkWriteSize ∧
    Gen.C14.frameHeaderLen = frameHeaderLen := by
  decide

/-- the fragmentation theorems need `0 < max`; the server's constant is 16384. -/
theorem serverHdrFragmentMax_pos : 0 < serverHdrFragmentMax := by decide

/-- the names `EncodeHeaders` special-cases, in source order: replaced (`host`,
`content-length`), connection-specific (never transmitted), then `user-agent`, `cookie`. -/
theorem gen_encodeHeaders_names_eq :
    Gen.C14.encodeHeadersFoldNames.map str = replacedNames ++ connSpecific ++ [str "user-agent", str "cookie"] := by
  decide +kernel

theorem gen_forbiddenTrailers_eq :
    Gen.C14.clientForbiddenTrailers.map str = forbiddenTrailer ∧
    Gen.C14.serverForbiddenTrailers.map str = forbiddenTrailer := by
  decide +kernel

/-- `shouldSendReqContentLength` for a zero length: exactly the methods in the Go switch. -/
theorem gen_contentLengthMethods_eq (m : Str) :
    shouldSendCL m 0 = (Gen.C14.contentLengthMethods.map str).contains m := by
  unfold shouldSendCL
  rw [if_neg (by decide), if_neg (by decide)]
  simp only [Gen.C14.contentLengthMethods, List.map, List.contains_cons, List.contains_nil,
    Bool.or_false, Bool.or_assoc]

/-- SETTINGS_MAX_HEADER_LIST_SIZE: the receiver truncates only when a field does not fit the
remaining budget (`size > remainSize`, `sizeLoop`), the Transport refuses only above the peer's
limit (`clientRefuses`), and the server advertises `MaxHeaderBytes + 10*32`. -/
theorem gen_headerListSize_eq :
    Gen.C14.readMetaFrameSizeCmp = "> remainSize" ∧
    Gen.C14.encodeHeadersSizeCmp = "> param.PeerMaxHeaderListSize" ∧
    Gen.C14.perFieldOverhead = perFieldOverhead ∧ Gen.C14.typicalHeaders = typicalHeaders ∧
    Gen.C14.adjustHTTP1MaxHeaderSizeSrc =
      "func adjustHTTP1MaxHeaderSize(n int64) int64 { const perFieldOverhead = 32 const typicalHeaders = 10 return n + typicalHeaders*perFieldOverhead }" := by
  refine ⟨rfl, rfl, rfl, rfl, rfl⟩

theorem gen_strings_eq :
    str Gen.C14.defaultUserAgent = defaultUserAgent ∧ Gen.C14.trailerPrefix = "Trailer:" := by
  decide +kernel

end NetVerif.Proofs.C14
