import NetVerif.Model.TimeSeries
import NetVerif.Gen.C61
import NetVerif.Proofs.Lemmas.TimeSeriesHistory
import NetVerif.Proofs.Lemmas.TimeSeriesLevels
/-!
C61 — time series keep an exact total of all observations, and report bucket-aligned ranges exactly.

Histories are adds at arbitrary times (in or out of order, far past, far future) interleaved with `Total`,
`Latest`, `LatestBuckets`, `ComputeRange` and `Clear`.  The total is exact by the invariant
`total + (dirty ? pending : 0) = Σ` (`Inv`); the range clause for the two public configurations is an instance
of `TSRange.range_exact` (Lemmas/TimeSeriesLevels); `gen_*` are the T-tie of the configuration tables.
-/
namespace NetVerif.Proofs.C61
open NetVerif.Model.TimeSeries
open NetVerif.Proofs.TSRange (obsIn timesInRange alignedFinest)

/-- Sum of the observations of a history, restarting at every `Clear`. -/
def sumFrom (acc : Int) : List Op → Int
  | [] => acc
  | .add _ v :: rest => sumFrom (acc + v) rest
  | .clear :: rest => sumFrom 0 rest
  | _ :: rest => sumFrom acc rest

/-- The invariant relating `total`, `pending` and `dirty`: a clean `pending` is zero, so
`total + (dirty ? pending : 0) = total + pending = Σ`. -/
def Inv (s : TS) (σ : Int) : Prop :=
  s.total.v + s.pending.v = σ ∧ (s.dirty = false → s.pending.v = 0) ∧
  s.total.approx = false ∧ s.pending.approx = false

theorem inv_mergePending {s : TS} {σ : Int} (h : Inv s σ) :
    Inv s.mergePending σ ∧ s.mergePending.dirty = false := by
  unfold TS.mergePending
  obtain ⟨h1, h2, h3, h4⟩ := h
  by_cases hd : s.dirty = true
  · rw [if_pos hd]
    refine ⟨⟨?_, fun _ => rfl, ?_, rfl⟩, rfl⟩
    · show s.total.v + s.pending.v + 0 = σ
      omega
    · show (s.total.approx || s.pending.approx) = false
      rw [h3, h4]; rfl
  · rw [if_neg hd]
    exact ⟨⟨h1, h2, h3, h4⟩, by simpa using hd⟩

theorem inv_mergeValue {s : TS} {σ : Int} (v t : Int) (h : Inv s σ) :
    Inv (s.mergeValue (Obs.exact v) t) (σ + v) := by
  obtain ⟨h1, h2, h3, h4⟩ := h
  refine ⟨?_, h2, ?_, h4⟩
  · show s.total.v + v + s.pending.v = σ + v
    omega
  · show (s.total.approx || false) = false
    rw [h3]; rfl

theorem inv_catchUp {s : TS} {σ : Int} (now : Int) (h : Inv s σ) :
    Inv (s.catchUp now) σ ∧ (s.catchUp now).dirty = false := by
  -- `advance` touches the levels only and the new `pendingTime` is not in `Inv`
  rw [TSRange.catchUp_eq, TSRange.advance_eq]
  exact inv_mergePending h

theorem inv_add {s : TS} {σ : Int} (t v : Int) (h : Inv s σ) :
    Inv (s.addWithTime (Obs.exact v) t) (σ + v) := by
  rw [TSRange.addWithTime_eq]
  have h0 : Inv (if t > s.lastAdd then { s with lastAdd := t } else s) σ := by split <;> exact h
  generalize (if t > s.lastAdd then { s with lastAdd := t } else s) = s0 at h0
  simp only []
  split
  · -- the old pending observation has been merged: `pending` is zero and is replaced by the new one
    obtain ⟨⟨h1, h2, h3, _⟩, hd⟩ := inv_catchUp t h0
    have := h2 hd
    exact ⟨by show (s0.catchUp t).total.v + v = σ + v; omega, fun hc => (nomatch hc), h3, rfl⟩
  · split
    · obtain ⟨h1, _, h3, h4⟩ := h0
      refine ⟨?_, fun hc => (nomatch hc), h3, ?_⟩
      · show s0.total.v + (s0.pending.v + v) = σ + v
        omega
      · show (s0.pending.approx || false) = false
        rw [h4]; rfl
    · exact inv_mergeValue v t h0

theorem inv_init (n : Nat) (res : List Int) : Inv (TS.init n res) 0 :=
  ⟨rfl, fun _ => rfl, rfl, rfl⟩

theorem inv_clear (s : TS) : Inv s.clear 0 :=
  ⟨rfl, fun _ => rfl, rfl, rfl⟩

theorem inv_step {s : TS} {σ : Int} (op : Op) (h : Inv s σ) : Inv (s.step op) (sumFrom σ [op]) := by
  cases op with
  | add t v => exact inv_add t v h
  | total => exact (inv_mergePending h).1
  | latest now level num =>
    show Inv (s.latest now level num).1 σ
    rw [TSRange.latest_state]; exact (inv_catchUp now h).1
  | latestBuckets now level num =>
    show Inv (s.latestBuckets now level num).1 σ
    rcases TSRange.latestBuckets_state s now level num with e | e
    · rw [e]; exact h
    · rw [e]; exact (inv_catchUp now h).1
  | computeRange a b num =>
    show Inv (s.computeRange a b num).1 σ
    rcases TSRange.computeRange_state s a b num with e | e
    · rw [e]; exact h
    · rw [e]; exact (inv_mergePending h).1
  | clear => exact inv_clear s

theorem sumFrom_cons (σ : Int) (op : Op) (ops : List Op) :
    sumFrom σ (op :: ops) = sumFrom (sumFrom σ [op]) ops := by
  cases op <;> rfl

theorem inv_run {s : TS} {σ : Int} (ops : List Op) (h : Inv s σ) : Inv (s.run ops) (sumFrom σ ops) := by
  induction ops generalizing s σ with
  | nil => simpa [TS.run, sumFrom] using h
  | cons op ops ih =>
    rw [sumFrom_cons]
    simpa [TS.run] using ih (inv_step op h)

/-- **C61, total.** For every configuration and every history, `Total()` returns exactly (no approximation
flag) the sum of the observations added since the last `Clear`. -/
theorem total_exact (n : Nat) (res : List Int) (ops : List Op) :
    ((TS.init n res).run ops).totalOp.2 = ⟨sumFrom 0 ops, false⟩ := by
  obtain ⟨⟨h1, h2, h3, _⟩, hd⟩ := inv_mergePending (inv_run ops (inv_init n res))
  have hv : ((TS.init n res).run ops).mergePending.total.v = sumFrom 0 ops := by have := h2 hd; omega
  show ((TS.init n res).run ops).mergePending.total = _
  rw [← hv, ← h3]

/-- The invariant of DESIGN §7: after every history, `total + (dirty ? pending : 0) = Σ`. -/
theorem total_pending_invariant (n : Nat) (res : List Int) (ops : List Op) :
    let s := (TS.init n res).run ops
    s.total.v + (if s.dirty then s.pending.v else 0) = sumFrom 0 ops := by
  obtain ⟨h1, h2, _, _⟩ := inv_run ops (inv_init n res)
  simp only []
  split
  · exact h1
  · rename_i hd
    have := h2 (by simpa using hd)
    omega

/-- Non-vacuity: a concrete out-of-order history on a small configuration (2 buckets, resolutions 1 and 3). -/
example : ((TS.init 2 [1, 3]).run [.add 100 5, .add 7 (-2), .latest 200 0 1, .add 150 4, .computeRange 0 10 1]).totalOp.2
    = ⟨7, false⟩ := by decide

/-- C61, second clause, for the public `TimeSeries` configuration: a bucket-aligned range inside
the finest retained window reports exactly the observations added in it. -/
def RangeStatement : Prop :=
  ∀ (ops : List Op) (a b : Int), timesInRange ops = true →
    alignedFinest (TS.newTimeSeries.run ops) a b = true →
    ((TS.newTimeSeries.run ops).range a b).2 = some ⟨obsIn a b 0 ops, false⟩

/-- **C61, second clause (finest level)**, for every history with in-range times.  It rests on `Latest` /
`LatestBuckets` keeping `pendingTime` in step with the advanced finest level (`TSRange.MI.pe`). -/
theorem range_holds : RangeStatement := by
  intro ops a b hin hal
  exact TSRange.range_exact_full 64 1000000000 _ (by decide) (by decide) (by decide) (by decide) ops a b hin hal

/-- The same for `MinuteHourSeries` (60 buckets of 1 s). -/
theorem range_holds_minuteHour (ops : List Op) (a b : Int) (hin : timesInRange ops = true)
    (hal : alignedFinest (TS.newMinuteHourSeries.run ops) a b = true) :
    ((TS.newMinuteHourSeries.run ops).range a b).2 = some ⟨obsIn a b 0 ops, false⟩ :=
  TSRange.range_exact_full 60 1000000000 _ (by decide) (by decide) (by decide) (by decide) ops a b hin hal

/-- Add at 0.5 s, `Latest` with the clock at 30 s, add at 10.5 s (seconds after 1 700 000 000).  Without the
assignment `ts.pendingTime = ts.levels[0].end` in `Latest` the second observation is filed under the bucket
ending at 30 s and `Range(10 s, 11 s)` reports 0 (DESIGN §15). -/
def witnessOps : List Op :=
  [.add 1700000000500000000 5, .latest 1700000030000000000 0 1, .add 1700000010500000000 7]

/-- The aligned range `(10 s, 11 s]` reports the 7, and the newest bucket does not contain it. -/
example :
    timesInRange witnessOps = true ∧
    alignedFinest (TS.newTimeSeries.run witnessOps) 1700000010000000000 1700000011000000000 = true ∧
    ((TS.newTimeSeries.run witnessOps).range 1700000010000000000 1700000011000000000).2 = some ⟨7, false⟩ ∧
    obsIn 1700000010000000000 1700000011000000000 0 witnessOps = 7 ∧
    ((TS.newTimeSeries.run witnessOps).latest 1700000030000000000 0 1).2 = some ⟨0, false⟩ := by decide +kernel

/-- Σ of the ten `TimeSeries` resolutions (≈ 150 days in ns). -/
def tsSizeSum : Int := timeSeriesResolutions.sum

/-- **C61, second clause, EVERY level of the ten-level `TimeSeries`** (1 s … 16 weeks, including the three
week-based resolutions, whose grid is relative to the zero time until the level's first advance); the
hypotheses are read at `TSRange.range_aligned_exact`. -/
theorem range_aligned_exact_timeseries (ops : List Op) (a b : Int)
    (hin : TSRange.timesFit tsSizeSum ops = true)
    (hal : TSRange.alignedPicked (TS.newTimeSeries.run ops) a b = true) :
    ((TS.newTimeSeries.run ops).range a b).2 = some ⟨obsIn a b 0 ops, false⟩ :=
  TSRange.range_aligned_exact 64 1000000000 _ (by decide) (by decide) (by decide) (by decide)
    (by unfold TSRange.resOK; decide) (by decide) ops a b hin hal

/-- Non-vacuity at a WEEK-based level (week grid = multiples of 604 800 s; W0 = 1 700 092 800 s): adds at
W0+100 000 s, W0−300 000 s (out of order, previous week), W0+30 weeks+5 s (rolls every level up to 1 day over
completely), W0+200 000 s (out of order again). The week-aligned range (W0, W0+1 week] is outside the 1-day
level's window, so `ComputeRange` picks the 1-week level; it reports 5 + 9. -/
def weekOps : List Op :=
  [.add 1700192800000000000 5, .add 1699792800000000000 2, .add 1718236805000000000 1, .add 1700292800000000000 9]

example :
    TSRange.timesFit tsSizeSum weekOps = true ∧
    TSRange.alignedPicked (TS.newTimeSeries.run weekOps) 1700092800000000000 1700697600000000000 = true ∧
    (pickLevel 64 1700092800000000000 (TS.newTimeSeries.run weekOps).mergePending.levels).map (·.size) = some 604800000000000 ∧
    obsIn 1700092800000000000 1700697600000000000 0 weekOps = 14 ∧
    ((TS.newTimeSeries.run weekOps).range 1700092800000000000 1700697600000000000).2 = some ⟨14, false⟩ := by
  decide +kernel

/-- The same for `MinuteHourSeries` (60 buckets; 1 s and 1 min). -/
theorem range_aligned_exact (ops : List Op) (a b : Int)
    (hin : TSRange.timesFit minuteHourSeriesResolutions.sum ops = true)
    (hal : TSRange.alignedPicked (TS.newMinuteHourSeries.run ops) a b = true) :
    ((TS.newMinuteHourSeries.run ops).range a b).2 = some ⟨obsIn a b 0 ops, false⟩ :=
  TSRange.range_aligned_exact 60 1000000000 _ (by decide) (by decide) (by decide) (by decide)
    (by unfold TSRange.resOK; decide) (by decide) ops a b hin hal

/-- Non-vacuity (coarser level, out-of-order adds, a rollover of the 1 s level between adds), seconds after
1 700 000 040: adds at 100.5, 3.2 (out of order), 250.5 (rolls the 60-bucket 1 s level over completely),
95 (out of order again); the minute-aligned range (60 s, 120 s] lies outside the 1 s window (190.x, 251], so
`ComputeRange` picks the 1 min level; the hypotheses hold and the range reports 5 + 9. -/
def coarseOps : List Op :=
  [.add 1700000140500000000 5, .add 1700000043200000000 2, .add 1700000290500000000 1, .add 1700000135000000000 9]

example :
    TSRange.timesFit minuteHourSeriesResolutions.sum coarseOps = true ∧
    TSRange.alignedPicked (TS.newMinuteHourSeries.run coarseOps) 1700000100000000000 1700000160000000000 = true ∧
    (pickLevel 60 1700000100000000000 (TS.newMinuteHourSeries.run coarseOps).mergePending.levels).map (·.size) = some 60000000000 ∧
    obsIn 1700000100000000000 1700000160000000000 0 coarseOps = 14 ∧
    ((TS.newMinuteHourSeries.run coarseOps).range 1700000100000000000 1700000160000000000).2 = some ⟨14, false⟩ := by
  decide +kernel

theorem gen_numBuckets_eq :
    Gen.C61.timeSeriesNumBuckets = timeSeriesNumBuckets ∧
    Gen.C61.minuteHourSeriesNumBuckets = minuteHourSeriesNumBuckets ∧
    Gen.C61.bucketCount = bucketCount := by decide

theorem gen_resolutions_eq :
    Gen.C61.timeSeriesResolutions = timeSeriesResolutions ∧
    Gen.C61.minuteHourSeriesResolutions = minuteHourSeriesResolutions := by decide

def chainOK : List Int → Bool
  | a :: b :: rest => decide (0 < a ∧ a < b ∧ b % a = 0) && chainOK (b :: rest)
  | [a] => decide (0 < a)
  | [] => false

/-- The regenerated resolution tables are non-empty, strictly increasing (what `init` demands) and each
resolution divides the next (what makes every coarser bucket grid a sub-grid of the finest one), and
`numBuckets` (64, resp. 60) buckets of the coarsest level still fit an int64 duration. -/
theorem gen_resolutions_chain :
    chainOK Gen.C61.timeSeriesResolutions = true ∧ chainOK Gen.C61.minuteHourSeriesResolutions = true ∧
    (∀ r ∈ Gen.C61.timeSeriesResolutions, r * Gen.C61.timeSeriesNumBuckets ≤ maxDur) ∧
    (∀ r ∈ Gen.C61.minuteHourSeriesResolutions, r * Gen.C61.minuteHourSeriesNumBuckets ≤ maxDur) := by decide

theorem total_exact_public (ops : List Op) :
    (TS.newTimeSeries.run ops).totalOp.2 = ⟨sumFrom 0 ops, false⟩ ∧
    (TS.newMinuteHourSeries.run ops).totalOp.2 = ⟨sumFrom 0 ops, false⟩ :=
  ⟨total_exact _ _ ops, total_exact _ _ ops⟩

end NetVerif.Proofs.C61
