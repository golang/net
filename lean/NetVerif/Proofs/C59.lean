import NetVerif.Model.WebSocket
import NetVerif.Proofs.Lemmas.ByteArith
/-! C59 — WebSocket messages cross the connection intact (model of hybi.go / websocket.go). The frame codec inverts
(`readFrame_writeFrame`; `lenField_spec` is the three forms of the length field). `receiveLoop_peerFrame` is one turn of
the receive loop on a frame from a conforming peer (`peerMask`, `wirePayload`); the clauses on data frames, on
`ErrFrameTooLarge` and the `Receive` after it and on PING/PONG are that turn continued, `receiveLoop_mask_violation` is
the other side of the mask rule, and `receiveN_stream` is a session of many messages (`Msg`, `stream`). -/
namespace NetVerif.Proofs.C59
open NetVerif.Model.WebSocket

theorem maskBytes_involutive (key : List Nat) (pos : Nat) (bs : List Nat) :
    maskBytes key pos (maskBytes key pos bs) = bs := by
  induction bs generalizing pos with
  | nil => rfl
  | cons b bs ih => simp [maskBytes, Lemmas.xor_cancel, ih]

theorem maskBytes_length (key : List Nat) (pos : Nat) (bs : List Nat) :
    (maskBytes key pos bs).length = bs.length := by
  induction bs generalizing pos with
  | nil => rfl
  | cons b bs ih => simp [maskBytes, ih]

theorem beFold_beBytes (k v acc : Nat) : beFold acc (beBytes k v) = acc * 256 ^ k + v % 256 ^ k := by
  induction k generalizing acc with
  | zero => simp [beBytes, beFold, Nat.mod_one]
  | succ k ih =>
    rw [beBytes, beFold, ih, Nat.pow_succ, Nat.mod_mul, Nat.add_mul]
    ac_rfl

/-- All three forms of the length field (7-bit, 16-bit, 64-bit). `2 ^ 63`: the reader clears the top bit of the 64-bit
form (hybi.go, "MSB must be zero when 7+64 bits"). -/
theorem lenField_spec (n : Nat) (h : n < 2 ^ 63) :
    (lenField n).1 < 128 ∧ (lenField n).2.length = extLen (lenField n).1 ∧
    decodeLen (lenField n).1 (lenField n).2 = n := by
  unfold lenField
  by_cases h1 : n ≤ 125
  · rw [if_pos h1]
    exact ⟨by omega, by simp [extLen, h1], by simp [decodeLen, h1]⟩
  · rw [if_neg h1]
    by_cases h2 : n < 65536
    · rw [if_pos h2]
      refine ⟨Nat.lt_of_sub_eq_succ rfl, rfl, ?_⟩
      show beFold 0 (beBytes 2 n) = n
      rw [beFold_beBytes]
      omega
    · rw [if_neg h2]
      refine ⟨Nat.lt_of_sub_eq_succ rfl, rfl, ?_⟩
      have e : n / 72057594037927936 % 256 % 128 = n / 72057594037927936 := by omega
      have := beFold_beBytes 7 n (n / 72057594037927936)
      rw [show 256 ^ 7 = 72057594037927936 from rfl] at this
      show beFold (n / 72057594037927936 % 256 % 128) (beBytes 7 n) = n
      rw [e, this]
      omega

theorem takeExact_append (xs r : List Nat) : takeExact xs.length (xs ++ r) = some (xs, r) := by
  simp [takeExact]

def headerOf (fin : Bool) (rsv op : Nat) (mask : Option (List Nat)) (msg : List Nat) : Header :=
  { fin := fin, rsv := rsv, op := op, len := msg.length, mask := mask }

/-- The first header octet: FIN, RSV1-3, opcode. -/
theorem b0_decode (fin : Bool) (rsv op : Nat) (hr : rsv < 8) (ho : op < 16) :
    let b0 := (if fin then 128 else 0) + rsv * 16 + op
    (b0 / 128 % 2 = 1 ↔ fin = true) ∧ b0 / 16 % 8 = rsv ∧ b0 % 16 = op := by
  cases fin <;> simp <;> omega

theorem readHeader_writeFrame (fin : Bool) (rsv op : Nat) (mask : Option (List Nat))
    (msg tail bs : List Nat) (hr : rsv < 8) (ho : op < 16) (hl : msg.length < 2 ^ 63)
    (hw : writeFrame fin rsv op mask msg = some bs) :
    ∃ sz, readHeader (bs ++ tail) =
      some (headerOf fin rsv op mask msg, sz,
            (match mask with | none => msg | some key => maskBytes key 0 msg) ++ tail) := by
  unfold writeFrame at hw
  obtain ⟨hlt, hlen, hdec⟩ := lenField_spec msg.length hl
  generalize lenField msg.length = lf at *
  obtain ⟨l7, ext⟩ := lf
  obtain ⟨hfin, hrsv, hop⟩ := b0_decode fin rsv op hr ho
  simp only at hlt hlen hdec hw
  cases mask with
  | none =>
    simp only [Option.some.injEq] at hw
    subst hw
    have e1 : l7 / 128 % 2 = 0 := by omega
    have e2 : l7 % 128 = l7 := by omega
    have := takeExact_append ext (msg ++ tail)
    rw [hlen] at this
    refine ⟨2 + extLen l7, ?_⟩
    simp [readHeader, e1, e2, this, hfin, hrsv, hop, hdec, headerOf]
  | some key =>
    by_cases hk : key.length = 4
    · simp only [hk, ne_eq, not_true_eq_false, ↓reduceIte, Option.some.injEq] at hw
      subst hw
      have e1 : (l7 / 128 + 1) % 2 = 1 := by omega
      have e2 : (128 + l7) % 128 = l7 := by omega
      have t1 := takeExact_append ext (key ++ (maskBytes key 0 msg ++ tail))
      rw [hlen] at t1
      have t2 := takeExact_append key (maskBytes key 0 msg ++ tail)
      rw [hk] at t2
      refine ⟨2 + extLen l7 + 4, ?_⟩
      simp [readHeader, e1, e2, t1, t2, hfin, hrsv, hop, hdec, headerOf, List.append_assoc]
    · simp [hk] at hw

/-- C59, codec clause (`decode (encode f) = f` for all lengths below 2^63, masked with any 4-byte key or unmasked);
`tail` is left unread. -/
theorem readFrame_writeFrame (fin : Bool) (rsv op : Nat) (mask : Option (List Nat))
    (msg tail bs : List Nat) (hr : rsv < 8) (ho : op < 16) (hl : msg.length < 2 ^ 63)
    (hw : writeFrame fin rsv op mask msg = some bs) :
    readFrame (bs ++ tail) = some (headerOf fin rsv op mask msg, msg, tail) := by
  obtain ⟨sz, h⟩ := readHeader_writeFrame fin rsv op mask msg tail bs hr ho hl hw
  unfold readFrame
  rw [h]
  cases mask with
  | none => simp [headerOf, unmask]
  | some key => simp [headerOf, unmask, maskBytes_length, maskBytes_involutive]

/-- The mask a conforming peer of `c` uses: a server's peer is a client and masks with `key`;
a client's peer is a server and never masks. -/
def peerMask (isServer : Bool) (key : List Nat) : Option (List Nat) :=
  if isServer then some key else none

def wirePayload (isServer : Bool) (key msg : List Nat) : List Nat :=
  match peerMask isServer key with
  | none => msg
  | some k => maskBytes k 0 msg

theorem unmask_wirePayload (isServer : Bool) (key msg : List Nat) (fin : Bool) (rsv op n : Nat) :
    unmask { fin := fin, rsv := rsv, op := op, len := n, mask := peerMask isServer key } 0
      (wirePayload isServer key msg) = msg := by
  unfold unmask wirePayload peerMask
  cases isServer <;> simp [maskBytes_involutive]

theorem wirePayload_length (isServer : Bool) (key msg : List Nat) :
    (wirePayload isServer key msg).length = msg.length := by
  unfold wirePayload peerMask
  cases isServer <;> simp [maskBytes_length]

/-- A conforming peer's frame never trips the mask enforcement. -/
theorem peerMask_ok (isServer : Bool) (key : List Nat) :
    ¬ (isServer = true ∧ peerMask isServer key = none) ∧
    (isServer = false → peerMask isServer key = none) := by
  cases isServer <;> simp [peerMask]

/-- One turn of the receive loop on a frame from a conforming peer: the mask rule lets it pass and the payload
is read unmasked, so the turn is the frame handler on (`op`, `msg`) with `tail` left to read. -/
theorem receiveLoop_peerFrame (fuel : Nat) (c : Conn) (op : Nat) (key msg tail bs : List Nat)
    (ho : op < 16) (hl : msg.length < 2 ^ 63)
    (hw : writeFrame true 0 op (peerMask c.isServer key) msg = some bs)
    (hin : c.input = bs ++ tail) :
    receiveLoop (fuel + 1) c =
      if op = opContinuation ∨ op = opText ∨ op = opBinary ∨ ¬ (op = opClose ∨ op = opPing ∨ op = opPong) then
        let c' := if op = opText ∨ op = opBinary then { c with payloadType := op } else c
        if msg.length > c.maxPayload then
          (.tooLarge, { c' with input := wirePayload c.isServer key msg ++ tail, pending := msg.length,
                                hasPending := true })
        else (.msg (if op = opContinuation then c.payloadType else op) msg, { c' with input := tail })
      else if op = opClose then (.eof, { c with input := wirePayload c.isServer key msg ++ tail })
      else receiveLoop fuel
        (if op = opPing then handlerWrite { c with input := tail } opPong (msg.take maxControlPayload)
         else { c with input := tail }) := by
  obtain ⟨sz, h⟩ := readHeader_writeFrame true 0 op _ msg tail bs (by decide) ho hl hw
  rw [← hin] at h
  change readHeader c.input = some (_, sz, wirePayload c.isServer key msg ++ tail) at h
  obtain ⟨m1, m2⟩ := peerMask_ok c.isServer key
  have hnn : ¬ (¬ c.isServer = true ∧ peerMask c.isServer key ≠ none) := fun ⟨a, b⟩ => b (m2 (by simpa using a))
  have hu := unmask_wirePayload c.isServer key msg true 0 op msg.length
  have htk : (wirePayload c.isServer key msg ++ tail).take msg.length = wirePayload c.isServer key msg :=
    List.take_left' (wirePayload_length ..)
  have hdr : (wirePayload c.isServer key msg ++ tail).drop msg.length = tail :=
    List.drop_left' (wirePayload_length ..)
  rw [receiveLoop]
  simp only [h, headerOf, if_neg m1, if_neg hnn]
  -- the connection after the payload type is remembered is an `if` between two records: decide it first
  by_cases hd : op = opText ∨ op = opBinary
  · simp only [if_pos hd, htk, hdr, hu]
  · simp only [if_neg hd, htk, hdr, hu]

theorem receiveLoop_data (fuel : Nat) (c : Conn) (op : Nat) (key msg tail bs : List Nat)
    (hop : op = opText ∨ op = opBinary) (hl : msg.length < 2 ^ 63)
    (hmax : msg.length ≤ c.maxPayload)
    (hw : writeFrame true 0 op (peerMask c.isServer key) msg = some bs)
    (hin : c.input = bs ++ tail) :
    receiveLoop (fuel + 1) c = (.msg op msg, { c with input := tail, payloadType := op }) := by
  rw [receiveLoop_peerFrame fuel c op key msg tail bs (by rcases hop with rfl | rfl <;> decide) hl hw hin]
  rcases hop with rfl | rfl <;> simp [opText, opBinary, opContinuation, Nat.not_lt.2 hmax]

/-- An oversized message is refused (`ErrFrameTooLarge`) and left on the wire. -/
theorem receiveLoop_tooLarge (fuel : Nat) (c : Conn) (op : Nat) (key msg tail bs : List Nat)
    (hop : op = opText ∨ op = opBinary) (hl : msg.length < 2 ^ 63)
    (hmax : msg.length > c.maxPayload)
    (hw : writeFrame true 0 op (peerMask c.isServer key) msg = some bs)
    (hin : c.input = bs ++ tail) :
    receiveLoop (fuel + 1) c =
      (.tooLarge, { c with input := wirePayload c.isServer key msg ++ tail, payloadType := op,
                           pending := msg.length, hasPending := true }) := by
  rw [receiveLoop_peerFrame fuel c op key msg tail bs (by rcases hop with rfl | rfl <;> decide) hl hw hin]
  rcases hop with rfl | rfl <;> simp [opText, opBinary, hmax]

/-- C59, drain clause: the `Receive` after an `ErrFrameTooLarge` starts at the first byte after the oversized frame. -/
theorem receive_after_tooLarge (c : Conn) (key msg tail : List Nat)
    (hin : c.input = wirePayload c.isServer key msg ++ tail)
    (hp : c.hasPending = true) (hpl : c.pending = msg.length) :
    receive c = receive { c with input := tail, pending := 0, hasPending := false } := by
  unfold receive
  simp [hp, hin, hpl, ← wirePayload_length c.isServer key msg, List.drop_left']

/-- The PONG carries the whole payload, since control payloads are at most 125 bytes; it is unmasked from a server and
masked from a client. -/
theorem receiveLoop_ping (fuel : Nat) (c : Conn) (key msg tail bs : List Nat)
    (hl : msg.length ≤ maxControlPayload)
    (hw : writeFrame true 0 opPing (peerMask c.isServer key) msg = some bs)
    (hin : c.input = bs ++ tail) :
    receiveLoop (fuel + 1) c =
      receiveLoop fuel { c with input := tail, written := c.written ++ [(opPong, msg, !c.isServer)] } := by
  rw [receiveLoop_peerFrame fuel c opPing key msg tail bs (by decide)
    (Nat.lt_of_le_of_lt hl (by decide)) hw hin, List.take_of_length_le hl]
  rfl

theorem receiveLoop_pong (fuel : Nat) (c : Conn) (key msg tail bs : List Nat)
    (hl : msg.length < 2 ^ 63)
    (hw : writeFrame true 0 opPong (peerMask c.isServer key) msg = some bs)
    (hin : c.input = bs ++ tail) :
    receiveLoop (fuel + 1) c = receiveLoop fuel { c with input := tail } := by
  rw [receiveLoop_peerFrame fuel c opPong key msg tail bs (by decide) hl hw hin]
  rfl

/-- C59, mask clause: the violator is sent a Close frame with status 1002 (`[3, 234]`, `closeStatusProtocolError`) and
`Receive` reports EOF; the payload is never delivered. -/
theorem receiveLoop_mask_violation (fuel : Nat) (c : Conn) (h : Header) (sz : Nat) (r : List Nat)
    (hh : readHeader c.input = some (h, sz, r))
    (hv : (c.isServer = true ∧ h.mask = none) ∨ (c.isServer = false ∧ h.mask ≠ none)) :
    receiveLoop (fuel + 1) c =
      (.eof, { c with input := r, written := c.written ++ [(opClose, [3, 234], !c.isServer)] }) := by
  unfold receiveLoop
  simp only [hh]
  rcases hv with ⟨h1, h2⟩ | ⟨h1, h2⟩
  · simp [h1, h2, handlerWrite]
  · simp [h1, h2, handlerWrite]

/-- A frame the handler writes itself (PONG, CLOSE) is recorded as masked exactly when the connection is a
client (`hybiFrameWriterFactory.needMaskingKey = request == nil`); this unfolds `handlerWrite`. -/
theorem handlerWrite_masked_iff_client (c : Conn) (op : Nat) (msg : List Nat) :
    (handlerWrite c op msg).written = c.written ++ [(op, msg, !c.isServer)] := rfl

/-- A message as a conforming peer sends it: opcode (text/binary), masking key, payload. -/
structure Msg where
  op : Nat
  key : List Nat
  data : List Nat

def Msg.WF (m : Msg) (maxPayload : Nat) : Prop :=
  (m.op = opText ∨ m.op = opBinary) ∧ m.key.length = 4 ∧ m.data.length < 2 ^ 63 ∧
  m.data.length ≤ maxPayload

/-- The byte stream a conforming peer produces for a message list. -/
def stream (isServer : Bool) : List Msg → List Nat
  | [] => []
  | m :: ms => (writeFrame true 0 m.op (peerMask isServer m.key) m.data).getD [] ++ stream isServer ms

theorem writeFrame_isSome (isServer : Bool) (m : Msg) (h : m.key.length = 4) :
    ∃ bs, writeFrame true 0 m.op (peerMask isServer m.key) m.data = some bs := by
  unfold writeFrame peerMask
  cases isServer <;> simp [h]

/-- C59, session clause: text/binary messages within the receiver's limit, written by a conforming peer and followed by
any further bytes, come out of successive `Receive` calls in order with their payload types, and exactly the further bytes
stay unread. -/
theorem receiveN_stream (ms : List Msg) (c : Conn) (tail : List Nat)
    (hwf : ∀ m ∈ ms, m.WF c.maxPayload) (hp : c.hasPending = false)
    (hin : c.input = stream c.isServer ms ++ tail) :
    (receiveN ms.length c).1 = ms.map (fun m => RecvResult.msg m.op m.data) ∧
    (receiveN ms.length c).2.input = tail := by
  induction ms generalizing c with
  | nil => simp [receiveN, hin, stream]
  | cons m ms ih =>
    obtain ⟨hop, hk, hl, hmax⟩ := hwf m (by simp)
    obtain ⟨bs, hbs⟩ := writeFrame_isSome c.isServer m hk
    have hin' : c.input = bs ++ (stream c.isServer ms ++ tail) := by
      rw [hin]
      simp [stream, hbs, List.append_assoc]
    have hrecv : receive c = (.msg m.op m.data,
        { c with input := stream c.isServer ms ++ tail, payloadType := m.op }) := by
      unfold receive
      simp only [hp, Bool.false_eq_true, ↓reduceIte]
      rw [receiveLoop_data c.input.length c m.op m.key m.data _ bs hop hl hmax hbs hin', hp]
    have := ih { c with input := stream c.isServer ms ++ tail, payloadType := m.op }
      (fun m' hm' => hwf m' (by simp [hm'])) hp rfl
    simp only [List.length_cons, receiveN, hrecv, List.map_cons]
    exact ⟨by rw [this.1], this.2⟩

example : writeFrame true 0 opText (peerMask true [1, 2, 3, 4]) [104, 105] =
    some [129, 130, 1, 2, 3, 4, 105, 107] := by decide

example : (receiveN 3 (newConn true 10
    ([129, 130, 1, 2, 3, 4, 105, 107] ++ [137, 128, 9, 9, 9, 9] ++ [130, 129, 0, 0, 0, 0, 7]))).1 =
    [.msg 1 [104, 105], .msg 2 [7], .eof] := by decide

end NetVerif.Proofs.C59
