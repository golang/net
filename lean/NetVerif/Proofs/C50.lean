import NetVerif.Model.Punycode
import NetVerif.Gen.C50
import NetVerif.Proofs.Lemmas.Punycode
import NetVerif.Proofs.Lemmas.PunycodeString
import NetVerif.Proofs.Lemmas.PunycodeConverse
import NetVerif.Proofs.Lemmas.IfCases
/-!
C50 — IDNA produces canonical A-labels and is idempotent; Punycode encode/decode are inverse. The constants and
arithmetic pieces regenerated from idna/punycode.go (`Gen.C50`) equal the model (T-tie, `gen_*_eq`); the two inverse
statements hold on the Punycode layer (`decode_encode_holds`, `encode_decode_holds`; the arguments are in
`Lemmas/Punycode*.lean`); the A-label rejection clause holds on the exact model of `process` for the Punycode profile
(`alabel_holds`); what the V-tie monitor accepts satisfies the idempotence clauses (`monitor_sound`). The UTS 46 tables
are not modelled.
-/

namespace NetVerif.Proofs.C50
open NetVerif NetVerif.Model.Punycode NetVerif.Proofs.Lemmas.Punycode

theorem gen_consts_eq :
    Gen.C50.base = (base : Int) ∧ Gen.C50.damp = (damp : Int) ∧ Gen.C50.initialBias = (initialBias : Int) ∧
    Gen.C50.initialN = (initialN : Int) ∧ Gen.C50.skew = (skew : Int) ∧ Gen.C50.tmax = (tmax : Int) ∧
    Gen.C50.tmin = (tmin : Int) ∧ Gen.C50.acePrefix = acePrefix := by
  decide

/-- Over `Nat`: the code calls `madd` with non-negative arguments only. -/
theorem gen_madd_eq (a b c : Nat) :
    Gen.C50.madd a b c = some (match madd a b c with | some v => ((v : Int), false) | none => (0, true)) := by
  have hc : ((b : Int) * c > 2147483647 - a) ↔ b * c + a > 2147483647 := by
    rw [← Int.natCast_mul]; omega
  unfold Gen.C50.madd madd maxInt32
  simp only [hc]
  split
  · rfl
  · simp only [Int.natCast_add, Int.natCast_mul]

theorem gen_decodeDigit_eq (x : Nat) :
    Gen.C50.decodeDigit x = some (match decodeDigit x with | some d => ((d : Int), true) | none => (0, false)) := by
  unfold Gen.C50.decodeDigit decodeDigit
  by_cases h1 : 48 ≤ x ∧ x ≤ 57
  · rw [if_pos h1, if_pos (by omega)]
    congr 2; omega
  · rw [if_neg h1, if_neg (by omega)]
    by_cases h2 : 65 ≤ x ∧ x ≤ 90
    · rw [if_pos h2, if_pos (by omega)]
      congr 2; omega
    · rw [if_neg h2, if_neg (by omega)]
      by_cases h3 : 97 ≤ x ∧ x ≤ 122
      · rw [if_pos h3, if_pos (by omega)]
        congr 2; omega
      · rw [if_neg h3, if_neg (by omega)]

theorem gen_encodeDigit_eq (d : Nat) :
    Gen.C50.encodeDigit d = (encodeDigit d).map (fun c => (c : Int)) := by
  unfold Gen.C50.encodeDigit encodeDigit
  by_cases h1 : d < 26
  · rw [if_pos h1, if_pos (by omega)]
    exact congrArg some (Int.emod_eq_of_lt (by omega) (by omega))
  · rw [if_neg h1, if_neg (by omega)]
    by_cases h2 : d < 36
    · rw [if_pos h2, if_pos (by omega)]
      exact congrArg some (Int.emod_eq_of_lt (by omega) (by omega))
    · rw [if_neg h2, if_neg (by omega)]
      rfl

theorem gen_threshold_eq (k bias : Nat) :
    Gen.C50.thresholdDecode k bias = some (threshold k bias : Int) ∧
    Gen.C50.thresholdEncode k bias = some (threshold k bias : Int) := by
  have h : Gen.C50.thresholdDecode k bias = some (threshold k bias : Int) := by
    unfold Gen.C50.thresholdDecode threshold tmin tmax
    by_cases h1 : k ≤ bias
    · rw [if_pos h1, if_pos (Int.ofNat_le.mpr h1)]; rfl
    · rw [if_neg h1, if_neg (mt Int.ofNat_le.mp h1)]
      by_cases h2 : k ≥ bias + 26
      · rw [if_pos h2, if_pos (by omega)]; rfl
      · rw [if_neg h2, if_neg (by omega)]
        simp only [Option.some.injEq]; omega
  exact ⟨h, h⟩

/-- Go's `/` truncates; on non-negative operands it is the natural-number operation. -/
theorem tdiv_natCast (x y : Int) (a b : Nat) (hx : x = a) (hy : y = b) :
    x.tdiv y = ((a / b : Nat) : Int) :=
  hx ▸ hy ▸ (Int.ofNat_tdiv a b).symm

theorem gen_adaptPre_eq (delta numPoints : Nat) (first : Bool) :
    Gen.C50.adaptPre delta numPoints first =
      some ((let d := if first then delta / damp else delta / 2; d + d / numPoints : Nat) : Int) := by
  unfold Gen.C50.adaptPre damp
  cases first
  · exact congrArg some (by
      rw [tdiv_natCast _ 2 delta 2 rfl rfl, tdiv_natCast _ _ (delta / 2) numPoints rfl rfl]; rfl)
  · exact congrArg some (by
      rw [tdiv_natCast _ 700 delta 700 rfl rfl, tdiv_natCast _ _ (delta / 700) numPoints rfl rfl]; rfl)

theorem gen_adaptCond_eq (delta k : Nat) :
    Gen.C50.adaptCond delta k = decide (delta > ((base - tmin) * tmax) / 2) := by
  unfold Gen.C50.adaptCond base tmin tmax
  simp

theorem gen_adaptBody_eq (delta k : Nat) :
    Gen.C50.adaptBody delta k = some (((delta / (base - tmin) : Nat) : Int), ((k + base : Nat) : Int)) := by
  unfold Gen.C50.adaptBody base tmin
  exact congrArg some (by rw [tdiv_natCast _ (36 - 1) delta (36 - 1) rfl rfl]; rfl)

theorem gen_adaptRet_eq (delta k : Nat) :
    Gen.C50.adaptRet delta k = some ((k + (base - tmin + 1) * delta / (delta + skew) : Nat) : Int) := by
  unfold Gen.C50.adaptRet base tmin skew
  exact congrArg some (by
    rw [tdiv_natCast ((36 - 1 + 1) * delta) (delta + 38) ((36 - 1 + 1) * delta) (delta + 38)
      (by omega) rfl]; rfl)

theorem gen_encDigitArg_eq (q t : Nat) (ht : t ≤ q) (ht' : t < 36) :
    Gen.C50.encDigitArg q t = some ((t + (q - t) % (base - t) : Nat) : Int) ∧
    Gen.C50.encNextQ q t = some (((q - t) / (base - t) : Nat) : Int) := by
  unfold Gen.C50.encDigitArg Gen.C50.encNextQ base
  have e1 : ((q : Int) - t) = ((q - t : Nat) : Int) := by omega
  have e2 : ((36 : Int) - t) = ((36 - t : Nat) : Int) := by omega
  rw [e1, e2, ← Int.ofNat_tdiv, ← Int.ofNat_tmod]
  exact ⟨rfl, rfl⟩

theorem gen_decWeightMul_eq (t : Nat) (ht : t ≤ 36) :
    Gen.C50.decWeightMul t = some ((base - t : Nat) : Int) := by
  unfold Gen.C50.decWeightMul base
  simp
  omega

/-- The fuel 32 of `adapt`'s loop suffices for every int32-sized `delta`: `2 ^ 33 ≤ 456 * 35 ^ 32` (`adaptLoop_done`). -/
theorem adaptLoop_fuel (d k : Nat) (hd : d < 2 ^ 33) : (adaptLoop 32 d k).1 ≤ 455 :=
  adaptLoop_done 32 d k (Nat.lt_of_lt_of_le hd (by decide))

theorem decodeDigit_encDigit (d : Nat) (h : d < 36) : decodeDigit (encDigit d) = some d :=
  Lemmas.Punycode.decodeDigit_encDigit d h

theorem encodeDigit_eq_encDigit (d : Nat) (h : d < 36) : encodeDigit d = some (encDigit d) :=
  Lemmas.Punycode.encodeDigit_eq_encDigit d h

theorem encDigit_decodeDigit (c d : Nat) (h : decodeDigit c = some d) :
    encDigit d = lowerAscii c ∧ d < 36 :=
  encDigit_of_decodeDigit c d h

/-- The `encodeDigit` panic is unreachable from `encode`: every digit value is `< 36`. -/
theorem encodeVar_digits_ok (bias k q : Nat) :
    ∀ c ∈ encodeVar bias k q, ∃ d, d < 36 ∧ c = encDigit d ∧ encodeDigit d = some c :=
  Lemmas.Punycode.encodeVar_digits_ok bias k q

/-- The hypothesis is the absence of int32 overflow in the decoder: the last weight it computes is at most
`35 * q * w`. -/
theorem varint_roundtrip (bias k q i w : Nat) (rest : List Nat)
    (h : i + 35 * (q * w) ≤ maxInt32) (hw : 1 ≤ w) :
    decodeVar bias k i w (encodeVar bias k q ++ rest) = some (i + q * w, rest) :=
  Lemmas.Punycode.varint_roundtrip bias k q i w rest h

/-- The special case used by `decode`: `w = 1`, `k = base`. -/
theorem varint_roundtrip_delta (bias delta i : Nat) (rest : List Nat)
    (h : i + 35 * delta ≤ maxInt32) :
    decodeVar bias base i 1 (encodeVar bias base delta ++ rest) = some (i + delta, rest) := by
  have := varint_roundtrip bias base delta i 1 rest (by simpa using h) (Nat.le_refl 1)
  simpa using this

/-- The digit string of a delta is unique up to the case of the digits. -/
theorem varint_canonical (bias k i w : Nat) (inp rest : List Nat) (i' : Nat)
    (h : decodeVar bias k i w inp = some (i', rest)) :
    ∃ q ds, inp = ds ++ rest ∧ i' = i + q * w ∧ ds.map lowerAscii = encodeVar bias k q :=
  Lemmas.Punycode.varint_canonical bias k i w inp rest i' h

/-- The values Go's `string([]rune)` leaves as they are: `goRune` is the identity exactly on these (`map_goRune`). -/
def ValidScalar (r : Nat) : Prop := r ≤ maxRune ∧ ¬ (55296 ≤ r ∧ r ≤ 57343)

/-- Decode inverts encode on every string of at most 1024 scalar values
(the decoder's output limit). -/
def DecodeEncodeStatement : Prop :=
  ∀ s a : List Nat, (∀ r ∈ s, ValidScalar r) → s.length ≤ maxOutput →
    encode [] s = some a → decode a = some s

/-- Encode inverts decode on every accepted ASCII input, up to ASCII case. Only the case of the extended digits can
differ: `Lemmas.PunycodeConverse.converse_run` returns the literal part as it was. -/
def EncodeDecodeStatement : Prop :=
  ∀ a u : List Nat, (∀ c ∈ a, c < 128) → decodeRunes a = some u → (∀ r ∈ u, ValidScalar r) →
    ∃ a', encode [] u = some a' ∧ a'.map lowerAscii = a.map lowerAscii

theorem decode_encode_holds : DecodeEncodeStatement := by
  intro s a hs hlen h
  unfold decode
  rw [Lemmas.PunycodeString.decodeRunes_encode s a (fun r hr => (hs r hr).1) hlen h, Option.map_some,
    map_goRune s hs]

/-- `EncodeDecodeStatement` without its side conditions; `u` is the result before `string([]rune)`. -/
theorem encode_decodeRunes (a u : List Nat) (h : decodeRunes a = some u) :
    ∃ a', encode [] u = some a' ∧ a'.map lowerAscii = a.map lowerAscii :=
  Lemmas.PunycodeConverse.encode_decodeRunes a u h

theorem encode_decode_holds : EncodeDecodeStatement := by
  intro a u _ h _
  exact encode_decodeRunes a u h

/-- The encoder never fails (no int32 overflow, enough loop fuel) on at most 1024 code points. -/
theorem encode_succeeds (s : List Nat) (hs : ∀ r ∈ s, r ≤ maxRune) (hlen : s.length ≤ maxOutput) :
    ∃ a, encode [] s = some a := by
  obtain ⟨_, h, _⟩ := Lemmas.PunycodeString.encode_run [] s hs hlen
  exact ⟨_, h⟩

/-- `decode_encode_holds` before `string([]rune)`: surrogate values included. -/
theorem decodeRunes_encode (s a : List Nat) (hs : ∀ r ∈ s, r ≤ maxRune) (hlen : s.length ≤ maxOutput)
    (h : encode [] s = some a) : decodeRunes a = some s :=
  Lemmas.PunycodeString.decodeRunes_encode s a hs hlen h

/-- No overflow hypothesis on the decoder's weights: `delta ≤ Q` covers every delta of a string of at most 1024 code
points. -/
theorem varint_roundtrip_sharp (bias delta i : Nat) (rest : List Nat)
    (hq : delta ≤ Lemmas.PunycodeString.Q) (hi : i + delta ≤ maxInt32) :
    decodeVar bias base i 1 (encodeVar bias base delta ++ rest) = some (i + delta, rest) := by
  have := Lemmas.PunycodeString.varint_roundtrip_sharp bias base delta i 1 rest 0
    (by unfold base; rfl) (by intro _; simp) (by simpa using hq) (by simpa using hi)
  simpa using this

/-- The basic-code-point layer on its own; it holds for ASCII strings longer than 1024 too. -/
theorem decode_encode_ascii_partial (s : List Nat) (hs : ∀ r ∈ s, r < 128) :
    encode [] s = some (if s = [] then [] else s ++ [hyphen]) ∧
    decode (if s = [] then [] else s ++ [hyphen]) = some s :=
  Lemmas.Punycode.decode_encode_ascii s hs

theorem encode_basic_prefix_partial (pfx s a : List Nat) (h : encode pfx s = some a) :
    (pfx ++ s.filter (· < 128) ++ (if (s.filter (· < 128)).length > 0 then [hyphen] else [])) <+: a :=
  Lemmas.Punycode.encode_basic_prefix pfx s a h

/-- The property clause on the exact model of `Punycode.process`: a domain with an `xn--` label
whose payload is undecodable or decodes to ASCII only (possibly to nothing) is rejected. -/
def ALabelStatement (u16 : Bool) : Prop :=
  ∀ (toASCII : Bool) (s : List Nat),
    (splitDots s).any (fun l => undecodableALabel l || asciiOnlyALabel l) = true →
    (processPunycode u16 toASCII s).2 = true

/-- Whatever `unicode16`, for ToASCII and ToUnicode: idna.go gated the ASCII-only rejection on `unicode16` and on
`len(u) > 0` before its repair `752bea6819` (DESIGN.md §15). -/
theorem alabel_holds (u16 : Bool) : ALabelStatement u16 := by
  intro toASCII s h
  exact Lemmas.Punycode.alabel_holds u16 toASCII s h

/-- What an accepted observation guarantees. -/
def ObsOK (o : Obs) : Prop :=
  (asciiLower o.x = true → (splitDots o.x).any badALabel = true → o.ae = true ∧ o.ue = true) ∧
  (asciiLower o.x = true → o.ue = false → o.u = expectedUnicode o.x) ∧
  (o.ae = false →
    (o.vonly = false → o.aa = o.a ∧ o.aae = false) ∧
    (transitionalDeviation o = false → o.vonly = false → (splitDots o.u).any hasAce = false → o.au = o.a ∧ o.aue = false) ∧
    (splitDots o.a).all aceLabelCanonical = true)

/-- Each verdict of `monitorObs` is guarded by one Boolean; `none` means every guard on the way is
false, and each clause of `ObsOK` is read off the guard that mentions it. -/
theorem monitor_sound (o : Obs) (h : monitorObs o = none) : ObsOK o := by
  unfold monitorObs at h
  simp only [Lemmas.ite_some_eq_none, Bool.not_eq_true] at h
  obtain ⟨h1, h2, h3, h⟩ := h
  refine ⟨fun hx hb => ⟨by simpa [hx, hb] using h1, by simpa [hx, hb] using h2⟩,
    fun hx hu => by simpa [hx, hu] using h3, fun hae => ?_⟩
  rw [if_neg (by simp [hae]), Lemmas.ite_some_eq_none, Lemmas.ite_some_eq_none, Lemmas.ite_some_eq_none] at h
  simp only [Bool.not_eq_true] at h
  obtain ⟨h5, h6, h7, -⟩ := h
  exact ⟨fun hv => by simpa [hv, and_comm] using h5,
    fun ht hv hace => by simpa [ht, hv, hace, and_comm] using h6, by simpa using h7⟩

example : encode [] [98, 252, 99, 104, 101, 114] = some [98, 99, 104, 101, 114, 45, 107, 118, 97] := by
  decide +kernel
example : decode [98, 99, 104, 101, 114, 45, 107, 118, 97] = some [98, 252, 99, 104, 101, 114] := by decide
example : decodeVar 72 36 0 1 (encodeVar 72 36 745 ++ [7]) = some (745, [7]) := by decide +kernel
example : undecodableALabel [120, 110, 45, 45, 45] = true := by decide
/-- "xn--ü-": a non-basic code point in the literal part is a decoding error. -/
example : undecodableALabel [120, 110, 45, 45, 252, 45] = true := by decide
example : asciiOnlyALabel [120, 110, 45, 45, 97, 98, 99, 45] = true := by decide
/-- "xn--abc-", "xn--", "xn--xn--abc--" (DESIGN.md §15, `752bea6819`): rejected, and the partially processed result is
still returned. -/
example : processPunycode false true [120, 110, 45, 45, 97, 98, 99, 45] = ([97, 98, 99], true) := by decide
example : processPunycode true true [120, 110, 45, 45] = ([], true) := by decide
example : processPunycode false false [120, 110, 45, 45, 120, 110, 45, 45, 97, 98, 99, 45, 45] =
    ([120, 110, 45, 45, 97, 98, 99, 45], true) := by decide
def sampleObs : Obs where
  transitional := false
  vonly := false
  x := [252]
  a := [120, 110, 45, 45, 116, 100, 97]
  ae := false
  aa := [120, 110, 45, 45, 116, 100, 97]
  aae := false
  u := [252]
  ue := false
  au := [120, 110, 45, 45, 116, 100, 97]
  aue := false

example : monitorObs sampleObs = none := by decide +kernel

end NetVerif.Proofs.C50
