import NetVerif.Proofs.C07
import NetVerif.Model.H2Meta
import NetVerif.Proofs.Lemmas.Hpack
/-!
C07, concrete HPACK: `readMetaFrame` composed with the decoder model (`Model/Hpack.lean`). Every run
over actual bytes is an abstract `readMeta` run (`readMetaH_abstract`), which gives
`readMetaH_guarantees`; `readMetaH_fields` and `readMetaH_truncated_only_if_over` compare the
decoder under the emit callback with the plain decoder (`writeLoopCb_lockstep`).
-/
namespace NetVerif.Proofs.C07
open NetVerif NetVerif.Model NetVerif.Model.H2Frame NetVerif.Model.H2Meta

theorem writeLoopCb_fold (fuel : Nat) (d : Hpack.DecCore) (buf : List Nat) (st : MetaState) :
    ∃ fs : List Field, (writeLoopCb fuel d buf st).2.1 = fs.foldl metaEmit st := by
  induction fuel generalizing d buf st with
  | zero => exact ⟨[], rfl⟩
  | succ n ih =>
    unfold writeLoopCb
    split
    · exact ⟨[], rfl⟩
    split
    · split <;> exact ⟨[], rfl⟩
    · exact ⟨[], rfl⟩
    · rename_i d' rest e _
      split
      · cases e with
        | none => exact ih _ _ _
        | some f =>
          obtain ⟨fs, hfs⟩ := ih { Hpack.afterRepr buf d' with emitEnabled := (metaEmit st (toField f)).enabled } rest
            (metaEmit st (toField f))
          exact ⟨toField f :: fs, by simpa using hfs⟩
      · exact ⟨[], rfl⟩

/-- `C` names the result of the loop, which the right-hand side mentions five times; callers give `_ rfl`. -/
theorem hdecWrite_eq (d : Hpack.Decoder) (st : MetaState) {p : List Nat} (hp : p ≠ [])
    (C : Hpack.DecCore × MetaState × Hpack.LoopEnd)
    (hC : writeLoopCb ((d.saveBuf ++ p).length + 1) d.toDecCore (d.saveBuf ++ p) st = C) :
    hdecWrite d st p =
      ((Hpack.finishWrite (C.1, [], C.2.2)).1, C.2.1, (Hpack.finishWrite (C.1, [], C.2.2)).2.2.isSome) := by
  rw [hdecWrite, if_neg hp, hC]
  obtain ⟨c, st', cend⟩ := C
  cases cend <;> rfl

theorem hdecWrite_abstract (d : Hpack.Decoder) (st : MetaState) (p : List Nat) :
    ∃ dec : FragDec, metaWrite st dec = ((hdecWrite d st p).2.1, (hdecWrite d st p).2.2) := by
  by_cases hp : p = []
  · subst hp; exact ⟨{}, rfl⟩
  · obtain ⟨fs, hfs⟩ := writeLoopCb_fold ((d.saveBuf ++ p).length + 1) d.toDecCore (d.saveBuf ++ p) st
    rw [hdecWrite_eq d st hp _ rfl, hfs]
    generalize (Hpack.finishWrite _).2.2.isSome = b
    exact ⟨{ fields := fs, errAlways := b }, by simp only [metaWrite, Bool.false_and, Bool.or_false]⟩

/-- A concrete loop result as the abstract `metaLoop` reports it. -/
def absLoop (r : Except RErr LoopOut × Hpack.Decoder × Framer × List Nat) :
    Except RErr MetaState × Framer × List Nat :=
  (match r.1 with | .ok o => .ok o.st | .error e => .error e, r.2.2.1, r.2.2.2)

theorem metaLoopH_abstract (fuel : Nat) (fr : Framer) (d : Hpack.Decoder) (st : MetaState) (frag : List Nat)
    (ended : Bool) (bs : List Nat) (done : List (List Nat)) :
    ∃ decs : List FragDec,
      metaLoop fuel fr st frag ended decs bs = absLoop (metaLoopH fuel fr d st frag ended bs done) := by
  induction fuel generalizing fr d st frag ended bs done with
  | zero => exact ⟨[], rfl⟩
  | succ n ih =>
    unfold metaLoopH
    by_cases h1 : frag.length > 2 * st.remainSize
    · exact ⟨[], by simp [metaLoop, absLoop, h1]⟩
    by_cases h2 : st.invalid = true
    · exact ⟨[], by simp [metaLoop, absLoop, h1, h2]⟩
    obtain ⟨dec, hdec⟩ := hdecWrite_abstract d st frag
    generalize hw : hdecWrite d st frag = w at hdec
    obtain ⟨d', st', werr⟩ := w
    simp only at hdec
    simp only [h1, h2, ↓reduceIte]
    cases werr with
    | true =>
      refine ⟨[dec], ?_⟩
      simp [metaLoop, absLoop, h1, h2, hdec]
    | false =>
      cases ended with
      | true =>
        refine ⟨[dec], ?_⟩
        simp [metaLoop, absLoop, h1, h2, hdec]
      | false =>
        simp only [Bool.false_eq_true, ↓reduceIte]
        cases hres : (readFrame fr bs).res with
        | error e =>
          refine ⟨[dec], ?_⟩
          simp [metaLoop, absLoop, h1, h2, hdec, hres]
        | ok f =>
          cases f with
          | continuation h frag' =>
            obtain ⟨decs, hdecs⟩ := ih (readFrame fr bs).fr d' st' frag' (hasFlag h.flags flagEndHeaders)
              (readFrame fr bs).rest (done ++ [frag])
            refine ⟨dec :: decs, ?_⟩
            simp only [metaLoop, h1, h2, ↓reduceIte, List.headD_cons, hdec, Bool.false_eq_true, hres,
              List.tail_cons]
            exact hdecs
          | _ =>
            refine ⟨[dec], ?_⟩
            simp [metaLoop, absLoop, h1, h2, hdec, hres]

/-- `orc` collects the decoder outcomes that really occur on `bs`. -/
theorem readMetaH_abstract (fr : Framer) (mhls : Nat) (hdec : Hpack.Decoder) (bs : List Nat) :
    ∃ orc : HpackOracle,
      (readMeta fr mhls orc bs).res = (readMetaH fr mhls hdec bs).res ∧
      (readMeta fr mhls orc bs).fr = (readMetaH fr mhls hdec bs).fr ∧
      (readMeta fr mhls orc bs).rest = (readMetaH fr mhls hdec bs).rest := by
  unfold readMetaH readMeta
  cases hres : (readFrame fr bs).res with
  | error e => exact ⟨{}, by simp [hres]⟩
  | ok f =>
    cases f with
    | headers h prio frag =>
      simp only [hres]
      obtain ⟨decs, hdecs⟩ := metaLoopH_abstract ((readFrame fr bs).rest.length + 1) (readFrame fr bs).fr
        (prepDecoder hdec mhls) { remainSize := maxHeaderListSize mhls } frag (hasFlag h.flags flagEndHeaders)
        (readFrame fr bs).rest []
      generalize hl : metaLoopH ((readFrame fr bs).rest.length + 1) (readFrame fr bs).fr
        (prepDecoder hdec mhls) { remainSize := maxHeaderListSize mhls } frag (hasFlag h.flags flagEndHeaders)
        (readFrame fr bs).rest [] = L at hdecs
      obtain ⟨r1, d1, fr1, rest1⟩ := L
      cases r1 with
      | error e =>
        refine ⟨{ decs := decs }, ?_⟩
        simp only [absLoop] at hdecs
        simp [hdecs]
      | ok out =>
        simp only [absLoop] at hdecs
        cases hc : out.hdec.close with
        | mk dcl ce =>
          cases ce with
          | some e =>
            refine ⟨{ decs := decs, closeErr := true }, ?_⟩
            simp [hdecs, hc]
          | none =>
            refine ⟨{ decs := decs, closeErr := false }, ?_⟩
            simp only [hdecs, hc, Bool.false_eq_true, ↓reduceIte]
            by_cases hi : out.st.invalid = true
            · simp [hi]
            · by_cases hp : checkPseudos out.st.fields = true
              · simp [hi, hp]
              · simp [hi, hp]
    | _ => exact ⟨{}, by simp [hres]⟩

theorem metaEmit_disabled (st : MetaState) (f : Field) (h : st.enabled = false) : metaEmit st f = st := by
  simp [metaEmit, h]

theorem foldl_disabled (fs : List Field) (st : MetaState) (h : st.enabled = false) : fs.foldl metaEmit st = st :=
  Lemmas.foldl_inv metaEmit (· = st) (fun _ f hs => hs ▸ metaEmit_disabled st f h) fs st rfl

theorem writeLoopCb_frozen (fuel : Nat) (d : Hpack.DecCore) (buf : List Nat) (st : MetaState)
    (h : st.enabled = false) : (writeLoopCb fuel d buf st).2.1 = st := by
  obtain ⟨fs, hfs⟩ := writeLoopCb_fold fuel d buf st
  rw [hfs, foldl_disabled fs st h]

theorem parseRepr_ok_emit (d d' : Hpack.DecCore) (buf rest : List Nat) (em : Option Hpack.Field)
    (h : Hpack.parseRepr d buf = .ok d' rest em) :
    d'.emitEnabled = d.emitEnabled ∧ (d.emitEnabled = false → em = none) := by
  obtain ⟨_, hd, _⟩ := Lemmas.Hpack.parseRepr_shape (.inl ⟨_, _, h⟩)
  have he : d'.emitEnabled = d.emitEnabled := by rw [hd]
  refine ⟨he, fun hoff => ?_⟩
  obtain ⟨a, _, hap⟩ := Lemmas.Hpack.parseRepr_ok_iff.1 h
  cases a with
  | indexed en => rw [(Lemmas.Hpack.finishEmit_ok hap).2.1, hoff]; rfl
  | sizeUpdate s => cases hap; rfl
  | literal it tn un uv =>
    obtain ⟨_, _, _, _, _, hfe⟩ := Lemmas.Hpack.applyLiteral_ok hap
    rw [(Lemmas.Hpack.finishEmit_ok hfe).2.1, he, hoff]; rfl

theorem parseRepr_err_emit (d d' : Hpack.DecCore) (buf : List Nat) (e : Hpack.PErr)
    (h : Hpack.parseRepr d buf = .err e d') : d'.emitEnabled = d.emitEnabled := by
  obtain ⟨_, rfl, _⟩ := Lemmas.Hpack.parseRepr_shape (.inr ⟨e, h⟩)
  rfl

theorem writeLoopCb_flag (fuel : Nat) (d : Hpack.DecCore) (buf : List Nat) (st : MetaState)
    (h : d.emitEnabled = st.enabled) :
    (writeLoopCb fuel d buf st).1.emitEnabled = (writeLoopCb fuel d buf st).2.1.enabled := by
  induction fuel generalizing d buf st with
  | zero => exact h
  | succ n ih =>
    unfold writeLoopCb
    split
    · exact h
    split
    · split <;> exact h
    · rename_i e d' hp
      rw [Lemmas.Hpack.afterRepr_emitEnabled, parseRepr_err_emit d d' buf e hp]
      exact h
    · rename_i d' rest e hp
      split
      · exact ih _ _ _ rfl
      · rw [(parseRepr_ok_emit _ _ _ _ _ hp).1]
        exact h

private theorem core_eta (c : Hpack.DecCore) (h : c.emitEnabled = true) : { c with emitEnabled := true } = c := by
  cases c; simp_all

/-- `Decoder.Write` under the callback against the plain `Hpack.writeLoop` (emission enabled) from a
shadow state `dp`: it is the callback's decoder while emission is on; once the callback has switched
emission off its state is frozen and `dp` no longer matters. -/
theorem writeLoopCb_shadow (fuel : Nat) (d dp : Hpack.DecCore) (buf : List Nat) (st : MetaState)
    (em : List Hpack.Field) (hflag : d.emitEnabled = st.enabled) (hsame : st.enabled = true → d = dp) :
    ∃ new, (Hpack.writeLoop true fuel dp buf em).2.1 = em ++ new ∧
      (writeLoopCb fuel d buf st).2.1 = (new.map toField).foldl metaEmit st ∧
      ((writeLoopCb fuel d buf st).2.1.enabled = true →
        (writeLoopCb fuel d buf st).1 = (Hpack.writeLoop true fuel dp buf em).1 ∧
        (writeLoopCb fuel d buf st).2.2 = (Hpack.writeLoop true fuel dp buf em).2.2) := by
  induction fuel generalizing d dp buf st em with
  | zero => exact ⟨[], by simp [Hpack.writeLoop], rfl, fun h => ⟨hsame h, rfl⟩⟩
  | succ n ih =>
    cases hen : st.enabled with
    | false =>
      obtain ⟨new, hnew⟩ := Lemmas.Hpack.writeLoop_em_prefix true (n + 1) dp buf em
      have hfz := writeLoopCb_frozen (n + 1) d buf st hen
      exact ⟨new, hnew, by rw [hfz, foldl_disabled _ _ hen], fun h => by rw [hfz, hen] at h; cases h⟩
    | true =>
      cases hsame hen
      unfold Hpack.writeLoop writeLoopCb
      by_cases hb : buf = []
      · exact ⟨[], by simp [hb]⟩
      simp only [hb, ↓reduceIte]
      cases hp : Hpack.parseRepr d buf with
      | needMore =>
        simp only [true_and]
        split <;> exact ⟨[], by simp⟩
      | err e d' => exact ⟨[], by simp⟩
      | ok d' rest e =>
        simp only
        by_cases hl : rest.length < buf.length
        case neg => simp only [hl, ↓reduceIte]; exact ⟨[], by simp⟩
        simp only [hl, ↓reduceIte]
        have hd' : (Hpack.afterRepr buf d').emitEnabled = true := by
          rw [Lemmas.Hpack.afterRepr_emitEnabled, (parseRepr_ok_emit _ _ _ _ _ hp).1, hflag, hen]
        -- the callback's next decoder is the plain one as long as the callback leaves emission on
        have hsame' : ∀ b, b = true → { Hpack.afterRepr buf d' with emitEnabled := b } = Hpack.afterRepr buf d' :=
          fun b h => h ▸ core_eta _ hd'
        cases e with
        | none => simpa [Hpack.optToList] using ih _ (Hpack.afterRepr buf d') rest st em rfl (hsame' _)
        | some f =>
          obtain ⟨new, h1, h2, h3⟩ := ih _ (Hpack.afterRepr buf d') rest (metaEmit st (toField f)) (em ++ [f]) rfl
            (hsame' _)
          exact ⟨f :: new, by simpa [Hpack.optToList] using h1, h2, h3⟩

theorem writeLoopCb_lockstep (fuel : Nat) (d : Hpack.DecCore) (buf : List Nat) (st : MetaState)
    (em : List Hpack.Field) (hd : d.emitEnabled = true) (hs : st.enabled = true) :
    ∃ new, (Hpack.writeLoop true fuel d buf em).2.1 = em ++ new ∧
      (writeLoopCb fuel d buf st).2.1 = (new.map toField).foldl metaEmit st ∧
      ((writeLoopCb fuel d buf st).2.1.enabled = true →
        (writeLoopCb fuel d buf st).1 = (Hpack.writeLoop true fuel d buf em).1 ∧
        (writeLoopCb fuel d buf st).2.2 = (Hpack.writeLoop true fuel d buf em).2.2) :=
  writeLoopCb_shadow fuel d d buf st em (hd.trans hs.symm) fun _ => rfl

theorem hdecWrite_frozen (d : Hpack.Decoder) (st : MetaState) (p : List Nat) (h : st.enabled = false) :
    (hdecWrite d st p).2.1 = st := by
  obtain ⟨dec, hdec⟩ := hdecWrite_abstract d st p
  rw [← congrArg Prod.fst hdec]
  exact foldl_disabled dec.fields st h

theorem hdecWrite_flag (d : Hpack.Decoder) (st : MetaState) (p : List Nat) (h : d.emitEnabled = st.enabled) :
    (hdecWrite d st p).1.emitEnabled = (hdecWrite d st p).2.1.enabled := by
  by_cases hp : p = []
  · subst hp; exact h
  · rw [hdecWrite_eq d st hp _ rfl]
    show (Hpack.finishWrite _).1.toDecCore.emitEnabled = _
    rw [Lemmas.Hpack.finishWrite_core]
    exact writeLoopCb_flag _ _ _ st h

/-- `runChunks` stops at a failing `Write`; that loses nothing once the callback has switched emission off. -/
theorem foldl_runChunks_cons (d : Hpack.Decoder) (frag : List Nat) (frs : List (List Nat)) (st : MetaState)
    (hstop : (((d.write frag).2.1.map toField).foldl metaEmit st).enabled = true → (d.write frag).2.2.isSome = false) :
    (((Hpack.runChunks true d (frag :: frs)).2.1).map toField).foldl metaEmit st =
      (((Hpack.runChunks true (d.write frag).1 frs).2.1).map toField).foldl metaEmit
        (((d.write frag).2.1.map toField).foldl metaEmit st) := by
  simp only [Hpack.runChunks]
  rw [show Hpack.Decoder.writeG true d frag = d.write frag from rfl]
  generalize d.write frag = W at hstop
  obtain ⟨d1, em1, r1⟩ := W
  cases r1 with
  | some e =>
    cases hen : ((em1.map toField).foldl metaEmit st).enabled with
    | false => rw [foldl_disabled _ _ hen]
    | true => cases hstop hen
  | none => simp only [List.map_append, List.foldl_append]

theorem hdecWrite_lockstep (d : Hpack.Decoder) (st : MetaState) (p : List Nat)
    (hd : d.emitEnabled = true) (hs : st.enabled = true) :
    (hdecWrite d st p).2.1 = ((d.write p).2.1.map toField).foldl metaEmit st ∧
    ((hdecWrite d st p).2.1.enabled = true →
      (hdecWrite d st p).1 = (d.write p).1 ∧ (hdecWrite d st p).2.2 = (d.write p).2.2.isSome) := by
  by_cases hp : p = []
  · subst hp; exact ⟨rfl, fun _ => ⟨rfl, rfl⟩⟩
  obtain ⟨new, h1, h2, h3⟩ := writeLoopCb_lockstep ((d.saveBuf ++ p).length + 1) d.toDecCore (d.saveBuf ++ p) st []
    hd hs
  rw [hdecWrite_eq d st hp _ rfl, Hpack.Decoder.write, Lemmas.Hpack.writeG_eq true d hp, Lemmas.Hpack.finishWrite_em]
  change (Lemmas.Hpack.loopG true d.toDecCore (d.saveBuf ++ p) []).2.1 = new at h1
  change _ → _ = (Lemmas.Hpack.loopG true d.toDecCore (d.saveBuf ++ p) []).1 ∧
    _ = (Lemmas.Hpack.loopG true d.toDecCore (d.saveBuf ++ p) []).2.2 at h3
  generalize writeLoopCb _ _ _ st = C at h2 h3 ⊢
  generalize Lemmas.Hpack.loopG true d.toDecCore (d.saveBuf ++ p) [] = E at h1 h3 ⊢
  obtain ⟨c, st', cend⟩ := C
  obtain ⟨e1, eem, eend⟩ := E
  subst h1
  refine ⟨h2, fun hen => ?_⟩
  obtain ⟨rfl, rfl⟩ := h3 hen
  unfold Hpack.finishWrite
  cases cend <;> exact ⟨rfl, rfl⟩

theorem hdecWrite_step (d dp : Hpack.Decoder) (st : MetaState) (p : List Nat)
    (hflag : d.emitEnabled = st.enabled) (hsame : st.enabled = true → d = dp) :
    (hdecWrite d st p).2.1 = ((dp.write p).2.1.map toField).foldl metaEmit st ∧
    ((hdecWrite d st p).2.1.enabled = true →
      (hdecWrite d st p).1 = (dp.write p).1 ∧ (hdecWrite d st p).2.2 = (dp.write p).2.2.isSome) := by
  cases hen : st.enabled with
  | false =>
    rw [hdecWrite_frozen d st p hen, foldl_disabled _ _ hen]
    exact ⟨rfl, fun h => by rw [hen] at h; cases h⟩
  | true =>
    cases hsame hen
    exact hdecWrite_lockstep d st p (by rw [hflag, hen]) hen

/-- The loop against a shadow decoder `dp` (emission on); the shadow for the next fragment is
`(dp.write frag).1`. -/
theorem metaLoopH_fields_from (fuel : Nat) (fr : Framer) (d dp : Hpack.Decoder) (st : MetaState) (frag : List Nat)
    (ended : Bool) (bs : List Nat) (done : List (List Nat)) (out : LoopOut)
    (hflag : d.emitEnabled = st.enabled) (hsame : st.enabled = true → d = dp)
    (h : (metaLoopH fuel fr d st frag ended bs done).1 = .ok out) :
    ∃ frs, out.frags = done ++ frag :: frs ∧
      out.st = (((Hpack.runChunks true dp (frag :: frs)).2.1).map toField).foldl metaEmit st := by
  induction fuel generalizing fr d dp st frag ended bs done with
  | zero => simp [metaLoopH] at h
  | succ n ih =>
    unfold metaLoopH at h
    split at h
    · cases h
    split at h
    · cases h
    have hfl := hdecWrite_flag d st frag hflag
    obtain ⟨hst, hlock⟩ := hdecWrite_step d dp st frag hflag hsame
    generalize hdecWrite d st frag = w at h hfl hst hlock
    obtain ⟨d', st', werr⟩ := w
    simp only at h hfl hst hlock
    cases werr with
    | true => simp at h
    | false =>
      simp only [Bool.false_eq_true, ↓reduceIte] at h
      -- this Write did not fail, so the plain one did not either, unless emission is off by now
      have hcons := fun frs => foldl_runChunks_cons dp frag frs st (hst ▸ fun hen => (hlock hen).2.symm)
      rw [← hst] at hcons
      cases ended with
      | true =>
        simp only [↓reduceIte, Except.ok.injEq] at h
        subst h
        exact ⟨[], rfl, (hcons []).symm⟩
      | false =>
        simp only [Bool.false_eq_true, ↓reduceIte] at h
        cases hres : (readFrame fr bs).res with
        | error e => simp [hres] at h
        | ok f =>
          cases f with
          | continuation hc frag' =>
            simp only [hres] at h
            obtain ⟨frs, hfr, hst'⟩ := ih _ d' (dp.write frag).1 st' frag' _ _ (done ++ [frag]) hfl
              (fun hen => (hlock hen).1) h
            exact ⟨frag' :: frs, by rw [hfr, List.append_assoc]; rfl, by rw [hcons, hst']⟩
          | _ => simp [hres] at h

theorem metaLoopH_fields (fuel : Nat) (fr : Framer) (d : Hpack.Decoder) (st : MetaState) (frag : List Nat)
    (ended : Bool) (bs : List Nat) (done : List (List Nat)) (out : LoopOut)
    (hflag : d.emitEnabled = st.enabled)
    (h : (metaLoopH fuel fr d st frag ended bs done).1 = .ok out) :
    ∃ frs, out.frags = done ++ frag :: frs ∧
      out.st = (((Hpack.runChunks true d (frag :: frs)).2.1).map toField).foldl metaEmit st :=
  metaLoopH_fields_from fuel fr d d st frag ended bs done out hflag (fun _ => rfl) h

/-- C07's MetaHeadersFrame clause over actual header-block bytes, from every state of the Framer's
HPACK decoder. -/
theorem readMetaH_guarantees (fr : Framer) (mhls : Nat) (hdec : Hpack.Decoder) (bs : List Nat)
    (h : FrameHeader) (prio : PriorityParam) (fields : List Field) (trunc : Bool)
    (hres : (readMetaH fr mhls hdec bs).res = .ok (.metaHeaders h prio fields trunc)) :
    h.length ≤ fr.maxReadSize ∧ h.streamID ≠ 0 ∧
    PseudoFirst fields ∧
    (∀ f ∈ fields, f.isPseudo = true → f.name ∈ pseudoRequest ∨ f.name ∈ pseudoResponse) ∧
    ((fields.filter Field.isPseudo).map (·.name)).Nodup ∧
    ¬ ((∃ f ∈ fields, f.isPseudo = true ∧ f.name ∈ pseudoRequest) ∧
       (∃ f ∈ fields, f.isPseudo = true ∧ f.name ∈ pseudoResponse)) ∧
    (∀ f ∈ fields, FieldOK f) ∧
    sizeSum fields ≤ maxHeaderListSize mhls := by
  obtain ⟨orc, h1, _, _⟩ := readMetaH_abstract fr mhls hdec bs
  exact readMeta_guarantees fr mhls orc bs h prio fields trunc (h1.trans hres)

/-- The fields of a returned MetaHeadersFrame are what `hpack.Decoder.Write` emits, cut off by the size
rule. `frag` is the fragment of the HEADERS frame and `frs` those of the CONTINUATION frames consumed
(so the proof, through `metaLoopH_fields`; the statement says of `frs` only that there is one). -/
theorem readMetaH_fields (fr : Framer) (mhls : Nat) (hdec : Hpack.Decoder) (bs : List Nat)
    (h : FrameHeader) (prio : PriorityParam) (fields : List Field) (trunc : Bool)
    (hres : (readMetaH fr mhls hdec bs).res = .ok (.metaHeaders h prio fields trunc)) :
    ∃ frag frs, (readFrame fr bs).res = .ok (.headers h prio frag) ∧
      fields = ((((Hpack.runChunks true (prepDecoder hdec mhls) (frag :: frs)).2.1).map toField).foldl metaEmit
                  { remainSize := maxHeaderListSize mhls }).fields ∧
      trunc = ((((Hpack.runChunks true (prepDecoder hdec mhls) (frag :: frs)).2.1).map toField).foldl metaEmit
                  { remainSize := maxHeaderListSize mhls }).truncated ∧
      (trunc = false → fields = ((Hpack.runChunks true (prepDecoder hdec mhls) (frag :: frs)).2.1).map toField) := by
  unfold readMetaH at hres
  cases hrd : (readFrame fr bs).res with
  | error e => simp [hrd] at hres
  | ok f =>
    cases f with
    | headers h0 prio0 frag =>
      simp only [hrd] at hres
      have hflag : (prepDecoder hdec mhls).emitEnabled = ({ remainSize := maxHeaderListSize mhls } : MetaState).enabled := rfl
      have hf := metaLoopH_fields ((readFrame fr bs).rest.length + 1) (readFrame fr bs).fr (prepDecoder hdec mhls)
        { remainSize := maxHeaderListSize mhls } frag (hasFlag h0.flags flagEndHeaders) (readFrame fr bs).rest []
      generalize metaLoopH ((readFrame fr bs).rest.length + 1) (readFrame fr bs).fr (prepDecoder hdec mhls)
        { remainSize := maxHeaderListSize mhls } frag (hasFlag h0.flags flagEndHeaders) (readFrame fr bs).rest [] = L
        at hres hf
      obtain ⟨r1, d1, fr1, rest1⟩ := L
      cases r1 with
      | error e => simp at hres
      | ok out =>
        obtain ⟨frs, _, hst⟩ := hf out hflag rfl
        simp only at hres
        cases hc : out.hdec.close with
        | mk dcl ce =>
          rw [hc] at hres
          cases ce with
          | some e => simp at hres
          | none =>
            simp only at hres
            by_cases hi : out.st.invalid = true
            · simp [hi] at hres
            by_cases hp : checkPseudos out.st.fields = true
            · simp only [hi, hp, Bool.false_eq_true, ↓reduceIte, Bool.not_true, Except.ok.injEq,
                MFrame.metaHeaders.injEq] at hres
              obtain ⟨rfl, rfl, rfl, rfl⟩ := hres
              refine ⟨frag, frs, rfl, by rw [hst], by rw [hst], ?_⟩
              intro htr
              have h0c : Complete [] ({ remainSize := maxHeaderListSize mhls } : MetaState) := by
                intro _ _; exact ⟨rfl, rfl⟩
              have hcomp := foldl_complete
                (((Hpack.runChunks true (prepDecoder hdec mhls) (frag :: frs)).2.1).map toField) [] _ h0c
              rw [← hst] at hcomp
              simpa using (hcomp htr (by simpa using hi)).2
            · simp [hi, hp] at hres
    | _ => simp [hrd] at hres

theorem foldl_not_truncated (fs : List Field) (st : MetaState) (ht : st.truncated = false)
    (hs : sizeSum fs ≤ st.remainSize) : (fs.foldl metaEmit st).truncated = false := by
  induction fs generalizing st with
  | nil => exact ht
  | cons f rest ih =>
    have hsum : sizeSum (f :: rest) = f.size + sizeSum rest := by simp [sizeSum]
    rw [hsum] at hs
    simp only [List.foldl_cons]
    unfold metaEmit
    cases he : st.enabled with
    | false => simp only [Bool.not_false, ↓reduceIte]; exact ih st ht (by omega)
    | true =>
      by_cases hi : metaInvalid st f = true
      · simp only [hi, Bool.not_true, Bool.false_eq_true, ↓reduceIte]
        exact ih _ ht (by simp only; omega)
      have hsz : ¬ f.size > st.remainSize := by omega
      simp only [hi, hsz, Bool.not_true, Bool.false_eq_true, ↓reduceIte]
      exact ih _ ht (by simp only; omega)

/-- `Truncated` is set only if the decoded header list really exceeds MaxHeaderListSize; a list of size
exactly equal to it comes back complete. As in `readMetaH_fields`, `frs` is not tied to the frames read. -/
theorem readMetaH_truncated_only_if_over (fr : Framer) (mhls : Nat) (hdec : Hpack.Decoder) (bs : List Nat)
    (h : FrameHeader) (prio : PriorityParam) (fields : List Field) (trunc : Bool)
    (hres : (readMetaH fr mhls hdec bs).res = .ok (.metaHeaders h prio fields trunc)) :
    ∃ frag frs, (readFrame fr bs).res = .ok (.headers h prio frag) ∧
      (sizeSum (((Hpack.runChunks true (prepDecoder hdec mhls) (frag :: frs)).2.1).map toField) ≤ maxHeaderListSize mhls →
        trunc = false ∧ fields = ((Hpack.runChunks true (prepDecoder hdec mhls) (frag :: frs)).2.1).map toField) := by
  obtain ⟨frag, frs, h1, _, h3, h4⟩ := readMetaH_fields fr mhls hdec bs h prio fields trunc hres
  refine ⟨frag, frs, h1, fun hle => ?_⟩
  have ht : trunc = false := by
    rw [h3]; exact foldl_not_truncated _ _ rfl hle
  exact ⟨ht, h4 ht⟩

theorem metaWrite_not_truncated (st : MetaState) (d : FragDec) (ht : st.truncated = false)
    (hs : sizeSum d.fields ≤ st.remainSize) : (metaWrite st d).1.truncated = false :=
  foldl_not_truncated _ _ ht hs

/-- HEADERS (stream 1, END_HEADERS) with the block `82 84`: `:method: GET`, `:path: /`. -/
example : (readMetaH newFramer 0 (Hpack.Decoder.new 4096) [0, 0, 2, 1, 4, 0, 0, 0, 1, 130, 132]).res
    = .ok (.metaHeaders ⟨2, 1, 4, 1⟩ {} [⟨[58, 109, 101, 116, 104, 111, 100], [71, 69, 84]⟩, ⟨[58, 112, 97, 116, 104], [47]⟩] false) := by
  rfl

end NetVerif.Proofs.C07
