import NetVerif.Model.H2Client
import NetVerif.Proofs.C17
import NetVerif.Proofs.Lemmas.Fold
/-!
C18: HTTP/2 client, GOAWAY handling.
The mechanism (`setGoAway` classification, `canRetryError` / `shouldRetryRequest`, the retry
loop of `roundTripViaPool`, no new stream after GOAWAY for all histories); then soundness of the
trace monitor `accepts18`.
-/
namespace NetVerif.Proofs.C18
open NetVerif.Model.H2Client
open NetVerif.Proofs.C17 (step run Act)

theorem classify_keep_iff (last code id : Nat) : classify last code id = .keep ↔ id ≤ last := by
  unfold classify
  split
  · exact ⟨fun _ => ‹id ≤ last›, fun _ => rfl⟩
  · split <;> exact ⟨fun h => (nomatch h), fun h => absurd h ‹¬ id ≤ last›⟩

theorem classify_failFirst_iff (last code id : Nat) :
    classify last code id = .failFirst ↔ last < id ∧ id = 1 ∧ code ≠ 0 := by
  unfold classify
  split
  · exact ⟨fun h => (nomatch h), fun h => by omega⟩
  · split
    · exact ⟨fun _ => ⟨by omega, ‹id = 1 ∧ code ≠ 0›⟩, fun _ => rfl⟩
    · exact ⟨fun h => (nomatch h), fun h => absurd h.2 ‹¬ (id = 1 ∧ code ≠ 0)›⟩

theorem classify_retryable_iff (last code id : Nat) :
    classify last code id = .retryable ↔ last < id ∧ ¬(id = 1 ∧ code ≠ 0) := by
  unfold classify
  split
  · exact ⟨fun h => (nomatch h), fun h => by omega⟩
  · split
    · exact ⟨fun h => (nomatch h), fun h => absurd ‹id = 1 ∧ code ≠ 0› h.2⟩
    · exact ⟨fun _ => ⟨by omega, ‹¬ (id = 1 ∧ code ≠ 0)›⟩, fun _ => rfl⟩

/-- C18, exactly one verdict per in-flight stream: the verdict list of `setGoAway` is
`cc.streams` itself, each paired with the value of the total function `classify`. -/
theorem setGoAway_one_verdict_per_stream (c : CC) (last code : Nat) :
    (c.setGoAway last code).2.map Prod.fst = c.streams ∧
    ∀ p ∈ (c.setGoAway last code).2, p.2 = classify last (mergeCode c code) p.1 := by
  constructor
  · simp [CC.setGoAway, List.map_map, Function.comp_def]
  · intro p hp
    simp [CC.setGoAway] at hp
    obtain ⟨id, _, rfl⟩ := hp
    rfl

/-- The literal statement of C18 for the streams above last-stream-id. -/
def AllAboveLastRetryable : Prop :=
  ∀ last code id : Nat, last < id → classify last code id = .retryable

/-- It is false of the code as it is: stream 1 with a non-NO error code is failed, not retried
(by design, see the comment in `setGoAway`). Witness: GOAWAY(last = 0, code = 2), stream 1. -/
theorem full_false : ¬ AllAboveLastRetryable := by
  intro h
  have := h 0 2 1 (by omega)
  simp [classify] at this

theorem holds_partial (last code id : Nat) (h : last < id) (hx : ¬(id = 1 ∧ code ≠ 0)) :
    classify last code id = .retryable :=
  (classify_retryable_iff last code id).mpr ⟨h, hx⟩

/-- C18, retry iff replayable: `errClientConnGotGoAway` is retryable, and the request is replayed unless it has a body
that cannot be re-obtained. -/
theorem gotGoAway_retry_iff (b : BodyK) : shouldRetry b .gotGoAway = true ↔ b ≠ .once := by
  cases b <;> simp [shouldRetry, canRetryError]

theorem unusable_always_retried (b : BodyK) : shouldRetry b .unusable = true := by
  cases b <;> simp [shouldRetry, canRetryError]

theorem other_never_retried (b : BodyK) : shouldRetry b .other = false := by
  cases b <;> simp [shouldRetry, canRetryError]

/-- The loop of `roundTripViaPool`: one attempt per element of `outs` (`none` = a response or
a final error from the pool), continuing only after a retryable failure and `retry <= 6`.
Returns the number of attempts made. The 6 is copied by hand from transport_common.go
(`if err != nil && retry <= 6`); `Gen/C17` regenerates no counterpart, so no check ties it. -/
def attempts (b : BodyK) : Nat → List (Option ErrK) → Nat
  | _, [] => 0
  | retry, o :: rest =>
    1 + (match o with
         | some e => if retry ≤ 6 ∧ shouldRetry b e = true then attempts b (retry + 1) rest else 0
         | none => 0)

def retryableCount (b : BodyK) (outs : List (Option ErrK)) : Nat :=
  (outs.filter (fun o => match o with | some e => shouldRetry b e | none => false)).length

/-- C18: at most one extra attempt per retryable failure. -/
theorem attempts_le_retryable (b : BodyK) (retry : Nat) (outs : List (Option ErrK)) :
    attempts b retry outs ≤ 1 + retryableCount b outs := by
  induction outs generalizing retry with
  | nil => simp [attempts]
  | cons o rest ih =>
    simp only [attempts]
    cases o with
    | none => simp
    | some e =>
      by_cases h : retry ≤ 6 ∧ shouldRetry b e = true
      · have ih' := ih (retry + 1)
        have hf : retryableCount b (some e :: rest) = retryableCount b rest + 1 := by
          simp [retryableCount, h.2]
        dsimp only
        rw [if_pos h, hf]
        omega
      · dsimp only
        rw [if_neg h]
        omega

/-- At most 8 attempts in all, counted from `retry = 0` (`roundTripViaPool` goes round again only
while `retry <= 6`); the second disjunct is for a start beyond 7, where the one attempt is still made. -/
theorem attempts_bounded (b : BodyK) (retry : Nat) (outs : List (Option ErrK)) :
    attempts b retry outs ≤ 8 - retry ∨ attempts b retry outs ≤ 1 := by
  induction outs generalizing retry with
  | nil => right; simp [attempts]
  | cons o rest ih =>
    simp only [attempts]
    cases o with
    | none => right; simp
    | some e =>
      by_cases h : retry ≤ 6 ∧ shouldRetry b e = true
      · simp only [h, and_self, if_true]
        rcases ih (retry + 1) with h1 | h1
        · left; omega
        · left; omega
      · right; simp [h]

theorem goaway_blocks_open (c : CC) (h : c.goAway = true) : step c .openStream = none := by
  simp only [step]
  split
  · rename_i hgo
    exfalso
    have hcl := C17.await_go_not_closed c hgo
    unfold CC.await at hgo
    simp [hcl] at hgo
    split at hgo
    · cases hgo
    · rename_i hidle
      simp at hidle
      unfold CC.idleCanTake at hidle
      simp [CC.isUsable, h, hcl] at hidle
  · rfl

theorem step_goAway_sticky (c c' : CC) (a : Act) (hs : step c a = some c') (h : c.goAway = true) :
    c'.goAway = true :=
  (C17.step_frame c c' a hs).2 h

/-- C18, first clause, for all histories after GOAWAY has been processed: the log of opened IDs stays empty. -/
theorem no_stream_after_goaway (c : CC) (h : c.goAway = true) (acts : List Act) (c' : CC)
    (log : List Nat) (hr : run c acts = some (c', log)) : log = [] := by
  induction acts generalizing c c' log with
  | nil => simp [run] at hr; exact hr.2
  | cons a as ih =>
    obtain ⟨c1, log2, hs, hr2, rfl⟩ := C17.run_cons hr
    have hl := ih c1 (step_goAway_sticky c c1 a hs h) c' log2 hr2
    by_cases ha : a = .openStream
    · subst ha
      rw [goaway_blocks_open c h] at hs
      cases hs
    · rw [if_neg ha, hl]

theorem no_stream_after_setGoAway (c : CC) (last code : Nat) (acts : List Act) (c' : CC)
    (log : List Nat) (hr : run (c.setGoAway last code).1 acts = some (c', log)) : log = [] :=
  no_stream_after_goaway _ (by simp [CC.setGoAway]) acts c' log hr

/-- The pool never hands out a connection that has received GOAWAY (unless it is the closed,
never-used kind that fails its one request without opening a stream). -/
theorem goaway_not_selected (c : CC) (h : c.goAway = true) (hr : c.reserve.1 = true) :
    c.nextID = 1 ∧ c.closed = true := by
  unfold CC.reserve at hr
  split at hr
  · rename_i hc
    unfold CC.idleCanTake at hc
    simp [CC.isUsable, h] at hc
    exact ⟨hc.2.1.1.1, hc.2.1.2⟩
  · cases hr

/-! T-tie: the conditions of `setGoAway` / `canRetryError` regenerated from the Go source -/

theorem gen_classify_eq (last code id : Nat) :
    classify last code id =
      if NetVerif.Gen.C17.goAwayKeeps id last then .keep
      else if NetVerif.Gen.C17.goAwayFailsFirst id code then .failFirst else .retryable := by
  have k : NetVerif.Gen.C17.goAwayKeeps id last = true ↔ id ≤ last := decide_eq_true_iff
  have f : NetVerif.Gen.C17.goAwayFailsFirst id code = true ↔ id = 1 ∧ code ≠ 0 := by
    simp [NetVerif.Gen.C17.goAwayFailsFirst]
  unfold classify
  by_cases h1 : id ≤ last
  · rw [if_pos h1, if_pos (k.mpr h1)]
  · rw [if_neg h1, if_neg (mt k.mp h1)]
    by_cases h2 : id = 1 ∧ code ≠ 0
    · rw [if_pos h2, if_pos (f.mpr h2)]
    · rw [if_neg h2, if_neg (mt f.mp h2)]

/-- exactly the two sentinel errors the model's `canRetryError` accepts (besides REFUSED_STREAM) -/
theorem gen_retrySentinels_eq :
    NetVerif.Gen.C17.retrySentinels = ["errClientConnUnusable", "errClientConnGotGoAway"] ∧
    canRetryError .unusable = true ∧ canRetryError .gotGoAway = true ∧ canRetryError .other = false := by
  exact ⟨rfl, rfl, rfl, rfl⟩

theorem gen_retryStreamCode_eq : NetVerif.Gen.C17.retryStreamCode = 7 ∧ canRetryError .refusedStream = true :=
  ⟨rfl, rfl⟩

example : classify 3 0 5 = .retryable := by decide
example : classify 3 0 3 = .keep := by decide
example : classify 0 2 1 = .failFirst := by decide
example : attempts .replayable 0 [some .gotGoAway, some .gotGoAway, none] = 3 := by decide
example : attempts .once 0 [some .gotGoAway, none] = 1 := by decide

/-- The property of a whole trace: every event passes `check18` in the state reached by the
events before it. -/
def Prop18 (strict : Bool) (tr : List Ev) : Prop :=
  ∀ pre e post, tr = pre ++ e :: post → check18 (specState18 strict pre) e = true

theorem run18_ok (s s' : S18) (tr : List Ev) (h : run18 s tr = .ok s') :
    ∀ pre e post, tr = pre ++ e :: post → check18 (pre.foldl S18.upd s) e = true := by
  intro pre e post hp
  subst hp
  refine Lemmas.run_check (run := fun s tr => (run18 s tr).toBool) (fun s a as => ?_) pre s e post
    (congrArg Except.toBool h)
  show (run18 s (a :: as)).toBool = _
  rw [run18]
  cases check18 s a <;> rfl

theorem accepted18_prop (strict : Bool) (tr : List Ev) (h : accepts18 strict tr = true) :
    Prop18 strict tr := by
  unfold accepts18 at h
  split at h
  · rename_i s' hr
    intro pre e post hp
    simpa [specState18] using run18_ok _ s' tr hr pre e post hp
  · cases h

theorem fold_strict (s : S18) (tr : List Ev) : (tr.foldl S18.upd s).strict = s.strict := by
  induction tr generalizing s with
  | nil => rfl
  | cons a as ih => exact ih (s.upd a)

theorem fold_w (s : S18) (tr : List Ev) (c : Nat) :
    (tr.foldl S18.upd s).w c = tr.foldl (fun w e => w.upd c e) (s.w c) := by
  induction tr generalizing s with
  | nil => rfl
  | cons a as ih => exact ih (s.upd a)

theorem spec_w (strict : Bool) (tr : List Ev) (c : Nat) :
    (specState18 strict tr).w c = wireState c tr := by
  simp [specState18, wireState, fold_w]

theorem upd_goneAway_sticky (w : WConn) (c : Nat) (e : Ev) (h : w.goneAway = true) :
    (w.upd c e).goneAway = true := by
  cases e with
  | goaway => exact Lemmas.ite_ind (fun x : WConn => x.goneAway = true) (fun _ => rfl) fun _ => h
  -- the other updates conditional on the connection keep the flag in both branches
  | pick | hdr | cend | crst | srst | sresp | sdata | setMax | sclose =>
    exact Lemmas.ite_ind (fun x : WConn => x.goneAway = true) (fun _ => h) fun _ => h
  | _ => exact h

theorem goneAway_of_mem (c last code : Nat) (tr : List Ev) (h : Ev.goaway c last code ∈ tr) :
    (wireState c tr).goneAway = true := by
  obtain ⟨pre, post, rfl⟩ := List.append_of_mem h
  simp only [wireState, List.foldl_append, List.foldl_cons]
  refine Lemmas.foldl_inv _ (·.goneAway = true) (fun w e => upd_goneAway_sticky w c e) _ _ ?_
  simp [WConn.upd]

/-- C18, first clause on accepted traces. -/
theorem accepted18_no_stream_after_goaway (strict : Bool) (tr pre post : List Ev)
    (c id r last code : Nat) (es : Bool) (h : accepts18 strict tr = true)
    (hp : tr = pre ++ .hdr c id r es :: post) : Ev.goaway c last code ∉ pre := by
  intro hm
  have hc := accepted18_prop strict tr h pre _ post hp
  have hg := goneAway_of_mem c last code pre hm
  simp only [check18, Bool.and_eq_true] at hc
  have := (C17.wireCheck_hdr hc.1).2.2.2
  rw [spec_w, hg] at this
  cases this

theorem accepted18_no_pick_after_goaway (strict : Bool) (tr pre post : List Ev)
    (c r last code : Nat) (f : Bool) (h : accepts18 strict tr = true)
    (hp : tr = pre ++ .pick r c f :: post) : Ev.goaway c last code ∉ pre := by
  intro hm
  have hc := accepted18_prop strict tr h pre _ post hp
  have hg := goneAway_of_mem c last code pre hm
  simp only [check18, Bool.and_eq_true] at hc
  have := (C17.wireCheck_pick hc.1).2
  rw [spec_w, hg] at this
  cases this

theorem bump_conns (rs : Nat → RSt) (l : List Nat) (r : Nat) : (bump rs l r).conns = (rs r).conns := by
  simp only [bump]
  split <;> rfl

theorem upd_conns_mono (s : S18) (e : Ev) (r c : Nat) (h : c ∈ (s.rs r).conns) :
    c ∈ ((s.upd e).rs r).conns := by
  have set : ∀ (r' : Nat) (q : RSt), (r = r' → c ∈ q.conns) → c ∈ (setAt s.rs r' q r).conns :=
    fun r' q hq => Lemmas.ite_ind (fun x : RSt => c ∈ x.conns) hq fun _ => h
  cases e with
  | hdr c' _ r' _ => exact set r' _ fun hr => List.mem_cons_of_mem _ (hr ▸ h)
  | req r' _ => exact set r' _ fun hr => hr ▸ h
  | cancel r' => exact set r' _ fun hr => hr ▸ h
  | pick r' _ _ => exact set r' _ fun hr => hr ▸ h
  | done r' _ => exact set r' _ fun hr => hr ▸ h
  | goaway _ _ _ => exact (bump_conns _ _ _).symm ▸ h
  | sclose _ => exact (bump_conns _ _ _).symm ▸ h
  | _ => exact h

/-- C18 on accepted traces: a request is never sent twice on the same connection. -/
theorem accepted18_distinct_conns (strict : Bool) (tr pre mid post : List Ev)
    (c id c' id' r : Nat) (es es' : Bool) (h : accepts18 strict tr = true)
    (hp : tr = pre ++ .hdr c id r es :: (mid ++ .hdr c' id' r es' :: post)) : c ≠ c' := by
  intro hcc
  subst hcc
  have hc := accepted18_prop strict tr h (pre ++ .hdr c id r es :: mid) (.hdr c id' r es') post (by simp [hp])
  simp only [check18, Bool.and_eq_true, Bool.not_eq_true'] at hc
  have hnot := hc.2
  have hin : c ∈ ((specState18 strict (pre ++ .hdr c id r es :: mid)).rs r).conns := by
    simp only [specState18, List.foldl_append, List.foldl_cons]
    refine Lemmas.foldl_inv _ (fun s => c ∈ (s.rs r).conns) (fun s e => upd_conns_mono s e r c) _ _ ?_
    simp [S18.upd, setAt]
  simp [List.contains_eq_mem, hin] at hnot

/-- C18 on accepted traces: the pool is asked for a connection for request `r` only while the
request has a selection left: the first one, plus one per abort classified retryable for a
replayable request, plus one per GOAWAY and per close of a connection the request is queued on
(neither event clears `pend`, so a GOAWAY and then the close of one connection grant two).
In this theorem and the three after it, `credits`, `owe` and `keep` are the monitor's own bookkeeping:
`S18.upd` is the specification of when a selection, an obligation or a kept stream arises, and the
theorem reads off what `check18` then demands. -/
theorem accepted18_pick_within_credits (strict : Bool) (tr pre post : List Ev) (r c : Nat) (f : Bool)
    (h : accepts18 strict tr = true) (hp : tr = pre ++ .pick r c f :: post) :
    ((specState18 strict pre).rs r).picks < ((specState18 strict pre).rs r).credits := by
  have hc := accepted18_prop strict tr h pre _ post hp
  simp only [check18, Bool.and_eq_true, decide_eq_true_eq] at hc
  exact hc.2

/-- C18 on accepted traces: at the end of every step nothing is owed — every stream a GOAWAY
did not cover has been abandoned, every replayable request has been handed to the pool again,
every other one has returned the error the classification prescribes. -/
theorem accepted18_step_discharged (strict : Bool) (tr pre post : List Ev)
    (h : accepts18 strict tr = true) (hp : tr = pre ++ .eol :: post) :
    (specState18 strict pre).owe = [] := by
  have hc := accepted18_prop strict tr h pre _ post hp
  simpa [check18] using hc

/-- C18 on accepted traces: a GOAWAY / connection error is returned by RoundTrip only when a
GOAWAY or close classified the request that way (nothing fails silently for another reason). -/
theorem accepted18_errors_explained (strict : Bool) (tr pre post : List Ev) (r : Nat) (k : DoneK)
    (h : accepts18 strict tr = true) (hp : tr = pre ++ .done r k :: post) (hk : errKind k = true) :
    Owe.fail r k ∈ (specState18 strict pre).owe := by
  have hc := accepted18_prop strict tr h pre _ post hp
  simp only [check18, hk, Bool.not_true, Bool.false_or] at hc
  simpa [List.contains_eq_mem] using hc

/-- C18 on accepted traces: streams covered by the GOAWAY of the current step are not reset. -/
theorem accepted18_kept_not_reset (strict : Bool) (tr pre post : List Ev) (c id code : Nat)
    (h : accepts18 strict tr = true) (hp : tr = pre ++ .crst c id code :: post) :
    (c, id) ∉ (specState18 strict pre).keep := by
  have hc := accepted18_prop strict tr h pre _ post hp
  simpa [check18, List.contains_eq_mem] using hc

/-! Non-vacuity: a GOAWAY that aborts one replayable and one non-replayable request. -/
def demo18 : List Ev :=
  [.req 0 .none, .req 1 .once, .pick 0 0 true, .hdr 0 1 0 true, .pick 1 0 false, .hdr 0 3 1 false, .eol,
   .goaway 0 1 0, .crst 0 3 8, .done 1 .noReplay, .eol,
   .goaway 0 0 0, .crst 0 1 8, .pick 0 1 true, .hdr 1 1 0 true, .eol]

example : accepts18 false demo18 = true := by decide
-- the aborted request is dropped (no new selection): rejected at the end of the step
example : accepts18 false [.req 0 .none, .pick 0 0 true, .hdr 0 1 0 true, .eol,
    .goaway 0 0 0, .crst 0 1 8, .eol] = false := by decide
-- a connection is selected after its GOAWAY: rejected
example : accepts18 false [.req 0 .none, .req 1 .none, .pick 0 0 true, .hdr 0 1 0 true, .eol,
    .goaway 0 1 0, .eol, .pick 1 0 false] = false := by decide
-- a server reset grants no selection (only GOAWAY and close do): the second `pick` is rejected
example : accepts18 false [.req 0 .none, .pick 0 0 true, .hdr 0 1 0 true, .eol,
    .srst 0 1 7, .pick 0 0 false, .hdr 0 3 0 true] = false := by decide

end NetVerif.Proofs.C18
