import NetVerif.Model.H2Server
import NetVerif.Gen.C15
import NetVerif.Proofs.Lemmas.Fold
/-!
C16 — HTTP/2 server survives any client byte stream.

What is PROVED here is the accounting mechanism that bounds the control-frame queue
(`queuedControlFrames` against `maxQueuedControlFrames`, for every interleaving of control-frame
pushes, pops and end-of-iteration checks of the serve loop) and the soundness of the observation
monitor. Absence of panics and deadlocks in the real goroutines is SEARCHED by the fuzzing
harness (harness/C16), not proved.
-/
namespace NetVerif.Proofs.C16
open NetVerif.Model.H2Server

/-- pushes since the last `check` (or since the start), read off the history -/
def pushesSinceCheck : List QOp → Nat
  | [] => 0
  | ops => (ops.reverse.takeWhile (· != QOp.check)).countP (· == QOp.push)

theorem step_closed (q : CtlQ) (op : QOp) (h : q.closed = true) : q.step op = q := by
  cases op <;> simp [CtlQ.step, h]

theorem ctlq_step_inv (q : CtlQ) (op : QOp)
    (h : q.closed = false → q.queued ≤ maxQueuedControlFrames + q.sinceCheck) :
    (q.step op).closed = false → (q.step op).queued ≤ maxQueuedControlFrames + (q.step op).sinceCheck := by
  cases hc : q.closed with
  | true => rw [step_closed q op hc]; exact h
  | false =>
    have := h hc
    cases op <;> simp only [CtlQ.step, hc, Bool.false_eq_true, ↓reduceIte]
    · omega
    · omega
    · by_cases hq : q.queued > maxQueuedControlFrames
      · simp [hq]
      · simp only [hq, ↓reduceIte]
        omega

/-- For every history of the serve loop, as long as the connection has not been closed by the check,
`queuedControlFrames ≤ maxQueuedControlFrames + (control frames queued in the current loop iteration)`;
the latter is the model's ghost field `sinceCheck`. -/
theorem ctlq_invariant (ops : List QOp) :
    (CtlQ.run {} ops).closed = false →
      (CtlQ.run {} ops).queued ≤ maxQueuedControlFrames + (CtlQ.run {} ops).sinceCheck :=
  Lemmas.foldl_inv CtlQ.step (fun q => q.closed = false → q.queued ≤ maxQueuedControlFrames + q.sinceCheck)
    ctlq_step_inv ops {} (by simp)

/-- C16's counter clause, at the end of every iteration of the serve loop (history ending with the check). -/
theorem ctlq_after_check (ops : List QOp) :
    (CtlQ.run {} (ops ++ [QOp.check])).closed = true ∨
    (CtlQ.run {} (ops ++ [QOp.check])).queued ≤ maxQueuedControlFrames := by
  simp only [CtlQ.run, List.foldl_append, List.foldl_cons, List.foldl_nil]
  generalize List.foldl CtlQ.step {} ops = q
  cases hc : q.closed with
  | true => exact .inl (by rw [step_closed q _ hc]; exact hc)
  | false =>
    simp only [CtlQ.step, hc, Bool.false_eq_true, ↓reduceIte]
    by_cases hq : q.queued > maxQueuedControlFrames
    · simp [hq]
    · simp only [hq, ↓reduceIte]
      omega

theorem ctlq_closed_stable (q : CtlQ) (ops : List QOp) (h : q.closed = true) : CtlQ.run q ops = q :=
  Lemmas.foldl_inv CtlQ.step (· = q) (fun _ op hs => hs ▸ step_closed q op h) ops q rfl

/-- with at most `k` control frames queued per loop iteration the counter stays below
`maxQueuedControlFrames + k` (the design's "+1" for one frame per iteration). -/
theorem ctlq_bounded (ops : List QOp) (k : Nat)
    (hk : (CtlQ.run {} ops).sinceCheck ≤ k) (hopen : (CtlQ.run {} ops).closed = false) :
    (CtlQ.run {} ops).queued ≤ maxQueuedControlFrames + k := by
  have := ctlq_invariant ops hopen
  omega

/-- the limit the model uses is the one in server.go -/
theorem gen_maxQueued_eq : NetVerif.Gen.C15.maxQueuedControlFrames = maxQueuedControlFrames ∧
    NetVerif.Gen.C15.ctlOp = ">" := by decide

/-- C16 on the observations of one connection: no panic, no deadlock, not stuck (served, or ended by
GOAWAY / close within the bound); control queue and handlers bounded at every sample. -/
def Survives (c : CaseObs) : Prop :=
  (c.outcome = .served ∨ c.outcome = .goaway ∨ c.outcome = .closed) ∧
  (∀ x ∈ c.samples, (x.alive = true → x.queued ≤ maxQueuedControlFrames) ∧ x.handlers ≤ c.adv ∧ x.running ≤ c.adv) ∧
  c.maxQueued ≤ maxQueuedControlFrames ∧ c.maxHandlers ≤ c.adv

theorem accept_sound (c : CaseObs) (h : c.accept = true) : Survives c := by
  unfold CaseObs.accept at h
  simp only [Bool.and_eq_true, decide_eq_true_eq] at h
  obtain ⟨⟨⟨h1, h2⟩, h3⟩, h4⟩ := h
  refine ⟨?_, ?_, h3, h4⟩
  · cases ho : c.outcome <;> simp [ho, Outcome.acceptable] at h1 ⊢
  · intro x hx
    have := List.all_eq_true.mp h2 x hx
    unfold Sample.ok at this
    simp only [Bool.and_eq_true, Bool.or_eq_true, Bool.not_eq_true', decide_eq_true_eq] at this
    obtain ⟨⟨a, b⟩, c'⟩ := this
    refine ⟨?_, b, c'⟩
    intro ha
    rcases a with a | a
    · simp [ha] at a
    · exact a

theorem panic_rejected (c : CaseObs) (h : c.outcome = .panic ∨ c.outcome = .deadlock ∨ c.outcome = .stuck) :
    c.accept = false := by
  unfold CaseObs.accept
  rcases h with h | h | h <;> simp [h, Outcome.acceptable]

example : (CtlQ.run {} [.push, .push, .pop, .check]).queued = 1 := by decide
example : (⟨5, [⟨3, 1, 1, true⟩], .goaway, 3, 1⟩ : CaseObs).accept = true := by decide
example : (⟨5, [⟨10001, 1, 1, true⟩], .goaway, 3, 1⟩ : CaseObs).accept = false := by decide

end NetVerif.Proofs.C16
