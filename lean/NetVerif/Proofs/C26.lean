import NetVerif.Model.LossState
import NetVerif.Proofs.Lemmas.Fold
/-!
C26 — QUIC loss recovery accounts for every sent packet exactly once.

Theorems over the model `Model/LossState.lean` of quic/loss.go + sent_packet_list.go +
congestion_reno.go, for ALL histories of send / skip / ACK-range / ACK-end / timer /
discard operations and ALL values of the RTT-estimator inputs (`ld`, `fst`, `pcd`).
-/
namespace NetVerif.Proofs.C26
open NetVerif NetVerif.Model.LossState

inductive Op where
  | send (space : Nat) (size : Int) (ackEliciting inFlight : Bool) (now : Int)
  | skip (space : Nat) (now : Int)
  | ackRange (space : Nat) (start end_ : Int)
  | ackEnd (space : Nat) (now ld : Int) (fst : Option Int) (pcd : Int)
  | advance (now ld : Int) (fst : Option Int)
  | discardPackets (space : Nat)
  | discardKeys (space : Nat)
  | setUnderutilized (v : Bool)

/-- One operation: new state and the ack/loss callbacks it made. -/
def step (l : Loss) : Op → Loss × List Callback
  | .send sp size ae inf now => (l.packetSent sp size ae inf now, [])
  | .skip sp now => (l.skipNumber sp now, [])
  | .ackRange sp a b => let r := l.receiveAckRange sp a b; (r.1, r.2.1)
  | .ackEnd sp now ld fst pcd => l.receiveAckEnd sp now ld fst pcd
  | .advance now ld fst => l.advance now ld fst
  | .discardPackets sp => l.discardPackets sp
  | .discardKeys sp => (l.discardKeys sp, [])
  | .setUnderutilized v => (l.setUnderutilized v, [])

def run (l : Loss) (ops : List Op) : Loss := ops.foldl (fun l op => (step l op).1) l

def Op.Valid : Op → Prop
  | .send _ size _ _ _ => 0 ≤ size
  | _ => True

/-- Contribution of one tracked packet to bytes in flight: its size if it is in flight and has
no fate yet (`state = sent`). -/
def pktFlight (p : Pkt) : Int := if p.inFlight ∧ p.state = .sent then p.size else 0

def flightSum : List Pkt → Int
  | [] => 0
  | p :: rest => pktFlight p + flightSum rest

def lossFlight (l : Loss) : Int := flightSum l.s0.pkts + flightSum l.s1.pkts + flightSum l.s2.pkts

theorem flightSum_append (a b : List Pkt) : flightSum (a ++ b) = flightSum a + flightSum b := by
  induction a with
  | nil => simp [flightSum]
  | cons p rest ih => simp [flightSum, ih]; omega

theorem flightSum_nonneg (ps : List Pkt) (h : ∀ p ∈ ps, 0 ≤ p.size) : 0 ≤ flightSum ps := by
  induction ps with
  | nil => simp [flightSum]
  | cons p rest ih =>
    have h1 := h p List.mem_cons_self
    have h2 := ih (fun q hq => h q (List.mem_cons_of_mem _ hq))
    simp only [flightSum, pktFlight]
    split <;> omega

theorem clean_split (ps : List Pkt) : ∃ pre, ps = pre ++ cleanList ps ∧ ∀ p ∈ pre, p.state ≠ .sent := by
  induction ps with
  | nil => exact ⟨[], rfl, by simp⟩
  | cons p rest ih =>
    simp only [cleanList]
    split
    · exact ⟨[], rfl, by simp⟩
    · rename_i hp
      obtain ⟨pre, e, h⟩ := ih
      exact ⟨p :: pre, by rw [List.cons_append, ← e], List.forall_mem_cons.2 ⟨hp, h⟩⟩

theorem flightSum_settled (ps : List Pkt) (h : ∀ p ∈ ps, p.state ≠ .sent) : flightSum ps = 0 := by
  induction ps with
  | nil => rfl
  | cons p rest ih =>
    simp only [flightSum, pktFlight, h p List.mem_cons_self, and_false, if_false,
      ih fun q hq => h q (List.mem_cons_of_mem _ hq), Int.add_zero]

theorem flightSum_clean (ps : List Pkt) : flightSum (cleanList ps) = flightSum ps := by
  obtain ⟨pre, e, h⟩ := clean_split ps
  conv => rhs; rw [e, flightSum_append, flightSum_settled pre h, Int.zero_add]

/-- What the walks leave alone in the controller: the two fields, besides `bytesInFlight`, that `AcctInv` speaks of. -/
structure CCSame (c c' : CC) : Prop where
  mds : c'.mds = c.mds
  cwnd : c'.cwnd = c.cwnd

theorem CCSame.trans {a b c : CC} (h1 : CCSame a b) (h2 : CCSame b c) : CCSame a c :=
  ⟨by rw [h2.mds, h1.mds], by rw [h2.cwnd, h1.cwnd]⟩

theorem CCSame.refl (a : CC) : CCSame a a := ⟨rfl, rfl⟩

theorem packetAcked_spec (c : CC) (p : Pkt) :
    (c.packetAcked p).bytesInFlight = c.bytesInFlight - (if p.inFlight then p.size else 0) ∧ CCSame c (c.packetAcked p) := by
  unfold CC.packetAcked
  cases hp : p.inFlight <;> simp
  · exact ⟨rfl, rfl⟩
  · -- the inner `if`s decide only whether `pendingAcks` grows
    repeat' split
    all_goals exact ⟨rfl, ⟨rfl, rfl⟩⟩

theorem setPc_same (c : CC) (i : Nat) (pc : PC) :
    (c.setPc i pc).bytesInFlight = c.bytesInFlight ∧ (c.setPc i pc).mds = c.mds ∧ (c.setPc i pc).cwnd = c.cwnd := by
  unfold CC.setPc; split <;> simp

theorem packetLost_spec (c : CC) (sp : Nat) (p : Pkt) (fst : Option Int) :
    (c.packetLost sp p fst).bytesInFlight = c.bytesInFlight - (if p.inFlight then p.size else 0) ∧
    CCSame c (c.packetLost sp p fst) := by
  unfold CC.packetLost
  obtain ⟨h1, h2, h3⟩ := setPc_same c sp (pcAfterLoss (c.pc sp) p fst)
  cases hp : p.inFlight <;> simp
  · exact ⟨h1, ⟨h2, h3⟩⟩
  · exact ⟨by omega, ⟨h2, h3⟩⟩

theorem packetDiscarded_spec (c : CC) (p : Pkt) :
    (c.packetDiscarded p).bytesInFlight = c.bytesInFlight - (if p.inFlight then p.size else 0) ∧
    CCSame c (c.packetDiscarded p) := by
  unfold CC.packetDiscarded
  split <;> simp <;> exact ⟨rfl, rfl⟩

theorem packetSent_spec (c : CC) (p : Pkt) :
    (c.packetSent p).bytesInFlight = c.bytesInFlight + (if p.inFlight then p.size else 0) ∧
    CCSame c (c.packetSent p) := by
  unfold CC.packetSent
  split <;> simp <;> exact ⟨rfl, rfl⟩


/-- How one tracked packet may change within one operation: not at all, or from `sent` to a
final state (`acked` / `lost`). Nothing else about the packet changes. -/
def PktEvolves (p p' : Pkt) : Prop :=
  p' = p ∨ (p.state = .sent ∧ (p' = { p with state := .acked } ∨ p' = { p with state := .lost }))

/-- What `settles_final` is stated over; the same relation as `PktEvolves`. It is what `Marks.keep` / `Marks.settle` do to
one packet when `T` allows only `acked` and `lost`, but no lemma derives it from `Marks`, the walks or `step`. -/
def Settles (p p' : Pkt) : Prop :=
  p' = p ∨ (p.state = .sent ∧ (p' = { p with state := .acked } ∨ p' = { p with state := .lost }))

/-- A walk over the sent-packet list: some `sent` packets get a state allowed by `T`, and their numbers are
reported in list order; `done` is the `break` (and the end of the list). -/
inductive Marks (T : PState → Prop) : List Pkt → List Pkt → List Int → Prop
  | done (ps : List Pkt) : Marks T ps ps []
  | keep (p : Pkt) {ps ps' : List Pkt} {ns : List Int} : Marks T ps ps' ns → Marks T (p :: ps) (p :: ps') ns
  | settle {p : Pkt} {st : PState} {ps ps' : List Pkt} {ns : List Int} : p.state = .sent → T st →
      Marks T ps ps' ns → Marks T (p :: ps) ({ p with state := st } :: ps') (p.num :: ns)

/-- What a walk from controller `cc` over `ps` establishes; `ns` are the packet numbers it reports. `flight` is the
idea of the accounting half: `bytesInFlight − flightSum` is the same before and after, because the controller is
charged `p.size` exactly when an in-flight `p` leaves `sent` (`walk_settle`). -/
structure Walk (T : PState → Prop) (cc : CC) (ps : List Pkt) (cc' : CC) (ps' : List Pkt) (ns : List Int) : Prop where
  flight : cc'.bytesInFlight - flightSum ps' = cc.bytesInFlight - flightSum ps
  same : CCSame cc cc'
  marks : Marks T ps ps' ns

theorem walk_refl (T : PState → Prop) (cc : CC) (ps : List Pkt) : Walk T cc ps cc ps [] :=
  ⟨rfl, CCSame.refl cc, .done ps⟩

theorem walk_keep {T : PState → Prop} {cc cc' : CC} {ps ps' : List Pkt} {ns : List Int} (p : Pkt)
    (h : Walk T cc ps cc' ps' ns) : Walk T cc (p :: ps) cc' (p :: ps') ns :=
  ⟨by have := h.flight; simp only [flightSum]; omega, h.same, .keep p h.marks⟩

theorem walk_settle {T : PState → Prop} {st : PState} {cc cc1 cc' : CC} {ps ps' : List Pkt} {ns : List Int} {p : Pkt}
    (ht : T st) (hst : st ≠ .sent) (hs : p.state = .sent)
    (hb : cc1.bytesInFlight = cc.bytesInFlight - (if p.inFlight then p.size else 0)) (hsame : CCSame cc cc1)
    (h : Walk T cc1 ps cc' ps' ns) : Walk T cc (p :: ps) cc' ({ p with state := st } :: ps') (p.num :: ns) := by
  refine ⟨?_, hsame.trans h.same, .settle hs ht h.marks⟩
  have e1 : pktFlight p = if p.inFlight then p.size else 0 := by simp only [pktFlight, hs, and_true]
  have e2 : pktFlight { p with state := st } = 0 := by simp only [pktFlight, hst, and_false, if_false]
  have := h.flight
  simp only [flightSum, e1, e2]; omega

theorem ackWalk_spec (lo hi : Int) (ps : List Pkt) : ∀ (cc : CC) (ma : Int),
    Walk (· = .acked) cc ps (ackWalk lo hi cc ma ps).cc (ackWalk lo hi cc ma ps).pkts (ackWalk lo hi cc ma ps).acked := by
  induction ps with
  | nil => intro cc ma; exact walk_refl _ _ _
  | cons p rest ih =>
    intro cc ma
    unfold ackWalk
    by_cases c1 : p.num < lo
    · rw [if_pos c1]; exact walk_keep p (ih cc ma)
    rw [if_neg c1]
    by_cases c2 : p.num ≥ hi
    · rw [if_pos c2]; exact walk_refl _ _ _
    rw [if_neg c2]
    by_cases c3 : p.state = .unsent
    · rw [if_pos c3]; exact walk_refl _ _ _
    rw [if_neg c3]
    by_cases c4 : p.state ≠ .sent
    · rw [if_pos c4]; exact walk_keep p (ih cc ma)
    rw [if_neg c4]
    obtain ⟨hb, hsame⟩ := packetAcked_spec cc p
    exact walk_settle rfl (by decide) (Decidable.of_not_not c4) hb hsame (ih _ _)

theorem lossWalk_spec (sp : Nat) (ma lt : Int) (fst : Option Int) (ps : List Pkt) : ∀ (cc : CC),
    Walk (· = .lost) cc ps (lossWalk sp ma lt fst cc ps).cc (lossWalk sp ma lt fst cc ps).pkts
      (lossWalk sp ma lt fst cc ps).lost := by
  induction ps with
  | nil => intro cc; exact walk_refl _ _ _
  | cons p rest ih =>
    intro cc
    unfold lossWalk
    split
    · exact walk_keep p (ih cc)
    · rename_i hs
      split
      · obtain ⟨hb, hsame⟩ := packetLost_spec cc sp p fst
        refine walk_settle (cc1 := if p.inFlight then cc.packetLost sp p fst else cc) rfl (by decide)
          (Decidable.of_not_not hs) ?_ ?_ (ih _)
        · by_cases hp : p.inFlight = true
          · rw [if_pos hp, hb]
          · rw [if_neg hp, if_neg hp]; omega
        · split
          · exact hsame
          · exact CCSame.refl cc
      · exact walk_refl _ _ _

theorem discWalk_spec (ps : List Pkt) : ∀ (cc : CC),
    Walk (· = .lost) cc ps (discWalk cc ps).cc (discWalk cc ps).pkts (discWalk cc ps).lost ∧
    flightSum (discWalk cc ps).pkts = 0 := by
  induction ps with
  | nil => intro cc; exact ⟨walk_refl _ _ _, rfl⟩
  | cons p rest ih =>
    intro cc
    unfold discWalk
    split
    · rename_i hs
      refine ⟨walk_keep p (ih cc).1, ?_⟩
      simp only [flightSum, pktFlight, hs, and_false, if_false, (ih cc).2, Int.add_zero]
    · rename_i hs
      obtain ⟨hb, hsame⟩ := packetDiscarded_spec cc p
      refine ⟨walk_settle rfl (by decide) (Decidable.of_not_not hs) hb hsame (ih _).1, ?_⟩
      simp only [flightSum, pktFlight, (ih _).2, Int.add_zero]
      exact if_neg (fun h => nomatch h.2)

def SizesOK (ps : List Pkt) : Prop := ∀ p ∈ ps, 0 ≤ p.size

structure AcctInv (l : Loss) : Prop where
  flight_eq : l.cc.bytesInFlight = lossFlight l
  sz0 : SizesOK l.s0.pkts
  sz1 : SizesOK l.s1.pkts
  sz2 : SizesOK l.s2.pkts
  mds : 0 < l.cc.mds
  cwnd : l.cc.minWindow ≤ l.cc.cwnd

theorem marks_sizesOK {T : PState → Prop} {ps ps' : List Pkt} {ns : List Int} (h : Marks T ps ps' ns)
    (hs : SizesOK ps) : SizesOK ps' := by
  induction h with
  | done => exact hs
  | keep p _ ih =>
    exact List.forall_mem_cons.2 ⟨hs p List.mem_cons_self, ih fun r hr => hs r (List.mem_cons_of_mem _ hr)⟩
  | @settle p _ _ _ _ _ _ _ ih =>
    exact List.forall_mem_cons.2 ⟨hs p List.mem_cons_self, ih fun r hr => hs r (List.mem_cons_of_mem _ hr)⟩

theorem sizesOK_clean (ps : List Pkt) (h : SizesOK ps) : SizesOK (cleanList ps) := by
  obtain ⟨pre, e, _⟩ := clean_split ps
  exact fun q hq => h q (e ▸ List.mem_append_right _ hq)

theorem sizesOK_space (l : Loss) (h : AcctInv l) (i : Nat) : SizesOK (l.space i).pkts := by
  unfold Loss.space; split
  · exact h.sz0
  · exact h.sz1
  · exact h.sz2

theorem upd_inv (l : Loss) (h : AcctInv l) (i : Nat) (s' : Space) (cc' : CC)
    (hb : cc'.bytesInFlight - flightSum s'.pkts = l.cc.bytesInFlight - flightSum (l.space i).pkts)
    (hsame : CCSame l.cc cc') (hsz : SizesOK s'.pkts) :
    AcctInv { (l.setSpace i s') with cc := cc' } := by
  obtain ⟨hbif, h0, h1, h2, hm, hc⟩ := h
  unfold Loss.setSpace
  unfold Loss.space at hb
  unfold lossFlight at hbif
  have hm' : 0 < cc'.mds := by rw [hsame.mds]; exact hm
  have hc' : cc'.minWindow ≤ cc'.cwnd := by simp only [CC.minWindow, hsame.mds, hsame.cwnd]; exact hc
  split
  · exact ⟨by simp only [lossFlight] at hb ⊢; omega, hsz, h1, h2, hm', hc'⟩
  · exact ⟨by simp only [lossFlight] at hb ⊢; omega, h0, hsz, h2, hm', hc'⟩
  · exact ⟨by simp only [lossFlight] at hb ⊢; omega, h0, h1, hsz, hm', hc'⟩

theorem setSpace_cc (l : Loss) (i : Nat) (s : Space) : (l.setSpace i s).cc = l.cc := by
  unfold Loss.setSpace; split <;> rfl

theorem setSpace_eta (l : Loss) (i : Nat) (s : Space) : { (l.setSpace i s) with cc := l.cc } = l.setSpace i s := by
  unfold Loss.setSpace; split <;> rfl

theorem caLoop_ge (mds : Int) (hm : 0 ≤ mds) : ∀ (fuel : Nat) (cw p : Int), cw ≤ (caLoop mds fuel cw p).1
  | 0, cw, p => by simp [caLoop]
  | fuel + 1, cw, p => by
    unfold caLoop
    split
    · have := caLoop_ge mds hm fuel (cw + mds) (p - cw); omega
    · simp

/-- The fuel `pending` is enough for the congestion-avoidance loop: each round takes `cwnd > 0` off `pending`,
which is why the Go `for` loop terminates. -/
theorem caLoop_done (mds : Int) (hm : 0 ≤ mds) : ∀ (fuel : Nat) (cw p : Int), 0 < cw → p ≤ fuel →
    (caLoop mds fuel cw p).2 ≤ (caLoop mds fuel cw p).1
  | 0, cw, p, hcw, hp => by simp [caLoop]; omega
  | fuel + 1, cw, p, hcw, hp => by
    unfold caLoop
    split
    · exact caLoop_done mds hm fuel (cw + mds) (p - cw) (by omega) (by omega)
    · simp; omega

theorem batchStage1_spec (c : CC) (now : Int) (hm : 0 < c.mds) (hc : c.minWindow ≤ c.cwnd) :
    (c.batchStage1 now).bytesInFlight = c.bytesInFlight ∧ (c.batchStage1 now).mds = c.mds ∧
    (c.batchStage1 now).minWindow ≤ (c.batchStage1 now).cwnd := by
  unfold CC.batchStage1
  simp only [CC.minWindow] at hc
  split
  · simp only [CC.enterRecovery, CC.minWindow]
    exact ⟨trivial, trivial, by omega⟩
  · split
    · rename_i hpos
      simp only [CC.grow, CC.minWindow]
      refine ⟨trivial, trivial, ?_⟩
      have hge := caLoop_ge c.mds (by omega) c.ssStep.2.toNat c.ssStep.1 c.ssStep.2
      have : c.cwnd ≤ c.ssStep.1 := by
        unfold CC.ssStep; split <;> simp <;> omega
      omega
    · exact ⟨rfl, rfl, hc⟩

theorem batchStage2_spec (c : CC) (sp : Nat) (pcd : Int) (hc : c.minWindow ≤ c.cwnd) :
    (c.batchStage2 sp pcd).bytesInFlight = c.bytesInFlight ∧ (c.batchStage2 sp pcd).mds = c.mds ∧
    (c.batchStage2 sp pcd).minWindow ≤ (c.batchStage2 sp pcd).cwnd := by
  unfold CC.batchStage2
  split
  · exact ⟨rfl, rfl, hc⟩
  · split
    · exact ⟨rfl, rfl, by simp [CC.minWindow]⟩
    · exact ⟨rfl, rfl, hc⟩

theorem batchEnd_spec (c : CC) (now : Int) (sp : Nat) (pcd : Int) (hm : 0 < c.mds) (hc : c.minWindow ≤ c.cwnd) :
    (c.packetBatchEnd now sp pcd).bytesInFlight = c.bytesInFlight ∧
    (c.packetBatchEnd now sp pcd).mds = c.mds ∧
    (c.packetBatchEnd now sp pcd).minWindow ≤ (c.packetBatchEnd now sp pcd).cwnd ∧
    (c.packetBatchEnd now sp pcd).ackLastLoss = none := by
  obtain ⟨a1, a2, a3⟩ := batchStage1_spec c now hm hc
  obtain ⟨b1, b2, b3⟩ := batchStage2_spec (c.batchStage1 now) sp pcd a3
  unfold CC.packetBatchEnd
  simp only [CC.minWindow] at b3 ⊢
  exact ⟨by rw [b1, a1], by rw [b2, a2], b3, trivial⟩

/-- C26: the congestion-avoidance loop of `packetBatchEnd` terminates, with the fuel `grow` gives it. -/
theorem grow_loop_done (c : CC) (hm : 0 < c.mds) (hc : c.minWindow ≤ c.cwnd) (hp : 0 ≤ c.pendingAcks) :
    c.grow.pendingAcks ≤ c.grow.cwnd ∨ c.grow.pendingAcks ≤ 0 := by
  left
  simp only [CC.grow]
  have h1 : c.cwnd ≤ c.ssStep.1 := by unfold CC.ssStep; split <;> simp <;> omega
  simp only [CC.minWindow] at hc
  exact caLoop_done c.mds (by omega) _ _ _ (by omega) (by omega)


theorem inv_init (mds : Int) (h : 0 < mds) : AcctInv (Loss.init mds) := by
  refine ⟨rfl, ?_, ?_, ?_, h, ?_⟩
  · intro p hp; simp [Loss.init] at hp
  · intro p hp; simp [Loss.init] at hp
  · intro p hp; simp [Loss.init] at hp
  · simp only [Loss.init, newReno, CC.minWindow]; omega

theorem inv_packetSent (l : Loss) (h : AcctInv l) (sp : Nat) (size : Int) (ae inf : Bool) (now : Int) (hs : 0 ≤ size) :
    AcctInv (l.packetSent sp size ae inf now) := by
  unfold Loss.packetSent
  simp only [setSpace_cc]
  obtain ⟨hb, hsame⟩ := packetSent_spec l.cc
    { num := (l.space sp).nextNum, size := size, time := now, ackEliciting := ae, inFlight := inf, state := .sent }
  apply upd_inv l h sp _ _ _ hsame
  · intro p hp
    simp only [Space.add, List.mem_append, List.mem_singleton] at hp
    rcases hp with hp | rfl
    · exact sizesOK_space l h sp p hp
    · exact hs
  · simp only [Space.add, flightSum_append, flightSum, pktFlight, hb]
    cases inf <;> simp <;> omega

theorem inv_skipNumber (l : Loss) (h : AcctInv l) (sp : Nat) (now : Int) : AcctInv (l.skipNumber sp now) := by
  unfold Loss.skipNumber
  simp only
  rw [← setSpace_eta]
  apply upd_inv l h sp _ _ _ (CCSame.refl _)
  · intro p hp
    simp only [Space.add, List.mem_append, List.mem_singleton] at hp
    rcases hp with hp | rfl
    · exact sizesOK_space l h sp p hp
    · exact Int.le_refl _
  · simp [Space.add, flightSum_append, flightSum, pktFlight]

theorem receiveAckRange_cases (l : Loss) (sp : Nat) (a b : Int) :
    (∃ v, l.receiveAckRange sp a b = (l, [], v)) ∨
    ∃ st w, w = ackWalk st b l.cc (l.space sp).maxAcked (l.space sp).pkts ∧
      l.receiveAckRange sp a b =
        ({ (l.setSpace sp { (l.space sp) with pkts := w.pkts, maxAcked := w.maxAcked }) with cc := w.cc },
          w.acked.map fun n => (sp, n, Fate.acked), w.violation) := by
  unfold Loss.receiveAckRange
  simp only
  by_cases h0 : ((l.space sp).skipped.any fun k => decide (a ≤ k ∧ k < b)) = true
  · rw [if_pos h0]; exact Or.inl ⟨_, rfl⟩
  rw [if_neg h0]
  by_cases h1 : b > (l.space sp).nextNum
  · rw [if_pos h1]; exact Or.inl ⟨_, rfl⟩
  rw [if_neg h1]
  by_cases h2 : (if a < (l.space sp).start then (l.space sp).start else a) ≥ b
  · rw [if_pos h2]; exact Or.inl ⟨_, rfl⟩
  · rw [if_neg h2]; exact Or.inr ⟨_, _, rfl, rfl⟩

theorem inv_receiveAckRange (l : Loss) (h : AcctInv l) (sp : Nat) (a b : Int) :
    AcctInv (l.receiveAckRange sp a b).1 := by
  rcases receiveAckRange_cases l sp a b with ⟨v, e⟩ | ⟨st, w, rfl, e⟩
  · rw [e]; exact h
  · rw [e]
    have w := ackWalk_spec st b (l.space sp).pkts l.cc (l.space sp).maxAcked
    exact upd_inv l h sp _ _ w.flight w.same (marks_sizesOK w.marks (sizesOK_space l h sp))

theorem space_setSpace (l : Loss) (i : Nat) (s : Space) : (l.setSpace i s).space i = s := by
  unfold Loss.setSpace Loss.space
  split <;> simp

theorem inv_detectSpace (l : Loss) (h : AcctInv l) (sp : Nat) (now ld : Int) (fst : Option Int) :
    AcctInv (l.detectSpace sp now ld fst).1 := by
  unfold Loss.detectSpace
  simp only
  have w := lossWalk_spec sp (l.space sp).maxAcked (now - ld) fst (l.space sp).pkts l.cc
  apply upd_inv l h sp _ _ _ w.same
  · exact sizesOK_clean _ (marks_sizesOK w.marks (sizesOK_space l h sp))
  · simp only [Space.clean, flightSum_clean]; exact w.flight

theorem inv_detectLoss (l : Loss) (h : AcctInv l) (now ld : Int) (fst : Option Int) :
    AcctInv (l.detectLoss now ld fst).1 := by
  unfold Loss.detectLoss
  simp only
  exact inv_detectSpace _ (inv_detectSpace _ (inv_detectSpace l h 0 now ld fst) 1 now ld fst) 2 now ld fst

theorem inv_clean (l : Loss) (h : AcctInv l) (sp : Nat) : AcctInv (l.setSpace sp (l.space sp).clean) := by
  rw [← setSpace_eta]
  apply upd_inv l h sp _ _ _ (CCSame.refl _)
  · exact sizesOK_clean _ (sizesOK_space l h sp)
  · simp [Space.clean, flightSum_clean]

theorem inv_receiveAckEnd (l : Loss) (h : AcctInv l) (sp : Nat) (now ld : Int) (fst : Option Int) (pcd : Int) :
    AcctInv (l.receiveAckEnd sp now ld fst pcd).1 := by
  unfold Loss.receiveAckEnd
  simp only
  have h1 := inv_detectLoss _ (inv_clean l h sp) now ld fst
  generalize ((l.setSpace sp (l.space sp).clean).detectLoss now ld fst).1 = l1 at h1
  obtain ⟨hb, h0, h1', h2, hm, hc⟩ := h1
  obtain ⟨e1, e2, e3, _⟩ := batchEnd_spec l1.cc now sp pcd hm hc
  exact ⟨by simp only [lossFlight] at hb ⊢; rw [e1]; exact hb, h0, h1', h2, by rw [e2]; exact hm, e3⟩

theorem inv_discardPackets (l : Loss) (h : AcctInv l) (sp : Nat) : AcctInv (l.discardPackets sp).1 := by
  unfold Loss.discardPackets
  simp only
  have w := (discWalk_spec (l.space sp).pkts l.cc).1
  apply upd_inv l h sp _ _ _ w.same
  · exact sizesOK_clean _ (marks_sizesOK w.marks (sizesOK_space l h sp))
  · simp only [Space.clean, flightSum_clean]; exact w.flight

theorem inv_discardKeys (l : Loss) (h : AcctInv l) (sp : Nat) : AcctInv (l.discardKeys sp) := by
  unfold Loss.discardKeys
  simp only
  obtain ⟨w, h5⟩ := discWalk_spec (l.space sp).pkts l.cc
  apply upd_inv l h sp _ _ _ w.same
  · intro p hp; simp at hp
  · have := w.flight; simp only [flightSum]; omega

/-- Each field of `AcctInv` unfolds to the same proposition in both states. -/
theorem inv_setUnderutilized (l : Loss) (h : AcctInv l) (v : Bool) : AcctInv (l.setUnderutilized v) :=
  ⟨h.flight_eq, h.sz0, h.sz1, h.sz2, h.mds, h.cwnd⟩

theorem inv_step (l : Loss) (op : Op) (hv : op.Valid) (h : AcctInv l) : AcctInv (step l op).1 := by
  cases op with
  | send sp size ae inf now => exact inv_packetSent l h sp size ae inf now hv
  | skip sp now => exact inv_skipNumber l h sp now
  | ackRange sp a b => exact inv_receiveAckRange l h sp a b
  | ackEnd sp now ld fst pcd => exact inv_receiveAckEnd l h sp now ld fst pcd
  | advance now ld fst => exact inv_detectLoss l h now ld fst
  | discardPackets sp => exact inv_discardPackets l h sp
  | discardKeys sp => exact inv_discardKeys l h sp
  | setUnderutilized v => exact inv_setUnderutilized l h v

def Valid (ops : List Op) : Prop := ∀ op ∈ ops, op.Valid

theorem inv_run (ops : List Op) (l : Loss) (hv : Valid ops) (h : AcctInv l) : AcctInv (run l ops) :=
  Lemmas.foldl_inv_mem _ AcctInv ops (fun s op ho => inv_step s op (hv op ho)) l h

def Reachable (l : Loss) : Prop := ∃ mds ops, 0 < mds ∧ Valid ops ∧ l = run (Loss.init mds) ops

theorem reachable_inv {l : Loss} (h : Reachable l) : AcctInv l := by
  obtain ⟨mds, ops, hm, hv, rfl⟩ := h
  exact inv_run ops _ hv (inv_init mds hm)

/-- C26: `bytesInFlight = Σ size {inFlight ∧ sent}` and `≥ 0`, after any history, for any RTT-estimator inputs. -/
theorem bytesInFlight_exact {l : Loss} (h : Reachable l) :
    l.cc.bytesInFlight = lossFlight l ∧ 0 ≤ l.cc.bytesInFlight := by
  have hi := reachable_inv h
  refine ⟨hi.flight_eq, ?_⟩
  rw [hi.flight_eq]
  have a := flightSum_nonneg _ hi.sz0
  have b := flightSum_nonneg _ hi.sz1
  have c := flightSum_nonneg _ hi.sz2
  simp only [lossFlight]; omega

/-- C26: `cwnd ≥ 2·maxDatagramSize`. -/
theorem cwnd_ge_minimum {l : Loss} (h : Reachable l) : 2 * l.cc.mds ≤ l.cc.cwnd ∧ 0 < l.cc.mds := by
  have hi := reachable_inv h
  exact ⟨hi.cwnd, hi.mds⟩


/-- The list holds consecutive packet numbers starting at `n` (the ring buffer invariant). -/
def Consec : Int → List Pkt → Prop
  | _, [] => True
  | n, p :: rest => p.num = n ∧ Consec (n + 1) rest

theorem consec_mem {n : Int} {ps : List Pkt} (h : Consec n ps) {p : Pkt} (hp : p ∈ ps) :
    n ≤ p.num ∧ p.num < n + ps.length := by
  induction ps generalizing n with
  | nil => simp at hp
  | cons q rest ih =>
    obtain ⟨h1, h2⟩ := h
    rcases List.mem_cons.1 hp with rfl | hp
    · simp only [List.length_cons]; omega
    · have := ih h2 hp
      simp only [List.length_cons]; omega

theorem consec_append {n : Int} {ps : List Pkt} (h : Consec n ps) (p : Pkt) (hp : p.num = n + ps.length) :
    Consec n (ps ++ [p]) := by
  induction ps generalizing n with
  | nil => simp at hp; exact ⟨hp, trivial⟩
  | cons q rest ih =>
    obtain ⟨h1, h2⟩ := h
    refine ⟨h1, ih h2 ?_⟩
    simp only [List.length_cons] at hp; omega

theorem consec_split {n : Int} : ∀ {pre ps : List Pkt}, Consec n (pre ++ ps) →
    Consec (n + pre.length) ps ∧ ∀ p ∈ pre, p.num < n + pre.length
  | [], _, h => ⟨by simpa using h, by simp⟩
  | q :: pre, ps, ⟨h1, h2⟩ => by
    obtain ⟨a, b⟩ := consec_split (pre := pre) h2
    simp only [List.length_cons, List.forall_mem_cons]
    push_cast
    exact ⟨by rw [← Int.add_assoc, Int.add_right_comm]; exact a, by omega, fun p hp => by have := b p hp; omega⟩

/-- What `SpaceInv` needs of one walk over a consecutive list. -/
theorem walk_facts {T : PState → Prop} (hT : ∀ st, T st → st = .acked ∨ st = .lost) {ps ps' : List Pkt}
    {ns : List Int} (h : Marks T ps ps' ns) : ∀ {n : Int}, Consec n ps →
    Consec n ps' ∧ ps'.length = ps.length ∧
    (∀ k ∈ ns, n ≤ k ∧ (∃ p ∈ ps, p.num = k ∧ p.state = .sent) ∧
        (∀ p' ∈ ps', p'.num = k → p'.state = .acked ∨ p'.state = .lost)) ∧
    (∀ p' ∈ ps', p'.num ∉ ns → p' ∈ ps) ∧
    (∀ p ∈ ps, p.state ≠ .sent → p ∈ ps') ∧
    ns.Nodup := by
  induction h with
  | done => intro n hc; exact ⟨hc, rfl, by simp, fun _ h _ => h, fun _ h _ => h, List.nodup_nil⟩
  | @keep p rest rest' ns _ ih =>
    intro n ⟨hn, hc⟩
    obtain ⟨i1, i2, i3, i4, i5, i6⟩ := ih hc
    refine ⟨⟨hn, i1⟩, by simp [i2], fun k hk => ?_, fun q hq hqn => ?_, fun q hq hqs => ?_, i6⟩
    · obtain ⟨a, ⟨q, hq, hq1, hq2⟩, c⟩ := i3 k hk
      refine ⟨by omega, ⟨q, List.mem_cons_of_mem _ hq, hq1, hq2⟩, fun r hr hrn => ?_⟩
      rcases List.mem_cons.1 hr with rfl | hr
      · omega
      · exact c r hr hrn
    · rcases List.mem_cons.1 hq with rfl | hq
      · exact List.mem_cons_self
      · exact List.mem_cons_of_mem _ (i4 q hq hqn)
    · rcases List.mem_cons.1 hq with rfl | hq
      · exact List.mem_cons_self
      · exact List.mem_cons_of_mem _ (i5 q hq hqs)
  | @settle p st rest rest' ns hs ht _ ih =>
    intro n ⟨hn, hc⟩
    obtain ⟨i1, i2, i3, i4, i5, i6⟩ := ih hc
    have hset : ({ p with state := st } : Pkt).state = .acked ∨ ({ p with state := st } : Pkt).state = .lost := hT st ht
    refine ⟨⟨hn, i1⟩, by simp [i2], fun k hk => ?_, fun q hq hqn => ?_, fun q hq hqs => ?_,
      List.nodup_cons.2 ⟨fun hk => by have := (i3 _ hk).1; omega, i6⟩⟩
    · rcases List.mem_cons.1 hk with rfl | hk
      · refine ⟨by omega, ⟨p, List.mem_cons_self, rfl, hs⟩, fun r hr hrn => ?_⟩
        rcases List.mem_cons.1 hr with rfl | hr
        · exact hset
        · have := (consec_mem i1 hr).1; omega
      · obtain ⟨a, ⟨q, hq, hq1, hq2⟩, c⟩ := i3 k hk
        refine ⟨by omega, ⟨q, List.mem_cons_of_mem _ hq, hq1, hq2⟩, fun r hr hrn => ?_⟩
        rcases List.mem_cons.1 hr with rfl | hr
        · exact hset
        · exact c r hr hrn
    · rcases List.mem_cons.1 hq with rfl | hq
      · exact absurd List.mem_cons_self hqn
      · exact List.mem_cons_of_mem _ (i4 q hq fun h => hqn (List.mem_cons_of_mem _ h))
    · rcases List.mem_cons.1 hq with rfl | hq
      · exact absurd hs hqs
      · exact List.mem_cons_of_mem _ (i5 q hq hqs)


/-- Per-space invariant with ghost lists: `fs` = packet numbers that already received a callback,
`ks` = packet numbers that were skipped (both since the keys of the space were last discarded). -/
structure SpaceInv (s : Space) (fs ks : List Int) : Prop where
  consec : Consec s.start s.pkts
  f_lt : ∀ n ∈ fs, n < s.nextNum
  f_settled : ∀ n ∈ fs, ∀ p ∈ s.pkts, p.num = n → p.state = .acked ∨ p.state = .lost
  k_lt : ∀ k ∈ ks, k < s.nextNum
  k_unsent : ∀ k ∈ ks, (∃ p ∈ s.pkts, p.num = k ∧ p.state = .unsent) ∨ k < s.start
  f_nodup : fs.Nodup
  unsent_k : ∀ p ∈ s.pkts, p.state = .unsent → p.num ∈ ks
  sk : ∀ k, k ∈ s.skipped ↔ k ∈ ks

theorem spaceInv_empty : SpaceInv {} [] [] := by
  refine ⟨trivial, ?_, ?_, ?_, ?_, List.nodup_nil, ?_, fun k => Iff.rfl⟩ <;> intro n hn <;> simp at hn

/-- `packetSent` (`u = false`) and `skipNumber` (`u = true`) append a packet under the next number. -/
theorem spaceInv_add (s : Space) (fs ks : List Int) (h : SpaceInv s fs ks) (p : Pkt) (hnum : p.num = s.nextNum) (u : Bool)
    (hst : p.state = bif u then .unsent else .sent) :
    SpaceInv { (s.add p) with skipped := bif u then s.nextNum :: s.skipped else s.skipped }
      fs (bif u then s.nextNum :: ks else ks) := by
  obtain ⟨hc, h1, h2, h3, h4, h5, h6, h7⟩ := h
  have hstart : s.nextNum + 1 - ((s.pkts ++ [p]).length : Nat) = s.start := by
    simp only [Space.start, List.length_append, List.length_singleton]; push_cast; omega
  have hmem : ∀ q, q ∈ s.pkts ++ [p] → q ∈ s.pkts ∨ q = p := fun q hq => by
    simpa only [List.mem_append, List.mem_singleton] using hq
  -- the skipped numbers afterwards: the old ones, and the new number if this is a skip
  have hks : ∀ k, k ∈ (bif u then s.nextNum :: ks else ks) ↔ k ∈ ks ∨ (u = true ∧ k = s.nextNum) := fun k => by
    cases u <;> simp [or_comm]
  refine { consec := ?_, f_lt := ?_, f_settled := ?_, k_lt := ?_, k_unsent := ?_, f_nodup := h5, unsent_k := ?_, sk := ?_ }
  · show Consec (s.nextNum + 1 - ((s.pkts ++ [p]).length : Nat)) (s.pkts ++ [p])
    rw [hstart]
    exact consec_append hc p (by simp only [Space.start]; omega)
  · intro n hn; have := h1 n hn; show n < s.nextNum + 1; omega
  · intro n hn q hq hqn
    rcases hmem q hq with hq | rfl
    · exact h2 n hn q hq hqn
    · have := h1 n hn; omega
  · intro k hk
    show k < s.nextNum + 1
    rcases (hks k).1 hk with hk | ⟨_, rfl⟩
    · have := h3 k hk; omega
    · omega
  · intro k hk
    show (∃ q ∈ s.pkts ++ [p], q.num = k ∧ q.state = .unsent) ∨ k < s.nextNum + 1 - ((s.pkts ++ [p]).length : Nat)
    rw [hstart]
    rcases (hks k).1 hk with hk | ⟨rfl, rfl⟩
    · exact (h4 k hk).imp (fun ⟨q, hq, hq1, hq2⟩ => ⟨q, List.mem_append_left _ hq, hq1, hq2⟩) id
    · exact Or.inl ⟨p, List.mem_append_right _ List.mem_cons_self, hnum, hst⟩
  · intro q hq hqu
    refine (hks _).2 ?_
    rcases hmem q hq with hq | rfl
    · exact Or.inl (h6 q hq hqu)
    · refine Or.inr ⟨?_, hnum⟩
      cases u
      · rw [hst] at hqu; cases hqu
      · rfl
  · intro k
    show k ∈ (bif u then s.nextNum :: s.skipped else s.skipped) ↔ _
    cases u <;> simp [h7 k]

theorem settled_ne {p : Pkt} (h : p.state = .acked ∨ p.state = .lost) : p.state ≠ .sent ∧ p.state ≠ .unsent := by
  rcases h with h | h
  · rw [h]; exact ⟨by decide, by decide⟩
  · rw [h]; exact ⟨by decide, by decide⟩

theorem spaceInv_walk {T : PState → Prop} (hT : ∀ st, T st → st = .acked ∨ st = .lost) (s : Space)
    (fs ks : List Int) (h : SpaceInv s fs ks) {ps' : List Pkt} {ns : List Int} (m : Int)
    (hw : Marks T s.pkts ps' ns) :
    SpaceInv { s with pkts := ps', maxAcked := m } (ns ++ fs) ks ∧
    (∀ n ∈ ns, n ∉ fs ∧ n ∉ ks ∧ n < s.nextNum) ∧ ns.Nodup := by
  obtain ⟨hc, h1, h2, h3, h4, h5, h6, h7⟩ := h
  obtain ⟨w1, w2, w3, w4, w5, w6⟩ := walk_facts hT hw hc
  have hstart : ({ s with pkts := ps', maxAcked := m } : Space).start = s.start := by
    simp only [Space.start, w2]
  have hfresh : ∀ n ∈ ns, n ∉ fs ∧ n ∉ ks ∧ n < s.nextNum := by
    intro n hn
    obtain ⟨a, ⟨p, hp, hp1, hp2⟩, c⟩ := w3 n hn
    refine ⟨fun hf => (settled_ne (h2 n hf p hp hp1)).1 hp2, fun hk => ?_, ?_⟩
    · rcases h4 n hk with ⟨q, hq, hq1, hq2⟩ | hlt
      · -- the skipped packet `q` is unchanged by the walk, so it is the packet now settled under number `n`
        exact (settled_ne (c q (w5 q hq (by rw [hq2]; decide)) hq1)).2 hq2
      · omega
    · have := (consec_mem hc hp).2
      simp only [Space.start] at this; omega
  refine ⟨⟨by rw [hstart]; exact w1, ?f_lt, ?f_settled, h3, ?k_unsent, ?f_nodup, ?unsent_k, h7⟩, hfresh, w6⟩
  case f_lt =>
    intro n hn
    rcases List.mem_append.1 hn with hn | hn
    · exact (hfresh n hn).2.2
    · exact h1 n hn
  case f_settled =>
    intro n hn p' hp' hpn
    rcases List.mem_append.1 hn with hn | hn
    · exact (w3 n hn).2.2 p' hp' hpn
    · by_cases hch : p'.num ∈ ns
      · exact (w3 _ hch).2.2 p' hp' rfl
      · exact h2 n hn p' (w4 p' hp' hch) hpn
  case k_unsent =>
    intro k hk
    rw [hstart]
    rcases h4 k hk with ⟨q, hq, hq1, hq2⟩ | hlt
    · exact Or.inl ⟨q, w5 q hq (by rw [hq2]; decide), hq1, hq2⟩
    · exact Or.inr hlt
  case f_nodup =>
    refine List.nodup_append.2 ⟨w6, h5, ?_⟩
    intro a ha b hb hab
    subst hab
    exact (hfresh a ha).1 hb
  case unsent_k =>
    intro p' hp' hpu
    by_cases hch : p'.num ∈ ns
    · exact absurd hpu (settled_ne ((w3 _ hch).2.2 p' hp' rfl)).2
    · exact h6 p' (w4 p' hp' hch) hpu

theorem spaceInv_clean (s : Space) (fs ks : List Int) (h : SpaceInv s fs ks) : SpaceInv s.clean fs ks := by
  obtain ⟨hc, h1, h2, h3, h4, h5, h6, h7⟩ := h
  obtain ⟨pre, e, hpre⟩ := clean_split s.pkts
  rw [e] at hc
  obtain ⟨c1, c2⟩ := consec_split hc
  have hstart : s.clean.start = s.start + pre.length := by
    have := congrArg List.length e
    simp only [List.length_append] at this
    simp only [Space.start, Space.clean]; omega
  have hsub : ∀ q ∈ cleanList s.pkts, q ∈ s.pkts := fun q hq => e ▸ List.mem_append_right _ hq
  refine ⟨by rw [hstart]; exact c1, h1, fun n hn p hp => h2 n hn p (hsub p hp), h3, fun k hk => ?_, h5,
    fun p hp => h6 p (hsub p hp), h7⟩
  rw [hstart]
  rcases h4 k hk with ⟨q, hq, hq1, hq2⟩ | hlt
  · rw [e] at hq
    rcases List.mem_append.1 hq with hq | hq
    · right; have := c2 q hq; omega
    · exact Or.inl ⟨q, hq, hq1, hq2⟩
  · right; omega


structure Ghost where
  f : Nat → List Int := fun _ => []   -- per space: numbers that received an ack/loss callback
  k : Nat → List Int := fun _ => []   -- per space: numbers that were skipped

def upd (g : Nat → List Int) (i : Nat) (v : List Int) : Nat → List Int := fun j => if j = i then v else g j

def numsOf (cbs : List Callback) : List Int := cbs.map (·.2.1)

/-- Only for `i < 3`: `Loss.space` and `Loss.setSpace` send every larger index to space 2, where the ghost lists of
that index would not follow. `Op.SpaceOK` is the same bound on operations. -/
def FInv (l : Loss) (g : Ghost) : Prop := ∀ i, i < 3 → SpaceInv (l.space i) (g.f i) (g.k i)

theorem space_update (l : Loss) (i j : Nat) (hi : i < 3) (hj : j < 3) (s : Space) (cc : CC) :
    ({ (l.setSpace i s) with cc := cc } : Loss).space j = if j = i then s else l.space j :=
  match i, hi, j, hj with
  | 0, _, 0, _ => rfl
  | 0, _, 1, _ => rfl
  | 0, _, 2, _ => rfl
  | 1, _, 0, _ => rfl
  | 1, _, 1, _ => rfl
  | 1, _, 2, _ => rfl
  | 2, _, 0, _ => rfl
  | 2, _, 1, _ => rfl
  | 2, _, 2, _ => rfl

theorem finv_update (l : Loss) (g : Ghost) (h : FInv l g) (i : Nat) (hi : i < 3) (s : Space) (cc : CC)
    (fs ks : List Int) (hs : SpaceInv s fs ks) :
    FInv { (l.setSpace i s) with cc := cc } { f := upd g.f i fs, k := upd g.k i ks } := by
  intro j hj
  rw [space_update l i j hi hj]
  simp only [upd]
  by_cases hji : j = i
  · simp only [hji, if_true]; exact hs
  · simp only [hji, if_false]; exact h j hj

theorem numsOf_map (sp : Nat) (f : Fate) (ns : List Int) : numsOf (ns.map fun n => (sp, n, f)) = ns := by
  simp [numsOf, List.map_map, Function.comp_def]

/-- Callbacks are new with respect to the ghost record `g`: none is for a number in `g.f` or a skipped one,
and no packet appears twice among them. -/
def FreshAll (g : Ghost) (cbs : List Callback) : Prop :=
  (∀ c ∈ cbs, c.1 < 3 ∧ c.2.1 ∉ g.f c.1 ∧ c.2.1 ∉ g.k c.1) ∧ (cbs.map fun c => (c.1, c.2.1)).Nodup

theorem freshAll_nil (g : Ghost) : FreshAll g [] := ⟨by simp, by simp⟩

/-- The callbacks `cbs` made while the ghost record went from `g` to `g'`: new with respect to `g`, recorded
in `g'`, and `g'` forgets nothing. Callbacks made after `g'` that are new with respect to `g'` are then
different from `cbs`, which is how the callbacks of consecutive steps are put together. -/
structure Rec (g g' : Ghost) (cbs : List Callback) : Prop where
  fresh : FreshAll g cbs
  recorded : ∀ c ∈ cbs, c.2.1 ∈ g'.f c.1
  mono : ∀ i n, n ∈ g.f i → n ∈ g'.f i
  k : g'.k = g.k

theorem Rec.nil (g : Ghost) : Rec g g [] := ⟨freshAll_nil g, by simp, fun _ _ h => h, rfl⟩

theorem Rec.trans {g g' g'' : Ghost} {c0 c1 : List Callback} (h0 : Rec g g' c0) (h1 : Rec g' g'' c1) :
    Rec g g'' (c0 ++ c1) := by
  refine ⟨⟨fun c hc => ?_, ?_⟩, fun c hc => ?_, fun i n h => h1.mono i n (h0.mono i n h), h1.k.trans h0.k⟩
  · rcases List.mem_append.1 hc with hc | hc
    · exact h0.fresh.1 c hc
    · obtain ⟨a, b, d⟩ := h1.fresh.1 c hc
      exact ⟨a, fun h => b (h0.mono _ _ h), h0.k ▸ d⟩
  · rw [List.map_append]
    refine List.nodup_append.2 ⟨h0.fresh.2, h1.fresh.2, ?_⟩
    intro x hx y hy hxy
    obtain ⟨c, hc, rfl⟩ := List.mem_map.1 hx
    obtain ⟨d, hd, rfl⟩ := List.mem_map.1 hy
    -- `c` is recorded in `g'`, `d` is new with respect to `g'`
    obtain ⟨e1, e2⟩ := Prod.mk.inj hxy
    exact (h1.fresh.1 d hd).2.1 (e1 ▸ e2 ▸ h0.recorded c hc)
  · rcases List.mem_append.1 hc with hc | hc
    · exact h1.mono _ _ (h0.recorded c hc)
    · exact h1.recorded c hc

theorem Rec.walk (g : Ghost) {sp : Nat} (hsp : sp < 3) (f : Fate) {ns : List Int}
    (h : ∀ n ∈ ns, n ∉ g.f sp ∧ n ∉ g.k sp) (hn : ns.Nodup) :
    Rec g { g with f := upd g.f sp (ns ++ g.f sp) } (ns.map fun n => (sp, n, f)) := by
  refine ⟨⟨fun c hc => ?_, ?_⟩, fun c hc => ?_, fun i n hi => ?_, rfl⟩
  · obtain ⟨n, hn', rfl⟩ := List.mem_map.1 hc
    exact ⟨hsp, h n hn'⟩
  · rw [List.map_map]
    exact List.Pairwise.map _ (fun a b hab h => hab (congrArg Prod.snd h)) hn
  · obtain ⟨n, hn', rfl⟩ := List.mem_map.1 hc
    simp only [upd, if_true]; exact List.mem_append_left _ hn'
  · simp only [upd]
    split
    · rename_i e; subst e; exact List.mem_append_right _ hi
    · exact hi

theorem g_walk (l : Loss) (g : Ghost) (h : FInv l g) (sp : Nat) (hsp : sp < 3) {T : PState → Prop}
    (hT : ∀ st, T st → st = .acked ∨ st = .lost) {ps' : List Pkt} {ns : List Int}
    (hw : Marks T (l.space sp).pkts ps' ns) (m : Int) (f : Fate) :
    SpaceInv { (l.space sp) with pkts := ps', maxAcked := m } (ns ++ g.f sp) (g.k sp) ∧
    Rec g { g with f := upd g.f sp (ns ++ g.f sp) } (ns.map fun n => (sp, n, f)) := by
  obtain ⟨w1, w2, w3⟩ := spaceInv_walk hT (l.space sp) (g.f sp) (g.k sp) (h sp hsp) m hw
  exact ⟨w1, Rec.walk g hsp f (fun n hn => ⟨(w2 n hn).1, (w2 n hn).2.1⟩) w3⟩

theorem upd_self (g : Nat → List Int) (i : Nat) : upd g i (g i) = g := by
  funext j; simp only [upd]; split
  · rename_i h; rw [h]
  · rfl

theorem finv_update_f (l : Loss) (g : Ghost) (h : FInv l g) (i : Nat) (hi : i < 3) (s : Space) (cc : CC)
    (fs : List Int) (hs : SpaceInv s fs (g.k i)) :
    FInv { (l.setSpace i s) with cc := cc } { g with f := upd g.f i fs } := by
  have := finv_update l g h i hi s cc fs (g.k i) hs
  rw [upd_self] at this
  exact this

theorem g_receiveAckRange (l : Loss) (g : Ghost) (h : FInv l g) (sp : Nat) (hsp : sp < 3) (a b : Int) :
    FInv (l.receiveAckRange sp a b).1 { g with f := upd g.f sp (numsOf (l.receiveAckRange sp a b).2.1 ++ g.f sp) } ∧
    Rec g { g with f := upd g.f sp (numsOf (l.receiveAckRange sp a b).2.1 ++ g.f sp) } (l.receiveAckRange sp a b).2.1 := by
  rcases receiveAckRange_cases l sp a b with ⟨v, e⟩ | ⟨st, w, rfl, e⟩
  · rw [e]
    show FInv l { g with f := upd g.f sp (g.f sp) } ∧ Rec g { g with f := upd g.f sp (g.f sp) } []
    rw [upd_self]
    exact ⟨h, Rec.nil g⟩
  · rw [e]
    obtain ⟨w1, fr⟩ := g_walk l g h sp hsp (fun _ => Or.inl)
      (ackWalk_spec st b (l.space sp).pkts l.cc (l.space sp).maxAcked).marks
      (ackWalk st b l.cc (l.space sp).maxAcked (l.space sp).pkts).maxAcked Fate.acked
    simp only
    rw [numsOf_map]
    exact ⟨finv_update_f l g h sp hsp _ _ _ w1, fr⟩

theorem g_detectSpace (l : Loss) (g : Ghost) (h : FInv l g) (sp : Nat) (hsp : sp < 3) (now ld : Int) (fst : Option Int) :
    FInv (l.detectSpace sp now ld fst).1 { g with f := upd g.f sp (numsOf (l.detectSpace sp now ld fst).2 ++ g.f sp) } ∧
    Rec g { g with f := upd g.f sp (numsOf (l.detectSpace sp now ld fst).2 ++ g.f sp) } (l.detectSpace sp now ld fst).2 := by
  unfold Loss.detectSpace
  simp only
  obtain ⟨w1, fr⟩ := g_walk l g h sp hsp (fun _ => Or.inr)
    (lossWalk_spec sp (l.space sp).maxAcked (now - ld) fst (l.space sp).pkts l.cc).marks (l.space sp).maxAcked Fate.lost
  rw [numsOf_map]
  exact ⟨finv_update_f l g h sp hsp _ _ _ (spaceInv_clean _ _ _ w1), fr⟩

theorem g_discardPackets (l : Loss) (g : Ghost) (h : FInv l g) (sp : Nat) (hsp : sp < 3) :
    FInv (l.discardPackets sp).1 { g with f := upd g.f sp (numsOf (l.discardPackets sp).2 ++ g.f sp) } ∧
    Rec g { g with f := upd g.f sp (numsOf (l.discardPackets sp).2 ++ g.f sp) } (l.discardPackets sp).2 := by
  unfold Loss.discardPackets
  simp only
  obtain ⟨w1, fr⟩ := g_walk l g h sp hsp (fun _ => Or.inr) (discWalk_spec (l.space sp).pkts l.cc).1.marks
    (l.space sp).maxAcked Fate.lost
  rw [numsOf_map]
  exact ⟨finv_update_f l g h sp hsp _ _ _ (spaceInv_clean _ _ _ w1), fr⟩

theorem g_clean (l : Loss) (g : Ghost) (h : FInv l g) (sp : Nat) (hsp : sp < 3) :
    FInv (l.setSpace sp (l.space sp).clean) g := by
  have := finv_update_f l g h sp hsp _ l.cc _ (spaceInv_clean _ _ _ (h sp hsp))
  rw [upd_self, setSpace_eta] at this
  exact this

theorem g_cc (l : Loss) (g : Ghost) (h : FInv l g) (cc : CC) : FInv { l with cc := cc } g := by
  intro j hj
  have := h j hj
  have e : ({ l with cc := cc } : Loss).space j = l.space j := by
    unfold Loss.space; split <;> rfl
  rw [e]; exact this

theorem g_discardKeys (l : Loss) (g : Ghost) (h : FInv l g) (sp : Nat) (hsp : sp < 3) :
    FInv (l.discardKeys sp) { f := upd g.f sp [], k := upd g.k sp [] } := by
  unfold Loss.discardKeys
  simp only
  exact finv_update l g h sp hsp {} _ [] [] spaceInv_empty

theorem g_packetSent (l : Loss) (g : Ghost) (h : FInv l g) (sp : Nat) (hsp : sp < 3) (size : Int) (ae inf : Bool) (now : Int) :
    FInv (l.packetSent sp size ae inf now) g := by
  unfold Loss.packetSent
  simp only [setSpace_cc]
  have := finv_update_f l g h sp hsp _ (l.cc.packetSent
    { num := (l.space sp).nextNum, size := size, time := now, ackEliciting := ae, inFlight := inf, state := .sent }) _
    (spaceInv_add (l.space sp) (g.f sp) (g.k sp) (h sp hsp)
      { num := (l.space sp).nextNum, size := size, time := now, ackEliciting := ae, inFlight := inf, state := .sent } rfl false rfl)
  rw [upd_self] at this
  exact this

theorem g_skipNumber (l : Loss) (g : Ghost) (h : FInv l g) (sp : Nat) (hsp : sp < 3) (now : Int) :
    FInv (l.skipNumber sp now) { g with k := upd g.k sp ((l.space sp).nextNum :: g.k sp) } := by
  unfold Loss.skipNumber
  simp only
  have := finv_update l g h sp hsp _ l.cc _ _ (spaceInv_add (l.space sp) (g.f sp) (g.k sp) (h sp hsp)
    { num := (l.space sp).nextNum, size := 0, time := now, ackEliciting := false, inFlight := false, state := .unsent } rfl true rfl)
  rw [upd_self, setSpace_eta] at this
  exact this


def gDetectLoss (l : Loss) (g : Ghost) (now ld : Int) (fst : Option Int) : Ghost :=
  let r0 := l.detectSpace 0 now ld fst
  let g0 : Ghost := { g with f := upd g.f 0 (numsOf r0.2 ++ g.f 0) }
  let r1 := r0.1.detectSpace 1 now ld fst
  let g1 : Ghost := { g0 with f := upd g0.f 1 (numsOf r1.2 ++ g0.f 1) }
  let r2 := r1.1.detectSpace 2 now ld fst
  { g1 with f := upd g1.f 2 (numsOf r2.2 ++ g1.f 2) }

theorem g_detectLoss (l : Loss) (g : Ghost) (h : FInv l g) (now ld : Int) (fst : Option Int) :
    FInv (l.detectLoss now ld fst).1 (gDetectLoss l g now ld fst) ∧
    Rec g (gDetectLoss l g now ld fst) (l.detectLoss now ld fst).2 := by
  obtain ⟨i0, f0⟩ := g_detectSpace l g h 0 (by omega) now ld fst
  obtain ⟨i1, f1⟩ := g_detectSpace _ _ i0 1 (by omega) now ld fst
  obtain ⟨i2, f2⟩ := g_detectSpace _ _ i1 2 (by omega) now ld fst
  exact ⟨i2, (f0.trans f1).trans f2⟩

def gstep (l : Loss) (g : Ghost) : Op → Ghost
  | .send _ _ _ _ _ => g
  | .skip sp _ => { g with k := upd g.k sp ((l.space sp).nextNum :: g.k sp) }
  | .ackRange sp a b => { g with f := upd g.f sp (numsOf (l.receiveAckRange sp a b).2.1 ++ g.f sp) }
  | .ackEnd sp now ld fst _ => gDetectLoss (l.setSpace sp (l.space sp).clean) g now ld fst
  | .advance now ld fst => gDetectLoss l g now ld fst
  | .discardPackets sp => { g with f := upd g.f sp (numsOf (l.discardPackets sp).2 ++ g.f sp) }
  | .discardKeys sp => { f := upd g.f sp [], k := upd g.k sp [] }
  | .setUnderutilized _ => g

def Op.SpaceOK : Op → Prop
  | .send sp _ _ _ _ => sp < 3
  | .skip sp _ => sp < 3
  | .ackRange sp _ _ => sp < 3
  | .ackEnd sp _ _ _ _ => sp < 3
  | .discardPackets sp => sp < 3
  | .discardKeys sp => sp < 3
  | _ => True

/-- C26, the step theorem: the callbacks of an operation are new with respect to the ghost record `g`
(`FreshAll`; none twice, so never both acked and lost), and `FInv` is re-established with them recorded. -/
theorem step_ok (l : Loss) (g : Ghost) (op : Op) (hsp : op.SpaceOK) (h : FInv l g) :
    FInv (step l op).1 (gstep l g op) ∧ FreshAll g (step l op).2 ∧
    ∀ c ∈ (step l op).2, c.2.1 ∈ (gstep l g op).f c.1 := by
  have none : ∀ g' : Ghost, FreshAll g [] ∧ ∀ c ∈ ([] : List Callback), c.2.1 ∈ g'.f c.1 :=
    fun _ => ⟨freshAll_nil g, fun _ hc => nomatch hc⟩
  cases op with
  | send sp size ae inf now => exact ⟨g_packetSent l g h sp hsp size ae inf now, none _⟩
  | skip sp now => exact ⟨g_skipNumber l g h sp hsp now, none _⟩
  | ackRange sp a b =>
    obtain ⟨a1, a2⟩ := g_receiveAckRange l g h sp hsp a b
    exact ⟨a1, a2.fresh, a2.recorded⟩
  | ackEnd sp now ld fst pcd =>
    obtain ⟨a1, a2⟩ := g_detectLoss _ g (g_clean l g h sp hsp) now ld fst
    exact ⟨g_cc _ _ a1 _, a2.fresh, a2.recorded⟩
  | advance now ld fst =>
    obtain ⟨a1, a2⟩ := g_detectLoss l g h now ld fst
    exact ⟨a1, a2.fresh, a2.recorded⟩
  | discardPackets sp =>
    obtain ⟨a1, a2⟩ := g_discardPackets l g h sp hsp
    exact ⟨a1, a2.fresh, a2.recorded⟩
  | discardKeys sp => exact ⟨g_discardKeys l g h sp hsp, none _⟩
  | setUnderutilized v => exact ⟨g_cc l g h _, none _⟩

theorem fate_step (l : Loss) (g : Ghost) (op : Op) (hsp : op.SpaceOK) (h : FInv l g) :
    FInv (step l op).1 (gstep l g op) ∧ FreshAll g (step l op).2 :=
  ⟨(step_ok l g op hsp h).1, (step_ok l g op hsp h).2.1⟩

theorem finv_init (mds : Int) : FInv (Loss.init mds) {} := by
  intro i _
  have : (Loss.init mds).space i = {} := by unfold Loss.space Loss.init; split <;> rfl
  rw [this]; exact spaceInv_empty

def grun : Loss → Ghost → List Op → Loss × Ghost
  | l, g, [] => (l, g)
  | l, g, op :: rest => grun (step l op).1 (gstep l g op) rest

theorem grun_fst (ops : List Op) (l : Loss) (g : Ghost) : (grun l g ops).1 = run l ops := by
  induction ops generalizing l g with
  | nil => rfl
  | cons op rest ih => simp only [grun, run, List.foldl_cons]; exact ih _ _

theorem finv_grun (ops : List Op) (l : Loss) (g : Ghost) (hv : ∀ op ∈ ops, op.SpaceOK) (h : FInv l g) :
    FInv (grun l g ops).1 (grun l g ops).2 := by
  induction ops generalizing l g with
  | nil => exact h
  | cons op rest ih =>
    simp only [grun]
    exact ih _ _ (fun o ho => hv o (List.mem_cons_of_mem _ ho)) (fate_step l g op (hv op List.mem_cons_self) h).1

/-- C26, at most one fate per packet, as far as it is proved: after any history from `init` the callbacks of the
next operation are new with respect to the ghost record (not in `g.f`, not skipped, none twice within the
operation, so ack and loss callbacks are disjoint). That the record still holds every earlier callback of the
space since its keys were discarded is the half that is not stated: see `callbacks_recorded`. -/
theorem fate_once (mds : Int) (ops : List Op) (op : Op) (hv : ∀ o ∈ ops, o.SpaceOK) (hop : op.SpaceOK) :
    FreshAll (grun (Loss.init mds) {} ops).2 (step (run (Loss.init mds) ops) op).2 := by
  have := finv_grun ops _ _ hv (finv_init mds)
  rw [← grun_fst ops (Loss.init mds) {}]
  exact (fate_step _ _ op hop this).2

/-- Every callback is in the ghost record right after its step. That later steps other than `discardKeys` keep
it there is `Rec.mono`, which `step_ok` proves on the way and drops: no theorem states it for `gstep` or `grun`. -/
theorem callbacks_recorded (l : Loss) (g : Ghost) (op : Op) (hsp : op.SpaceOK) (h : FInv l g) :
    ∀ c ∈ (step l op).2, c.2.1 ∈ (gstep l g op).f c.1 := (step_ok l g op hsp h).2.2


/-- C26, "a packet's state changes at most once from `sent`", for one pair related by `Settles` only (see there). -/
theorem settles_final (p p' : Pkt) (h : Settles p p') (hs : p.state ≠ .sent) : p' = p := by
  rcases h with h | ⟨h, _⟩
  · exact h
  · exact absurd h hs

/-- 4 packets of 1000 bytes, ACK of #3 only: #0 is lost by the packet threshold, #3 acked,
#1 and #2 stay in flight (2000 bytes); the window is halved on entering recovery. -/
def demo : Loss × List Callback :=
  let l := run (Loss.init 1200) [.send 2 1000 true true 0, .send 2 1000 true true 1, .send 2 1000 true true 2, .send 2 1000 true true 3]
  let r := l.receiveAckRange 2 3 4
  let e := r.1.receiveAckEnd 2 10 1000 none 5000
  (e.1, r.2.1 ++ e.2)

example : demo.2 = [(2, 3, Fate.acked), (2, 0, Fate.lost)] := by decide
example : demo.1.cc.bytesInFlight = 2000 ∧ lossFlight demo.1 = 2000 ∧ demo.1.cc.cwnd = 6000 ∧ demo.1.cc.inRecovery = true := by decide
example : Reachable (run (Loss.init 1200) [.send 2 1000 true true 0]) :=
  ⟨1200, _, by decide, by intro o ho; simp at ho; subst ho; simp [Op.Valid], rfl⟩
/-- Persistent congestion collapses the window to exactly the minimum. -/
example : ((newReno 1200).packetLost 0 ⟨0, 100, 0, true, true, .sent⟩ (some 0) |>.packetLost 0 ⟨1, 100, 9000, true, true, .sent⟩ (some 0)
            |>.packetBatchEnd 9500 0 3000).cwnd = 2400 := by decide

end NetVerif.Proofs.C26
