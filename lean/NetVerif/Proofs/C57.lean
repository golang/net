import NetVerif.Model.XsrfToken
import NetVerif.Model.HmacSha1
import NetVerif.Proofs.Lemmas.XsrfStrings
import NetVerif.Proofs.Lemmas.Split
import NetVerif.Gen.C57
/-!
C57 — XSRF tokens are bound to key, user, action and time window. The MAC is an uninterpreted function `mac`
(every theorem is for all `mac`): "never valid for another key/user/action" is proved as "unless the MAC
collides on two distinct (key, message) pairs" (`other_triple_needs_collision`), and outright under
`CollisionFree mac`. Two exceptions to the literal reading are proved, the known findings `pre-epoch-issue-time`
(`full_false`, `pre_epoch_token_never_valid`) and `hmac-equivalent-key` (`hmac_equivalent_key`).
-/
namespace NetVerif.Proofs.C57
open NetVerif NetVerif.Model.Xsrf NetVerif.Proofs.Lemmas.XsrfStrings

theorem clean_single_pass (s : Bytes) : clean s = s.flatMap cleanByte :=
  clean_flatMap s

def Int64 (i : Int) : Prop := -9223372036854775808 ≤ i ∧ i ≤ 9223372036854775807

theorem macInput_injective (u a u' a' : Bytes) (m m' : Int) (hm : Int64 m) (hm' : Int64 m')
    (h : macInput u a m = macInput u' a' m') : u = u' ∧ a = a' ∧ m = m' := by
  unfold macInput at h
  unfold Int64 at hm hm'
  obtain ⟨h1, h2⟩ := Lemmas.Split.append_sep_inj (clean_no_colon u) (clean_no_colon u') h
  obtain ⟨h3, h4⟩ := Lemmas.Split.append_sep_inj (clean_no_colon a) (clean_no_colon a') h2
  exact ⟨clean_injective _ _ h1, clean_injective _ _ h3, decInt_inj _ _ (by omega) (by omega) h4⟩

theorem wrap64_id (x : Int) (h : Int64 x) : wrap64 x = x := by
  unfold Int64 at h; unfold wrap64; omega

theorem wrap64_range (x : Int) : Int64 (wrap64 x) := by
  unfold Int64 wrap64; omega

/-- Go's `/` truncates toward zero: floor for a non-negative dividend, ceiling for a negative one. -/
theorem milliTime_eq (t : Int) :
    (0 ≤ wrap64 (t + 999999) → milliTime t = wrap64 (t + 999999) / 1000000) ∧
    (wrap64 (t + 999999) < 0 → milliTime t = -(-wrap64 (t + 999999) / 1000000)) := by
  unfold milliTime
  refine ⟨Int.tdiv_eq_ediv_of_nonneg, fun h => ?_⟩
  rw [← Int.neg_neg (wrap64 (t + 999999)), Int.neg_tdiv, Int.tdiv_eq_ediv_of_nonneg (by omega),
    Int.neg_neg]

theorem milliTime_int64 (t : Int) : Int64 (milliTime t) := by
  have h := wrap64_range (t + 999999)
  have := milliTime_eq t
  unfold Int64 at *
  omega

/-- Clock values for which no int64 effect occurs (years 1824 … 2116). -/
def Sane (t : Int) : Prop := -4611686018427387904 ≤ t ∧ t ≤ 4611686018427387904

theorem milliTime_ceil (t : Int) (hs : Sane t) (h : -999999 ≤ t) :
    0 ≤ milliTime t ∧ (milliTime t - 1) * 1000000 < t ∧ t ≤ milliTime t * 1000000 := by
  unfold Sane at hs
  unfold milliTime
  rw [wrap64_id _ (by unfold Int64; omega), Int.tdiv_eq_ediv_of_nonneg (by omega)]
  omega

/-- The bound 4611686018428 is ⌈2^62 / 10^6⌉, the largest millisecond a `Sane` clock rounds up to
(`milliTime_ceil`). -/
theorem milliTime_issue (m : Int) (h0 : 0 ≤ m) (h1 : m ≤ 4611686018428) :
    milliTime (wrap64 (m * 1000000)) = m := by
  unfold milliTime
  rw [wrap64_id (m * 1000000) (by unfold Int64; omega),
    wrap64_id (m * 1000000 + 999999) (by unfold Int64; omega),
    Int.tdiv_eq_ediv_of_nonneg (by omega)]
  omega

/-- For a negative millisecond regenerating gives the next one (truncating division). -/
theorem milliTime_issue_neg (m : Int) (h0 : m < 0) (h1 : -4611686018428 ≤ m) :
    milliTime (wrap64 (m * 1000000)) = m + 1 := by
  have := milliTime_eq (wrap64 (m * 1000000))
  rw [wrap64_id (m * 1000000) (by unfold Int64; omega)] at this ⊢
  rw [wrap64_id _ (by unfold Int64; omega)] at this
  omega

/-- `Time.Sub` saturates only when the true difference leaves int64. -/
theorem satSub_cases (t u : Int) :
    satSub t u = t - u ∨ 9223372036854775807 < t - u ∧ satSub t u = 9223372036854775807 ∨
    t - u < -9223372036854775808 ∧ satSub t u = -9223372036854775808 := by
  unfold satSub
  simp only []
  split
  · omega
  · split <;> omega

theorem token_split (mac : Bytes → Bytes → Bytes) (key u a : Bytes) (t : Int) :
    splitLast (tokenAt mac key u a t) =
      some (mac key (macInput u a (milliTime t)), decInt (milliTime t)) := by
  unfold tokenAt
  exact splitLast_append _ _ (decInt_no_colon _)

theorem tokenAt_eq_iff (mac : Bytes → Bytes → Bytes) {key u a key' u' a' : Bytes} {t t' : Int} :
    tokenAt mac key u a t = tokenAt mac key' u' a' t' ↔
      milliTime t = milliTime t' ∧
      mac key (macInput u a (milliTime t)) = mac key' (macInput u' a' (milliTime t)) := by
  refine ⟨fun h => ?_, fun ⟨h1, h2⟩ => by unfold tokenAt; simp only [← h1, h2]⟩
  have s := token_split mac key u a t
  rw [h, token_split] at s
  obtain ⟨hmac, hdec⟩ := Prod.mk.inj (Option.some.inj s)
  have h1 := milliTime_int64 t
  have h2 := milliTime_int64 t'
  unfold Int64 at h1 h2
  have hm := (decInt_inj _ _ (by omega) (by omega) hdec).symm
  exact ⟨hm, by rw [← hmac, hm]⟩

theorem check_generated (mac : Bytes → Bytes → Bytes) (key u a key' u' a' : Bytes) (t now timeout : Int) :
    checkAt mac (tokenAt mac key u a t) key' u' a' now timeout =
      (let issue := wrap64 (milliTime t * 1000000)
       if satSub now issue ≥ timeout then false
       else if issue > now + 60000000000 then false
       else decide (tokenAt mac key u a t = tokenAt mac key' u' a' issue)) := by
  have hm := milliTime_int64 t
  unfold checkAt
  simp only [token_split, parseInt64_decInt _ hm.1 hm.2]

/-- Acceptance of a generated token, for its own or another triple.  The third conjunct holds for
a millisecond ≥ 0 (`milliTime_issue`) and fails for a negative one, which regenerates as the next
(`milliTime_issue_neg`); the fourth is trivial for the same triple and a collision for another. -/
theorem check_generated_iff (mac : Bytes → Bytes → Bytes) (key u a key' u' a' : Bytes) (t now timeout : Int) :
    checkAt mac (tokenAt mac key u a t) key' u' a' now timeout = true ↔
      satSub now (wrap64 (milliTime t * 1000000)) < timeout ∧
      wrap64 (milliTime t * 1000000) ≤ now + 60000000000 ∧
      milliTime t = milliTime (wrap64 (milliTime t * 1000000)) ∧
      mac key (macInput u a (milliTime t)) = mac key' (macInput u' a' (milliTime t)) := by
  rw [check_generated]
  simp only [ge_iff_le, gt_iff_lt]
  split
  · simp only [Bool.false_eq_true, false_iff]; omega
  · split
    · simp only [Bool.false_eq_true, false_iff]; omega
    · rw [decide_eq_true_iff, tokenAt_eq_iff]
      exact ⟨fun h => ⟨by omega, by omega, h⟩, fun h => h.2.2⟩

/-- C57, the validity window, both edges exact: a token generated at clock `t` (not before the epoch) is
valid for its own triple exactly when `issue − 1 min ≤ now < issue + timeout`. -/
theorem window_exact (mac : Bytes → Bytes → Bytes) (key u a : Bytes) (t now timeout : Int)
    (ht : Sane t) (hnow : Sane now) (hpost : -999999 ≤ t) :
    checkAt mac (tokenAt mac key u a t) key u a now timeout =
      decide (milliTime t * 1000000 - 60000000000 ≤ now ∧ now < milliTime t * 1000000 + timeout) := by
  obtain ⟨hm0, hm1, hm2⟩ := milliTime_ceil t ht hpost
  unfold Sane at ht hnow
  have hmi := milliTime_issue (milliTime t) hm0 (by omega)
  have hw : wrap64 (milliTime t * 1000000) = milliTime t * 1000000 := wrap64_id _ (by unfold Int64; omega)
  rw [Bool.eq_iff_iff, check_generated_iff, decide_eq_true_iff, hmi, hw]
  have hs := satSub_cases now (milliTime t * 1000000)
  exact ⟨fun ⟨h1, h2, _⟩ => by omega, fun h => ⟨by omega, by omega, rfl, rfl⟩⟩

/-- Public-API form: `Valid`'s answer for a token from `Generate` with explicit clocks. -/
theorem valid_generated (mac : Bytes → Bytes → Bytes) (key u a tok : Bytes) (t now timeout : Int)
    (ht : Sane t) (hnow : Sane now) (hpost : -999999 ≤ t)
    (hg : generateWith mac key u a t = some tok) :
    validWith mac tok key u a now timeout =
      some (decide (milliTime t * 1000000 - 60000000000 ≤ now ∧ now < milliTime t * 1000000 + timeout)) := by
  unfold generateWith at hg
  unfold validWith
  split at hg
  · simp at hg
  · rename_i hk
    simp at hg; subst hg
    simp only [hk]
    rw [window_exact mac key u a t now timeout ht hnow hpost]
    simp

/-- Empty keys panic on both sides and nothing else does. -/
theorem panics_iff_empty_key (mac : Bytes → Bytes → Bytes) (tok key u a : Bytes) (t now timeout : Int) :
    (generateWith mac key u a t = none ↔ key = []) ∧ (validWith mac tok key u a now timeout = none ↔ key = []) := by
  unfold generateWith validWith
  cases key <;> simp

/-- C57, accepted ⇒ generated: whatever string is accepted is the token the generator produces for this
key/user/action at the issue time it names, and that time is in the window. -/
theorem accepted_is_generated (mac : Bytes → Bytes → Bytes) (tok key u a : Bytes) (now timeout : Int)
    (h : checkAt mac tok key u a now timeout = true) :
    ∃ millis : Int, Int64 millis ∧
      tok = tokenAt mac key u a (wrap64 (millis * 1000000)) ∧
      satSub now (wrap64 (millis * 1000000)) < timeout ∧
      wrap64 (millis * 1000000) ≤ now + 60000000000 ∧
      milliTime (wrap64 (millis * 1000000)) = millis := by
  unfold checkAt at h
  split at h
  · cases h
  rename_i pre suffix hsplit
  split at h
  · cases h
  rename_i millis hparse
  simp only [] at h
  split at h
  · cases h
  split at h
  · cases h
  rename_i h1 h2
  simp at h
  -- `tok` is the regenerated token: its suffix is the decimal of that token's millisecond and parses to `millis`
  have hs := token_split mac key u a (wrap64 (millis * 1000000))
  rw [← h, hsplit] at hs
  simp at hs
  have hm64 := milliTime_int64 (wrap64 (millis * 1000000))
  have hp := parseInt64_decInt _ hm64.1 hm64.2
  rw [← hs.2, hparse] at hp
  simp at hp
  refine ⟨millis, ?_, h, by omega, by omega, hp.symm⟩
  rw [hp]; exact hm64

def CollisionFree (mac : Bytes → Bytes → Bytes) : Prop :=
  ∀ k1 m1 k2 m2, mac k1 m1 = mac k2 m2 → k1 = k2 ∧ m1 = m2

/-- If a generated token is accepted for a different (key, user, action) — including ones that
differ only in where ':' or '_' appear — then the MAC collides on two DISTINCT (key, message) pairs. -/
theorem other_triple_needs_collision (mac : Bytes → Bytes → Bytes) (key u a key' u' a' : Bytes)
    (t now timeout : Int) (hne : (key, u, a) ≠ (key', u', a'))
    (h : checkAt mac (tokenAt mac key u a t) key' u' a' now timeout = true) :
    ∃ k1 m1 k2 m2, (k1, m1) ≠ (k2, m2) ∧ mac k1 m1 = mac k2 m2 := by
  refine ⟨key, macInput u a (milliTime t), key', macInput u' a' (milliTime t), fun heq => ?_,
    ((check_generated_iff ..).mp h).2.2.2⟩
  obtain ⟨hk, hi⟩ := Prod.mk.inj heq
  have hm1 := milliTime_int64 t
  obtain ⟨hu, ha, _⟩ := macInput_injective _ _ _ _ _ _ hm1 hm1 hi
  exact hne (by rw [hk, hu, ha])

theorem never_valid_for_other (mac : Bytes → Bytes → Bytes) (hcf : CollisionFree mac)
    (key u a key' u' a' : Bytes) (t now timeout : Int) (hne : (key, u, a) ≠ (key', u', a')) :
    checkAt mac (tokenAt mac key u a t) key' u' a' now timeout = false := by
  cases hc : checkAt mac (tokenAt mac key u a t) key' u' a' now timeout with
  | false => rfl
  | true =>
    obtain ⟨k1, m1, k2, m2, hd, he⟩ := other_triple_needs_collision mac key u a key' u' a' t now timeout hne hc
    obtain ⟨e1, e2⟩ := hcf k1 m1 k2 m2 he
    exact absurd (by rw [e1, e2]) hd

/-- The ':' / '_' clause concretely: ("a:b","c") and ("a","b:c") have different MAC inputs. -/
theorem separator_confusion_distinct (m : Int) :
    macInput [97, 58, 98] [99] m ≠ macInput [97] [98, 58, 99] m ∧
    macInput [97, 95, 99, 98] [] m ≠ macInput [97, 58, 98] [] m := by
  constructor <;> (unfold macInput; simp [clean, replaceColon, replaceUnderscore])

/-- ⌈t / 1 ms⌉. -/
def ceilMs (t : Int) : Int := -((-t) / 1000000)

/-- C57 for one issue clock `t`. -/
def HoldsAt (t : Int) : Prop :=
  ∀ (mac : Bytes → Bytes → Bytes) (key u a : Bytes) (now timeout : Int), Sane now →
    (checkAt mac (tokenAt mac key u a t) key u a now timeout =
        decide (ceilMs t * 1000000 - 60000000000 ≤ now ∧ now < ceilMs t * 1000000 + timeout)) ∧
    (CollisionFree mac → ∀ key' u' a', (key, u, a) ≠ (key', u', a') →
        checkAt mac (tokenAt mac key u a t) key' u' a' now timeout = false)

/-- C57 at full (literal) strength: all issue clocks. -/
def FullStatement : Prop := ∀ t : Int, Sane t → HoldsAt t

/-- Excluded region: clocks at or before 1 ms before the Unix epoch. -/
def PreEpoch (t : Int) : Prop := t < -999999

instance (t : Int) : Decidable (PreEpoch t) := by unfold PreEpoch; infer_instance

theorem ceilMs_eq_milliTime (t : Int) (hs : Sane t) (h : ¬ PreEpoch t) : ceilMs t = milliTime t := by
  unfold PreEpoch at h
  obtain ⟨_, h1, h2⟩ := milliTime_ceil t hs (by omega)
  unfold ceilMs; omega

/-- C57 for every clock from 999999 ns before the epoch on. Missing w.r.t. `FullStatement`:
`PreEpoch` clocks (Go's `/` truncates toward zero there). -/
theorem holds_partial (t : Int) (hs : Sane t) (h : ¬ PreEpoch t) : HoldsAt t := by
  intro mac key u a now timeout hnow
  refine ⟨?_, fun hcf key' u' a' hne => never_valid_for_other mac hcf key u a key' u' a' t now timeout hne⟩
  rw [ceilMs_eq_milliTime t hs h]
  exact window_exact mac key u a t now timeout hs hnow (by unfold PreEpoch at h; omega)

/-- A token whose millisecond is negative (clock ≤ −1999999 ns) is never valid, at any time,
with any timeout, for any MAC: `validTokenAtTime` regenerates it with millisecond + 1. -/
theorem pre_epoch_token_never_valid (mac : Bytes → Bytes → Bytes) (key u a : Bytes) (t now timeout : Int)
    (hs : Sane t) (h : t ≤ -1999999) :
    checkAt mac (tokenAt mac key u a t) key u a now timeout = false := by
  have hm : milliTime t < 0 ∧ -4611686018428 ≤ milliTime t := by
    unfold Sane at hs
    have := milliTime_eq t
    rw [wrap64_id _ (by unfold Int64; omega)] at this
    omega
  -- the regenerated token names the next millisecond
  have hreg := milliTime_issue_neg (milliTime t) hm.1 hm.2
  refine Bool.eq_false_iff.mpr fun hv => ?_
  have := ((check_generated_iff ..).mp hv).2.2.1
  omega

/-- The literal statement is false on the code as it is: witness `t = −2 ms` (a token issued then
is invalid even at `now = t`, although `⌈t⌉ − 1 min ≤ now < ⌈t⌉ + 24 h`). -/
theorem full_false : ¬ FullStatement := by
  intro hfull
  have hs : Sane (-2000000) := by unfold Sane; omega
  have h := (hfull (-2000000) hs (fun _ _ => []) [107] [] [] (-2000000) 86400000000000 hs).1
  rw [pre_epoch_token_never_valid _ _ _ _ _ _ _ hs (by omega)] at h
  revert h
  unfold ceilMs
  decide

theorem hmac_key_block_padding : Model.HmacSha1.keyBlock [107] = Model.HmacSha1.keyBlock [107, 0] := by decide

theorem hmac_padded_key (m : Bytes) : Model.HmacSha1.mac [107, 0] m = Model.HmacSha1.mac [107] m := by
  unfold Model.HmacSha1.mac Model.HmacSha1.hmacSha1; rw [hmac_key_block_padding]

/-- Finding `hmac-equivalent-key`: HMAC pads a short key with zeros, so the token of key "k" is accepted for
key "k\x00" exactly when it is accepted for "k". -/
theorem hmac_equivalent_key (tok u a : Bytes) (now timeout : Int) :
    checkAt Model.HmacSha1.mac tok [107, 0] u a now timeout = checkAt Model.HmacSha1.mac tok [107] u a now timeout := by
  unfold checkAt tokenAt
  simp only [hmac_padded_key]

theorem hmac_not_collisionFree : ¬ CollisionFree Model.HmacSha1.mac := by
  intro h
  have := (h _ _ _ _ (hmac_padded_key [])).1
  simp at this

/-! Tie to the source: constants and data regenerated from xsrf.go. -/

/-- Generic `strings.ReplaceAll(s, old, new)` for a one-byte `old`. -/
def replaceAll1 (s : Bytes) (p : List Nat × List Nat) : Bytes :=
  s.flatMap (fun c => if [c] = p.1 then p.2 else [c])

theorem gen_clean_eq (s : Bytes) : clean s = Gen.C57.cleanPairs.foldl replaceAll1 s := by
  unfold clean replaceColon replaceUnderscore Gen.C57.cleanPairs replaceAll1
  simp

theorem gen_milliTime_eq (t : Int) :
    milliTime t = Int.tdiv (wrap64 (t + Gen.C57.roundAdd)) Gen.C57.roundDiv := rfl

theorem gen_formats_eq (mac : Bytes → Bytes → Bytes) (key u a : Bytes) (t : Int) :
    -- "%s:%s:%d" and "%s:%d": the separators of the MAC input and of the token are the format's ':'
    Gen.C57.macFormat = [37, 115, 58, 37, 115, 58, 37, 100] ∧ Gen.C57.tokenFormat = [37, 115, 58, 37, 100] ∧
    macInput u a (milliTime t) = clean u ++ [58] ++ clean a ++ [58] ++ decInt (milliTime t) ∧
    tokenAt mac key u a t = mac key (macInput u a (milliTime t)) ++ [58] ++ decInt (milliTime t) := by
  refine ⟨by decide, by decide, ?_, ?_⟩
  · unfold macInput; simp
  · unfold tokenAt; simp

theorem gen_check_consts_eq :
    Gen.C57.timeoutNs = defaultTimeoutNs ∧ Gen.C57.graceNs = graceNs ∧ Gen.C57.issueMul = 1000000 ∧
    Gen.C57.expiredOp = [62, 61] ∧ Gen.C57.parseBase = 10 ∧ Gen.C57.parseBits = 64 := by decide

/-- `checkAt` written with the regenerated constants (the model's literals are these). -/
theorem gen_checkAt_eq (mac : Bytes → Bytes → Bytes) (token key u a : Bytes) (now timeout : Int) :
    checkAt mac token key u a now timeout =
      (match splitLast token with
       | none => false
       | some (_, suffix) =>
         match parseInt64 suffix with
         | none => false
         | some millis =>
           let issue := wrap64 (millis * Gen.C57.issueMul)
           if satSub now issue ≥ timeout then false
           else if issue > now + Gen.C57.graceNs then false
           else decide (token = tokenAt mac key u a issue)) := rfl

example : Sane 1577836800000000001 ∧ ¬ PreEpoch 1577836800000000001 ∧ milliTime 1577836800000000001 = 1577836800001 := by
  unfold Sane PreEpoch; decide
example : clean [97, 58, 95, 98] = [97, 95, 99, 95, 95, 98] := by decide
example : decInt (-1577836800001) = [45, 49, 53, 55, 55, 56, 51, 54, 56, 48, 48, 48, 48, 49] := by decide
example : parseInt64 [43, 53] = some 5 ∧ parseInt64 [45] = none ∧ parseInt64 [53, 95] = none := by decide
example : checkAt (fun k m => k ++ m) (tokenAt (fun k m => k ++ m) [107] [117] [97] 5000000) [107] [117] [97] 6000000 1000001 = true := by decide
example : checkAt (fun k m => k ++ m) (tokenAt (fun k m => k ++ m) [107] [117] [97] 5000000) [107] [117] [97] 6000000 1000000 = false := by decide

end NetVerif.Proofs.C57
