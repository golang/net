import NetVerif.Proofs.Lemmas.HpackEnc
import NetVerif.Proofs.C04
import NetVerif.Model.HpackU32
/-!
C02 — the HPACK decoder is safe and honours its limits on any input.

`NetVerif.Model.Hpack` is total by construction: a Go panic has no counterpart, and the only artificial
results are the fuel/progress guards `PErr.internal`, which are dead because every parsed representation
consumes at least one byte (`write_no_internal`). "No fabrication" is stated per action
(`indexed_emit_is_entry`, `literal_emit_is_input`) and per string (`readString_is_infix`); that
`parseAction` fills the action with such strings and takes the name `tn` from the table is not stated.
-/
namespace NetVerif.Proofs.C02
open NetVerif.Model.Hpack
open NetVerif.Proofs.Lemmas.Hpack
open NetVerif.Model
open NetVerif

/-- `readVarInt` stays below 2^64 (indeed below 2^63 + 2^8): no `uint64` wrap-around in Go. -/
theorem readVarInt_lt (n : Nat) (p : Bytes) (v : Nat) (rest : Bytes) (hp : ∀ b ∈ p, b < 256)
    (h : readVarInt n p = .ok (v, rest)) : v < 2 ^ 63 + 2 ^ 8 :=
  have ⟨_, _, _, _, _, hv⟩ := readVarInt_ok h
  hv hp

theorem readVarInt_consumed (n : Nat) (p : Bytes) (v : Nat) (rest : Bytes)
    (h : readVarInt n p = .ok (v, rest)) : rest.length < p.length ∧ p.length ≤ rest.length + 10 := by
  obtain ⟨c, rfl, h1, h2, _⟩ := readVarInt_ok h
  rw [List.length_append]
  omega

/-- `Lemmas.HpackEnc.sizeSum` once more (equal by `rfl`), so the first half of `TableInv` is
`Lemmas.HpackEnc.SizeOK` and the eviction lemmas of that module apply as they are. -/
def sizeSum (es : List Entry) : Nat := (es.map entrySize).sum

def TableInv (dt : DynTable) : Prop := dt.size = sizeSum dt.ents ∧ dt.size ≤ dt.maxSize

theorem evict_inv (dt : DynTable) (h : dt.size = sizeSum dt.ents) : TableInv dt.evict :=
  have := Lemmas.HpackEnc.evict_sizeOK dt h
  ⟨this.1, this.2.1⟩

theorem setMaxSize_inv (dt : DynTable) (v : Nat) (h : TableInv dt) : TableInv (dt.setMaxSize v) :=
  evict_inv _ h.1

theorem add_inv (dt : DynTable) (e : Entry) (h : TableInv dt) : TableInv (dt.add e) :=
  Lemmas.HpackEnc.add_sizeOK dt e h.1

theorem evict_fields (dt : DynTable) :
    dt.evict.maxSize = dt.maxSize ∧ dt.evict.allowedMaxSize = dt.allowedMaxSize := ⟨rfl, rfl⟩

def resCore : ApplyRes → DecCore
  | .err _ d => d
  | .ok d _ => d

/-- The only state changes one action can make, parsed from some input or not: none, `setMaxSize`, or
`add` (`parseRepr_shape` is the same for the actions `parseAction` yields, with the bound it checked). -/
theorem applyAction_shape (d : DecCore) (a : Action) :
    ∃ dyn', resCore (applyAction d a) = { d with dyn := dyn' } ∧
      (dyn' = d.dyn ∨ (∃ s, a = .sizeUpdate s ∧ dyn' = d.dyn.setMaxSize s) ∨ ∃ e, dyn' = d.dyn.add e) := by
  have hfe : ∀ d hf, resCore (finishEmit d hf) = d := fun d hf => by
    unfold finishEmit
    cases callEmit d hf <;> rfl
  cases a with
  | indexed e => exact ⟨d.dyn, hfe d _, .inl rfl⟩
  | sizeUpdate s => exact ⟨_, rfl, .inr (.inl ⟨s, rfl, rfl⟩)⟩
  | literal it tn un uv =>
    rw [applyAction_literal_eq]
    split
    · exact ⟨d.dyn, rfl, .inl rfl⟩
    · split
      · exact ⟨d.dyn, rfl, .inl rfl⟩
      · rename_i name _ _ value _
        obtain ⟨dyn', hd, hs⟩ := afterLiteral_eq d it name value
        exact ⟨dyn', (hfe _ _).trans hd, hs.imp_right fun h => .inr ⟨_, h.2⟩⟩

/-- What one representation preserves: table invariant and the configuration fields (`maxStrLen`,
`emitEnabled`, `allowedMaxSize` are never changed by the peer). -/
def CoreInv (m : Nat) (en : Bool) (al : Nat) (d : DecCore) : Prop :=
  TableInv d.dyn ∧ d.maxStrLen = m ∧ d.emitEnabled = en ∧ d.dyn.allowedMaxSize = al

theorem parseRepr_inv (m : Nat) (en : Bool) (al : Nat) (d : DecCore) (buf : Bytes) (d' : DecCore)
    (h : CoreInv m en al d) (hd : EndsIn d buf d') : CoreInv m en al d' := by
  obtain ⟨dyn', rfl, hs⟩ := parseRepr_shape hd
  rcases hs with rfl | ⟨s, _, rfl⟩ | ⟨e, rfl⟩
  · exact h
  · exact ⟨setMaxSize_inv _ _ h.1, h.2.1, h.2.2.1, h.2.2.2⟩
  · exact ⟨add_inv _ _ h.1, h.2.1, h.2.2.1, h.2.2.2⟩

/-- After `Write` on any input the dynamic table still satisfies
`size = Σ entry sizes ≤ maxSize`, and the limits `maxStrLen` and `allowedMaxSize` are untouched. -/
theorem write_table_inv (d : Decoder) (p : Bytes) (h : TableInv d.dyn) :
    TableInv (d.write p).1.dyn ∧ (d.write p).1.maxStrLen = d.maxStrLen ∧
      (d.write p).1.dyn.allowedMaxSize = d.dyn.allowedMaxSize := by
  have := (lifts_inv (CoreInv d.maxStrLen d.emitEnabled d.dyn.allowedMaxSize) (fun _ _ h => h)
    (parseRepr_inv _ _ _)).write true d p ⟨h, rfl, rfl, rfl⟩
  exact ⟨this.1, this.2.1, this.2.2.2⟩

theorem close_table_inv (d : Decoder) (h : TableInv d.dyn) : TableInv d.close.1.dyn := by
  unfold Decoder.close
  split <;> exact h

theorem new_table_inv (n : Nat) : TableInv (Decoder.new n).dyn := ⟨rfl, Nat.zero_le _⟩

theorem setters_table_inv (d : Decoder) (v : Nat) (b : Bool) (h : TableInv d.dyn) :
    TableInv (d.setMaxDynamicTableSize v).dyn ∧ TableInv (d.setAllowedMaxDynamicTableSize v).dyn ∧
    TableInv (d.setMaxStringLength v).dyn ∧ TableInv (d.setEmitEnabled b).dyn :=
  ⟨setMaxSize_inv _ _ h, h, h, h⟩

/-- `maxSize ≤ allowedMaxSize` is preserved by one representation, hence by `Write`: **the peer can
never raise the table limit above `allowedMaxSize`.** -/
theorem write_maxSize_le_allowed (d : Decoder) (p : Bytes) (h : d.dyn.maxSize ≤ d.dyn.allowedMaxSize) :
    (d.write p).1.dyn.maxSize ≤ (d.write p).1.dyn.allowedMaxSize := by
  refine (lifts_inv (fun d => d.dyn.maxSize ≤ d.dyn.allowedMaxSize) (fun _ _ h => h) ?_).write true d p h
  intro d buf d' h hd
  obtain ⟨dyn', rfl, hs⟩ := parseRepr_shape hd
  rcases hs with rfl | ⟨s, hs, rfl⟩ | ⟨e, rfl⟩
  · exact h
  · exact hs
  · exact h

theorem write_size_le_allowed (d : Decoder) (p : Bytes) (h : TableInv d.dyn)
    (ha : d.dyn.maxSize ≤ d.dyn.allowedMaxSize) :
    (d.write p).1.dyn.size ≤ (d.write p).1.dyn.allowedMaxSize :=
  Nat.le_trans (write_table_inv d p h).1.2 (write_maxSize_le_allowed d p ha)

def FieldOK (m : Nat) (f : Field) : Prop := m ≠ 0 → f.name.length ≤ m ∧ f.value.length ≤ m

theorem lifts_emits : Lifts fun a em b => b.maxStrLen = a.maxStrLen ∧ ∀ x ∈ em, FieldOK a.maxStrLen x where
  refl _ := ⟨rfl, nofun⟩
  trans h1 h2 := ⟨h2.1.trans h1.1, fun x hx => (List.mem_append.mp hx).elim (h1.2 x) (h1.1 ▸ h2.2 x)⟩
  ff _ h := h
  ok {d buf d' rest e} hpr := by
    obtain ⟨_, _, _, _, hs⟩ := parseRepr_ok hpr
    obtain ⟨_, rfl, _⟩ := parseRepr_shape (.inl ⟨_, _, hpr⟩)
    refine ⟨rfl, fun x hx => ?_⟩
    cases e with
    | none => cases hx
    | some fe =>
      cases List.mem_singleton.mp hx
      exact hs.emitted
  err hpr := by
    obtain ⟨_, rfl, _⟩ := parseRepr_shape (.inr ⟨_, hpr⟩)
    exact ⟨rfl, nofun⟩

theorem write_emits_within_maxStrLen (d : Decoder) (p : Bytes) :
    ∀ f ∈ (d.write p).2.1, FieldOK d.maxStrLen f :=
  (lifts_emits.write true d p).2

theorem indexed_action_is_table_entry (d : DecCore) (b : Nat) (p : Bytes) (e : Entry) (rest : Bytes)
    (hb : b ≥ 128) (h : parseAction d (b :: p) = .ok (.indexed e, rest)) :
    ∃ idx, readVarInt 7 (b :: p) = .ok (idx, rest) ∧ d.at idx = some e := by
  rw [parseAction_cons, reprOf_indexed hb] at h
  obtain ⟨idx, r, hr, hk⟩ := bind_ok h
  cases hat : d.at idx with
  | none => rw [hat] at hk; cases hk
  | some e' =>
    rw [hat] at hk
    cases hk
    exact ⟨idx, hr, hat⟩

theorem bad_index_is_error (d : DecCore) (b : Nat) (p : Bytes) (idx : Nat) (rest : Bytes)
    (hb : b ≥ 128) (hr : readVarInt 7 (b :: p) = .ok (idx, rest)) (hat : d.at idx = none) :
    parseRepr d (b :: p) = .err .invalidIndex d := by
  refine parseRepr_err_iff.2 (.inl ⟨?_, nofun, rfl⟩)
  rw [parseAction_cons, reprOf_indexed hb]
  simp only [reprParser, indexedP, Parser.bind, hr, hat]
  rfl

theorem at_in_range (d : DecCore) (i : Nat) (e : Entry) (h : d.at i = some e) :
    1 ≤ i ∧ i ≤ staticTable.length + d.dyn.ents.length ∧ (e ∈ staticTable ∨ e ∈ d.dyn.ents) :=
  at_some h

theorem indexed_emit_is_entry (d : DecCore) (e : Entry) (d' : DecCore) (f : Field)
    (h : applyAction d (.indexed e) = .ok d' (some f)) :
    f = { name := e.1, value := e.2, sensitive := false } ∧ d' = d :=
  have h1 := finishEmit_some h
  ⟨h1.2.1, h1.1⟩

theorem decodeString_sound (m : Nat) (u : UString) (s : Bytes) (h : decodeString m u = .ok s) :
    (u.isHuff = false ∧ s = u.b) ∨ (u.isHuff = true ∧ Huffman.decode u.b = .ok s) := by
  unfold decodeString at h
  split at h
  · rename_i hh
    cases h
    exact .inl ⟨by simpa using hh, rfl⟩
  · rename_i hh
    split at h
    · rename_i hd
      cases h
      exact .inr ⟨by simpa using hh, (C04.decodeMax_ok m u.b s hd).1⟩
    · cases h
    · cases h

theorem bad_huffman_is_error (m : Nat) (u : UString) (hh : u.isHuff = true)
    (hd : Huffman.decodeMax m u.b = .error .invalid) : decodeString m u = .error .huffman := by
  simp [decodeString, hh, hd]

/-- **A literal representation emits only what the input says**: the value is the value string of
the representation (raw or Huffman-decoded), the name is the table name or the name string. -/
theorem literal_emit_is_input (d : DecCore) (it : IndexType) (tn : Option Bytes) (un uv : UString)
    (d' : DecCore) (f : Field) (h : applyAction d (.literal it tn un uv) = .ok d' (some f)) :
    f.sensitive = it.sensitive ∧
    ((uv.isHuff = false ∧ f.value = uv.b) ∨ (uv.isHuff = true ∧ Huffman.decode uv.b = .ok f.value)) ∧
    (match tn with
     | some n => f.name = n
     | none => (un.isHuff = false ∧ f.name = un.b) ∨ (un.isHuff = true ∧ Huffman.decode un.b = .ok f.name)) := by
  obtain ⟨name, value, hname, hvalue, rfl, hfe⟩ := applyLiteral_ok h
  obtain ⟨_, rfl, hen, _⟩ := finishEmit_some hfe
  -- something was emitted, so emit is enabled, so strings were wanted and decoded
  obtain ⟨dyn', hd, _⟩ := afterLiteral_eq d it name value
  rw [hd] at hen
  have hen : d.emitEnabled = true := hen
  simp only [litName, litValue, hen, Bool.true_or, ↓reduceIte] at hname hvalue
  refine ⟨rfl, decodeString_sound _ _ _ hvalue, ?_⟩
  cases tn with
  | some n => cases hname; rfl
  | none => exact decodeString_sound _ _ _ hname

theorem readString_is_infix (m : Nat) (buf : Bytes) (u : UString) (rest : Bytes)
    (h : readString m buf = .ok (u, rest)) : ∃ pre, buf = pre ++ u.b ++ rest ∧ (m ≠ 0 → u.b.length ≤ m) :=
  have ⟨pre, hb, _, _, hm⟩ := readString_ok h
  ⟨pre, hb, hm⟩

theorem oversized_update_is_error (d : DecCore) (b : Nat) (p : Bytes) (size : Nat) (rest : Bytes)
    (hb : b / 32 = 1) (hfirst : ¬ (!d.firstField ∧ d.dyn.size > 0))
    (hr : readVarInt 5 (b :: p) = .ok (size, rest)) (hs : size > d.dyn.allowedMaxSize) :
    parseRepr d (b :: p) = .err .tableUpdateTooLarge d := by
  refine parseRepr_err_iff.2 (.inl ⟨?_, nofun, rfl⟩)
  rw [parseAction_cons, reprOf_sizeUpdate (by omega) (by omega), reprParser, sizeUpdateP, if_neg hfirst]
  simp only [Parser.bind, hr, hs, ↓reduceIte]
  rfl

theorem close_truncated (d : Decoder) (h : d.saveBuf ≠ []) :
    d.close.2 = some .truncated ∧ d.close.1.saveBuf = [] ∧ d.close.1.dyn = d.dyn := by
  simp [Decoder.close, h]

theorem close_clean (d : Decoder) (h : d.saveBuf = []) :
    d.close.2 = none ∧ d.close.1.firstField = true := by
  simp [Decoder.close, h]

/-! `dynamicTable.size`, `maxSize` and `HeaderField.Size()` are `uint32` in Go; the model uses `Nat`.
The two agree exactly as long as `size + Size(entry)` stays below 2^32 when an entry is added
(guaranteed by `maxSize + Size(entry) < 2^32`, since `size ≤ maxSize`); eviction never underflows
because `size` is the sum of the entry sizes. -/

theorem entrySize32_eq (e : Entry) (h : entrySize e < 2 ^ 32) : entrySize32 e = entrySize e := by
  unfold entrySize32 u32 entrySize at *
  exact Nat.mod_eq_of_lt h

theorem evictLoop32_eq (maxSize : Nat) : ∀ (l : List Entry) (size : Nat), size = Lemmas.HpackEnc.sizeSum l → size < 2 ^ 32 →
    evictLoop32 maxSize l size = evictLoop maxSize l size := by
  intro l
  induction l with
  | nil => intro size _ _; rfl
  | cons e rest ih =>
    intro size hs hlt
    rw [Lemmas.HpackEnc.sizeSum_cons] at hs
    have he : entrySize e ≤ size := by omega
    have he32 : entrySize32 e = entrySize e := entrySize32_eq e (by omega)
    simp only [evictLoop32, evictLoop, he32]
    have hsub : u32 (size + 2 ^ 32 - entrySize e) = size - entrySize e := by
      unfold u32
      rw [show size + 2 ^ 32 - entrySize e = (size - entrySize e) + 1 * 2 ^ 32 by omega,
        Nat.add_mul_mod_self_right, Nat.mod_eq_of_lt (by omega)]
    rw [hsub]
    split
    · exact ih _ (by omega) (by omega)
    · rfl

theorem evict32_eq (dt : DynTable) (h : dt.size = sizeSum dt.ents) (hlt : dt.size < 2 ^ 32) :
    dt.evict32 = dt.evict := by
  unfold DynTable.evict32 DynTable.evict
  rw [evictLoop32_eq dt.maxSize dt.ents.reverse dt.size (h.trans (Lemmas.HpackEnc.sizeSum_reverse dt.ents).symm) hlt]

theorem setMaxSize32_eq (dt : DynTable) (v : Nat) (h : TableInv dt) (hlt : dt.size < 2 ^ 32) :
    dt.setMaxSize32 v = dt.setMaxSize v :=
  evict32_eq _ h.1 hlt

theorem add32_eq (dt : DynTable) (e : Entry) (h : TableInv dt) (hlt : dt.size + entrySize e < 2 ^ 32) :
    dt.add32 e = dt.add e := by
  unfold DynTable.add32 DynTable.add
  have he32 : entrySize32 e = entrySize e := entrySize32_eq e (by omega)
  have hadd : u32 (dt.size + entrySize32 e) = dt.size + entrySize e := by
    rw [he32]; exact Nat.mod_eq_of_lt hlt
  rw [hadd]
  apply evict32_eq
  · show dt.size + entrySize e = Lemmas.HpackEnc.sizeSum (e :: dt.ents)
    have : dt.size = Lemmas.HpackEnc.sizeSum dt.ents := h.1
    rw [Lemmas.HpackEnc.sizeSum_cons]
    omega
  · exact hlt

theorem add32_eq_of_maxSize (dt : DynTable) (e : Entry) (h : TableInv dt)
    (hlt : dt.maxSize + entrySize e < 2 ^ 32) : dt.add32 e = dt.add e :=
  add32_eq dt e h (by have := h.2; omega)

/-- The bound is sharp in the sense that without it `size += Size()` does wrap: a table at
`size = maxSize = 2^32 - 1` … adding any entry overflows the `uint32` counter. -/
example : u32 ((2 ^ 32 - 1) + entrySize32 ([], [])) = 31 := by decide

/-! `internal` is returned by the model only at its two guards (fuel exhausted, a representation that
consumed nothing). No parser and no state step produces it, every parsed representation consumes
input, and `Write` starts the loop with `len(buf)+1` fuel, so neither guard is ever reached. -/

def NotInternal (e : PErr) : Prop := e ≠ .internal

theorem parseRepr_err_notInternal (d : DecCore) (buf : Bytes) (e : PErr) (d' : DecCore)
    (h : parseRepr d buf = .err e d') : NotInternal e :=
  (parseRepr_err h).1

theorem loopG_no_internal (par : Bool) (d : DecCore) (buf : Bytes) (em : List Field) :
    (loopG par d buf em).2.2 ≠ .err .internal := by
  induction d, buf, em using loopG_induct with
  | step d buf em ih =>
    rw [loopG_eq]
    split
    · nofun
    · split
      · split <;> nofun
      · rename_i hpr
        exact fun h => parseRepr_err_notInternal d buf _ _ hpr (LoopEnd.err.inj h)
      · rename_i hpr
        exact ih _ _ _ hpr

theorem write_no_internal (d : Decoder) (p : Bytes) : (d.write p).2.2 ≠ some .internal := by
  by_cases hp : p = []
  · subst hp; nofun
  · rw [Decoder.write, writeG_eq true d hp]
    have := loopG_no_internal true d.toDecCore (d.saveBuf ++ p) []
    unfold finishWrite
    split
    · nofun
    · rename_i e he
      exact fun h => this (he ▸ congrArg LoopEnd.err (Option.some.inj h))

theorem close_no_internal (d : Decoder) : d.close.2 ≠ some .internal := by
  unfold Decoder.close; split <;> nofun

/-! The allowed maximum over whole histories (literal reading of C02):
"never lets its dynamic table exceed the allowed maximum size … with any SetAllowedMaxDynamicTableSize
configuration", read over arbitrary histories of public calls, is FALSE for the code as it is:
`SetAllowedMaxDynamicTableSize(v)` with `v` below the current `maxSize` only limits later size
updates. It holds for every history in which that call never lowers the bound below the current
`maxSize` (decidable region `lowersBelowMax`; oracle signature `c02-allowed-lowered-not-enforced`). -/

/-- `Decoder.SetMaxDynamicTableSize` is not among the calls: the table limits are touched only by the peer
(`Write`) and `SetAllowedMaxDynamicTableSize`. -/
inductive Call where
  | write (p : Bytes)
  | close
  | setAllowed (v : Nat)
  | setMaxStr (v : Nat)
  | setEmit (b : Bool)

def stepCall (d : Decoder) : Call → Decoder
  | .write p => (d.write p).1
  | .close => d.close.1
  | .setAllowed v => d.setAllowedMaxDynamicTableSize v
  | .setMaxStr v => d.setMaxStringLength v
  | .setEmit b => d.setEmitEnabled b

def runCalls (d : Decoder) (cs : List Call) : Decoder := cs.foldl stepCall d

/-- Some `SetAllowedMaxDynamicTableSize(v)` in the history has `v` below the then-current `maxSize`. -/
def lowersBelowMax : Decoder → List Call → Bool
  | _, [] => false
  | d, c :: cs =>
    (match c with
     | .setAllowed v => decide (v < d.dyn.maxSize)
     | _ => false) || lowersBelowMax (stepCall d c) cs

/-- The clause at full strength: after any history on a fresh decoder the table is within the
allowed maximum. -/
def TableWithinAllowedStatement : Prop :=
  ∀ (n : Nat) (cs : List Call), (runCalls (Decoder.new n) cs).dyn.size ≤ (runCalls (Decoder.new n) cs).dyn.allowedMaxSize

/-- **False for the code as it is**: one indexed literal, then the allowed maximum lowered to 0. -/
theorem table_within_allowed_full_false : ¬ TableWithinAllowedStatement := by
  intro h
  have := h 4096 [.write [0x40, 0x01, 0x61, 0x01, 0x62], .close, .setAllowed 0]
  revert this
  decide +kernel

theorem stepCall_inv (d : Decoder) (c : Call) (h : TableInv d.dyn ∧ d.dyn.maxSize ≤ d.dyn.allowedMaxSize)
    (hc : lowersBelowMax d [c] = false) :
    TableInv (stepCall d c).dyn ∧ (stepCall d c).dyn.maxSize ≤ (stepCall d c).dyn.allowedMaxSize := by
  cases c with
  | write p => exact ⟨(write_table_inv d p h.1).1, write_maxSize_le_allowed d p h.2⟩
  | close =>
    refine ⟨close_table_inv d h.1, ?_⟩
    show d.close.1.dyn.maxSize ≤ d.close.1.dyn.allowedMaxSize
    unfold Decoder.close
    split <;> exact h.2
  | setAllowed v =>
    simp only [lowersBelowMax, Bool.or_false, decide_eq_false_iff_not, Nat.not_lt] at hc
    exact ⟨h.1, hc⟩
  | setMaxStr v => exact h
  | setEmit b => exact h

/-- **C02 (allowed maximum), outside the excluded region**: if no `SetAllowedMaxDynamicTableSize`
call lowers the bound below the current `maxSize`, then after any history of `Write`s (any bytes, any
split), `Close`s and configuration calls `size ≤ maxSize ≤ allowedMaxSize`. -/
theorem table_within_allowed_partial : ∀ (cs : List Call) (d : Decoder),
    TableInv d.dyn → d.dyn.maxSize ≤ d.dyn.allowedMaxSize → lowersBelowMax d cs = false →
    (runCalls d cs).dyn.size ≤ (runCalls d cs).dyn.maxSize ∧
      (runCalls d cs).dyn.maxSize ≤ (runCalls d cs).dyn.allowedMaxSize := by
  intro cs
  induction cs with
  | nil => intro d h1 h2 _; exact ⟨h1.2, h2⟩
  | cons c cs ih =>
    intro d h1 h2 hl
    simp only [lowersBelowMax, Bool.or_eq_false_iff] at hl
    have hstep := stepCall_inv d c ⟨h1, h2⟩ (by simp only [lowersBelowMax, Bool.or_false]; exact hl.1)
    exact ih (stepCall d c) hstep.1 hstep.2 hl.2

theorem table_within_allowed_fresh (n : Nat) (cs : List Call) (h : lowersBelowMax (Decoder.new n) cs = false) :
    (runCalls (Decoder.new n) cs).dyn.size ≤ (runCalls (Decoder.new n) cs).dyn.allowedMaxSize := by
  have := table_within_allowed_partial cs (Decoder.new n) (new_table_inv n) (Nat.le_refl _) h
  exact Nat.le_trans this.1 this.2

/-- Non-vacuity: a history with a size update by the peer, raising of the bound and a harmless
lowering (down to the current `maxSize`) is outside the excluded region. -/
example : lowersBelowMax (Decoder.new 4096)
    [.write [0x3f, 0x45, 0x40, 0x01, 0x61, 0x01, 0x62], .close, .setAllowed 100, .setAllowed 8192, .write [0x3f, 0xe1, 0x1f]] = false := by
  decide +kernel

example : TableInv (Decoder.new 4096).dyn := new_table_inv 4096
example : ((Decoder.new 100).write [0x40, 0x01, 0x61, 0x01, 0x62, 0x40, 0x01, 0x63, 0x01, 0x64, 0x40, 0x01, 0x65, 0x01, 0x66]).1.dyn.ents.length = 2 := by
  decide +kernel
example : readVarInt 5 [31, 154, 10] = .ok (1337, []) := by rfl
example : readVarInt 7 [255, 128, 128, 128, 128, 128, 128, 128, 128, 128, 1] = .error .varintOverflow := by rfl

end NetVerif.Proofs.C02
