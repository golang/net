import NetVerif.Model.CtlMsg
import NetVerif.Gen.C60Ctl
import NetVerif.Proofs.Lemmas.ByteArith
import NetVerif.Proofs.Lemmas.IfCases
import NetVerif.Proofs.Lemmas.Fold
/-! C60 — socket control messages (ancillary data) of ipv4 / ipv6 on linux/amd64. A buffer of messages is `enc` of their
`(level, type, data)` (`M`); `split_enc` splits it back into the `raw` messages, so `Parse` of it is the fold of `apply`
over them (`cm4_parse_enc`, `cm6_parse_enc`) and `apply` on one message is a case list (`cm*_apply_raw`). On these rest
Marshal-then-Parse (`cm4_roundtrip`, `cm6_roundtrip`) and the receive formats (`cm4_receive`, `cm6_receive_pathmtu`);
`gen_ctl_layout` and `gen_ctlOpts_eq` are the T-ties. -/
namespace NetVerif.Proofs.C60Ctl
open NetVerif NetVerif.Model.CtlMsg

theorem rdU32_le32_nat (n : Nat) (h : n < 4294967296) (rest : List Nat) : rdU32 (le32 n ++ rest) = n := by
  -- on a cast natural number `Int`'s `/`, `%` and `toNat` compute: `rfl`
  show n % 256 + n / 256 % 256 * 256 + n / 65536 % 256 * 65536 + n / 16777216 % 256 * 16777216 = n
  simp only [Nat.add_comm (n % _), Lemmas.be_step, Nat.reduceMul]
  exact Nat.mod_eq_of_lt h

/-- `le32` is `uint32(x)`: only the low 32 bits of `x` matter. -/
theorem le32_emod (x : Int) : le32 (x % 4294967296) = le32 x := by
  have e0 : x % 4294967296 % 256 = x % 256 := by omega
  have e1 : x % 4294967296 / 256 % 256 = x / 256 % 256 := by omega
  have e2 : x % 4294967296 / 65536 % 256 = x / 65536 % 256 := by omega
  have e3 : x % 4294967296 / 16777216 % 256 = x / 16777216 % 256 := by omega
  unfold le32
  rw [e0, e1, e2, e3]

theorem rdU32_le32 (x : Int) (h0 : 0 ≤ x) (h1 : x < 4294967296) (rest : List Nat) :
    ((rdU32 (le32 x ++ rest) : Nat) : Int) = x := by
  obtain ⟨n, rfl⟩ := Int.eq_ofNat_of_zero_le h0
  rw [rdU32_le32_nat n (by omega)]

/-- A negative `int32` is written as its two's complement and read back by the sign test of `rdI32`. -/
theorem rdI32_le32 (x : Int) (h0 : -2147483648 ≤ x) (h1 : x < 2147483648) (rest : List Nat) :
    rdI32 (le32 x ++ rest) = x := by
  obtain ⟨n, hn⟩ : ∃ n : Nat, x % 4294967296 = n := ⟨(x % 4294967296).toNat, by omega⟩
  unfold rdI32
  rw [← le32_emod, hn, rdU32_le32_nat n (by omega)]
  split <;> omega

theorem rdU32_le32' (x : Int) (h : 0 ≤ x ∧ x < 4294967296) : ((rdU32 (le32 x) : Nat) : Int) = x := by
  have := rdU32_le32 x h.1 h.2 []
  rwa [List.append_nil] at this

/-- A case of `Parse` for another option is skipped whatever the data length. -/
theorem ite_and_false {α} {p q : Prop} [Decidable p] [Decidable q] (hp : ¬ p) (a b : α) :
    (if p ∧ q then a else b) = b := if_neg fun h => hp h.1

theorem rdI64_le64 (n : Nat) (h : n < 4294967296) (rest : List Nat) : rdI64 (le64 (n : Int) ++ rest) = n := by
  unfold rdI64 rdU64
  have e1 : ((n : Int) % 4294967296) = n := by omega
  have e2 : ((n : Int) / 4294967296 % 4294967296) = 0 := by omega
  have h1 : rdU32 (le64 (n : Int) ++ rest) = n := by
    have := rdU32_le32 (n : Int) (by omega) (by omega) (le32 ((n : Int) / 4294967296 % 4294967296) ++ rest)
    unfold le64
    rw [e1, List.append_assoc]
    omega
  have h2 : rdU32 ((le64 (n : Int) ++ rest).drop 4) = 0 := by
    unfold le64
    rw [e1, e2]
    simp [le32, rdU32]
  rw [h1, h2]
  split <;> omega

/-- A message as `ControlMessage.Parse` returns it: header and data, without padding. -/
def raw (lvl typ : Int) (data : List Nat) : List Nat :=
  le64 (cmsgLen data.length : Nat) ++ le32 lvl ++ le32 typ ++ data

theorem raw_length (lvl typ : Int) (data : List Nat) : (raw lvl typ data).length = 16 + data.length := by
  simp [raw, le64, le32]
  omega

theorem mkCmsg_eq (lvl typ : Int) (data : List Nat) :
    mkCmsg lvl typ data = raw lvl typ data ++ zeros (cmsgSpace data.length - cmsgLen data.length) := by
  simp [mkCmsg, raw]

theorem msgHeader_raw (lvl typ : Int) (data : List Nat)
    (hl : -2147483648 ≤ lvl ∧ lvl < 2147483648) (ht : -2147483648 ≤ typ ∧ typ < 2147483648) :
    msgHeader (raw lvl typ data) = (lvl, typ, data) := by
  unfold msgHeader raw
  have d8 : (le64 (cmsgLen data.length : Nat) ++ le32 lvl ++ le32 typ ++ data).drop 8 = le32 lvl ++ (le32 typ ++ data) := by
    simp [le64, le32]
  have d12 : (le64 (cmsgLen data.length : Nat) ++ le32 lvl ++ le32 typ ++ data).drop 12 = le32 typ ++ data := by
    simp [le64, le32]
  have d16 : (le64 (cmsgLen data.length : Nat) ++ le32 lvl ++ le32 typ ++ data).drop hdrLen = data := by
    simp [le64, le32, hdrLen]
  rw [d8, d12, d16, rdI32_le32 lvl hl.1 hl.2, rdI32_le32 typ ht.1 ht.2]

/-- The bound on the data keeps the 64-bit length field (16 + data) and the padded size below 2^32, where `rdI64_le64`
applies. -/
theorem splitMsgs_mkCmsg (fuel : Nat) (lvl typ : Int) (data rest : List Nat) (hd : data.length < 4294967000) :
    splitMsgs (fuel + 1) (mkCmsg lvl typ data ++ rest) =
      (match splitMsgs fuel rest with
       | .error e => .error e
       | .ok ms => .ok (raw lvl typ data :: ms)) := by
  have hsp : 16 + data.length ≤ cmsgSpace data.length := by
    unfold cmsgSpace hdrLen
    omega
  have hlen : (mkCmsg lvl typ data).length = cmsgSpace data.length := by
    rw [mkCmsg_eq, List.length_append, raw_length]
    simp [zeros, cmsgLen, hdrLen]
    omega
  have hrd : rdI64 (mkCmsg lvl typ data ++ rest) = ((16 + data.length : Nat) : Int) := by
    have : mkCmsg lvl typ data ++ rest = le64 ((cmsgLen data.length : Nat) : Int) ++
        (le32 lvl ++ le32 typ ++ data ++ zeros (cmsgSpace data.length - cmsgLen data.length) ++ rest) := by
      simp [mkCmsg]
    rw [this, rdI64_le64 _ (by unfold cmsgLen hdrLen; omega)]
    simp [cmsgLen, hdrLen]
  have htake : (mkCmsg lvl typ data ++ rest).take (16 + data.length) = raw lvl typ data := by
    rw [mkCmsg_eq, List.append_assoc, ← raw_length lvl typ data, List.take_left]
  rw [splitMsgs]
  simp only [hrd, Int.toNat_natCast, List.length_append, hlen, hdrLen, Nat.add_sub_cancel_left]
  rw [if_pos (by omega), if_neg (by omega), if_neg (by omega), if_neg (by omega), if_pos (by omega), ← hlen,
    List.drop_left, htake]
  cases splitMsgs fuel rest <;> rfl

theorem splitMsgs_nil (fuel : Nat) : splitMsgs fuel [] = .ok [] := by
  cases fuel with
  | zero => rfl
  | succ k =>
    rw [splitMsgs]
    simp [hdrLen]

/-- Level, type, data. -/
abbrev M := Int × Int × List Nat

/-- A sequence of padded control messages, as `Marshal` (or the kernel) lays them out. -/
def enc (ms : List M) : List Nat := ms.flatMap (fun m => mkCmsg m.1 m.2.1 m.2.2)

theorem split_enc (ms : List M) (hs : ∀ m ∈ ms, m.2.2.length < 4294967000) :
    ∀ fuel, ms.length ≤ fuel → splitMsgs fuel (enc ms) = .ok (ms.map (fun m => raw m.1 m.2.1 m.2.2)) := by
  induction ms with
  | nil =>
    intro fuel _
    exact splitMsgs_nil fuel
  | cons m r ih =>
    intro fuel hf
    cases fuel with
    | zero => simp at hf
    | succ k =>
      simp only [enc, List.flatMap_cons]
      rw [splitMsgs_mkCmsg k m.1 m.2.1 m.2.2 _ (hs m (by simp))]
      have := ih (fun x hx => hs x (by simp [hx])) k (by simpa using hf)
      simp only [enc] at this
      rw [this]
      rfl

theorem enc_length_ge (ms : List M) : ms.length ≤ (enc ms).length := by
  induction ms with
  | nil => simp [enc]
  | cons m r ih =>
    simp only [enc, List.flatMap_cons, List.length_append, List.length_cons] at ih ⊢
    have : 1 ≤ (mkCmsg m.1 m.2.1 m.2.2).length := by simp [mkCmsg, le64, le32]
    omega

/-- `none` stands for the call of a nil function: every case of `Parse` is guarded by `ctlOpts[...].name > 0`. -/
theorem cm4_apply_isSome (cm : CM4) (m : List Nat) : (cm.apply m).isSome = true := by
  unfold CM4.apply
  refine Lemmas.ite_ind (Option.isSome · = true) (fun _ => rfl) fun _ => ?_
  refine Lemmas.ite_ind (Option.isSome · = true) (fun _ => rfl) fun _ => ?_
  exact Lemmas.ite_ind (Option.isSome · = true) (fun _ => rfl) fun _ => rfl

theorem cm4_applyAll_isSome (ms : List (List Nat)) (cm : CM4) : (cm.applyAll ms).isSome = true := by
  unfold CM4.applyAll
  refine Lemmas.foldl_inv _ (Option.isSome · = true) (fun acc m h => ?_) ms _ rfl
  cases acc with
  | none => cases h
  | some c =>
    -- rewritten, not left to unification: the kernel would unfold `CM4.apply` before `Option.bind` and then
    -- `_ * 16777216` in `rdU32` as a chain of successors
    rw [Option.bind_some]
    exact cm4_apply_isSome c m

/-- `ipv4.ControlMessage.Parse` never panics: the result is a control message or one of the three `internal/socket`
errors. Before the repair `ffa01ef` a message of level `IPPROTO_IP` and type 0 called a nil function. -/
theorem cm4_parse_total (cm : CM4) (b : List Nat) : (∃ c, cm.parse b = .ok c) ∨ (∃ e, cm.parse b = .err e) := by
  unfold CM4.parse
  cases splitMsgs (b.length + 1) b with
  | error e => exact .inr ⟨e, rfl⟩
  | ok ms =>
    obtain ⟨c, h⟩ := Option.isSome_iff_exists.1 (cm4_applyAll_isSome ms cm)
    exact .inl ⟨c, by simp only [h]⟩

/-- That message (16 bytes: length 16, level 0, type 0) is ignored like any unknown option. -/
example : (match CM4.zero.parse [16, 0, 0, 0, 0, 0, 0, 0, 0, 0, 0, 0, 0, 0, 0, 0] with
    | .ok c => decide (c = CM4.zero) | _ => false) = true := by decide

theorem cm4_parse_enc (cm0 : CM4) (ms : List M) (hs : ∀ m ∈ ms, m.2.2.length < 4294967000) :
    cm0.parse (enc ms) =
      (match cm0.applyAll (ms.map (fun m => raw m.1 m.2.1 m.2.2)) with | none => .panic | some c => .ok c) := by
  unfold CM4.parse
  rw [split_enc ms hs _ (by have := enc_length_ge ms; omega)]
  rfl

theorem cm4_apply_raw (cm : CM4) (lvl typ : Int) (data : List Nat)
    (hl : -2147483648 ≤ lvl ∧ lvl < 2147483648) (ht : -2147483648 ≤ typ ∧ typ < 2147483648) :
    cm.apply (raw lvl typ data) =
      (if lvl ≠ protocolIP then some cm
       else if typ = ipTTL ∧ data.length ≥ 1 then some { cm with ttl := (data.getD 0 0 : Nat) }
       else if typ = ipPktinfo ∧ data.length ≥ sizeofInetPktinfo then
         some { cm with ifIndex := rdI32 data,
                        dst := (if cm.dst.length < 4 then (data.drop 8).take 4
                                else (data.drop 8).take 4 ++ cm.dst.drop 4) }
       else some cm) := by
  unfold CM4.apply
  rw [msgHeader_raw lvl typ data hl ht]

/-- An `in_pktinfo` as `Parse` reads it: interface index, `Spec_dst` (skipped), `Addr`. -/
theorem pktinfo4_read (cm : CM4) (ifi : Int) (hi : -2147483648 ≤ ifi ∧ ifi < 2147483648) (spec dst : List Nat)
    (hs : spec.length = 4) (hd : dst.length = 4) :
    cm.apply (raw protocolIP ipPktinfo (le32 ifi ++ spec ++ dst)) =
      some { cm with ifIndex := ifi, dst := if cm.dst.length < 4 then dst else dst ++ cm.dst.drop 4 } := by
  have hl : (le32 ifi ++ spec ++ dst).length = 12 := by simp [le32, hs, hd]
  have h8 : (le32 ifi ++ spec).length = 8 := by simp [le32, hs]
  rw [cm4_apply_raw _ _ _ _ (by decide) (by decide), if_neg (by decide), ite_and_false (by decide),
    if_pos ⟨rfl, by rw [hl]; decide⟩, ← h8, List.drop_left, ← hd, List.take_length, List.append_assoc,
    rdI32_le32 _ hi.1 hi.2]

/-- IPv4 control message, Marshal then Parse (Linux): the interface index survives; the source
address travels as `Spec_dst`, which `Parse` does not read (`Dst`, read from `Addr`, is receive-only),
and TTL is never marshalled. -/
theorem cm4_roundtrip (cm : CM4) (hi : cm.ifIndex < 2147483648) :
    CM4.zero.parse cm.marshal =
      .ok (if isV4 cm.src || decide (cm.ifIndex > 0) then ⟨0, [], zeros 4, if cm.ifIndex > 0 then cm.ifIndex else 0⟩
           else CM4.zero) := by
  have hsp : (if isV4 cm.src then to4 cm.src else zeros 4).length = 4 := by
    split
    · rename_i h
      unfold isV4 at h
      unfold to4
      split <;> simp_all
    · rfl
  have hm : cm.marshal = if isV4 cm.src || decide (cm.ifIndex > 0) then
      enc [(protocolIP, ipPktinfo, le32 (if cm.ifIndex > 0 then cm.ifIndex else 0) ++
        (if isV4 cm.src then to4 cm.src else zeros 4) ++ zeros 4)] else enc [] := by
    have hz : zeros 4 = le32 0 := by decide
    simp only [CM4.marshal, enc, hz, ← apply_ite le32, List.flatMap_cons, List.flatMap_nil, List.append_nil]
  rw [hm]
  split
  · rw [cm4_parse_enc _ _ (by simp [le32, hsp, show (zeros 4).length = 4 from rfl])]
    simp only [List.map_cons, List.map_nil, CM4.applyAll, List.foldl_cons, List.foldl_nil, Option.bind_some]
    rw [pktinfo4_read _ _ (by split <;> omega) _ _ hsp rfl]
    rfl
  · rw [cm4_parse_enc _ _ (by simp)]
    rfl

/-- IPv4, receive format: a TTL message followed by an `in_pktinfo` message (as the kernel delivers them
with IP_RECVTTL / IP_PKTINFO) parses to exactly those values. -/
theorem cm4_receive (ttl : Nat) (ifi : Int) (hi : -2147483648 ≤ ifi ∧ ifi < 2147483648)
    (spec dst : List Nat) (hs : spec.length = 4) (hd : dst.length = 4) :
    CM4.zero.parse (enc [(protocolIP, ipTTL, [ttl]), (protocolIP, ipPktinfo, le32 ifi ++ spec ++ dst)]) =
      .ok ⟨ttl, [], dst, ifi⟩ := by
  rw [cm4_parse_enc _ _ (by simp [le32, hs, hd])]
  simp only [List.map_cons, List.map_nil, CM4.applyAll, List.foldl_cons, List.foldl_nil, Option.bind_some]
  rw [cm4_apply_raw _ _ _ _ (by decide) (by decide), if_neg (by decide), if_pos ⟨rfl, by simp⟩, Option.bind_some,
    pktinfo4_read _ ifi hi spec dst hs hd]
  rfl

theorem cm6_parse_enc (cm0 : CM6) (ms : List M) (hs : ∀ m ∈ ms, m.2.2.length < 4294967000) :
    cm0.parse (enc ms) = .ok (ms.foldl (fun c m => c.apply (raw m.1 m.2.1 m.2.2)) cm0) := by
  unfold CM6.parse
  rw [split_enc ms hs _ (by have := enc_length_ge ms; omega)]
  exact congrArg _ List.foldl_map

theorem cm6_apply_raw (cm : CM6) (lvl typ : Int) (data : List Nat)
    (hl : -2147483648 ≤ lvl ∧ lvl < 2147483648) (ht : -2147483648 ≤ typ ∧ typ < 2147483648) :
    cm.apply (raw lvl typ data) =
      (if lvl ≠ protocolIPv6 then cm
       else if typ = ipv6Tclass ∧ data.length ≥ 4 then { cm with trafficClass := (rdU32 data : Nat) }
       else if typ = ipv6Hoplimit ∧ data.length ≥ 4 then { cm with hopLimit := (rdU32 data : Nat) }
       else if typ = ipv6Pktinfo ∧ data.length ≥ sizeofInet6Pktinfo then
         { cm with dst := setDst16 cm.dst (data.take 16), ifIndex := rdI32 (data.drop 16) }
       else if typ = ipv6Pathmtu ∧ data.length ≥ sizeofIPv6Mtuinfo then
         { cm with dst := setDst16 cm.dst ((data.drop 8).take 16), ifIndex := (rdU32 (data.drop 24) : Nat),
                   mtu := (rdU32 (data.drop 28) : Nat) }
       else cm) := by
  unfold CM6.apply
  rw [msgHeader_raw lvl typ data hl ht]

theorem cm6_apply_tclass (cm : CM6) (x : Int) (h : 0 ≤ x ∧ x < 4294967296) :
    cm.apply (raw protocolIPv6 ipv6Tclass (le32 x)) = { cm with trafficClass := x } := by
  rw [cm6_apply_raw _ _ _ _ (by decide) (by decide), if_neg (by decide), if_pos ⟨rfl, by simp [le32]⟩,
    rdU32_le32' x h]

theorem cm6_apply_hoplimit (cm : CM6) (x : Int) (h : 0 ≤ x ∧ x < 4294967296) :
    cm.apply (raw protocolIPv6 ipv6Hoplimit (le32 x)) = { cm with hopLimit := x } := by
  rw [cm6_apply_raw _ _ _ _ (by decide) (by decide), if_neg (by decide), ite_and_false (by decide),
    if_pos ⟨rfl, by simp [le32]⟩, rdU32_le32' x h]

theorem cm6_apply_pktinfo (cm : CM6) (addr : List Nat) (ha : addr.length = 16) (ifi : Int)
    (h : -2147483648 ≤ ifi ∧ ifi < 2147483648) :
    cm.apply (raw protocolIPv6 ipv6Pktinfo (addr ++ le32 ifi)) =
      { cm with dst := setDst16 cm.dst addr, ifIndex := ifi } := by
  rw [cm6_apply_raw _ _ _ _ (by decide) (by decide), if_neg (by decide), ite_and_false (by decide),
    ite_and_false (by decide), if_pos ⟨rfl, by simp [le32, ha, sizeofInet6Pktinfo]⟩,
    ← ha, List.take_left, List.drop_left, ← List.append_nil (le32 ifi), rdI32_le32 ifi h.1 h.2]

/-- The `in6_pktinfo` payload `Marshal` writes. -/
def pktinfo6 (cm : CM6) : List Nat :=
  (if isV6only cm.src then cm.src else zeros 16) ++ (if cm.ifIndex > 0 then le32 cm.ifIndex else zeros 4)

theorem flatMap_opt {α β} (p : Prop) [Decidable p] (a : α) (f : α → List β) :
    (if p then [a] else []).flatMap f = if p then f a else [] := by
  split <;> simp

theorem forall_mem_opt {α} {p : Prop} [Decidable p] {a : α} {P : α → Prop} (h : p → P a) :
    ∀ x ∈ (if p then [a] else []), P x := by
  split
  · rename_i hp
    exact List.forall_mem_singleton.2 (h hp)
  · nofun

/-- Folding over an option that `Marshal` may leave out, from the state `c` the options before it give. -/
theorem foldl_opt {α β} {f : β → α → β} {c₀ c c' : β} {p : Prop} [Decidable p] {a : α} (h₀ : c₀ = c)
    (hp : p → f c a = c') (hn : ¬ p → c = c') : (if p then [a] else []).foldl f c₀ = c' := by
  subst h₀
  split
  · exact hp ‹_›
  · exact hn ‹_›

/-- IPv6 control message, Marshal then Parse (Linux): traffic class, hop limit and interface index
survive; the address of `in6_pktinfo` is written from `Src` and read back as `Dst`; `NextHop` has no
control option on Linux and `MTU` is receive-only. -/
theorem cm6_roundtrip (cm : CM6) (htc : 0 ≤ cm.trafficClass ∧ cm.trafficClass < 4294967296)
    (hhl : 0 ≤ cm.hopLimit ∧ cm.hopLimit < 4294967296) (hi : 0 ≤ cm.ifIndex ∧ cm.ifIndex < 2147483648) :
    CM6.zero.parse cm.marshal =
      .ok ⟨cm.trafficClass, cm.hopLimit, [],
           (if isV6only cm.src || decide (cm.ifIndex > 0) then (if isV6only cm.src then cm.src else zeros 16) else []),
           cm.ifIndex, [], 0⟩ := by
  have hidx : (if cm.ifIndex > 0 then le32 cm.ifIndex else zeros 4) = le32 cm.ifIndex := by
    refine ite_eq_left_iff.2 fun h => ?_
    rw [show cm.ifIndex = 0 by omega]
    rfl
  have hm : cm.marshal = enc ((if cm.trafficClass > 0 then [(protocolIPv6, ipv6Tclass, le32 cm.trafficClass)] else []) ++
      (if cm.hopLimit > 0 then [(protocolIPv6, ipv6Hoplimit, le32 cm.hopLimit)] else []) ++
      (if isV6only cm.src || decide (cm.ifIndex > 0) then
        [(protocolIPv6, ipv6Pktinfo, (if isV6only cm.src then cm.src else zeros 16) ++ le32 cm.ifIndex)] else [])) := by
    simp only [CM6.marshal, enc, List.flatMap_append, flatMap_opt, hidx]
  have hal : ((if isV6only cm.src then cm.src else zeros 16)).length = 16 := by
    split
    · rename_i h
      unfold isV6only at h
      simp at h
      exact h.1
    · simp [zeros]
  rw [hm, cm6_parse_enc _ _ ?hsz, List.foldl_append, List.foldl_append]
  case hsz =>
    refine List.forall_mem_append.2 ⟨List.forall_mem_append.2 ⟨?_, ?_⟩, ?_⟩ <;>
      exact forall_mem_opt fun _ => by simp [le32, hal]
  -- option by option, the last outermost; `c` is the message after it, which an option left out does not change
  refine congrArg _ (foldl_opt (c := ⟨cm.trafficClass, cm.hopLimit, [], [], 0, [], 0⟩) ?_ ?_ ?_)
  · refine foldl_opt (c := ⟨cm.trafficClass, 0, [], [], 0, [], 0⟩) ?_ ?_ ?_
    · refine foldl_opt rfl (fun _ => cm6_apply_tclass _ _ htc) fun h => ?_
      rw [show cm.trafficClass = 0 by omega]
      rfl
    · exact fun _ => cm6_apply_hoplimit _ _ hhl
    · intro h
      rw [show cm.hopLimit = 0 by omega]
  · intro hp
    rw [cm6_apply_pktinfo _ _ hal _ ⟨by omega, hi.2⟩, if_pos hp]
    rfl
  · intro hp
    rw [if_neg hp, show cm.ifIndex = 0 by simp at hp; omega]

/-- IPv6, receive format: an `ip6_mtuinfo` message (IPV6_PATHMTU) yields destination, scope and MTU. -/
theorem cm6_receive_pathmtu (pre addr : List Nat) (hp : pre.length = 8) (ha : addr.length = 16)
    (scope mtu : Int) (hs : 0 ≤ scope ∧ scope < 4294967296) (hm : 0 ≤ mtu ∧ mtu < 4294967296) :
    CM6.zero.parse (enc [(protocolIPv6, ipv6Pathmtu, pre ++ addr ++ le32 scope ++ le32 mtu)]) =
      .ok ⟨0, 0, [], addr, scope, [], mtu⟩ := by
  have hl : (pre ++ addr ++ le32 scope ++ le32 mtu).length = 32 := by simp [le32, hp, ha]
  rw [cm6_parse_enc _ _ (by
    intro m hmm
    simp only [List.mem_cons, List.not_mem_nil, or_false] at hmm
    subst hmm
    show (pre ++ addr ++ le32 scope ++ le32 mtu).length < 4294967000
    rw [hl]; omega)]
  simp only [List.foldl_cons, List.foldl_nil]
  rw [cm6_apply_raw _ _ _ _ (by decide) (by decide), if_neg (by decide), ite_and_false (by decide),
    ite_and_false (by decide), ite_and_false (by decide), if_pos ⟨rfl, by rw [hl]; decide⟩]
  have d8 : ((pre ++ addr ++ le32 scope ++ le32 mtu).drop 8).take 16 = addr := by
    rw [List.append_assoc, List.append_assoc, ← hp, List.drop_left, ← ha, List.take_left]
  have d24 : (pre ++ addr ++ le32 scope ++ le32 mtu).drop 24 = le32 scope ++ le32 mtu := by
    have : (pre ++ addr).length = 24 := by simp [hp, ha]
    rw [List.append_assoc (pre ++ addr), ← this, List.drop_left]
  have d28 : (pre ++ addr ++ le32 scope ++ le32 mtu).drop 28 = le32 mtu := by
    have : (pre ++ addr ++ le32 scope).length = 28 := by simp [hp, ha, le32]
    rw [← this, List.drop_left]
  rw [d8, d24, d28, rdU32_le32 scope hs.1 hs.2, rdU32_le32' mtu hm]
  simp [CM6.zero, setDst16]

theorem gen_ctl_layout :
    Gen.C60Ctl.sizeofCmsghdr = hdrLen ∧ (Gen.C60Ctl.iana_ProtocolIP : Int) = protocolIP ∧
    (Gen.C60Ctl.iana_ProtocolIPv6 : Int) = protocolIPv6 ∧
    Gen.C60Ctl.sizeof_inetPktinfo = sizeofInetPktinfo ∧ Gen.C60Ctl.layoutSize_inetPktinfo = sizeofInetPktinfo ∧
    Gen.C60Ctl.inetPktinfo_Ifindex = (0, 4) ∧ Gen.C60Ctl.inetPktinfo_Spec_dst = (4, 4) ∧ Gen.C60Ctl.inetPktinfo_Addr = (8, 4) ∧
    Gen.C60Ctl.sizeof_inet6Pktinfo = sizeofInet6Pktinfo ∧ Gen.C60Ctl.layoutSize_inet6Pktinfo = sizeofInet6Pktinfo ∧
    Gen.C60Ctl.inet6Pktinfo_Addr = (0, 16) ∧ Gen.C60Ctl.inet6Pktinfo_Ifindex = (16, 4) ∧
    Gen.C60Ctl.sizeof_ipv6Mtuinfo = sizeofIPv6Mtuinfo ∧ Gen.C60Ctl.layoutSize_ipv6Mtuinfo = sizeofIPv6Mtuinfo ∧
    Gen.C60Ctl.ipv6Mtuinfo_Addr_Addr = (8, 16) ∧ Gen.C60Ctl.ipv6Mtuinfo_Addr_Scope_id = (24, 4) ∧
    Gen.C60Ctl.ipv6Mtuinfo_Mtu = (28, 4) := by decide

/-- The Linux `ctlOpts` tables: exactly the options the model knows, with their names and lengths
(no entry for IPv4 Dst / Interface nor for IPv6 NextHop). -/
theorem gen_ctlOpts_eq :
    Gen.C60Ctl.ctlOpts_ipv4 = [("ctlTTL", ipTTL.toNat, 1), ("ctlPacketInfo", ipPktinfo.toNat, sizeofInetPktinfo)] ∧
    Gen.C60Ctl.ctlOpts_ipv6 = [("ctlTrafficClass", ipv6Tclass.toNat, 4), ("ctlHopLimit", ipv6Hoplimit.toNat, 4),
      ("ctlPacketInfo", ipv6Pktinfo.toNat, sizeofInet6Pktinfo), ("ctlPathMTU", ipv6Pathmtu.toNat, sizeofIPv6Mtuinfo)] := by
  decide

end NetVerif.Proofs.C60Ctl
