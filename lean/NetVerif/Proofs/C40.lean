import NetVerif.Model.HtmlEscape
import NetVerif.Proofs.Lemmas.IfCases
/-!
C40 — HTML re-serialization: `UnescapeString(EscapeString(s)) = s`, escaped text cannot contain
markup-significant bytes, and the comment case of `Token.String` round-trips through the tokenizer's `Text()`
pipeline (`comment_roundtrip`). The rest of `Token.String` and Render→Parse are V-tied Go oracles.
-/
namespace NetVerif.Proofs.C40
open NetVerif.Gen.C40 NetVerif.Model.HtmlEscape NetVerif.Proofs.Lemmas

/-! T-tie: the regenerated switch table of func escape is the model's `escByte`. -/

/-- The six replacements made by func escape: byte and entity. -/
def entities : List (Nat × List Nat) :=
  [(38, ampE), (39, aposE), (60, ltE), (62, gtE), (34, quotE), (13, crE)]

theorem gen_escTable_eq : escTable = entities := by decide

theorem gen_escapedChars_eq : escapedChars = escTable.map (·.1) := by decide

def emitted : List (List Nat) := [ampE, aposE, ltE, gtE, quotE, crE]

private theorem not_escaped {c : Nat} :
    c ∉ escapedChars ↔ c ≠ 38 ∧ c ≠ 39 ∧ c ≠ 60 ∧ c ≠ 62 ∧ c ≠ 34 ∧ c ≠ 13 := by
  simp only [escapedChars, List.mem_cons, List.not_mem_nil, or_false, not_or]

private theorem escByte_cases (c : Nat) :
    (c, escByte c) ∈ entities ∨ (escByte c = [c] ∧ c ∉ escapedChars) := by
  by_cases h : c ∈ escapedChars
  · exact Or.inl ((show ∀ c ∈ escapedChars, (c, escByte c) ∈ entities by decide) c h)
  · obtain ⟨h1, h2, h3, h4, h5, h6⟩ := not_escaped.1 h
    exact Or.inr ⟨by simp only [escByte, h1, h2, h3, h4, h5, h6, if_false], h⟩

theorem gen_escByte_eq (c : Nat) : escByteGen c = escByte c := by
  unfold escByteGen
  rw [gen_escTable_eq]
  rcases escByte_cases c with h | ⟨h, hc⟩
  · simp only [entities, List.mem_cons, List.not_mem_nil, or_false, Prod.mk.injEq] at h
    rcases h with ⟨rfl, h⟩ | ⟨rfl, h⟩ | ⟨rfl, h⟩ | ⟨rfl, h⟩ | ⟨rfl, h⟩ | ⟨rfl, h⟩ <;> rw [h] <;> rfl
  · obtain ⟨h1, h2, h3, h4, h5, h6⟩ := not_escaped.1 hc
    have b : ∀ k, c ≠ k → (c == k) = false := fun k hk => beq_false_of_ne hk
    simp only [entities, List.lookup, b _ h1, b _ h2, b _ h3, b _ h4, b _ h5, b _ h6, h]

private theorem ent_amp : entityLookup [97, 109, 112, 59] = 38 := by decide +kernel
private theorem ent_lt : entityLookup [108, 116, 59] = 60 := by decide +kernel
private theorem ent_gt : entityLookup [103, 116, 59] = 62 := by decide +kernel

private theorem unescapeAux_entity (attr : Bool) (f : Nat) (rest : List Nat) :
    ∀ p ∈ entities, unescapeAux attr (f + 1) (p.2 ++ rest) = p.1 :: unescapeAux attr f rest := by
  intro p hp
  simp only [entities, List.mem_cons, List.not_mem_nil, or_false] at hp
  rcases hp with rfl | rfl | rfl | rfl | rfl | rfl <;>
    simp [ampE, aposE, ltE, gtE, quotE, crE, unescapeAux, unescapeEntity, namedRef, scanName, isAlnum,
      ent_amp, ent_lt, ent_gt, numericRef, digitLoop, decDigitVal, utf8Enc]

/-- `out` writes `s` byte by byte, each byte as its entity or, where `P` allows, as itself: what
`escape`, `escapeComment` and the identity on text without `&` have in common. -/
inductive Enc (P : Nat → Prop) : List Nat → List Nat → Prop
  | nil : Enc P [] []
  | ent {c e s out} : (c, e) ∈ entities → Enc P s out → Enc P (c :: s) (e ++ out)
  | raw {c s out} : P c → Enc P s out → Enc P (c :: s) (c :: out)

theorem Enc.chunk {P : Nat → Prop} {c : Nat} {e s out : List Nat}
    (he : (c, e) ∈ entities ∨ (e = [c] ∧ P c)) (h : Enc P s out) : Enc P (c :: s) (e ++ out) := by
  rcases he with he | ⟨rfl, hc⟩
  · exact .ent he h
  · exact .raw hc h

theorem enc_escape (s : List Nat) : Enc (· ∉ escapedChars) s (escape s) := by
  induction s with
  | nil => exact .nil
  | cons c t ih => exact .chunk (escByte_cases c) ih

theorem enc_self {b : List Nat} (h : 38 ∉ b) : Enc (· ≠ 38) b b := by
  induction b with
  | nil => exact .nil
  | cons c t ih =>
    rw [List.mem_cons, not_or] at h
    exact .raw (Ne.symm h.1) (ih h.2)

/-- `unescape` inverts every such encoding that leaves no `&` as it is. -/
theorem unescapeAux_enc {P : Nat → Prop} (hP : ∀ c, P c → c ≠ 38) (attr : Bool) {s out : List Nat}
    (h : Enc P s out) : ∀ fuel, out.length ≤ fuel → unescapeAux attr fuel out = s := by
  induction h with
  | nil => intro fuel _; cases fuel <;> rfl
  | @ent c e s out he _ ih =>
    intro fuel hf
    have hpos : 1 ≤ e.length := (show ∀ p ∈ entities, 1 ≤ p.2.length by decide) _ he
    rw [List.length_append] at hf
    obtain ⟨f, rfl⟩ : ∃ f, fuel = f + 1 := ⟨fuel - 1, by omega⟩
    rw [unescapeAux_entity attr f out _ he, ih f (by omega)]
  | @raw c s out hc _ ih =>
    intro fuel hf
    obtain ⟨f, rfl⟩ : ∃ f, fuel = f + 1 := ⟨fuel - 1, by rw [List.length_cons] at hf; omega⟩
    rw [unescapeAux, if_pos (hP c hc), ih f (Nat.le_of_succ_le_succ hf)]

theorem unescape_enc {P : Nat → Prop} (hP : ∀ c, P c → c ≠ 38) (attr : Bool) {s out : List Nat}
    (h : Enc P s out) : unescape out attr = s :=
  unescapeAux_enc hP attr h _ (Nat.le_refl _)

theorem Enc.mem {P : Nat → Prop} {s out : List Nat} (h : Enc P s out) {b : Nat} (hb : b ∈ out) :
    (b ∈ s ∧ P b) ∨ ∃ q ∈ entities, b ∈ q.2 := by
  induction h with
  | nil => cases hb
  | ent he _ ih =>
    rcases List.mem_append.1 hb with hb | hb
    · exact Or.inr ⟨_, he, hb⟩
    · exact (ih hb).imp_left fun h => ⟨List.mem_cons_of_mem _ h.1, h.2⟩
  | raw hc _ ih =>
    rcases List.mem_cons.1 hb with rfl | hb
    · exact Or.inl ⟨List.mem_cons_self, hc⟩
    · exact (ih hb).imp_left fun h => ⟨List.mem_cons_of_mem _ h.1, h.2⟩

theorem Enc.amp {P : Nat → Prop} (hP : ∀ c, P c → c ≠ 38) {s out : List Nat} (h : Enc P s out)
    (i : Nat) (hi : out[i]? = some 38) : ∃ e ∈ emitted, e <+: out.drop i := by
  induction h generalizing i with
  | nil => cases hi
  | @ent c e s out he _ ih =>
    have hem : e ∈ emitted := List.mem_map_of_mem (f := (·.2)) he
    by_cases hlt : i < e.length
    · rw [List.getElem?_append_left hlt] at hi
      cases i with
      | zero => exact ⟨e, hem, List.prefix_append e out⟩
      | succ j =>
        rw [← List.getElem?_tail] at hi
        exact absurd (List.mem_of_getElem? hi) ((show ∀ e ∈ emitted, 38 ∉ e.tail by decide) e hem)
    · have hle : e.length ≤ i := Nat.le_of_not_lt hlt
      rw [List.getElem?_append_right hle] at hi
      rw [List.drop_append, List.drop_of_length_le hle, List.nil_append]
      exact ih _ hi
  | @raw c s out hc _ ih =>
    cases i with
    | zero => exact absurd (Option.some.inj hi) (hP c hc)
    | succ j => exact ih j hi

/-- C40: `UnescapeString(EscapeString(s)) == s`, in attribute mode too. -/
theorem unescape_escape (s : List Nat) (attr : Bool) : unescape (escape s) attr = s :=
  unescape_enc (fun _ h e => h (e ▸ by decide)) attr (enc_escape s)

theorem escape_injective (s t : List Nat) (h : escape s = escape t) : s = t := by
  rw [← unescape_escape s false, h, unescape_escape]

/-- `escape s` contains none of `<`, `>`, `"`, `'` (nor CR): escaped text can neither open or close
a tag nor leave a quoted attribute value. -/
theorem escape_no_markup (s : List Nat) :
    ∀ b ∈ escape s, b ≠ 60 ∧ b ≠ 62 ∧ b ≠ 34 ∧ b ≠ 39 ∧ b ≠ 13 := by
  intro b hb
  rcases (enc_escape s).mem hb with ⟨_, h⟩ | ⟨q, hq, h⟩
  · obtain ⟨_, h39, h60, h62, h34, h13⟩ := not_escaped.1 h
    exact ⟨h60, h62, h34, h39, h13⟩
  · exact (show ∀ q ∈ entities, ∀ b ∈ q.2, b ≠ 60 ∧ b ≠ 62 ∧ b ≠ 34 ∧ b ≠ 39 ∧ b ≠ 13 by decide) q hq b h

/-- In `escape s` every `&` starts one of the six emitted entities (`&amp; &#39; &lt; &gt; &#34; &#13;`):
no `&` of the input survives bare. -/
theorem escape_amp_starts_entity (s : List Nat) (i : Nat) (h : (escape s)[i]? = some 38) :
    ∃ e ∈ emitted, e <+: (escape s).drop i :=
  (enc_escape s).amp (fun _ h e => h (e ▸ by decide)) i h

theorem unescape_no_amp (b : List Nat) (attr : Bool) (h : 38 ∉ b) : unescape b attr = b :=
  unescape_enc (fun _ h => h) attr (enc_self h)

/-! `Token.String` of a comment against the tokenizer's `Text()` pipeline: `commentText (escapeComment d)` is
what the tokenizer returns as the Data of the comment `"<!--" ++ escapeComment d ++ "-->"`, provided its
comment scanner ends the data span exactly before the final `-->` (the scanner itself is not modelled; that
part is covered by the Go oracle). -/

private theorem convertNewlines_id (s : List Nat) (h : 13 ∉ s) : convertNewlines s = s := by
  unfold convertNewlines
  induction s with
  | nil => rfl
  | cons c t ih =>
    simp only [List.mem_cons, not_or] at h
    have hc : c ≠ 13 := fun e => h.1 e.symm
    simp [convertNewlinesAux, hc, ih h.2]

private theorem nulToReplacement_id (s : List Nat) (h : 0 ∉ s) : nulToReplacement s = s := by
  induction s with
  | nil => rfl
  | cons c t ih =>
    simp only [List.mem_cons, not_or] at h
    have hc : c ≠ 0 := fun e => h.1 e.symm
    simp [nulToReplacement, hc, ih h.2]

theorem enc_escapeComment (p : Option Nat) (d : List Nat) :
    Enc (fun c => c ≠ 38 ∧ c ≠ 13) d (escapeCommentAux p d) := by
  induction d generalizing p with
  | nil => exact .nil
  | cons c t ih =>
    let P (e : List Nat) := (c, e) ∈ entities ∨ (e = [c] ∧ c ≠ 38 ∧ c ≠ 13)
    exact .chunk (ite_ind P (fun h => Or.inl (by rw [h]; decide)) fun h1 =>
      ite_ind P (fun h => Or.inl (by rw [h.1]; decide)) fun _ =>
      ite_ind P (fun h => Or.inl (by rw [h]; decide)) fun h3 => Or.inr ⟨rfl, h1, h3⟩) (ih _)

theorem unescape_escapeComment (d : List Nat) (attr : Bool) : unescape (escapeComment d) attr = d :=
  unescape_enc (fun _ h => h.1) attr (enc_escapeComment none d)

private theorem escapeComment_mem {d : List Nat} {b : Nat} (hb : b ∈ escapeComment d)
    (hent : ∀ q ∈ entities, b ∉ q.2) : b ∈ d ∧ b ≠ 13 := by
  rcases (enc_escapeComment none d).mem hb with h | ⟨q, hq, h⟩
  · exact ⟨h.1, h.2.2⟩
  · exact absurd h (hent q hq)

/-- `escapeComment` never emits a raw CR (so the tokenizer's newline normalisation cannot touch it). -/
theorem escapeComment_no_cr (d : List Nat) : 13 ∉ escapeComment d :=
  fun h => (escapeComment_mem h (by decide)).2 rfl

/-- The comment round-trip statement on the model: for every comment Data the tokenizer can deliver.
`Tokenizer.Text()` replaces every NUL of comment data by U+FFFD, so delivered Data never contains
NUL (that fact about `Text()` is evident from the code and checked by the Go oracle, not proved here);
NUL-free data is therefore the whole domain the property quantifies over. -/
def CommentRoundTripStatement : Prop :=
  ∀ d : List Nat, 0 ∉ d → commentText (escapeComment d) = d

/-- Holds because `escapeComment` escapes CR (repaired upstream, 9ef9e3a; on the original tree `d = [13]`
was a counterexample). -/
theorem comment_roundtrip : CommentRoundTripStatement := by
  intro d hnul
  have h0 : 0 ∉ escapeComment d := fun h => hnul (escapeComment_mem h (by decide)).1
  unfold commentText
  rw [convertNewlines_id _ (escapeComment_no_cr d), nulToReplacement_id _ h0, unescape_escapeComment]

-- the counterexample of the original tree: comment data "\r" (tokenizer input `<!--&#13;-->`)
example : escapeComment [13] = crE ∧ commentText (escapeComment [13]) = [13] := by decide +kernel
-- data with CR LF, `-->`-like pieces and `&`
example : commentText (escapeComment [45, 62, 13, 10, 38, 33, 62]) = [45, 62, 13, 10, 38, 33, 62] := by
  decide +kernel

-- `a<b & "c"` escapes to `a&lt;b &amp; &#34;c&#34;`
example : escape [97, 60, 98, 32, 38, 32, 34, 99, 34] =
    [97, 38, 108, 116, 59, 98, 32, 38, 97, 109, 112, 59, 32, 38, 35, 51, 52, 59, 99, 38, 35, 51, 52, 59] := by
  decide
-- `&eacute;&#x80;&notit;&amp` unescapes to `é€¬it;&`
example : unescape [38, 101, 97, 99, 117, 116, 101, 59, 38, 35, 120, 56, 48, 59, 38, 110, 111, 116, 105, 116, 59,
    38, 97, 109, 112] false = [195, 169, 226, 130, 172, 194, 172, 105, 116, 59, 38] := by decide +kernel
-- the converse round trip fails, as the Go doc says: escape (unescape "&amp") = "&amp;" ≠ "&amp"
example : escape (unescape [38, 97, 109, 112] false) ≠ [38, 97, 109, 112] := by decide +kernel

end NetVerif.Proofs.C40
