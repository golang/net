import NetVerif.Proofs.Lemmas.H2Frame
import NetVerif.Gen.C06
/-!
C06 — HTTP/2 Framer: every frame produced by a `Framer.Write*` method with
arguments the method accepts is read back by `Framer.ReadFrame` as the same
frame type with the same flags, stream ID and payload fields, padding removed.

`ReadsBack bs last last' f` says: a Framer whose HEADERS/CONTINUATION state is
`last` and whose read limit admits the frame, reading from `bs ++ rest`, returns
exactly `f` (whose header is the written header), moves to state `last'` and
leaves exactly `rest` in the reader. The only hypotheses of the round trips are
ranges of Go parameter types (uint32 error codes, uint16/uint32 settings, the
`[8]byte` of PING; the uint8 pad length and weight need no bound, a byte of the model's wire being an
unbounded `Nat` that reads back whatever its size) and, where the Go method does not validate it, the
31-bit stream id range of the property's quantifier.
-/
namespace NetVerif.Proofs.C06
open NetVerif NetVerif.Model.H2Frame NetVerif.Proofs.H2FrameLemmas

/-- every constant the model uses has the value currently in the Go source; the lists of frame types
and flags are complete (a new one changes the left-hand side); of the settings and error codes only
the constants the model uses are compared. -/
theorem gen_constants_eq :
    Gen.C06.allFrameType = [("FrameData", frameData), ("FrameHeaders", frameHeaders),
      ("FramePriority", framePriority), ("FrameRSTStream", frameRSTStream),
      ("FrameSettings", frameSettings), ("FramePushPromise", framePushPromise),
      ("FramePing", framePing), ("FrameGoAway", frameGoAway),
      ("FrameWindowUpdate", frameWindowUpdate), ("FrameContinuation", frameContinuation),
      ("FramePriorityUpdate", framePriorityUpdate)] ∧
    Gen.C06.allFlags = [("FlagDataEndStream", flagEndStream), ("FlagDataPadded", flagPadded),
      ("FlagHeadersEndStream", flagEndStream), ("FlagHeadersEndHeaders", flagEndHeaders),
      ("FlagHeadersPadded", flagPadded), ("FlagHeadersPriority", flagPriority),
      ("FlagSettingsAck", flagAck), ("FlagPingAck", flagAck),
      ("FlagContinuationEndHeaders", flagEndHeaders), ("FlagPushPromiseEndHeaders", flagEndHeaders),
      ("FlagPushPromisePadded", flagPadded)] ∧
    Gen.C06.settingInitialWindowSize = settingInitialWindowSize ∧
    Gen.C06.errCodeProtocol = errCodeProtocol ∧ Gen.C06.errCodeFlowControl = errCodeFlowControl ∧
    Gen.C06.errCodeFrameSize = errCodeFrameSize ∧ Gen.C06.errCodeCompression = errCodeCompression ∧
    Gen.C06.frameHeaderLen = frameHeaderLen ∧ Gen.C06.maxFrameSize = maxFrameSize :=
  ⟨rfl, rfl, rfl, rfl, rfl, rfl, rfl, rfl, rfl⟩

/-- T-fact on the reader's state: the receiver fields the read-path methods of `Framer` assign are
exactly these. `lastHeaderStream` is the model's `Framer.lastHeaderStream`; `errDetail` (error text),
`lastFrame` (frame invalidation) and `lastFrameType` (used only in an error message) do not influence
what a later `ReadFrame` returns and are not modelled. A new field written on the read path — e.g. a
counter that accumulates over the Framer's lifetime — changes the regenerated list and breaks this
theorem until the model accounts for it. -/
theorem gen_reader_state_eq :
    Gen.C06.readerWrittenFields =
      [("ReadFrameHeader", ["errDetail"]), ("ReadFrameForHeader", ["lastFrame"]), ("ReadFrame", []),
       ("checkFrameOrder", ["lastFrameType", "lastHeaderStream"]), ("connError", ["errDetail"]),
       ("readMetaFrame", ["errDetail"])] := rfl

/-- the dispatch of `parseFrame` is the Go table `frameParsers` (absent ⇒ `parseUnknownFrame`). -/
theorem gen_frameParsers_eq :
    Gen.C06.frameParsers = [(frameData, "parseDataFrame"), (frameHeaders, "parseHeadersFrame"),
      (framePriority, "parsePriorityFrame"), (frameRSTStream, "parseRSTStreamFrame"),
      (frameSettings, "parseSettingsFrame"), (framePushPromise, "parsePushPromise"),
      (framePing, "parsePingFrame"), (frameGoAway, "parseGoAwayFrame"),
      (frameWindowUpdate, "parseWindowUpdateFrame"), (frameContinuation, "parseContinuationFrame"),
      (framePriorityUpdate, "parsePriorityUpdateFrame")] := rfl

theorem gen_validStreamID_eq (s : Nat) (h : s < 4294967296) :
    Gen.C06.validStreamID s = some (validStreamID s) ∧
    Gen.C06.validStreamIDOrZero s = some (validStreamIDOrZero s) := by
  -- the Go mask `1<<31`: of a uint32 it is clear exactly below 2^31
  have hb : s &&& 2147483648 = 0 ↔ s < 2147483648 := by
    rw [show (2147483648 : Nat) = 2 ^ 31 from rfl, Lemmas.and_two_pow]
    split <;> simp [*] <;> omega
  unfold Gen.C06.validStreamID Gen.C06.validStreamIDOrZero validStreamID validStreamIDOrZero
  simp only [Nat.one_mul, hb]
  by_cases h0 : s = 0 <;> by_cases h1 : s < 2147483648 <;> simp [h0, h1]

theorem hasFlag_two_pow (f i : Nat) : hasFlag f (2 ^ i) = ((f &&& 2 ^ i) == 2 ^ i) := by
  have := Nat.two_pow_pos i
  rw [Lemmas.and_two_pow, hasFlag]
  split
  · simp [*]
  · rw [beq_false_of_ne ‹_›, beq_false_of_ne (by omega)]

/-- `Flags.Has(v)` (`f&v == v`) is the bit test of the model for the single-bit flags used. -/
theorem hasFlag_eq_and : ∀ f, f < 256 → ∀ v ∈ [flagEndStream, flagEndHeaders, flagPadded, flagPriority],
    hasFlag f v = ((f &&& v) == v) := by
  intro f _ v hv
  simp only [List.mem_cons, List.not_mem_nil, or_false] at hv
  rcases hv with rfl | rfl | rfl | rfl
  · exact hasFlag_two_pow f 0
  · exact hasFlag_two_pow f 2
  · exact hasFlag_two_pow f 3
  · exact hasFlag_two_pow f 5

/-- As described at the head of the file; the `9` is `frameHeaderLen`. -/
def ReadsBack (bs : List Nat) (last last' : Nat) (f : Frame) : Prop :=
  ∀ (fr : Framer) (rest : List Nat), fr.lastHeaderStream = last → bs.length ≤ fr.maxReadSize + 9 →
    readFrame fr (bs ++ rest) = ⟨.ok f, some f.header, { fr with lastHeaderStream := last' }, rest⟩

theorem newFramer_admits {t fl sid : Nat} {payload bs : List Nat}
    (hw : frameBytes t fl sid payload = .ok bs) :
    newFramer.lastHeaderStream = 0 ∧ bs.length ≤ newFramer.maxReadSize + 9 := by
  obtain ⟨h, rfl⟩ := frameBytes_ok hw
  simp [newFramer, maxFrameSize]; omega

private theorem frameBytes_length {t fl sid : Nat} {payload bs : List Nat}
    (hw : frameBytes t fl sid payload = .ok bs) : payload.length = bs.length - 9 := by
  rw [(frameBytes_ok hw).2]; simp

/-- The common part of every round trip: a written frame reads back as `f` once the order check
admits its header and its type's parser `parse` (what `parseFrame` dispatches to: `hd` holds by
`rfl`, stated for any payload so that the kernel does not start evaluating the parser) turns the
payload into `f`. -/
private theorem readsBack_of {t fl sid : Nat} {payload bs : List Nat} {last last' : Nat} {f : Frame}
    (parse : FrameHeader → List Nat → Except RErr Frame)
    (hw : frameBytes t fl sid payload = .ok bs) (hsid : sid < 2147483648)
    (hord : checkFrameOrder last ⟨payload.length, t, fl, sid⟩ = .ok last')
    (hd : ∀ len p, parseFrame ⟨len, t, fl, sid⟩ p = parse ⟨len, t, fl, sid⟩ p)
    (hp : parse ⟨payload.length, t, fl, sid⟩ payload = .ok f)
    (hh : f.header = ⟨payload.length, t, fl, sid⟩) : ReadsBack bs last last' f := by
  intro fr rest hl hmax
  have hlen := frameBytes_length hw
  subst hl
  rw [readFrame_frameBytes fr t fl sid payload rest bs hsid hw (by omega) last' hord, hd, hp, hh]

private theorem validSid {sid : Nat} (h : ¬ (!validStreamID sid) = true) : sid ≠ 0 ∧ sid < 2147483648 := by
  simpa [validStreamID] using h

private theorem order_plain {len t fl sid : Nat} (h1 : t ≠ frameHeaders)
    (h9 : t ≠ frameContinuation) : checkFrameOrder 0 ⟨len, t, fl, sid⟩ = .ok 0 := by
  simp [checkFrameOrder, h1, h9]

/-- the 32-bit word `WritePriority`/`WriteHeaders` put in front of the weight. -/
private theorem prio_word (dep : Nat) (excl : Bool) (h : dep < 2147483648) :
    dep + b2n excl 2147483648 < 4294967296 ∧ (dep + b2n excl 2147483648) % 2147483648 = dep ∧
    (dep + b2n excl 2147483648 != dep) = excl := by
  cases excl <;> simp [b2n] <;> omega

private theorem readPrio_prioBytes (p : PriorityParam) (rest : List Nat) (h : p.streamDep < 2147483648) :
    readPrio (prioBytes p ++ rest) = .ok (rest, p) := by
  obtain ⟨hv, hm, he⟩ := prio_word p.streamDep p.exclusive h
  simp [prioBytes, be32, readPrio, rd32_be32 _ hv, hm, he]

private theorem isZero_iff (p : PriorityParam) : p.isZero = true ↔ p = {} := by
  obtain ⟨dep, excl, w⟩ := p
  simp [PriorityParam.isZero, and_assoc]

private theorem take_frag (frag : List Nat) (n : Nat) :
    (frag ++ List.replicate n 0).take ((frag ++ List.replicate n 0).length - n) = frag := by
  have : (frag ++ List.replicate n 0).length - n = frag.length := by simp
  rw [this]; simp

theorem data_roundtrip (sid : Nat) (es : Bool) (data : List Nat) (pad : Option (List Nat)) (bs : List Nat)
    (hw : writeData sid es data pad = .ok bs) :
    ReadsBack bs 0 0 (.data ⟨bs.length - 9, frameData,
      b2n es flagEndStream + b2n pad.isSome flagPadded, sid⟩ data) := by
  unfold writeData at hw
  obtain ⟨hv, hw⟩ := Lemmas.ok_of_ite_error hw
  have hsid := validSid hv
  cases pad
  case' some p =>
    obtain ⟨_, hw⟩ := Lemmas.ok_of_ite_error hw
    obtain ⟨_, hw⟩ := Lemmas.ok_of_ite_error hw
  -- padded or not, `hw` now gives `bs` as the `frameBytes` of a DATA frame
  all_goals
    rw [← frameBytes_length hw]
    refine readsBack_of parseData hw hsid.2 (order_plain (by decide) (by decide)) (fun _ _ => rfl) ?_ rfl
    cases es <;> simp [parseData, hsid.1, hasFlag, b2n, flagEndStream, flagPadded]

def headersFlags (es eh : Bool) (padLen : Nat) (prio : PriorityParam) : Nat :=
  b2n (padLen != 0) flagPadded + b2n es flagEndStream + b2n eh flagEndHeaders + b2n (!prio.isZero) flagPriority

theorem hasFlag_headersFlags (es eh : Bool) (padLen : Nat) (prio : PriorityParam) :
    hasFlag (headersFlags es eh padLen prio) flagPadded = (padLen != 0) ∧
    hasFlag (headersFlags es eh padLen prio) flagEndStream = es ∧
    hasFlag (headersFlags es eh padLen prio) flagEndHeaders = eh ∧
    hasFlag (headersFlags es eh padLen prio) flagPriority = !prio.isZero := by
  unfold headersFlags
  generalize (padLen != 0) = a
  generalize (!prio.isZero) = d
  revert a es eh d
  decide

/-- Afterwards the Framer expects a CONTINUATION on `sid` iff END_HEADERS was not set. -/
theorem headers_roundtrip (sid : Nat) (frag : List Nat) (es eh : Bool) (padLen : Nat) (prio : PriorityParam)
    (bs : List Nat) (hw : writeHeaders sid frag es eh padLen prio = .ok bs) :
    ReadsBack bs 0 (if eh then 0 else sid)
      (.headers ⟨bs.length - 9, frameHeaders, headersFlags es eh padLen prio, sid⟩ prio frag) := by
  unfold writeHeaders at hw
  obtain ⟨hv, hw⟩ := Lemmas.ok_of_ite_error hw
  have hsid := validSid hv
  obtain ⟨hdep, hw⟩ := Lemmas.ok_of_ite_error hw
  obtain ⟨hfp, _, hfe, hfq⟩ := hasFlag_headersFlags es eh padLen prio
  unfold headersFlags at hfp hfe hfq
  rw [← frameBytes_length hw]
  refine readsBack_of parseHeaders hw hsid.2 ?_ (fun _ _ => rfl) ?_ rfl
  · simp [checkFrameOrder, frameHeaders, frameContinuation, hfe]
  · simp only [parseHeaders, hfp, hfq, hsid.1, ↓reduceIte]
    cases hz : prio.isZero
    · have hd : prio.streamDep < 2147483648 := by simpa [hz, validStreamIDOrZero] using hdep
      by_cases hp : padLen = 0
      · simp [hp, hz, headersFlags, readPrio_prioBytes prio _ hd]
      · simp [hp, hz, headersFlags, List.append_assoc, readPrio_prioBytes prio _ hd]
    · obtain rfl := (isZero_iff prio).1 hz
      by_cases hp : padLen = 0
      · simp [hp, hz, headersFlags]
      · simp [hp, hz, headersFlags]

theorem priority_roundtrip (sid : Nat) (p : PriorityParam) (bs : List Nat)
    (hw : writePriority sid p = .ok bs) :
    ReadsBack bs 0 0 (.priority ⟨5, framePriority, 0, sid⟩ p) := by
  unfold writePriority at hw
  obtain ⟨hv, hw⟩ := Lemmas.ok_of_ite_error hw
  have hsid := validSid hv
  obtain ⟨hdep, hw⟩ := Lemmas.ok_of_ite_error hw
  have hd : p.streamDep < 2147483648 := by simpa [validStreamIDOrZero] using hdep
  refine readsBack_of parsePriority hw hsid.2 (order_plain (by decide) (by decide)) (fun _ _ => rfl) ?_ rfl
  obtain ⟨hv2, hm, he⟩ := prio_word p.streamDep p.exclusive hd
  rw [bne_comm] at he
  simp [prioBytes, be32, parsePriority, rd32_be32 _ hv2, hm, he, hsid.1]

theorem rstStream_roundtrip (sid code : Nat) (bs : List Nat) (hc : code < 4294967296)
    (hw : writeRSTStream sid code = .ok bs) :
    ReadsBack bs 0 0 (.rstStream ⟨4, frameRSTStream, 0, sid⟩ code) := by
  unfold writeRSTStream at hw
  obtain ⟨hv, hw⟩ := Lemmas.ok_of_ite_error hw
  have hsid := validSid hv
  refine readsBack_of parseRSTStream hw hsid.2 (order_plain (by decide) (by decide)) (fun _ _ => rfl) ?_ rfl
  simp [be32, parseRSTStream, rd32_be32 _ hc, hsid.1]

theorem ping_roundtrip (ack : Bool) (data bs : List Nat) (hd : data.length = 8)
    (hw : writePing ack data = .ok bs) :
    ReadsBack bs 0 0 (.ping ⟨8, framePing, b2n ack flagAck, 0⟩ data) := by
  unfold writePing at hw
  refine readsBack_of parsePing hw (by decide) (order_plain (by decide) (by decide)) (fun _ _ => rfl) ?_ ?_
  · simp [parsePing, hd]
  · simp [Frame.header, hd]

/-- `code` is a uint32; `WriteGoAway` masks the last-stream-id to 31 bits, so for a 31-bit `maxSid`
the field read back is `maxSid` itself. -/
theorem goAway_roundtrip (maxSid code : Nat) (debug bs : List Nat) (hc : code < 4294967296)
    (hw : writeGoAway maxSid code debug = .ok bs) :
    ReadsBack bs 0 0 (.goAway ⟨bs.length - 9, frameGoAway, 0, 0⟩ (maxSid % 2147483648) code debug) := by
  unfold writeGoAway at hw
  rw [← frameBytes_length hw]
  refine readsBack_of parseGoAway hw (by decide) (order_plain (by decide) (by decide)) (fun _ _ => rfl) ?_ rfl
  have hm : maxSid % 2147483648 < 4294967296 := by omega
  simp only [be32, List.cons_append, List.nil_append, parseGoAway, rd32_be32 _ hc, rd32_be32 _ hm]
  simp

theorem goAway_roundtrip_31bit (maxSid : Nat) (h : maxSid < 2147483648) : maxSid % 2147483648 = maxSid := by
  omega

/-- `WriteWindowUpdate` does not validate the stream id, so the 31-bit range of the property's
quantifier is a hypothesis here. -/
theorem windowUpdate_roundtrip (sid incr : Nat) (bs : List Nat) (hsid : sid < 2147483648)
    (hw : writeWindowUpdate sid incr = .ok bs) :
    ReadsBack bs 0 0 (.windowUpdate ⟨4, frameWindowUpdate, 0, sid⟩ incr) := by
  unfold writeWindowUpdate at hw
  obtain ⟨hi, hw⟩ := Lemmas.ok_of_ite_error hw
  have hi' : 1 ≤ incr ∧ incr ≤ 2147483647 := by
    simp at hi; omega
  refine readsBack_of parseWindowUpdate hw hsid (order_plain (by decide) (by decide)) (fun _ _ => rfl) ?_ rfl
  have h1 : incr % 2147483648 = incr := by omega
  have h2 : incr ≠ 0 := by omega
  simp [be32, parseWindowUpdate, rd32_be32 incr (by omega), h1, h2]

theorem continuation_roundtrip (sid : Nat) (eh : Bool) (frag bs : List Nat)
    (hw : writeContinuation sid eh frag = .ok bs) :
    ReadsBack bs sid (if eh then 0 else sid)
      (.continuation ⟨bs.length - 9, frameContinuation, b2n eh flagEndHeaders, sid⟩ frag) := by
  unfold writeContinuation at hw
  obtain ⟨hv, hw⟩ := Lemmas.ok_of_ite_error hw
  have hsid := validSid hv
  rw [← frameBytes_length hw]
  refine readsBack_of parseContinuation hw hsid.2 ?_ (fun _ _ => rfl) ?_ rfl
  · cases eh <;> simp [checkFrameOrder, frameContinuation, frameHeaders, hasFlag, b2n, flagEndHeaders, hsid.1]
  · simp [parseContinuation, hsid.1]

theorem pushPromise_roundtrip (sid promiseID : Nat) (frag : List Nat) (eh : Bool) (padLen : Nat) (bs : List Nat)
    (hw : writePushPromise sid promiseID frag eh padLen = .ok bs) :
    ReadsBack bs 0 0 (.pushPromise ⟨bs.length - 9, framePushPromise,
      b2n (padLen != 0) flagPadded + b2n eh flagEndHeaders, sid⟩ promiseID frag) := by
  unfold writePushPromise at hw
  obtain ⟨hv, hw⟩ := Lemmas.ok_of_ite_error hw
  have hsid := validSid hv
  obtain ⟨hv2, hw⟩ := Lemmas.ok_of_ite_error hw
  have hpid := validSid hv2
  rw [← frameBytes_length hw]
  refine readsBack_of parsePushPromise hw hsid.2 (order_plain (by decide) (by decide)) (fun _ _ => rfl) ?_ rfl
  have hfp : ∀ a c, hasFlag (b2n a flagPadded + b2n c flagEndHeaders) flagPadded = a := by decide
  have h1 : promiseID % 2147483648 = promiseID := by omega
  simp only [parsePushPromise, hfp, hsid.1, ↓reduceIte]
  by_cases hp : padLen = 0
  · simp [hp, be32, rd32_be32 promiseID (by omega), h1]
  · simp [hp, be32, rd32_be32 promiseID (by omega), h1]

theorem priorityUpdate_roundtrip (sid : Nat) (priority bs : List Nat)
    (hw : writePriorityUpdate sid priority = .ok bs) :
    ReadsBack bs 0 0 (.priorityUpdate ⟨bs.length - 9, framePriorityUpdate, 0, 0⟩ sid priority) := by
  unfold writePriorityUpdate at hw
  obtain ⟨hv, hw⟩ := Lemmas.ok_of_ite_error hw
  have hsid := validSid hv
  rw [← frameBytes_length hw]
  refine readsBack_of parsePriorityUpdate hw (by decide) (order_plain (by decide) (by decide)) (fun _ _ => rfl) ?_ rfl
  have h1 : sid % 2147483648 = sid := by omega
  simp [parsePriorityUpdate, be32, rd32_be32 sid (by omega), h1, hsid.1]

theorem settingsAck_roundtrip (bs : List Nat) (hw : writeSettingsAck = .ok bs) :
    ReadsBack bs 0 0 (.settings ⟨0, frameSettings, flagAck, 0⟩ []) := by
  unfold writeSettingsAck at hw
  exact readsBack_of parseSettings hw (by decide) (order_plain (by decide) (by decide)) (fun _ _ => rfl) rfl rfl

theorem raw_roundtrip_unknown (t fl sid : Nat) (payload bs : List Nat) (hsid : sid < 2147483648)
    (ht : ∀ p ∈ Gen.C06.frameParsers, p.1 ≠ t)
    (hw : writeRawFrame t fl sid payload = .ok bs) :
    ReadsBack bs 0 0 (.unknown ⟨bs.length - 9, t, fl, sid⟩ payload) := by
  unfold writeRawFrame at hw
  simp only [Gen.C06.frameParsers, List.forall_mem_cons, List.not_mem_nil, false_imp_iff, implies_true,
    and_true] at ht
  obtain ⟨h0, h1, h2, h3, h4, h5, h6, h7, h8, h9, h16⟩ := ht
  rw [← frameBytes_length hw]
  refine readsBack_of (fun fh p => .ok (.unknown fh p)) hw hsid
    (order_plain (Ne.symm h1) (Ne.symm h9)) (fun len p => ?_) rfl rfl
  exact parseFrame_rel (R := fun _ r => r = .ok (.unknown _ p)) _ p
    (absurd · (Ne.symm h0)) (absurd · (Ne.symm h1)) (absurd · (Ne.symm h2)) (absurd · (Ne.symm h3))
    (absurd · (Ne.symm h4)) (absurd · (Ne.symm h5)) (absurd · (Ne.symm h6)) (absurd · (Ne.symm h7))
    (absurd · (Ne.symm h8)) (absurd · (Ne.symm h9)) (absurd · (Ne.symm h16)) (fun _ => rfl)

/-- `WriteRawFrame` of any type: `ReadFrame` hands exactly the written header and payload to the
parser its type byte denotes, whatever that parser makes of them. -/
theorem raw_roundtrip_typed (fr : Framer) (t fl sid : Nat) (payload bs rest : List Nat) (hsid : sid < 2147483648)
    (hw : writeRawFrame t fl sid payload = .ok bs) (hmax : bs.length ≤ fr.maxReadSize + 9) (last' : Nat)
    (hord : checkFrameOrder fr.lastHeaderStream ⟨payload.length, t, fl, sid⟩ = .ok last') :
    readFrame fr (bs ++ rest) =
      ⟨parseFrame ⟨payload.length, t, fl, sid⟩ payload, some ⟨payload.length, t, fl, sid⟩,
       { fr with lastHeaderStream := last' }, rest⟩ := by
  unfold writeRawFrame at hw
  have hl := frameBytes_length hw
  exact readFrame_frameBytes fr t fl sid payload rest bs hsid hw (by omega) last' hord

/-- ranges of the Go types: `SettingID` is a uint16, `Val` a uint32. -/
def SettingsWF (ss : List (Nat × Nat)) : Prop := ∀ s ∈ ss, s.1 < 65536 ∧ s.2 < 4294967296

/-- the excluded region: the first INITIAL_WINDOW_SIZE setting exceeds 2^31-1. -/
def IWSOverflow (ss : List (Nat × Nat)) : Bool :=
  match settingsValue settingInitialWindowSize ss with
  | some v => decide (v > 2147483647)
  | none => false

private theorem settingsOf_settingsBytes (ss : List (Nat × Nat)) (h : SettingsWF ss) :
    settingsOf (settingsBytes ss) = ss := by
  induction ss with
  | nil => simp [settingsBytes, settingsOf]
  | cons s rest ih =>
    obtain ⟨id, v⟩ := s
    have h1 := h (id, v) (by simp)
    simp only at h1
    have hr : SettingsWF rest := fun x hx => h x (by simp [hx])
    simp only [settingsBytes, settingBytes, be32, List.cons_append, List.nil_append, settingsOf, ih hr,
      rd32_be32 _ h1.2]
    rw [Lemmas.be_step, Nat.mod_eq_of_lt h1.1]

private theorem settingsBytes_length (ss : List (Nat × Nat)) : (settingsBytes ss).length = 6 * ss.length := by
  induction ss with
  | nil => simp [settingsBytes]
  | cons s rest ih => simp [settingsBytes, settingBytes, be32, ih]; omega

private theorem parseSettings_settingsBytes (ss : List (Nat × Nat)) (hwf : SettingsWF ss) :
    parseSettings ⟨(settingsBytes ss).length, frameSettings, 0, 0⟩ (settingsBytes ss) =
      if IWSOverflow ss then .error (.conn errCodeFlowControl)
      else .ok (.settings ⟨(settingsBytes ss).length, frameSettings, 0, 0⟩ ss) := by
  have h6 : (settingsBytes ss).length % 6 = 0 := by rw [settingsBytes_length]; omega
  simp [parseSettings, hasFlag, flagAck, settingsOf_settingsBytes ss hwf, h6, IWSOverflow]
  split <;> simp [*]

theorem settings_roundtrip_holds_partial (ss : List (Nat × Nat)) (bs : List Nat) (hwf : SettingsWF ss)
    (hno : IWSOverflow ss = false) (hw : writeSettings ss = .ok bs) :
    ReadsBack bs 0 0 (.settings ⟨bs.length - 9, frameSettings, 0, 0⟩ ss) := by
  unfold writeSettings at hw
  rw [← frameBytes_length hw]
  refine readsBack_of parseSettings hw (by decide) (order_plain (by decide) (by decide)) (fun _ _ => rfl) ?_ rfl
  rw [parseSettings_settingsBytes ss hwf, hno]
  rfl

/-- The full C06 statement for `WriteSettings`: every accepted argument list reads back. -/
def SettingsRoundTripStatement : Prop :=
  ∀ (ss : List (Nat × Nat)) (bs : List Nat), SettingsWF ss → writeSettings ss = .ok bs →
    ReadsBack bs 0 0 (.settings ⟨bs.length - 9, frameSettings, 0, 0⟩ ss)

/-- It is false on the code as it is: `WriteSettings(Setting{INITIAL_WINDOW_SIZE, 2^31})` succeeds
and `ReadFrame` answers `ConnectionError(FLOW_CONTROL_ERROR)`. -/
theorem settings_roundtrip_full_false : ¬ SettingsRoundTripStatement := by
  intro h
  have hw : writeSettings [(4, 2147483648)] = .ok [0, 0, 6, 4, 0, 0, 0, 0, 0, 0, 4, 128, 0, 0, 0] := by rfl
  have h1 := h [(4, 2147483648)] _ (by simp [SettingsWF]) hw newFramer [] rfl (by decide)
  have h2 := congrArg ReadResult.res h1
  have h3 : (readFrame newFramer ([0, 0, 6, 4, 0, 0, 0, 0, 0, 0, 4, 128, 0, 0, 0] ++ [])).res
      = .error (.conn errCodeFlowControl) := by rfl
  rw [h3] at h2
  cases h2

/-- The excluded region is exactly where the Go oracle reports the known finding
`settings-initial-window-size-over-2^31-1`. -/
theorem settings_overflow_rejected (ss : List (Nat × Nat)) (bs : List Nat) (hwf : SettingsWF ss)
    (hov : IWSOverflow ss = true) (hw : writeSettings ss = .ok bs) (fr : Framer) (rest : List Nat)
    (hl : fr.lastHeaderStream = 0) (hmax : bs.length ≤ fr.maxReadSize + 9) :
    (readFrame fr (bs ++ rest)).res = .error (.conn errCodeFlowControl) := by
  unfold writeSettings at hw
  have hlen := frameBytes_length hw
  have hord : checkFrameOrder fr.lastHeaderStream ⟨(settingsBytes ss).length, frameSettings, 0, 0⟩ = .ok 0 := by
    rw [hl]; exact order_plain (by decide) (by decide)
  rw [readFrame_frameBytes fr frameSettings 0 0 _ rest bs (by decide) hw (by omega) 0 hord]
  show parseSettings _ _ = _
  rw [parseSettings_settingsBytes ss hwf, hov]
  rfl

theorem write_shape {t fl sid : Nat} {payload bs : List Nat} (hw : frameBytes t fl sid payload = .ok bs) :
    bs.length = 9 + payload.length ∧ payload.length < 16777216 ∧
    bs.take 3 = [payload.length / 65536 % 256, payload.length / 256 % 256, payload.length % 256] := by
  obtain ⟨h, rfl⟩ := frameBytes_ok hw
  simp; omega

theorem frameBytes_accepts_iff (t fl sid : Nat) (payload : List Nat) :
    (∃ bs, frameBytes t fl sid payload = .ok bs) ↔ payload.length < 16777216 := by
  unfold frameBytes
  split
  · simp; omega
  · simp; omega

private theorem guard_accepts_iff {c : Prop} [Decidable c] {e : WErr} {x : Except WErr (List Nat)} :
    (∃ bs, (if c then .error e else x) = .ok bs) ↔ ¬ c ∧ ∃ bs, x = .ok bs := by
  split <;> simp [*]

theorem writeData_accepts_iff (sid : Nat) (es : Bool) (data : List Nat) (pad : Option (List Nat)) :
    (∃ bs, writeData sid es data pad = .ok bs) ↔
      (sid ≠ 0 ∧ sid < 2147483648) ∧
      (match pad with
       | none => data.length < 16777216
       | some p => p.length ≤ 255 ∧ (∀ b ∈ p, b = 0) ∧ 1 + data.length + p.length < 16777216) := by
  unfold writeData
  rw [guard_accepts_iff]
  cases pad with
  | none => simp [frameBytes_accepts_iff, validStreamID]
  | some p =>
    simp only
    rw [guard_accepts_iff, guard_accepts_iff, frameBytes_accepts_iff]
    simp [validStreamID]
    omega

/-- the frames returned by up to `n` successive `ReadFrame` calls, until the first error of any kind
(`C07.readTrace` collects the accepted headers instead and goes on after a StreamError). -/
def readFrames : Nat → Framer → List Nat → List Frame
  | 0, _, _ => []
  | n + 1, fr, bs =>
    match (readFrame fr bs).res with
    | .ok f => f :: readFrames n (readFrame fr bs).fr (readFrame fr bs).rest
    | .error _ => []

/-- a sequence of (bytes written, frame) whose HEADERS/CONTINUATION states chain up. -/
inductive Chain : Nat → List (List Nat × Frame) → Nat → Prop
  | nil (l : Nat) : Chain l [] l
  | cons {l l' l'' : Nat} {bs : List Nat} {f : Frame} {rest : List (List Nat × Frame)} :
      ReadsBack bs l l' f → Chain l' rest l'' → Chain l ((bs, f) :: rest) l''

theorem session_roundtrip {l l' : Nat} {items : List (List Nat × Frame)} (h : Chain l items l')
    (fr : Framer) (tail : List Nat) (hfr : fr.lastHeaderStream = l)
    (hmax : ∀ it ∈ items, it.1.length ≤ fr.maxReadSize + 9) :
    readFrames items.length fr (items.flatMap (·.1) ++ tail) = items.map (·.2) := by
  induction h generalizing fr with
  | nil l => simp [readFrames]
  | @cons l0 l1 l2 bs f rest hrb _ ih =>
    have h1 := hrb fr (rest.flatMap (·.1) ++ tail) hfr (hmax (bs, f) (by simp))
    simp only [List.flatMap_cons, List.append_assoc, List.length_cons, readFrames, h1, List.map_cons]
    congr 1
    exact ih { fr with lastHeaderStream := l1 } rfl (fun it hit => hmax it (by simp [hit]))

/-- `startWrite … endWrite` on a Framer whose buffer holds anything is `frameBytes`: the stale
content is dropped by `startWrite`. -/
theorem endWriteS_startWriteS (w : List Nat) (t fl sid : Nat) (payload : List Nat) :
    (endWriteS (startWriteS w t fl sid ++ payload)).1 = frameBytes t fl sid payload := by
  unfold endWriteS startWriteS frameBytes
  simp only [List.cons_append, List.nil_append, List.length_cons, List.drop_succ_cons, List.drop_zero]
  have : payload.length + 1 + 1 + 1 + 1 + 1 + 1 + 1 + 1 + 1 - 9 = payload.length := by omega
  rw [this]
  split <;> rfl

theorem runCall_result (w : List Nat) (c : Call) : (runCall w c).1 = c.fresh := by
  -- in every method the checks are the same `if`s on both sides; `.1` moves inside them
  cases c
  case data sid es d pad =>
    cases pad <;>
      simp only [runCall, Call.fresh, writeData, apply_ite Prod.fst, endWriteS_startWriteS, List.append_assoc,
        List.cons_append, List.nil_append]
  case settingsAck => exact endWriteS_startWriteS w _ _ _ []
  all_goals
    simp only [runCall, Call.fresh, writeHeaders, writePriority, writeRSTStream, writeSettings,
      writePing, writeGoAway, writeWindowUpdate, writeContinuation, writePushPromise, writePriorityUpdate,
      writeRawFrame, apply_ite Prod.fst, endWriteS_startWriteS, List.append_assoc]

/-- The result of a Write call does not depend on what earlier calls left in the Framer's write buffer:
a call rejected after `startWrite` (invalid StreamDep / PromiseID, ErrFrameTooLarge) leaves nothing
behind that a later accepted call would emit. -/
theorem runCalls_results (w : List Nat) (cs : List Call) : (runCalls w cs).1 = cs.map Call.fresh := by
  induction cs generalizing w with
  | nil => rfl
  | cons c rest ih => simp only [runCalls, List.map_cons, runCall_result, ih]

example : ∃ bs, writeData 77 true [1, 2, 3] (some [0, 0]) = .ok bs := ⟨_, rfl⟩
example : ∃ bs, writeHeaders 5 [1, 2, 3] true false 7 ⟨3, true, 200⟩ = .ok bs := ⟨_, rfl⟩
example : ∃ bs, writePushPromise 1 2 [9, 9] true 3 = .ok bs := ⟨_, rfl⟩
example : ∃ bs, writeSettings [(1, 4096), (4, 2147483647)] = .ok bs ∧
    IWSOverflow [(1, 4096), (4, 2147483647)] = false := ⟨_, rfl, rfl⟩
example : IWSOverflow [(3, 100), (4, 4294967295), (4, 1)] = true := rfl
/-- a WriteHeaders rejected after `startWrite` leaves a partial frame in the buffer … -/
example : runCall [] (.headers 1 [7] false true 5 ⟨2147483648, false, 0⟩)
    = (.error .depStreamID, [0, 0, 0, 1, 44, 0, 0, 0, 1, 5]) := rfl
/-- … which the next accepted call does not emit. -/
example : (runCalls [] [.headers 1 [7] false true 5 ⟨2147483648, false, 0⟩, .ping false [1, 2, 3, 4, 5, 6, 7, 8]]).1
    = [.error .depStreamID, .ok [0, 0, 8, 6, 0, 0, 0, 0, 0, 1, 2, 3, 4, 5, 6, 7, 8]] := rfl
example : ∃ bs, writeRawFrame 200 255 77 [1, 2] = .ok bs ∧ ∀ p ∈ Gen.C06.frameParsers, p.1 ≠ 200 :=
  ⟨_, rfl, by decide⟩
example (b1 b2 : List Nat) (h1 : writeHeaders 3 [1] false false 0 {} = .ok b1)
    (h2 : writeContinuation 3 true [2] = .ok b2) :
    ∃ f1 f2, Chain 0 [(b1, f1), (b2, f2)] 0 :=
  ⟨_, _, .cons (headers_roundtrip _ _ _ _ _ _ _ h1) (.cons (continuation_roundtrip _ _ _ _ h2) (.nil _))⟩

end NetVerif.Proofs.C06
