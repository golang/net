import NetVerif.Model.Edns0
import NetVerif.Gen.C38
import NetVerif.Proofs.Lemmas.ByteArith
/-!
C38 — EDNS(0) header fields encode and decode consistently.
All 4096 extended RCodes × 65536 payload sizes × 2 DO values, as theorems over the arithmetic model.
The mask/shift form regenerated from message.go is proved equal to the model: the two readers for every
TTL, `SetEDNS0` for `ext < 4096` and `len < 65536` (the generated text truncates neither the Class to
uint16 nor the shifted RCode to uint32, so `extRCode_truncates` speaks of the model alone).
-/
namespace NetVerif.Proofs.C38
open NetVerif NetVerif.Model.Edns0 NetVerif.Proofs.Lemmas

private theorem mul_or (k x i : Nat) (hx : x < 2 ^ i) : k * 2 ^ i ||| x = k * 2 ^ i + x := by
  rw [Nat.or_comm, Nat.add_comm]
  exact or_eq_add_of_disjoint x _ i hx (Nat.mul_mod_left _ _)

/-- The fields of a TTL word `x·2^24 + c`: top byte `x`, version byte zero, `c` below it. -/
private theorem ttl_fields {x c : Nat} (hx : x < 256) (hc : c < 65536) :
    (x * 16777216 + c) / 16777216 = x ∧ (x * 16777216 + c) / 65536 % 256 = 0 ∧
    (x * 16777216 + c) / 32768 % 512 = c / 32768 ∧ x * 16777216 + c < 4294967296 := by
  omega

/-- The fields of the TTL that SetEDNS0 writes: the upper 8 bits of the extended RCode, version 0, the DO bit. -/
theorem set_ttl_fields (p : Hdr) (len ext : Nat) (d : Bool) :
    (setEDNS0 p len ext d).ttl / 16777216 = ext / 16 % 256 ∧ (setEDNS0 p len ext d).ttl / 65536 % 256 = 0 ∧
    (setEDNS0 p len ext d).ttl / 32768 % 512 = (if d then 1 else 0) ∧ (setEDNS0 p len ext d).ttl < 4294967296 := by
  have hc : (if d then 32768 else 0) < 65536 := by cases d <;> decide
  obtain ⟨h1, h2, h3, h4⟩ := ttl_fields (Nat.mod_lt (ext / 16) (by decide : 0 < 256)) hc
  refine ⟨h1, h2, ?_, h4⟩
  rw [show (setEDNS0 p len ext d).ttl = ext / 16 % 256 * 16777216 + (if d then 32768 else 0) from rfl, h3]
  cases d <;> rfl

theorem set_ttl_shape (p : Hdr) (len ext : Nat) (d : Bool) :
    (setEDNS0 p len ext d).ttl < 4294967296 ∧ (setEDNS0 p len ext d).ttl / 65536 % 256 = 0 :=
  ⟨(set_ttl_fields p len ext d).2.2.2, (set_ttl_fields p len ext d).2.1⟩

/-- What happens outside the representable range (uint16 `ext ≥ 4096`): the top 4 bits are lost,
nothing else. (Not part of C38; documents the model on the whole uint16 domain.) -/
theorem extRCode_truncates (p : Hdr) (len ext : Nat) (d : Bool) :
    extendedRCode (setEDNS0 p len ext d).ttl (ext % 16) = ext % 4096 := by
  obtain ⟨h1, h2, -, -⟩ := set_ttl_fields p len ext d
  unfold extendedRCode
  rw [if_pos h2, h1, mul_or _ _ 4 (Nat.mod_lt ext (by decide))]
  omega

/-- Extended RCode round trip: the upper 8 bits travel in the TTL, the lower 4 in the header. -/
theorem extRCode_roundtrip (p : Hdr) (len ext : Nat) (d : Bool) (hext : ext < 4096) :
    extendedRCode (setEDNS0 p len ext d).ttl (ext % 16) = ext := by
  rw [extRCode_truncates, Nat.mod_eq_of_lt hext]

theorem dnssec_roundtrip (p : Hdr) (len ext : Nat) (d : Bool) :
    dnssecAllowed (setEDNS0 p len ext d).ttl = d := by
  unfold dnssecAllowed
  rw [(set_ttl_fields p len ext d).2.2.1]
  cases d <;> rfl

theorem class_roundtrip (p : Hdr) (len ext : Nat) (d : Bool) (hlen : len < 65536) :
    (setEDNS0 p len ext d).cls = len ∧ (setEDNS0 p len ext d).typ = 41 := by
  unfold setEDNS0 typeOPT
  simp only [Nat.mod_eq_of_lt hlen, and_self]

/-- SetEDNS0 overwrites: the header after the call does not depend on what it held before (an earlier
SetEDNS0 with another DO/RCode, an ordinary record TTL such as 86400, any Class). Of the model this
holds by definition (`setEDNS0` ignores its first argument); that message.go computes the model's
values whatever the header held is `gen_setEDNS0_eq`. -/
theorem set_independent_of_prior (p p' : Hdr) (len ext : Nat) (d : Bool) :
    setEDNS0 p len ext d = setEDNS0 p' len ext d := rfl

/-- Histories: after any sequence of SetEDNS0 calls on one header, only the last call matters
(an instance of `set_independent_of_prior`). -/
theorem set_history (p : Hdr) (calls : List (Nat × Nat × Bool)) (len ext : Nat) (d : Bool) :
    setEDNS0 (calls.foldl (fun h c => setEDNS0 h c.1 c.2.1 c.2.2) p) len ext d =
      setEDNS0 { typ := 0, cls := 0, ttl := 0 } len ext d := rfl

/-- C38 at full strength: all 4096 × 65536 × 2 combinations. -/
theorem holds (p : Hdr) (len ext : Nat) (d : Bool) (hext : ext < 4096) (hlen : len < 65536) :
    extendedRCode (setEDNS0 p len ext d).ttl (ext % 16) = ext ∧
    dnssecAllowed (setEDNS0 p len ext d).ttl = d ∧
    (setEDNS0 p len ext d).cls = len :=
  ⟨extRCode_roundtrip p len ext d hext, dnssec_roundtrip p len ext d, (class_roundtrip p len ext d hlen).1⟩

/-- The fields do not interfere: the reported extended RCode does not depend on DO or the
payload size, and the reported DO bit does not depend on the RCode or the payload size. -/
theorem independent (p p' : Hdr) (len len' ext ext' r : Nat) (d d' : Bool) :
    extendedRCode (setEDNS0 p len ext d).ttl r = extendedRCode (setEDNS0 p' len' ext d').ttl r ∧
    dnssecAllowed (setEDNS0 p len ext d).ttl = dnssecAllowed (setEDNS0 p' len' ext' d).ttl := by
  constructor
  · obtain ⟨e1, v1, -, -⟩ := set_ttl_fields p len ext d
    obtain ⟨e2, v2, -, -⟩ := set_ttl_fields p' len' ext d'
    unfold extendedRCode
    rw [if_pos v1, if_pos v2, e1, e2]
  · rw [dnssec_roundtrip, dnssec_roundtrip]

/-- A non-zero EDNS version makes ExtendedRCode fall back to the header RCode and clears DO. -/
theorem version_guard (ttl r : Nat) (hv : ttl / 65536 % 256 ≠ 0) :
    extendedRCode ttl r = r ∧ dnssecAllowed ttl = false := by
  unfold extendedRCode dnssecAllowed
  rw [if_neg hv]
  -- bits 15..23 being 1 (DO alone) would leave the version byte, bits 16..23, zero
  have : ttl / 32768 % 512 ≠ 1 := by omega
  exact ⟨rfl, decide_eq_false this⟩

/-! Tie to the source: the mask form of message.go equals the arithmetic form of the model. -/

theorem and_versionMask (x : Nat) : x &&& 16711680 = x / 65536 % 256 * 65536 :=
  and_shifted_mask x 8 16

theorem and_dnssecMask (x : Nat) : x &&& 16744448 = x / 32768 % 512 * 32768 :=
  and_shifted_mask x 9 15

theorem gen_dnssecAllowed_eq (ttl : Nat) : Gen.C38.dnssecAllowed ttl = some (dnssecAllowed ttl) := by
  unfold Gen.C38.dnssecAllowed dnssecAllowed
  rw [and_dnssecMask]
  have : (ttl / 32768 % 512 * 32768 = 32768) = (ttl / 32768 % 512 = 1) := propext (by omega)
  simp only [this]

theorem gen_extendedRCode_eq (ttl r : Nat) : Gen.C38.extendedRCode ttl r = some (extendedRCode ttl r) := by
  unfold Gen.C38.extendedRCode extendedRCode
  rw [and_versionMask]
  by_cases h : ttl / 65536 % 256 = 0
  · rw [if_pos (by omega), if_pos h]
  · rw [if_neg (by omega), if_neg h]

theorem gen_setEDNS0_eq (p : Hdr) (len ext : Nat) (d : Bool) (hext : ext < 4096) (hlen : len < 65536) :
    Gen.C38.setEDNS0 p.typ p.cls p.ttl len ext d =
      some ((setEDNS0 p len ext d).typ, (setEDNS0 p len ext d).cls, (setEDNS0 p len ext d).ttl) := by
  unfold Gen.C38.setEDNS0 setEDNS0 typeOPT
  -- `ext / 16` fits a byte and `len` its uint16: the reductions on either side do nothing
  have he : ext % 4294967296 / 16 = ext / 16 % 256 := by omega
  have hl : len % 65536 = len := Nat.mod_eq_of_lt hlen
  have hor : ext / 16 % 256 * 16777216 ||| 32768 = ext / 16 % 256 * 16777216 + 32768 :=
    mul_or _ 32768 24 (by decide)
  cases d
  · simp only [Bool.false_eq_true, if_false, he, hl, Nat.add_zero]
  · simp only [if_true, he, hl, hor]

theorem gen_consts_eq :
    Gen.C38.edns0Version = 0 ∧ Gen.C38.edns0DNSSECOK = 32768 ∧ Gen.C38.ednsVersionMask = 16711680 ∧
    Gen.C38.edns0DNSSECOKMask = 16744448 ∧ Gen.C38.typeOPT = typeOPT := by decide

example : setEDNS0 { typ := 1, cls := 1, ttl := 86400 } 1232 0xabc true = { typ := 41, cls := 1232, ttl := 0xab008000 } := by decide
example : extendedRCode 0xab008000 0xc = 0xabc ∧ dnssecAllowed 0xab008000 = true := by decide
example : extendedRCode 0xab018000 0xc = 0xc ∧ dnssecAllowed 0xab018000 = false := by decide

end NetVerif.Proofs.C38
