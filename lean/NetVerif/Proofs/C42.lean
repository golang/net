import NetVerif.Model.Atom
import NetVerif.Proofs.Lemmas.AtomEnc
/-!
C42 — the HTML atom table is an exact dictionary.

`named` are the `Atom` constants of table.go, `table`/`atomText`/`hash0`/`maxAtomLen`/`fnvPrime`
are regenerated from the Go source on every check (Gen/C42.lean), so each `decide +kernel`
below is re-run against the current table. For these evaluations the two big literal lists are
read through single numbers (`textFast`, `atomStrFast`, `slotFast`, see Lemmas/AtomEnc), proved equal
to the model's accessors.
-/
namespace NetVerif.Proofs.C42
open NetVerif.Gen.C42 NetVerif.Model.Atom NetVerif.Proofs.Lemmas.AtomEnc

private theorem atomText_enc : atomTextNat = enc 256 atomText := by decide +kernel
private theorem table_enc : tableNat = enc 4294967296 table := by decide +kernel
private theorem atomText_len : atomText.length = atomTextLen := by decide +kernel
private theorem table_length : table.length = tableLen := by decide +kernel
private theorem lt_of_all {l : List Nat} {B : Nat} (h : l.all (fun b => decide (b < B)) = true) :
    ∀ b ∈ l, b < B :=
  fun b hb => of_decide_eq_true (List.all_eq_true.mp h b hb)
private theorem atomText_bytes : ∀ b ∈ atomText, b < 256 := lt_of_all (by decide +kernel)
private theorem table_u32 : ∀ b ∈ table, b < 4294967296 := lt_of_all (by decide +kernel)

private def textFast (a : Nat) : List Nat :=
  if a / 256 + a % 256 > atomTextLen then [] else digits 256 (a % 256) (atomTextNat / 256 ^ (a / 256))
private def atomStrFast (a : Nat) : Option (List Nat) :=
  if a / 256 + a % 256 ≤ atomTextLen then some (digits 256 (a % 256) (atomTextNat / 256 ^ (a / 256))) else none
private def slotFast (h : Nat) : Nat := tableNat / 4294967296 ^ (h &&& (tableLen - 1)) % 4294967296

private theorem text_fast (a : Nat) : text a = textFast a := by
  unfold text textFast
  rw [atomText_len]
  split
  · rfl
  · rw [atomText_enc, slice_eq_digits 256 atomText atomText_bytes _ _ (by rw [atomText_len]; omega)]

private theorem atomStr_fast : atomStr = atomStrFast := by
  funext a
  unfold atomStr sliceText atomStrFast
  rw [atomText_len]
  split
  · rw [atomText_enc, slice_eq_digits 256 atomText atomText_bytes _ _ (by rw [atomText_len]; omega)]
  · rfl

private theorem slot_lt (h : Nat) : h &&& (tableLen - 1) < table.length := by
  rw [table_length]
  have : h &&& (tableLen - 1) ≤ tableLen - 1 := Nat.and_le_right
  have : 0 < tableLen := by decide
  omega

private theorem slot_fast : slot = slotFast := by
  funext h
  unfold slot slotFast
  rw [table_enc, getD_eq 4294967296 table table_u32 _ (slot_lt h)]

private theorem lookup_fast (s : List Nat) : lookup s = lookupWith slotFast atomStrFast s := by
  unfold lookup
  rw [slot_fast, atomStr_fast]

private def namedOk (a : Nat) : Bool :=
  lookupWith slotFast atomStrFast (textFast a) == some a && !(textFast a).isEmpty && a != 0

private theorem named_all : named.all namedOk = true := by decide +kernel

private theorem table_named_all :
    table.all (fun a => a == 0 || (bitsOf named).testBit a) = true := by decide +kernel

private theorem table_range_all :
    table.all (fun a => decide (a / 256 + a % 256 ≤ atomTextLen)) = true := by decide +kernel

/-- C42: `Lookup(a.String()) == a` for every named atom. -/
theorem lookup_text_named (a : Nat) (h : a ∈ named) :
    lookup (text a) = some a ∧ text a ≠ [] ∧ a ≠ 0 := by
  have := List.all_eq_true.mp named_all a h
  simp [namedOk, ← text_fast, ← lookup_fast] at this
  exact ⟨this.1.1, this.1.2, this.2⟩

theorem table_entry_named (a : Nat) (h : a ∈ table) (h0 : a ≠ 0) : a ∈ named := by
  have := List.all_eq_true.mp table_named_all a h
  simp only [Bool.or_eq_true, beq_iff_eq, h0, false_or] at this
  exact mem_of_testBit_bitsOf named a this

/-- `Atom.string()` cannot panic on a table entry. -/
theorem table_entry_in_range (a : Nat) (h : a ∈ table) : a / 256 + a % 256 ≤ atomText.length := by
  have := List.all_eq_true.mp table_range_all a h
  rw [atomText_len]
  simpa using this

private theorem slot_mem (h : Nat) : slot h ∈ table := by
  unfold slot
  rw [List.getD_eq_getElem?_getD, List.getElem?_eq_getElem (slot_lt h), Option.getD_some]
  exact List.getElem_mem (slot_lt h)

private theorem probe_slot (h : Nat) (s : List Nat) :
    probeWith atomStr (slot h) s = some (decide (slot h % 256 = s.length ∧ text (slot h) = s)) := by
  have hr := table_entry_in_range _ (slot_mem h)
  have hr' : ¬ (slot h / 256 + slot h % 256 > atomText.length) := by omega
  unfold probeWith atomStr sliceText text
  rw [if_pos hr, if_neg hr']
  by_cases hl : slot h % 256 = s.length
  · simp only [hl, Option.map_some, true_and, if_true]
    congr 1
    rw [Bool.eq_iff_iff]; simp
  · simp [hl]

private theorem lookup_spec (s : List Nat) :
    ∃ a, lookup s = some a ∧ (a ≠ 0 → text a = s ∧ a ∈ table) := by
  unfold lookup lookupWith
  split
  · exact ⟨0, rfl, fun h => absurd rfl h⟩
  · simp only [probe_slot]
    generalize fnv hash0 s = h
    by_cases h1 : slot h % 256 = s.length ∧ text (slot h) = s
    · rw [decide_eq_true h1]
      exact ⟨_, rfl, fun _ => ⟨h1.2, slot_mem _⟩⟩
    · rw [decide_eq_false h1]
      by_cases h2 : slot (h / 65536) % 256 = s.length ∧ text (slot (h / 65536)) = s
      · rw [decide_eq_true h2]
        exact ⟨_, rfl, fun _ => ⟨h2.2, slot_mem _⟩⟩
      · rw [decide_eq_false h2]
        exact ⟨0, rfl, fun h => absurd rfl h⟩

/-- `Lookup` never panics (all table entries are in range). -/
theorem lookup_total (s : List Nat) : ∃ a, lookup s = some a :=
  let ⟨a, h, _⟩ := lookup_spec s
  ⟨a, h⟩

theorem lookup_sound (s : List Nat) (a : Nat) (h : lookup s = some a) (h0 : a ≠ 0) :
    text a = s ∧ a ∈ table := by
  obtain ⟨b, hb, hs⟩ := lookup_spec s
  cases hb.symm.trans h
  exact hs h0

theorem lookup_named (s : List Nat) (a : Nat) (h : lookup s = some a) (h0 : a ≠ 0) : a ∈ named :=
  table_entry_named a (lookup_sound s a h h0).2 h0

theorem named_in_table (a : Nat) (h : a ∈ named) : a ∈ table :=
  (lookup_sound _ a (lookup_text_named a h).1 (lookup_text_named a h).2.2).2

/-- C42, exactness clause. -/
theorem lookup_non_atom (s : List Nat) (hs : ∀ a ∈ named, text a ≠ s) : lookup s = some 0 := by
  obtain ⟨a, ha⟩ := lookup_total s
  by_cases h0 : a = 0
  · rw [ha, h0]
  · exact absurd (lookup_sound s a ha h0).1 (hs a (lookup_named s a ha h0))

theorem lookup_iff (s : List Nat) (a : Nat) (ha : a ∈ named) : lookup s = some a ↔ text a = s := by
  constructor
  · intro h
    exact (lookup_sound s a h (lookup_text_named a ha).2.2).1
  · intro h
    rw [← h]
    exact (lookup_text_named a ha).1

theorem text_injective (a b : Nat) (ha : a ∈ named) (hb : b ∈ named) (h : text a = text b) : a = b := by
  have h1 := (lookup_text_named a ha).1
  have h2 := (lookup_text_named b hb).1
  rw [h] at h1
  rw [h1] at h2
  exact Option.some.inj h2

theorem stringOf_eq (s : List Nat) : stringOf s = some s := by
  unfold stringOf
  obtain ⟨a, ha⟩ := lookup_total s
  rw [ha]
  by_cases h0 : a = 0
  · simp [h0]
  · simp [h0, (lookup_sound s a ha h0).1]

/-! T-tie of the control flow: the current Go source of the hand-modelled functions is the text
the model was written from (see Model/Atom.lean). `match` loops over the INPUT bytes `t`, `Lookup` has the
`len(s) > maxAtomLen` guard and compares `int(a&0xff) == len(s)` without truncation. -/
theorem gen_src_fnv : NetVerif.Gen.C42.srcFnv = NetVerif.Model.Atom.srcFnv := rfl
theorem gen_src_match : NetVerif.Gen.C42.srcMatch = NetVerif.Model.Atom.srcMatch := rfl
theorem gen_src_lookup : NetVerif.Gen.C42.srcLookup = NetVerif.Model.Atom.srcLookup := rfl
theorem gen_src_atom_String : NetVerif.Gen.C42.srcAtomString = NetVerif.Model.Atom.srcAtomString := rfl
theorem gen_src_atom_string : NetVerif.Gen.C42.srcAtomStringUnchecked = NetVerif.Model.Atom.srcAtomStringUnchecked := rfl
theorem gen_src_String : NetVerif.Gen.C42.srcString = NetVerif.Model.Atom.srcString := rfl

example : 369 ≤ named.length := by decide +kernel
example : lookup [100, 105, 118] = some 0x16b03 ∧ 0x16b03 ∈ named := by   -- "div"
  rw [lookup_fast]; decide +kernel
private theorem diw : lookup [100, 105, 119] = some 0 := by rw [lookup_fast]; decide +kernel  -- "diw"
example : ∀ a ∈ named, text a ≠ [100, 105, 119] := by
  intro a ha h
  have := (lookup_iff [100, 105, 119] a ha).mpr h
  have h2 := diw
  rw [h2] at this
  exact (lookup_text_named a ha).2.2 (Option.some.inj this).symm

end NetVerif.Proofs.C42
