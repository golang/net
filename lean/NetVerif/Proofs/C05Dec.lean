import NetVerif.Proofs.C05
/-!
C05, continued — where the entries of the DECODER's dynamic table come from, over whole histories.
On arbitrary bytes in the default configuration (emit enabled, no string limit) every new entry is the
pair of a field emitted with `Sensitive = false` (`Prov`, carried from one representation to `Write`,
chunk sequences and blocks by `Lemmas.Hpack.Lifts`). In ANY configuration only a `01xxxxxx`
representation adds an entry; that is stated over the first bytes of the representations a history
parses (`loopHeads` … `blocksHeads`). On the joint run with the encoder (C01's `Sim`) the table holds
only pairs of fields written with `Sensitive = false`.
-/
namespace NetVerif.Proofs.C05
open NetVerif.Model.Hpack NetVerif.Model.HpackEnc
open NetVerif.Proofs.Lemmas.HpackEnc
open NetVerif.Proofs.Lemmas.Hpack
open NetVerif.Proofs.C01
open NetVerif.Model
open NetVerif

theorem parseRepr_ents_ok (d : DecCore) (hc : DecCfg d) (buf : Bytes) (d' : DecCore) (rest : Bytes)
    (em : Option Field) (h : parseRepr d buf = .ok d' rest em) :
    DecCfg d' ∧ ∀ x ∈ d'.dyn.ents, x ∈ d.dyn.ents ∨ ∃ f, em = some f ∧ f.sensitive = false ∧ x = pairOf f := by
  obtain ⟨b, p, _, _, hs⟩ := parseRepr_ok h
  cases hs with
  | indexed => exact ⟨hc, fun x hx => .inl hx⟩
  | sizeUpdate => exact ⟨⟨hc.str, hc.emit⟩, fun x hx => .inl ((setMaxSize_ents_prefix _ _).subset hx)⟩
  | literal it hr name value hem =>
    have hcfg := afterLiteral_cfg d it name value
    refine ⟨⟨hcfg.1.trans hc.str, hcfg.2.trans hc.emit⟩, fun x hx => ?_⟩
    obtain ⟨dyn', hd, rfl | ⟨rfl, rfl⟩⟩ := afterLiteral_eq d it name value
    · rw [hd] at hx; exact .inl hx
    · rw [hd] at hx
      rcases List.mem_cons.mp ((evict_ents_prefix _).subset hx) with hx1 | hx1
      · exact .inr ⟨{ name := name, value := value }, by rw [hem.1, if_pos hc.emit]; rfl, rfl, hx1⟩
      · exact .inl hx1

theorem parseRepr_ents_err (d : DecCore) (hc : DecCfg d) (buf : Bytes) (d' : DecCore) (e : PErr)
    (h : parseRepr d buf = .err e d') : d' = d :=
  (parseRepr_err h).2.2.elim id fun h => absurd hc.str h.2.1

theorem lifts_prov : Lifts fun a em b => DecCfg a → DecCfg b ∧ Prov a.dyn b.dyn em where
  refl _ hc := ⟨hc, Prov.refl _ _⟩
  trans h1 h2 hc := ⟨(h2 (h1 hc).1).1, (h1 hc).2.trans (h2 (h1 hc).1).2⟩
  ff _ h hc := ⟨⟨(h hc).1.str, (h hc).1.emit⟩, (h hc).2⟩
  ok {d buf d' rest e} hpr hc := by
    obtain ⟨hc', hp⟩ := parseRepr_ents_ok d hc buf d' rest e hpr
    refine ⟨hc', fun x hx => (hp x hx).imp_right ?_⟩
    rintro ⟨f, rfl, hs, hx⟩
    exact ⟨f, List.mem_singleton.mpr rfl, hs, hx⟩
  err {d buf e d'} hpr hc := by
    rw [parseRepr_ents_err d hc buf d' e hpr]
    exact ⟨hc, Prov.refl _ _⟩

theorem loopG_prov (par : Bool) (d : DecCore) (buf : Bytes) (acc : List Field) :
    DecCfg d → DecCfg (loopG par d buf acc).1 ∧ Prov d.dyn (loopG par d buf acc).1.dyn (loopG par d buf acc).2.1 := by
  intro hc
  rw [loopG_emits]
  exact ⟨(lifts_prov.loop par d buf hc).1, (lifts_prov.loop par d buf hc).2.mono fun f hf => List.mem_append_right _ hf⟩

theorem write_prov (par : Bool) (d : Decoder) (p : Bytes) (hc : DecCfg d.toDecCore) :
    DecCfg (d.writeG par p).1.toDecCore ∧ Prov d.dyn (d.writeG par p).1.dyn (d.writeG par p).2.1 :=
  lifts_prov.write par d p hc

theorem runChunks_prov (par : Bool) : ∀ (cs : List Bytes) (d : Decoder), DecCfg d.toDecCore →
    DecCfg (runChunks par d cs).1.toDecCore ∧ Prov d.dyn (runChunks par d cs).1.dyn (runChunks par d cs).2.1 :=
  lifts_prov.chunks par

theorem runWrites_prov (d : Decoder) (cs : List Bytes) (hc : DecCfg d.toDecCore) :
    DecCfg (runWrites d cs).1.toDecCore ∧ Prov d.dyn (runWrites d cs).1.dyn (runWrites d cs).2.1 :=
  lifts_prov.writes d cs hc

/-- A history of blocks, each an arbitrary list of byte chunks: final decoder, all emitted fields. -/
def decodeBlocks : Decoder → List (List Bytes) → Decoder × List Field
  | d, [] => (d, [])
  | d, cs :: rest => ((decodeBlocks (runWrites d cs).1 rest).1, (runWrites d cs).2.1 ++ (decodeBlocks (runWrites d cs).1 rest).2)

theorem decodeBlocks_prov : ∀ (blocks : List (List Bytes)) (d : Decoder), DecCfg d.toDecCore →
    Prov d.dyn (decodeBlocks d blocks).1.dyn (decodeBlocks d blocks).2
  | [], _, _ => Prov.refl _ _
  | cs :: rest, d, hc =>
    have ⟨hc1, hp1⟩ := runWrites_prov d cs hc
    hp1.trans (decodeBlocks_prov rest _ hc1)

/-- **Decoder, arbitrary byte streams** (default configuration): after any history of blocks of
arbitrary bytes — including blocks that end in an error — every entry of the dynamic table is an
entry it had before or the (name, value) of a field the decoder emitted with `Sensitive = false`.
A field emitted as sensitive never leaves a trace in the table. -/
theorem decoder_table_provenance_bytes : ∀ (blocks : List (List Bytes)) (d : Decoder), DecCfg d.toDecCore →
    ∀ x ∈ (decodeBlocks d blocks).1.dyn.ents, x ∈ d.dyn.ents ∨ x ∈ nsPairs (decodeBlocks d blocks).2 :=
  fun blocks d hc => (decodeBlocks_prov blocks d hc).nsPairs

/-- First bytes of the representations the Write loop parses to the end (successfully or with an
error) on `buf`, in order. -/
def loopHeads : Nat → DecCore → Bytes → List Nat
  | 0, _, _ => []
  | fuel + 1, d, buf =>
    match buf with
    | [] => []
    | b :: p =>
      match parseRepr d (b :: p) with
      | .needMore => []
      | .err _ _ => [b]
      | .ok d' rest _ =>
        if rest.length < (b :: p).length then b :: loopHeads fuel (afterRepr (b :: p) d') rest else [b]

theorem writeLoop_no_incr (par : Bool) : ∀ (f : Nat) (d : DecCore) (buf : Bytes) (em : List Field),
    (∀ b ∈ loopHeads f d buf, ¬ b / 64 = 1) → ∀ x ∈ (writeLoop par f d buf em).1.dyn.ents, x ∈ d.dyn.ents := by
  intro f
  induction f with
  | zero => intro d buf em _ x hx; exact hx
  | succ f ih =>
    intro d buf em hh x hx
    cases buf with
    | nil => simpa [writeLoop] using hx
    | cons b p =>
      simp only [writeLoop, reduceCtorEq, ↓reduceIte] at hx
      simp only [loopHeads] at hh
      cases hpr : parseRepr d (b :: p) with
      | needMore =>
        rw [hpr] at hx
        simp only at hx
        split at hx <;> exact hx
      | err e d' =>
        rw [hpr] at hx hh
        simp only at hx hh
        rw [afterRepr_dyn, decoder_adds_only_incremental_err d b p d' e hpr (hh b (by simp))] at hx
        exact hx
      | ok d' rest e =>
        rw [hpr] at hx hh
        simp only at hx hh
        have hstep := decoder_adds_only_incremental d b p d' rest e hpr
        by_cases hlt : rest.length < (b :: p).length
        · simp only [hlt, ↓reduceIte] at hx hh
          have h1 := ih (afterRepr (b :: p) d') rest _ (fun b' hb' => hh b' (by simp [hb'])) x hx
          rw [afterRepr_dyn] at h1
          exact hstep (hh b (by simp)) x h1
        · simp only [hlt, ↓reduceIte] at hx hh
          exact hstep (hh b (by simp)) x hx

/-- The representations parsed by one `Write` (saved bytes are parsed again together with `p`). -/
def writeHeads (d : Decoder) (p : Bytes) : List Nat :=
  if p = [] then [] else loopHeads ((d.saveBuf ++ p).length + 1) d.toDecCore (d.saveBuf ++ p)

theorem write_no_incr (d : Decoder) (p : Bytes) (hh : ∀ b ∈ writeHeads d p, ¬ b / 64 = 1) :
    ∀ x ∈ (d.write p).1.dyn.ents, x ∈ d.dyn.ents := by
  unfold writeHeads at hh
  by_cases hp : p = []
  · simp only [Decoder.write, Decoder.writeG, hp, ↓reduceIte]; exact fun x hx => hx
  · simp only [hp, ↓reduceIte] at hh
    intro x hx
    rw [Decoder.write, writeG_eq true d hp] at hx
    have hx' : x ∈ (finishWrite (loopG true d.toDecCore (d.saveBuf ++ p) [])).1.toDecCore.dyn.ents := hx
    rw [finishWrite_core] at hx'
    exact writeLoop_no_incr true _ _ _ _ hh x hx'

/-- The representations parsed during consecutive `Write`s (stopping at the first error, as `runChunks`). -/
def chunksHeads : Decoder → List Bytes → List Nat
  | _, [] => []
  | d, c :: cs =>
    writeHeads d c ++ (match d.write c with
      | (d1, _, none) => chunksHeads d1 cs
      | (_, _, some _) => [])

theorem runChunks_no_incr : ∀ (cs : List Bytes) (d : Decoder), (∀ b ∈ chunksHeads d cs, ¬ b / 64 = 1) →
    ∀ x ∈ (runChunks true d cs).1.dyn.ents, x ∈ d.dyn.ents := by
  intro cs
  induction cs with
  | nil => intro d _ x hx; exact hx
  | cons c cs ih =>
    intro d hh x hx
    have h1 : ∀ x ∈ (d.writeG true c).1.dyn.ents, x ∈ d.dyn.ents :=
      write_no_incr d c (fun b hb => hh b (by simp [chunksHeads, hb]))
    rw [runChunks_cons] at hx
    simp only [chunksHeads] at hh
    change ∀ b ∈ writeHeads d c ++ (match d.writeG true c with
      | (d1, _, none) => chunksHeads d1 cs
      | (_, _, some _) => []), ¬ b / 64 = 1 at hh
    generalize d.writeG true c = W at hx hh h1
    obtain ⟨d1, em1, e⟩ := W
    cases e with
    | some e => exact h1 x hx
    | none => exact h1 x (ih d1 (fun b hb => hh b (List.mem_append_right _ hb)) x hx)

/-- The representations parsed during a history of blocks (each: chunks, then `Close`). -/
def blocksHeads : Decoder → List (List Bytes) → List Nat
  | _, [] => []
  | d, cs :: rest => chunksHeads d cs ++ blocksHeads (runWrites d cs).1 rest

theorem runWrites_dyn (d : Decoder) (cs : List Bytes) : (runWrites d cs).1.dyn = (runChunks true d cs).1.dyn := by
  unfold runWrites runWritesG
  cases hr : runChunks true d cs with
  | mk d1 r =>
    obtain ⟨em, e⟩ := r
    cases e with
    | some e => rfl
    | none => simp only [Decoder.close]; split <;> rfl

/-- **Decoder, arbitrary byte streams, ANY configuration** (string limit, emit disabled, any table
bounds): over a whole history of `Write`/`Close` calls, if none of the representations the decoder
parses starts with `01xxxxxx` (literal with incremental indexing), no entry enters the dynamic
table — in particular never-indexed (`0001xxxx`), not-indexed and indexed representations and table
size updates can only leave the table as it is or evict. -/
theorem decoder_only_incremental_adds : ∀ (blocks : List (List Bytes)) (d : Decoder),
    (∀ b ∈ blocksHeads d blocks, ¬ b / 64 = 1) →
    ∀ x ∈ (decodeBlocks d blocks).1.dyn.ents, x ∈ d.dyn.ents := by
  intro blocks
  induction blocks with
  | nil => intro d _ x hx; exact hx
  | cons cs rest ih =>
    intro d hh x hx
    simp only [decodeBlocks] at hx
    simp only [blocksHeads] at hh
    have h1 := ih (runWrites d cs).1 (fun b hb => hh b (by simp [hb])) x hx
    rw [runWrites_dyn] at h1
    exact runChunks_no_incr cs d (fun b hb => hh b (by simp [hb])) x h1

/-- State after a history (`Sys.run` reports the outputs of the same run). -/
def Sys.final : Sys → List Block → Sys
  | s, [] => s
  | s, b :: bs => Sys.final (s.block b).1 bs

theorem final_prov (A : Nat) (hA : A ≤ uint32Max) : ∀ (h : List Block) (s : Sys), Between A s → HistOK A h →
    Prov s.dec.dyn (Sys.final s h).dec.dyn (allFields h)
  | [], _, _, _ => Prov.refl _ _
  | b :: bs, s, hb, hok => by
    have hblk := block_sim A hA s b hb hok.cons.1.1 hok.cons.1.2
    have hp : Prov s.dec.dyn (s.block b).1.dec.dyn (s.block b).2.1 :=
      (runWrites_prov s.dec (s.enc.encodeBlock b).2 hb.sim.cfg).2
    -- the decoder emitted the block's fields
    rw [show (s.block b).2.1 = b.fields from congrArg Prod.fst hblk.1] at hp
    exact hp.trans (final_prov A hA bs _ hblk.2 hok.cons.2)

/-- **Every entry of the decoder's table stems from a non-sensitive field of the history**
(hypotheses of C01's `roundtrip_history`). -/
theorem decoder_table_provenance_from (A : Nat) (hA : A ≤ uint32Max) : ∀ (h : List Block) (s : Sys), Between A s →
    HistOK A h → ∀ x ∈ (Sys.final s h).dec.dyn.ents, x ∈ s.dec.dyn.ents ∨ x ∈ nsPairs (allFields h) :=
  fun h s hb hok => (final_prov A hA h s hb hok).nsPairs

theorem decoder_table_provenance (A : Nat) (h : List Block) (hA0 : initialHeaderTableSize ≤ A)
    (hA : A ≤ uint32Max) (hok : HistOK A h) :
    ∀ x ∈ (Sys.final (Sys.init A) h).dec.dyn.ents, x ∈ nsPairs (allFields h) := fun x hx =>
  (decoder_table_provenance_from A hA h (Sys.init A) (init_between A hA0) hok x hx).resolve_left List.not_mem_nil

/-- **The decoder never resolves an index to a value that entered only through sensitive fields**:
after any history, whatever index `i` a later indexed representation (or indexed name) carries, the
entry `Decoder.at i` is a static entry or the pair of a field written with `Sensitive = false`. -/
theorem decoder_never_resolves_sensitive (A : Nat) (h : List Block) (hA0 : initialHeaderTableSize ≤ A)
    (hA : A ≤ uint32Max) (hok : HistOK A h) (i : Nat) (x : Entry)
    (hat : (Sys.final (Sys.init A) h).dec.toDecCore.at i = some x) :
    x ∈ staticTable ∨ x ∈ nsPairs (allFields h) := by
  rcases (at_some hat).2.2 with h1 | h1
  · exact Or.inl h1
  · exact Or.inr (decoder_table_provenance A h hA0 hA hok x h1)

theorem sensitive_only_never_in_decoder (A : Nat) (h : List Block) (hA0 : initialHeaderTableSize ≤ A)
    (hA : A ≤ uint32Max) (hok : HistOK A h) (x : Entry)
    (honly : ∀ f ∈ allFields h, pairOf f = x → f.sensitive = true) :
    x ∉ (Sys.final (Sys.init A) h).dec.dyn.ents := fun hx =>
  not_mem_nsPairs honly (decoder_table_provenance A h hA0 hA hok x hx)

/-- A block holding only the sensitive field `a: b`: one representation, first byte `0001 0000`. -/
example : blocksHeads (Sys.init 4096).dec [[(Encoder.new.writeField secret).2]] = [16] := by decide +kernel
example : (decodeBlocks (Sys.init 4096).dec [[(Encoder.new.writeField secret).2]]).2 = [secret] := by decide +kernel
example : (Sys.final (Sys.init 4096) [{ fields := [secret, { name := [97], value := [99] }] }]).dec.dyn.ents = [([97], [99])] := by
  decide +kernel

end NetVerif.Proofs.C05
