import NetVerif.Proofs.Lemmas.HpackEnc
import NetVerif.Proofs.Lemmas.Fold
import NetVerif.Gen.C01
/-!
C01 — HPACK encode/decode round-trips every header list, across arbitrary interleavings of
`SetMaxDynamicTableSize` / `SetMaxDynamicTableSizeLimit` between header blocks.

A history is a list of `Block`s (size calls made before the block, then its fields); the encoder
performs one `Write` per field, the decoder is fed these writes and `Close`d at the end of the block.
The simulation invariant is `Sim`: the encoder's table is the *newest part* (`<+:` on the newest-first
lists) of the decoder's table. Equality is not invariant, because `SetMaxDynamicTableSizeLimit` followed
by a raise shrinks only the encoder. A lower-then-raise makes the encoder emit two table size updates
(RFC 7541 §4.2); the decoder accepts the second because `Decoder.Write` keeps `firstField` across a size
update (`Hpack.afterRepr`, `witnessHistory`).
-/
namespace NetVerif.Proofs.C01
open NetVerif.Model.Hpack NetVerif.Model.HpackEnc
open NetVerif.Proofs.Lemmas.HpackEnc
open NetVerif.Proofs.Lemmas.Hpack
open NetVerif.Model
open NetVerif

theorem gen_consts_eq :
    Gen.C01.uint32Max = uint32Max ∧ Gen.C01.initialHeaderTableSize = initialHeaderTableSize := by
  decide

/-- Go strings are byte strings; `HeaderField.Size()` does not wrap (`uint32`). -/
def FieldOK (f : Field) : Prop :=
  Proofs.C04.Bytes f.name ∧ Proofs.C04.Bytes f.value ∧ f.name.length + f.value.length + 32 < 2 ^ 32

/-- Encoder/decoder relation between representations. `A` is the decoder's allowed maximum. -/
structure Sim (A : Nat) (e : Encoder) (d : DecCore) : Prop where
  pre : e.dyn.ents <+: d.dyn.ents
  esz : SizeOK e.dyn
  dsz : SizeOK d.dyn
  efit : e.dyn.size ≤ e.dyn.maxSize
  dfit : d.dyn.size ≤ d.dyn.maxSize
  cfg : DecCfg d
  allowed : d.dyn.allowedMaxSize = A
  dmaxle : d.dyn.maxSize ≤ A
  maxle : e.dyn.maxSize ≤ e.maxSizeLimit
  limle : e.maxSizeLimit ≤ A
  -- with no table size update pending the decoder's bound is no smaller, so it keeps what the encoder keeps
  sync : e.tableSizeUpdate = false → e.dyn.maxSize ≤ d.dyn.maxSize
  -- while one is pending the bounds may differ, but the encoder's table fits `minSize`, the smallest bound
  -- since the last flush, which is what `flushUpdate` sends first
  minInv : e.dyn.size ≤ e.minSize
  -- a flush resets `minSize`
  minReset : e.tableSizeUpdate = false → e.minSize = uint32Max

theorem Sim.setFF {A : Nat} {e : Encoder} {d : DecCore} (h : Sim A e d) (b : Bool) :
    Sim A e { d with firstField := b } :=
  { h with cfg := ⟨h.cfg.str, h.cfg.emit⟩ }

theorem field_eta (f : Field) (b : Bool) (hs : f.sensitive = b) :
    ({ name := f.name, value := f.value, sensitive := b } : Field) = f := by
  cases f
  cases hs
  rfl

/-- Both sides add the same entry (no table size update pending, so the bounds agree). -/
theorem Sim.add {A : Nat} {e : Encoder} {d : DecCore} (hs : Sim A e d) (hu : e.tableSizeUpdate = false)
    (hA : A ≤ uint32Max) (x : Entry) : Sim A { e with dyn := e.dyn.add x } { d with dyn := d.dyn.add x } := by
  have hM := hs.sync hu
  have he := add_sizeOK e.dyn x hs.esz
  have hd := add_sizeOK d.dyn x hs.dsz
  exact {
    pre := add_prefix e.dyn d.dyn _ hs.esz hs.dsz hs.pre hM
    esz := he.1, dsz := hd.1, efit := he.2, dfit := hd.2
    cfg := ⟨hs.cfg.str, hs.cfg.emit⟩
    allowed := hs.allowed, dmaxle := hs.dmaxle, maxle := hs.maxle, limle := hs.limle
    sync := fun _ => hM
    minInv := by
      show (e.dyn.add x).size ≤ e.minSize
      have h1 := he.2
      have h2 := hs.maxle
      have h3 := hs.limle
      rw [hs.minReset hu]; omega
    minReset := hs.minReset }

theorem writeRepr_sim (A : Nat) (e : Encoder) (d : DecCore) (f : Field) (rest : Bytes)
    (hs : Sim A e d) (hu : e.tableSizeUpdate = false) (hf : FieldOK f) (hA : A ≤ uint32Max) :
    ∃ d', parseRepr d ((e.writeRepr f).2 ++ rest) = .ok d' rest (some f) ∧
      rest.length < ((e.writeRepr f).2 ++ rest).length ∧
      Sim A (e.writeRepr f).1 d' ∧ (e.writeRepr f).1.tableSizeUpdate = false := by
  suffices h : ∃ d', parseRepr d ((e.writeRepr f).2 ++ rest) = .ok d' rest (some f) ∧
      Sim A (e.writeRepr f).1 d' ∧ (e.writeRepr f).1.tableSizeUpdate = false from
    have ⟨d', hp, h⟩ := h
    ⟨d', hp, parseRepr_consumes hp, h⟩
  obtain ⟨hnb, hvb, hsize⟩ := hf
  have hspec := searchTable_spec e d f hs.pre
  have hA' : A < 2 ^ 32 := by unfold uint32Max at hA; omega
  -- every index the decoder can resolve is small
  have hidx : ∀ i en, d.at i = some en → i < 2 ^ 62 := by
    intro i en h
    have h1 := (at_some h).2.1
    have h2 := sizeSum_ge d.dyn.ents
    have h3 : d.dyn.size = sizeSum d.dyn.ents := hs.dsz
    have h4 := hs.dfit
    have h5 := hs.dmaxle
    rw [staticTable_length] at h1
    omega
  cases hm : (e.searchTable f).2 with
  | true =>
    obtain ⟨hsens, hne, hat⟩ := hspec.1 hm
    rw [writeRepr_indexed e f hm]
    exact ⟨d, by rw [parseRepr_indexed d hs.cfg _ _ rest hat (hidx _ _ hat), field_eta f false hsens], hs, hu⟩
  | false =>
    obtain ⟨it, hsens, heq⟩ := writeRepr_literal e f hm
    rw [heq]
    refine ⟨afterLiteral d it f.name f.value, ?_, ?_, ?_⟩
    · dsimp only
      split
      · rw [List.cons_append, List.append_assoc,
          parseRepr_literal_new d hs.cfg it f.name f.value rest (by omega) (by omega) hnb hvb, hsens, field_eta f _ rfl]
      · rename_i h0
        obtain ⟨v, hat⟩ := hspec.2 hm h0
        rw [List.append_assoc, parseRepr_literal_idx d hs.cfg it _ (f.name, v) f.value rest (by omega) (hidx _ _ hat) hat
          (by omega) hvb, hsens, field_eta f _ rfl]
    · -- both sides add the pair, or neither does
      unfold afterLiteral
      dsimp only
      split
      · exact hs.add hu hA _
      · exact hs
    · dsimp only
      split <;> exact hu

theorem Sim.afterRepr {A : Nat} {e : Encoder} {d : DecCore} (h : Sim A e d) (buf : Bytes) :
    Sim A e (afterRepr buf d) := by
  unfold Hpack.afterRepr
  split
  · exact h
  · exact h.setFF false

/-- The decoder applies a bound `v` the encoder's table already respects. `e2` is `e`, or `e` after the
flush (flag cleared, `minSize` reset): same table and limit, and the three fields of `Sim` that read the
flag or `minSize` are given for it. -/
theorem sim_dec_setMax {A : Nat} {e : Encoder} {d : DecCore} (hs : Sim A e d) (v : Nat) (hv : v ≤ A)
    (hfit : e.dyn.size ≤ v) (e2 : Encoder) (hdyn : e2.dyn = e.dyn)
    (hlim : e2.maxSizeLimit = e.maxSizeLimit)
    (hsync : e2.tableSizeUpdate = false → e2.dyn.maxSize ≤ v) (hmin : e2.dyn.size ≤ e2.minSize)
    (hreset : e2.tableSizeUpdate = false → e2.minSize = uint32Max) :
    Sim A e2 { d with dyn := d.dyn.setMaxSize v } := by
  have hd := setMaxSize_sizeOK d.dyn v hs.dsz
  exact {
    pre := hdyn ▸ setMaxSize_prefix e.dyn d.dyn v hs.esz hs.dsz hs.pre hfit
    esz := hdyn ▸ hs.esz, dsz := hd.1, efit := hdyn ▸ hs.efit, dfit := hd.2.1
    cfg := ⟨hs.cfg.str, hs.cfg.emit⟩
    allowed := hs.allowed, dmaxle := hv
    maxle := hdyn ▸ hlim ▸ hs.maxle, limle := hlim ▸ hs.limle
    sync := hsync, minInv := hmin, minReset := hreset }

/-- The `tableSizeUpdate` prologue of `WriteField` (one or two table size updates) is consumed by
the decoder's loop at the beginning of a block and re-establishes `maxSize` agreement (`Sim.sync`). -/
theorem flush_sim (A : Nat) (e : Encoder) (d : DecCore) (par : Bool) (acc : List Field) (rest : Bytes)
    (hs : Sim A e d) (hA : A ≤ uint32Max) (hff : e.tableSizeUpdate = true → d.firstField = true) :
    ∃ d', loopG par d (e.flushUpdate.2 ++ rest) acc = loopG par d' rest acc ∧
      Sim A e.flushUpdate.1 d' ∧ e.flushUpdate.1.tableSizeUpdate = false := by
  have hA' : A < 2 ^ 32 := by unfold uint32Max at hA; omega
  have hmaxA : e.dyn.maxSize ≤ A := Nat.le_trans hs.maxle hs.limle
  unfold Encoder.flushUpdate
  cases hu : e.tableSizeUpdate with
  | false =>
    simp only [Bool.false_eq_true, ↓reduceIte, List.nil_append]
    exact ⟨d, rfl, hs, hu⟩
  | true =>
    simp only [↓reduceIte]
    have hsz1 : e.dyn.size ≤ uint32Max := by have := hs.efit; omega
    have hfin : ∀ d0, Sim A e d0 → Sim A { e with tableSizeUpdate := false, minSize := uint32Max }
        { d0 with dyn := d0.dyn.setMaxSize e.dyn.maxSize } := fun d0 h0 =>
      sim_dec_setMax h0 e.dyn.maxSize hmaxA hs.efit _ rfl rfl (fun _ => Nat.le_refl _) hsz1 (fun _ => rfl)
    by_cases hlt : e.minSize < e.dyn.maxSize
    · -- two updates: the smallest size since the last update, then the final size
      have s1 : Sim A e { d with dyn := d.dyn.setMaxSize e.minSize } :=
        sim_dec_setMax hs e.minSize (by omega) hs.minInv e rfl rfl (by rw [hu]; nofun) hs.minInv hs.minReset
      rw [if_pos hlt, List.append_assoc, loopG_sizeUpdate par d _ _ acc (by rw [hs.allowed]; omega) (by omega) (hff hu),
        loopG_sizeUpdate par { d with dyn := d.dyn.setMaxSize e.minSize } _ _ acc (s1.allowed ▸ hmaxA) (by omega) (hff hu)]
      exact ⟨_, rfl, hfin _ s1, trivial⟩
    · -- one update
      rw [if_neg hlt, List.nil_append, loopG_sizeUpdate par d _ _ acc (by rw [hs.allowed]; exact hmaxA) (by omega) (hff hu)]
      exact ⟨_, rfl, hfin _ hs, trivial⟩

theorem writeField_sim (A : Nat) (e : Encoder) (d : Decoder) (f : Field)
    (hs : Sim A e d.toDecCore) (hsave : d.saveBuf = []) (hA : A ≤ uint32Max)
    (hff : e.tableSizeUpdate = true → d.firstField = true) (hf : FieldOK f) :
    ∃ d', d.write (e.writeField f).2 = (d', [f], none) ∧ Sim A (e.writeField f).1 d'.toDecCore ∧
      (e.writeField f).1.tableSizeUpdate = false ∧ d'.saveBuf = [] := by
  unfold Encoder.writeField
  simp only
  obtain ⟨d1, hl1, s1, hu1⟩ := flush_sim A e d.toDecCore true [] (e.flushUpdate.1.writeRepr f).2 hs hA hff
  obtain ⟨d2, hp2, _, s2, hu2⟩ := writeRepr_sim A e.flushUpdate.1 d1 f [] s1 hu1 hf hA
  rw [List.append_nil] at hp2
  have hne : e.flushUpdate.2 ++ (e.flushUpdate.1.writeRepr f).2 ≠ [] := by
    intro h0
    rw [(List.append_eq_nil_iff.mp h0).2] at hp2
    cases parseRepr_consumes hp2
  rw [Decoder.write, writeG_eq true d hne, hsave, List.nil_append, hl1, loopG_ok [] hp2, loopG_nil]
  exact ⟨{ toDecCore := Hpack.afterRepr (e.flushUpdate.1.writeRepr f).2 d2, saveBuf := [] }, rfl,
    s2.afterRepr _, hu2, rfl⟩

theorem writeFields_sim (A : Nat) (hA : A ≤ uint32Max) : ∀ (fs : List Field) (e : Encoder) (d : Decoder),
    Sim A e d.toDecCore → d.saveBuf = [] → (e.tableSizeUpdate = true → d.firstField = true) →
    (∀ f ∈ fs, FieldOK f) →
    ∃ d', runChunks true d (e.writeFields fs).2 = (d', fs, none) ∧ Sim A (e.writeFields fs).1 d'.toDecCore ∧
      d'.saveBuf = [] := by
  intro fs
  induction fs with
  | nil =>
    intro e d hs hsave _ _
    exact ⟨d, rfl, hs, hsave⟩
  | cons f fs ih =>
    intro e d hs hsave hff hok
    obtain ⟨d1, hw, s1, hu1, hsave1⟩ := writeField_sim A e d f hs hsave hA hff (hok f (by simp))
    obtain ⟨d2, hr, s2, hsave2⟩ := ih (e.writeField f).1 d1 s1 hsave1
      (by intro h; rw [hu1] at h; cases h) (fun g hg => hok g (by simp [hg]))
    refine ⟨d2, ?_, s2, hsave2⟩
    show runChunks true d ((e.writeField f).2 :: ((e.writeField f).1.writeFields fs).2) = _
    rw [runChunks_cons, show d.writeG true (e.writeField f).2 = (d1, [f], none) from hw, hr]
    rfl

/-- The encoder shrinks its table to a bound `v` within its limit; the decoder hears of it later. -/
theorem Sim.encSetMax {A : Nat} {e : Encoder} {d : DecCore} (hs : Sim A e d) (v lim m : Nat) (hv : v ≤ lim)
    (hlim : lim ≤ A) (hm : ∀ s, s ≤ v → s ≤ e.dyn.size → s ≤ m) :
    Sim A { e with dyn := e.dyn.setMaxSize v, maxSizeLimit := lim, tableSizeUpdate := true, minSize := m } d := by
  have he := setMaxSize_sizeOK e.dyn v hs.esz
  exact {
    pre := List.IsPrefix.trans (setMaxSize_ents_prefix e.dyn v) hs.pre
    esz := he.1, dsz := hs.dsz, efit := he.2.1, dfit := hs.dfit, cfg := hs.cfg
    allowed := hs.allowed, dmaxle := hs.dmaxle, maxle := hv, limle := hlim
    sync := nofun
    minInv := hm _ he.2.1 he.2.2
    minReset := nofun }

theorem sizeOp_sim {A : Nat} {e : Encoder} {d : DecCore} (hs : Sim A e d) (op : SizeOp)
    (hop : ∀ v, op = .setLimit v → v ≤ A) : Sim A (e.sizeOp op) d := by
  have hmin := hs.minInv
  cases op with
  | setMax v =>
    simp only [Encoder.sizeOp, Encoder.setMaxDynamicTableSize]
    generalize hv' : (if v > e.maxSizeLimit then e.maxSizeLimit else v) = v'
    have hv'le : v' ≤ e.maxSizeLimit := by rw [← hv']; split <;> omega
    exact hs.encSetMax v' _ _ hv'le hs.limle fun s h1 h2 => by split <;> omega
  | setLimit v =>
    have hvA := hop v rfl
    simp only [Encoder.sizeOp, Encoder.setMaxDynamicTableSizeLimit]
    split
    · exact hs.encSetMax v v _ (Nat.le_refl _) hvA fun s h1 h2 => by omega
    · exact {
        pre := hs.pre, esz := hs.esz, dsz := hs.dsz, efit := hs.efit, dfit := hs.dfit, cfg := hs.cfg,
        allowed := hs.allowed, dmaxle := hs.dmaxle
        maxle := by show e.dyn.maxSize ≤ v; omega
        limle := hvA
        sync := hs.sync, minInv := hs.minInv, minReset := hs.minReset }

theorem sizeOps_sim {A : Nat} (ops : List SizeOp) {e : Encoder} {d : DecCore} (hs : Sim A e d)
    (h : ∀ v, SizeOp.setLimit v ∈ ops → v ≤ A) : Sim A (ops.foldl Encoder.sizeOp e) d :=
  Lemmas.foldl_inv_mem Encoder.sizeOp (Sim A · d) ops (fun _ op hop hs => sizeOp_sim hs op fun v hv => h v (hv ▸ hop)) e hs

theorem sizeOp_flag (e : Encoder) (op : SizeOp) (h : e.tableSizeUpdate = true) : (e.sizeOp op).tableSizeUpdate = true := by
  cases op with
  | setMax v => rfl
  | setLimit v =>
    simp only [Encoder.sizeOp, Encoder.setMaxDynamicTableSizeLimit]
    split
    · rfl
    · exact h

/-- Encoder and decoder of one connection direction. -/
structure Sys where
  enc : Encoder
  dec : Decoder
  deriving Repr

/-- `NewEncoder`; `NewDecoder(4096)` + `SetAllowedMaxDynamicTableSize(A)`. -/
def Sys.init (A : Nat) : Sys :=
  { enc := Encoder.new, dec := (Decoder.new initialHeaderTableSize).setAllowedMaxDynamicTableSize A }

/-- One block: size calls, one `WriteField`/`Write` per field, `Close`.
Result: new state, the fields the decoder emitted, the decoder's error if any. -/
def Sys.block (s : Sys) (b : Block) : Sys × List Field × Option PErr :=
  let r := s.enc.encodeBlock b
  let w := runWrites s.dec r.2
  ({ enc := r.1, dec := w.1 }, w.2.1, w.2.2)

/-- A history: what the decoder reports per block. -/
def Sys.run : Sys → List Block → List (List Field × Option PErr)
  | _, [] => []
  | s, b :: bs => ((s.block b).2.1, (s.block b).2.2) :: Sys.run (s.block b).1 bs

/-- Hypotheses of the statement: byte strings of non-overflowing size; the decoder's bound `A`
covers every limit the encoder is given. -/
def HistOK (A : Nat) (h : List Block) : Prop :=
  (∀ b ∈ h, ∀ f ∈ b.fields, FieldOK f) ∧ (∀ b ∈ h, ∀ v, SizeOp.setLimit v ∈ b.pre → v ≤ A)

theorem HistOK.cons {A : Nat} {b : Block} {bs : List Block} (h : HistOK A (b :: bs)) :
    ((∀ f ∈ b.fields, FieldOK f) ∧ ∀ v, SizeOp.setLimit v ∈ b.pre → v ≤ A) ∧ HistOK A bs :=
  ⟨⟨h.1 b List.mem_cons_self, h.2 b List.mem_cons_self⟩,
    fun b' hb' => h.1 b' (List.mem_cons_of_mem _ hb'), fun b' hb' => h.2 b' (List.mem_cons_of_mem _ hb')⟩

/-- The invariant between two header blocks: `Sim`, nothing left in `saveBuf`, and `firstField` set again, so
that the table size updates at the head of the next block are accepted. -/
structure Between (A : Nat) (s : Sys) : Prop where
  sim : Sim A s.enc s.dec.toDecCore
  save : s.dec.saveBuf = []
  ff : s.dec.firstField = true

theorem init_between (A : Nat) (hA : initialHeaderTableSize ≤ A) : Between A (Sys.init A) := by
  refine ⟨?_, rfl, rfl⟩
  unfold initialHeaderTableSize at hA
  exact {
    pre := by exact List.prefix_refl _
    esz := show Encoder.new.dyn.size = sizeSum Encoder.new.dyn.ents from by decide
    dsz := by unfold SizeOK; rfl
    efit := show Encoder.new.dyn.size ≤ Encoder.new.dyn.maxSize from by decide
    dfit := Nat.zero_le _
    cfg := ⟨rfl, rfl⟩
    allowed := rfl
    dmaxle := hA
    maxle := show Encoder.new.dyn.maxSize ≤ Encoder.new.maxSizeLimit from by decide
    limle := hA
    sync := by intro _; exact (show Encoder.new.dyn.maxSize ≤ 4096 from by decide)
    minInv := show Encoder.new.dyn.size ≤ Encoder.new.minSize from by decide
    minReset := by intro _; rfl }

theorem block_sim (A : Nat) (hA : A ≤ uint32Max) (s : Sys) (b : Block) (hb : Between A s)
    (hf : ∀ f ∈ b.fields, FieldOK f) (hl : ∀ v, SizeOp.setLimit v ∈ b.pre → v ≤ A) :
    (s.block b).2 = (b.fields, none) ∧ Between A (s.block b).1 := by
  have s1 := sizeOps_sim b.pre hb.sim hl
  obtain ⟨d', hr, s2, hsave⟩ := writeFields_sim A hA b.fields (b.pre.foldl Encoder.sizeOp s.enc) s.dec s1 hb.save
    (fun _ => hb.ff) hf
  have hrun : runWrites s.dec ((b.pre.foldl Encoder.sizeOp s.enc).writeFields b.fields).2 =
      ({ d' with firstField := true }, b.fields, none) := by
    unfold runWrites runWritesG
    rw [hr]
    simp [Decoder.close, hsave]
  unfold Sys.block Encoder.encodeBlock
  simp only
  rw [hrun]
  exact ⟨rfl, s2.setFF true, hsave, rfl⟩

def RoundtripStatement : Prop :=
  ∀ (A : Nat) (h : List Block), initialHeaderTableSize ≤ A → A ≤ uint32Max → HistOK A h →
    Sys.run (Sys.init A) h = h.map (fun b => (b.fields, none))

theorem run_sim (A : Nat) (hA : A ≤ uint32Max) : ∀ (h : List Block) (s : Sys), Between A s → HistOK A h →
    Sys.run s h = h.map (fun b => (b.fields, none))
  | [], _, _, _ => rfl
  | b :: bs, s, hb, hok => by
    have hblk := block_sim A hA s b hb hok.cons.1.1 hok.cons.1.2
    rw [Sys.run, List.map_cons, run_sim A hA bs _ hblk.2 hok.cons.2]
    exact congrArg (· :: _) hblk.1

/-- **C01**: every history of header blocks with arbitrary `SetMaxDynamicTableSize` /
`SetMaxDynamicTableSizeLimit` calls between blocks decodes to exactly the fields written — same
order, names, values and `Sensitive` flags — without error. -/
theorem roundtrip_history : RoundtripStatement := fun A h hA0 hA hok =>
  run_sim A hA h (Sys.init A) (init_between A hA0) hok

def witnessField : Field := { name := [97], value := [98] }

/-- Write `a: b`; `SetMaxDynamicTableSize(34)`; `SetMaxDynamicTableSize(4096)`; write `a: b` again:
two table size updates with a non-empty table after the first. -/
def witnessHistory : List Block :=
  [{ fields := [witnessField] }, { pre := [.setMax 34, .setMax 4096], fields := [witnessField] }]

theorem witnessField_ok : FieldOK witnessField := by
  refine ⟨?_, ?_, by decide⟩
  · intro x hx
    cases List.mem_singleton.mp hx
    decide
  · intro x hx
    cases List.mem_singleton.mp hx
    decide

theorem witness_histOK : HistOK 4096 witnessHistory := by
  constructor
  · intro b hb f hf
    simp only [witnessHistory, List.mem_cons, List.not_mem_nil, or_false] at hb
    rcases hb with rfl | rfl
    · cases List.mem_singleton.mp hf
      exact witnessField_ok
    · cases List.mem_singleton.mp hf
      exact witnessField_ok
  · intro b hb v hv
    simp only [witnessHistory, List.mem_cons, List.not_mem_nil, or_false] at hb
    rcases hb with rfl | rfl
    · cases hv
    · simp at hv

theorem witness_run :
    Sys.run (Sys.init 4096) witnessHistory = [([witnessField], none), ([witnessField], none)] := by
  decide +kernel

example : Sys.run (Sys.init 4096) witnessHistory = witnessHistory.map (fun b => (b.fields, none)) :=
  roundtrip_history 4096 witnessHistory (by decide) (by decide) witness_histOK

/-- The second block really carries two table size updates (`3f 03` = 34, `3f e1 1f` = 4096). -/
example : ((Encoder.new.writeField witnessField).1.setMaxDynamicTableSize 34 |>.setMaxDynamicTableSize 4096
    |>.writeField witnessField).2 = [63, 3, 63, 225, 31, 190] := by decide +kernel

/-- Go's `staticTable.byName[k]` (and `byNameValue[k]` below): a map lookup, 0 when the key is absent. -/
def lookupN (m : List (List Nat × Nat)) (k : List Nat) : Nat :=
  match m.find? (fun p => p.1 == k) with
  | some p => p.2
  | none => 0

def lookupNV (m : List ((List Nat × List Nat) × Nat)) (k : List Nat × List Nat) : Nat :=
  match m.find? (fun p => p.1 == k) with
  | some p => p.2
  | none => 0

theorem byName_points_at_last :
    Gen.C01.byName.all (fun p => lastIdx (fun e => e.1 == p.1) staticTable == p.2) = true := by decide +kernel

theorem byName_covers :
    staticTable.all (fun e => Gen.C01.byName.any (fun p => p.1 == e.1)) = true := by decide +kernel

theorem byNameValue_points_at_last :
    Gen.C01.byNameValue.all (fun p => lastIdx (fun e => e.1 == p.1.1 && e.2 == p.1.2) staticTable == p.2) = true := by
  decide +kernel

theorem byNameValue_covers :
    staticTable.all (fun e => Gen.C01.byNameValue.any (fun p => p.1 == e)) = true := by decide +kernel

/-- A literal map from keys to indices that points every key at its last match in `tbl` (`mt k` =
"matches key `k`") and has a key for every entry of `tbl`: a hit is the last match, a miss means
there is none. -/
theorem find_lastIdx {κ : Type} [BEq κ] [LawfulBEq κ] (m : List (κ × Nat)) (tbl : List Entry)
    (mt : κ → Entry → Bool) (key : Entry → κ) (k : κ) (hmt : ∀ e, mt k e = true → key e = k)
    (hpts : m.all (fun p => lastIdx (mt p.1) tbl == p.2) = true)
    (hcov : tbl.all (fun e => m.any (fun p => p.1 == key e)) = true) :
    (∀ p, m.find? (fun p => p.1 == k) = some p → p.2 = lastIdx (mt k) tbl) ∧
    (m.find? (fun p => p.1 == k) = none → 0 = lastIdx (mt k) tbl) := by
  constructor
  · intro p hfind
    have hkey : p.1 = k := by simpa using List.find?_some hfind
    have := List.all_eq_true.mp hpts p (List.mem_of_find?_eq_some hfind)
    rw [beq_iff_eq, hkey] at this
    exact this.symm
  · intro hfind
    by_cases h0 : lastIdx (mt k) tbl = 0
    · exact h0.symm
    · exfalso
      obtain ⟨e, hget, hpe⟩ := lastIdx_spec _ _ h0
      obtain ⟨p, hp, hpk⟩ := List.any_eq_true.mp (List.all_eq_true.mp hcov e (List.mem_of_getElem? hget))
      exact List.find?_eq_none.mp hfind p hp (by rw [eq_of_beq hpk, hmt e hpe]; exact beq_self_eq_true k)

/-- **The literal index maps of `static_table.go` are the model's search function**: for every
field, `staticTable.byNameValue[{name,value}]` / `staticTable.byName[name]` (0 when absent) is the
position of the LAST static entry with that pair / name. -/
theorem static_index_is_lastIdx (f : Field) :
    lookupNV Gen.C01.byNameValue (f.name, f.value) = lastIdx (matchNV f) staticTable ∧
    lookupN Gen.C01.byName f.name = lastIdx (matchN f) staticTable := by
  have hnv := find_lastIdx Gen.C01.byNameValue staticTable (fun k e => e.1 == k.1 && e.2 == k.2) id
    (f.name, f.value) (fun e => (matchNV_iff f e).1) byNameValue_points_at_last byNameValue_covers
  have hn := find_lastIdx Gen.C01.byName staticTable (fun k e => e.1 == k) (·.1) f.name
    (fun e => (matchN_iff f e).1) byName_points_at_last byName_covers
  constructor
  · unfold lookupNV
    cases hfind : Gen.C01.byNameValue.find? (fun p => p.1 == (f.name, f.value)) with
    | some p => exact hnv.1 p hfind
    | none => exact hnv.2 hfind
  · unfold lookupN
    cases hfind : Gen.C01.byName.find? (fun p => p.1 == f.name) with
    | some p => exact hn.1 p hfind
    | none => exact hn.2 hfind

/-- A history with size changes (encoder-only shrink, lower-then-raise), a sensitive field, a static
hit and a dynamic hit; its blocks decode to the input (the `example` below evaluates it). -/
def sampleHistory : List Block :=
  [{ fields := [witnessField, { name := [58, 109, 101, 116, 104, 111, 100], value := [71, 69, 84] }] },
   { pre := [.setLimit 100, .setLimit 4096, .setMax 4096],
     fields := [witnessField, { name := [97], value := [99], sensitive := true }] },
   { pre := [.setMax 40, .setMax 200], fields := [witnessField] }]

example : Sys.run (Sys.init 4096) sampleHistory = sampleHistory.map (fun b => (b.fields, none)) := by decide +kernel
example : FieldOK witnessField := witnessField_ok
example : Sim 4096 (Sys.init 4096).enc (Sys.init 4096).dec.toDecCore := (init_between 4096 (by decide)).sim

end NetVerif.Proofs.C01
