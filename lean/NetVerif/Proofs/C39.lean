import NetVerif.Model.HtmlTok
import NetVerif.Gen.C39
import NetVerif.Model.HtmlTokExact
import NetVerif.Proofs.Lemmas.HtmlTokFinal
/-!
C39 — HTML tokenization is lossless; MaxBuf bound. Three models: the cursor discipline (spans chained
end-to-start, raw = consumed slice) gives `concat raws = input[start : final cursor]`, and the monitor the
V-tie runs on every recorded token accepts only runs with that discipline (the final open tag being the one
exception); the counter machine of `readByte`'s buffer; and (`section Exact`) the exact model of `Next`
(Model/HtmlTokExact.lean, D-tied to the real tokenizer), of which both clauses are proved for every input.
-/
namespace NetVerif.Proofs.C39
open NetVerif.Model.HtmlTok

theorem slice_append (inp : List Nat) (a b c : Nat) (hab : a ≤ b) (hbc : b ≤ c) :
    slice inp a b ++ slice inp b c = slice inp a c := by
  unfold slice
  have h1 : c - a = (b - a) + (c - b) := by omega
  have h2 : inp.drop b = (inp.drop a).drop (b - a) := by
    rw [List.drop_drop]; congr 1; omega
  rw [h1, List.take_add, h2]

theorem finalCursor_ge (c : Nat) (spans : List (Nat × Nat)) (h : Chained c spans) :
    c ≤ finalCursor c spans := by
  induction spans generalizing c with
  | nil => simp [finalCursor]
  | cons s rest ih =>
    obtain ⟨a, b⟩ := s
    simp only [Chained] at h
    simp only [finalCursor]
    have := ih b h.2.2
    omega

theorem concat_raws_eq_slice (inp : List Nat) (c : Nat) (spans : List (Nat × Nat))
    (h : Chained c spans) :
    (raws inp spans).flatten = slice inp c (finalCursor c spans) := by
  induction spans generalizing c with
  | nil => simp [raws, finalCursor, slice]
  | cons s rest ih =>
    obtain ⟨a, b⟩ := s
    simp only [Chained] at h
    obtain ⟨rfl, hab, hr⟩ := h
    have := ih b hr
    simp only [raws, List.map_cons, List.flatten_cons, finalCursor] at this ⊢
    rw [this]
    exact slice_append inp a b _ hab (finalCursor_ge b rest hr)

/-- C39's losslessness clause, from the cursor discipline alone. -/
theorem lossless_of_chained (inp : List Nat) (spans : List (Nat × Nat))
    (h : Chained 0 spans) (hend : finalCursor 0 spans = inp.length) :
    (raws inp spans).flatten = inp := by
  rw [concat_raws_eq_slice inp 0 spans h, hend]
  simp [slice]

/-- A run that stops early (ErrBufferExceeded, open tag) reproduces a prefix. -/
theorem prefix_of_chained (inp : List Nat) (spans : List (Nat × Nat)) (h : Chained 0 spans) :
    (raws inp spans).flatten = inp.take (finalCursor 0 spans) := by
  rw [concat_raws_eq_slice inp 0 spans h]
  simp [slice]

theorem stripPrefix_iff (p l r : List Nat) : stripPrefix p l = some r ↔ l = p ++ r := by
  induction p generalizing l with
  | nil => simp [stripPrefix, eq_comm]
  | cons a p ih =>
    cases l with
    | nil => simp [stripPrefix]
    | cons b l =>
      simp only [stripPrefix]
      split
      · rename_i hab
        subst hab
        simp [ih]
      · rename_i hab
        simp only [List.cons_append, List.cons.injEq, reduceCtorEq, false_iff, not_and]
        intro h; exact absurd h.symm hab

theorem stepTok_sound (m m' : Mon) (t : Tok) (h : stepTok m t = .ok m') :
    m.rest = t.raw ++ m'.rest ∧ m'.maxBuf = m.maxBuf ∧ t.raw ≠ [] ∧
    t.ty ≠ ttError ∧ t.ty ≤ ttDoctype ∧
    (m.maxBuf > 0 → t.raw.length ≤ rawBound m.maxBuf t ∧ t.cap ≤ capBound m.maxBuf) := by
  unfold stepTok at h
  obtain ⟨hty, h⟩ := Lemmas.ok_of_ite_error h
  obtain ⟨hne, h⟩ := Lemmas.ok_of_ite_error h
  split at h
  · cases h
  · rename_i rest' hs
    obtain ⟨hb, h⟩ := Lemmas.ok_of_ite_error h
    obtain ⟨hc, h⟩ := Lemmas.ok_of_ite_error h
    cases h
    refine ⟨(stripPrefix_iff _ _ _).1 hs, rfl, hne, ?_, ?_, fun hm => ⟨?_, ?_⟩⟩
    all_goals omega

theorem stepToks_sound (m m' : Mon) (toks : List Tok) (h : stepToks m toks = .ok m') :
    m.rest = (toks.map (·.raw)).flatten ++ m'.rest ∧ m'.maxBuf = m.maxBuf ∧
    (∀ t ∈ toks, t.raw ≠ [] ∧ t.ty ≠ ttError ∧ t.ty ≤ ttDoctype ∧
      (m.maxBuf > 0 → t.raw.length ≤ rawBound m.maxBuf t ∧ t.cap ≤ capBound m.maxBuf)) := by
  induction toks generalizing m with
  | nil =>
    simp only [stepToks, Except.ok.injEq] at h
    subst h
    simp
  | cons t ts ih =>
    simp only [stepToks] at h
    split at h
    · simp at h
    · rename_i m1 h1
      obtain ⟨a1, a2, a3, a4, a5, a6⟩ := stepTok_sound m m1 t h1
      obtain ⟨b1, b2, b3⟩ := ih m1 h
      refine ⟨?_, ?_, ?_⟩
      · simp [a1, b1]
      · rw [b2, a2]
      · intro t' ht'
        simp only [List.mem_cons] at ht'
        rcases ht' with rfl | ht'
        · exact ⟨a3, a4, a5, a6⟩
        · have := b3 t' ht'
          rw [a2] at this
          exact this

/-- The statement of C39's first sentence on a recorded run: the raws of the
returned tokens, followed by the `Raw()` of the final ErrorToken (empty, or a
tag still open at the end — the documented exception) and by the input not yet
tokenized (empty at EOF), are exactly the input. -/
def LosslessRun (inp : List Nat) (toks : List Tok) (k : EndKind) (errRaw tail : List Nat) : Prop :=
  inp = (toks.map (·.raw)).flatten ++ errRaw ++ tail ∧
  (errRaw = [] ∨ openTagLike errRaw = true) ∧
  (k = .eof → tail = [])

/-- MaxBuf clause on a recorded run. -/
def BoundedRun (mb : Nat) (toks : List Tok) (errRaw : List Nat) : Prop :=
  mb > 0 → (∀ t ∈ toks, t.raw.length ≤ rawBound mb t ∧ t.cap ≤ capBound mb) ∧ errRaw.length ≤ mb

/-- Every run the monitor accepts is lossless and bounded (V-tie soundness). -/
theorem checkRun_sound (mb : Nat) (inp : List Nat) (toks : List Tok) (k : EndKind)
    (errRaw tail : List Nat) (h : checkRun mb inp toks k errRaw tail = true) :
    LosslessRun inp toks k errRaw tail ∧ BoundedRun mb toks errRaw ∧
    (∀ t ∈ toks, t.raw ≠ [] ∧ t.ty ≠ ttError ∧ t.ty ≤ ttDoctype) := by
  unfold checkRun at h
  split at h
  · cases h
  rename_i m hm
  obtain ⟨a1, a2, a3⟩ := stepToks_sound _ m toks hm
  simp only at a1 a2 a3
  split at h
  · cases h
  rename_i he
  unfold stepEnd at he
  obtain ⟨h1, he⟩ := Lemmas.ok_of_ite_error he
  obtain ⟨h2, he⟩ := Lemmas.ok_of_ite_error he
  obtain ⟨h3, he⟩ := Lemmas.ok_of_ite_error he
  obtain ⟨-, he⟩ := Lemmas.ok_of_ite_error he
  obtain ⟨h5, -⟩ := Lemmas.ok_of_ite_error he
  simp only [ne_eq, Decidable.not_not] at h1
  refine ⟨⟨?_, ?_, ?_⟩, ?_, ?_⟩
  · rw [a1, h1]; simp
  · by_cases hr : errRaw = []
    · exact Or.inl hr
    · right
      cases hb : openTagLike errRaw with
      | true => rfl
      | false => exact absurd ⟨hr, hb⟩ h2
  · intro hk
    by_cases ht : tail = []
    · exact ht
    · exact absurd ⟨hk, ht⟩ h3
  · intro hmb
    refine ⟨fun t ht => (a3 t ht).2.2.2 hmb, ?_⟩
    rw [a2] at h5
    omega
  · intro t ht
    exact ⟨(a3 t ht).1, (a3 t ht).2.1, (a3 t ht).2.2.1⟩

def spansOf : Nat → List Tok → List (Nat × Nat)
  | _, [] => []
  | c, t :: ts => (c, c + t.raw.length) :: spansOf (c + t.raw.length) ts

theorem chained_spansOf (c : Nat) (toks : List Tok) : Chained c (spansOf c toks) := by
  induction toks generalizing c with
  | nil => simp [spansOf, Chained]
  | cons t ts ih => simp [spansOf, Chained, ih]

/-- The monitor's local condition is the cursor discipline: in an accepted run every token's raw is the
slice of the input at its span. -/
theorem accepted_raws_are_slices (pre rest : List Nat) (mb : Nat) (toks : List Tok) (m' : Mon)
    (h : stepToks { maxBuf := mb, rest := rest } toks = .ok m') :
    raws (pre ++ rest) (spansOf pre.length toks) = toks.map (·.raw) := by
  induction toks generalizing pre rest with
  | nil => simp [spansOf, raws]
  | cons t ts ih =>
    simp only [stepToks] at h
    split at h
    · simp at h
    · rename_i m1 h1
      obtain ⟨a1, a2, _⟩ := stepTok_sound _ m1 t h1
      simp only at a1 a2
      have hm1 : m1 = { maxBuf := mb, rest := m1.rest } := by cases m1; simp_all
      rw [hm1] at h
      have := ih (pre ++ t.raw) m1.rest h
      simp only [spansOf, raws, List.map_cons, List.cons.injEq]
      constructor
      · rw [a1]; simp [slice]
      · rw [a1]
        simp only [raws, List.length_append, List.append_assoc] at this
        exact this

def BufInv (mb : Nat) (b : Buf) : Prop :=
  b.start ≤ b.stop ∧ b.stop ≤ b.len ∧ b.len ≤ b.cap ∧ initCap ≤ b.cap ∧
  (mb > 0 → (b.exceeded = false → b.stop - b.start < mb) ∧
            b.stop - b.start ≤ mb ∧
            b.cap ≤ max initCap (4 * mb))

theorem bufInv_init (mb : Nat) : BufInv mb Buf.init := by
  simp [BufInv, Buf.init, initCap]; omega

theorem bufInv_step (mb : Nat) (b : Buf) (op : BufOp) (hinv : BufInv mb b)
    (hen : op.enabled b = true) : BufInv mb (b.step mb op) := by
  obtain ⟨h1, h2, h3, h4, h5⟩ := hinv
  cases op with
  | refill n =>
    simp only [BufOp.enabled, Bool.and_eq_true, Bool.not_eq_true', decide_eq_true_eq] at hen
    obtain ⟨hex, -, -, hen⟩ := hen
    have hcap : capAfter b = b.cap ∨ 2 * (b.stop - b.start) > b.cap ∧ capAfter b = 2 * b.cap := by
      unfold capAfter growCond growCap
      split
      · exact Or.inr ⟨of_decide_eq_true ‹_›, rfl⟩
      · exact Or.inl rfl
    simp only [Buf.step, BufInv]
    generalize capAfter b = c at hen hcap ⊢
    refine ⟨by omega, by omega, hen, by omega, fun hm => ?_⟩
    obtain ⟨h6, h7, h8⟩ := h5 hm
    have := h6 hex
    simp only [initCap] at h4 h8 ⊢
    exact ⟨fun _ => by omega, by omega, by omega⟩
  | advance =>
    simp only [BufOp.enabled, Bool.and_eq_true, Bool.not_eq_true', decide_eq_true_eq] at hen
    obtain ⟨hex, hen⟩ := hen
    simp only [Buf.step, BufInv, exceededCond]
    refine ⟨by omega, by omega, h3, h4, ?_⟩
    intro hm
    obtain ⟨h6, h7, h8⟩ := h5 hm
    have := h6 hex
    simp only [decide_eq_false_iff_not, not_and, Nat.not_le]
    refine ⟨fun h => by have := h hm; omega, by omega, h8⟩
  | unread k =>
    simp only [BufOp.enabled, decide_eq_true_eq] at hen
    simp only [Buf.step, BufInv]
    refine ⟨by omega, by omega, h3, h4, ?_⟩
    intro hm
    obtain ⟨h6, h7, h8⟩ := h5 hm
    exact ⟨fun h => by have := h6 h; omega, by omega, h8⟩
  | newToken =>
    simp only [Buf.step, BufInv]
    refine ⟨by omega, h2, h3, h4, ?_⟩
    intro hm
    obtain ⟨h6, h7, h8⟩ := h5 hm
    exact ⟨fun _ => by omega, by omega, h8⟩

theorem bufInv_run (mb : Nat) (b b' : Buf) (ops : List BufOp) (hinv : BufInv mb b)
    (h : Buf.run mb b ops = some b') : BufInv mb b' := by
  induction ops generalizing b with
  | nil => simp only [Buf.run, Option.some.injEq] at h; subst h; exact hinv
  | cons op ops ih =>
    simp only [Buf.run] at h
    split at h
    · rename_i hen
      exact ih _ (bufInv_step mb b op hinv hen) h
    · simp at h

/-- C39's MaxBuf clause as a counter invariant of the buffer machine. The capacity stays within
`max 4096 (4·maxBuf)` because a refill doubles it only when the bytes kept fill more than half of it. -/
theorem maxBuf_counter_invariant (mb : Nat) (ops : List BufOp) (b : Buf) (hmb : mb > 0)
    (h : Buf.run mb Buf.init ops = some b) :
    b.stop - b.start ≤ mb ∧ b.cap ≤ max 4096 (4 * mb) ∧
    (b.exceeded = false → b.stop - b.start < mb) := by
  obtain ⟨_, _, _, _, h5⟩ := bufInv_run mb _ b ops (bufInv_init mb) h
  obtain ⟨h6, h7, h8⟩ := h5 hmb
  exact ⟨h7, h8, h6⟩

/-- The limit is attained (and then the machine stops reading). -/
theorem maxBuf_bound_tight :
    ∃ ops b, Buf.run 2 Buf.init ops = some b ∧ b.stop - b.start = 2 ∧ b.exceeded = true ∧
      (BufOp.advance).enabled b = false := by
  refine ⟨[.refill 10, .advance, .advance], ?_⟩
  exact ⟨_, rfl, rfl, rfl, rfl⟩

/-! T-tie: the machine's arithmetic is the regenerated arithmetic of `readByte`. -/

theorem gen_initCap_eq : Gen.C39.initCap = initCap := rfl
theorem gen_growCond_eq : Gen.C39.growCond = growCond := rfl
theorem gen_growCap_eq (c d : Nat) : Gen.C39.growCap c d = growCap c := rfl
theorem gen_growLen_eq (c d : Nat) : Gen.C39.growLen c d = d := rfl
theorem gen_compact_eq (d : Nat) : Gen.C39.compact d = (0, d) := rfl
theorem gen_dOf_eq (b : Buf) : Gen.C39.dOf b.start b.stop = b.stop - b.start := rfl
theorem gen_exceededCond_eq : Gen.C39.exceededCond = exceededCond := rfl
theorem gen_refillCond_eq (b : Buf) (n : Nat) (h : (BufOp.refill n).enabled b = true) :
    Gen.C39.refillCond b.stop b.len = true := by
  simp only [BufOp.enabled, Bool.and_eq_true, decide_eq_true_eq] at h
  simp [Gen.C39.refillCond, h.2.1]

example : Chained 0 [(0, 3), (3, 3), (3, 7)] := by simp [Chained]
example : checkRun 0 [60, 97, 62, 120] [⟨ttStartTag, [60, 97, 62], 4096⟩, ⟨ttText, [120], 4096⟩] .eof [] [] = true := by decide
example : checkRun 0 [120, 60, 97, 32] [⟨ttText, [120], 4096⟩] .eof [60, 97, 32] [] = true := by decide
example : checkRun 0 [120, 60, 97, 32] [⟨ttText, [120], 4096⟩] .eof [] [] = false := by decide
example : checkRun 3 [120, 121, 122, 60] [⟨ttText, [120, 121, 122], 4096⟩] .maxbuf [] [60] = true := by decide
example : checkRun 2 [120, 121, 122, 60] [⟨ttText, [120, 121, 122], 4096⟩] .maxbuf [] [60] = false := by decide
example : (Buf.run 3 Buf.init [.refill 10, .advance, .advance, .newToken, .advance]).isSome = true := by decide

section Exact
open NetVerif.Model.HtmlTokExact
open NetVerif.Proofs.Lemmas.HtmlTokExact (next_frame)

def StartsAt : Nat → List TokSpan → Prop
  | _, [] => True
  | c, t :: ts => t.start = c ∧ StartsAt t.stop ts

theorem runLoop_startsAt (f : Nat) (z : Z) (acc : List TokSpan) :
    ∃ rest, (runLoop f z acc).1 = acc.reverse ++ rest ∧ StartsAt z.rawEnd rest := by
  induction f generalizing z acc with
  | zero => exact ⟨[], by simp [runLoop], trivial⟩
  | succ f ih =>
    simp only [runLoop]
    split
    · exact ⟨[], by simp, trivial⟩
    · obtain ⟨rest, h1, h2⟩ := ih (next z).2 ({ ty := (next z).1, start := (next z).2.rawStart, stop := (next z).2.rawEnd } :: acc)
      refine ⟨{ ty := (next z).1, start := (next z).2.rawStart, stop := (next z).2.rawEnd } :: rest, ?_, ?_⟩
      · rw [h1]; simp
      · exact ⟨(next_frame z).1, h2⟩

/-- One half of the cursor discipline for the exact model of `Tokenizer.Next`, from any state: no gaps
(that spans are not reversed is `exact_span_order`). -/
theorem exact_tokens_chained (z0 : Z) : StartsAt z0.rawEnd (tokenizeAll z0).1 := by
  obtain ⟨rest, h1, h2⟩ := runLoop_startsAt (z0.inp.size + 2) z0 []
  simp only [List.reverse_nil, List.nil_append] at h1
  unfold tokenizeAll
  rw [h1]; exact h2

theorem exact_error_token_starts_at_cursor (z : Z) : (next z).2.rawStart = z.rawEnd := (next_frame z).1

/-- `raw.start ≤ raw.end` for every token: the no-panic invariant of the Go code
(`z.raw.end` is never moved before `z.raw.start`, `z.buf[z.raw.start:z.raw.end]` is a valid slice). -/
def SpanOrder (toks : List TokSpan) : Prop := ∀ t ∈ toks, t.start ≤ t.stop

theorem chained_of_startsAt (c : Nat) (toks : List TokSpan) (h : StartsAt c toks) (ho : SpanOrder toks) :
    Chained c (toks.map fun t => (t.start, t.stop)) := by
  induction toks generalizing c with
  | nil => trivial
  | cons t ts ih =>
    simp only [StartsAt] at h
    simp only [List.map_cons, Chained]
    exact ⟨h.1, ho t (by simp), ih t.stop h.2 (fun t' ht' => ho t' (by simp [ht']))⟩

section Run
open NetVerif.Proofs.Lemmas.HtmlTokMaxBuf (Between Live next_step next_bound rem rem_lt OpenTag)

def lastStop : Nat → List TokSpan → Nat
  | c, [] => c
  | _, t :: ts => lastStop t.stop ts

theorem lastStop_eq_finalCursor (c : Nat) (toks : List TokSpan) :
    lastStop c toks = finalCursor c (toks.map fun t => (t.start, t.stop)) := by
  induction toks generalizing c with
  | nil => rfl
  | cons t ts ih => simp only [lastStop, List.map_cons, finalCursor]; exact ih _

/-- A complete run `res` from `z`: the tokens `rest` it returned (after those in `acc`), and its final state,
which is that of the call of `Next` that returned the ErrorToken. -/
structure RunFacts (z : Z) (acc : List TokSpan) (res : List TokSpan × Z) (rest : List TokSpan) : Prop where
  toks : res.1 = acc.reverse ++ rest
  span : ∀ t ∈ rest, t.start < t.stop ∧ t.stop ≤ z.inp.size
  fuel : res.2.fuelOut = z.fuelOut
  inp : res.2.inp = z.inp
  start : res.2.rawStart = lastStop z.rawEnd rest
  lo : res.2.rawStart ≤ res.2.rawEnd
  hi : res.2.rawEnd ≤ z.inp.size
  good : res.2.rawStart = res.2.rawEnd ∨ OpenTag z.inp res.2.rawStart res.2.rawEnd
  fin : Between z → res.2.err ≠ .none → res.2.err ≠ .exceeded → res.2.rawEnd ≥ z.inp.size
  -- the state before the last `Next`: `next_frame`, `next_step` and `next_bound` there say of `res.2` what the fields
  -- above do not
  last : ∃ zl, (Between z → Between zl) ∧ next zl = (0, res.2)

theorem runLoop_facts (f : Nat) (z : Z) (acc : List TokSpan) (h : z.rawEnd ≤ z.inp.size) (hl : Live z)
    (hf : rem z < f) : ∃ rest, RunFacts z acc (runLoop f z acc) rest := by
  induction f generalizing z acc with
  | zero => omega
  | succ f ih =>
    obtain ⟨s, hg⟩ := next_step z hl
    obtain ⟨hs, hinp, -⟩ := next_frame z
    have hin : (next z).2.rawEnd ≤ z.inp.size := s.hi h
    simp only [runLoop]
    split
    · rename_i hty
      exact ⟨[],
        { toks := by simp, span := by simp, fuel := s.fo, inp := hinp, start := hs, lo := hs ▸ s.lo, hi := hin,
          good := hg.2 hty, fin := fun hb => hinp ▸ (next_bound z hb).between.fin, last := ⟨z, id, Prod.ext hty rfl⟩ }⟩
    · rename_i hty
      have hrem : rem (next z).2 < f := by
        have := hg.1 hty
        unfold rem at *
        rw [hinp]
        omega
      obtain ⟨rest, F⟩ :=
        ih (next z).2 ({ ty := (next z).1, start := (next z).2.rawStart, stop := (next z).2.rawEnd } :: acc)
          (hinp.symm ▸ hin) (s.live hl) hrem
      refine ⟨{ ty := (next z).1, start := (next z).2.rawStart, stop := (next z).2.rawEnd } :: rest,
        { toks := by rw [F.toks]; simp, span := ?_, fuel := F.fuel.trans s.fo, inp := F.inp.trans hinp, start := (F.start :),
          lo := F.lo, hi := hinp ▸ F.hi, good := hinp ▸ F.good, fin := fun hb => hinp ▸ F.fin (next_bound z hb).between,
          last := F.last.imp fun _ e => ⟨fun hb => e.1 (next_bound z hb).between, e.2⟩ }⟩
      intro t ht
      rcases List.mem_cons.1 ht with rfl | ht
      · exact ⟨hg.1 hty, hin⟩
      · exact hinp ▸ F.span t ht

theorem between_newTokenizer (inp ctx : List Nat) (mb : Nat) (cdata : Bool) (fe : Err) (hfe : fe = .eof ∨ fe = .other) :
    Between (newTokenizer inp ctx mb cdata fe) :=
  ⟨hfe, fun h => absurd rfl h⟩

theorem tokenizeAll_facts (inp ctx : List Nat) (mb : Nat) (cdata : Bool) (fe : Err) (hfe : fe = .eof ∨ fe = .other) :
    RunFacts (newTokenizer inp ctx mb cdata fe) [] (tokenizeAll (newTokenizer inp ctx mb cdata fe))
      (tokenizeAll (newTokenizer inp ctx mb cdata fe)).1 := by
  -- a new tokenizer has its cursor at 0
  obtain ⟨rest, F⟩ := runLoop_facts _ (newTokenizer inp ctx mb cdata fe) [] (Nat.zero_le _)
    (by rcases hfe with e | e <;> rw [Live, e] <;> nofun) (rem_lt _)
  have : (tokenizeAll (newTokenizer inp ctx mb cdata fe)).1 = rest := F.toks
  exact this ▸ F

/-- Fuel sufficiency: every loop of `Next`, and the driver loop over `Next`, ends within the fuel the model
gives it, for every input. -/
theorem exact_fuel_never_out (inp ctx : List Nat) (mb : Nat) (cdata : Bool) (fe : Err)
    (hfe : fe = .eof ∨ fe = .other) :
    (tokenizeAll (newTokenizer inp ctx mb cdata fe)).2.fuelOut = false :=
  (tokenizeAll_facts inp ctx mb cdata fe hfe).fuel

/-- Span order (the Go no-panic invariant) for every token of every run; tokens are non-empty. -/
theorem exact_span_order (inp ctx : List Nat) (mb : Nat) (cdata : Bool) (fe : Err)
    (hfe : fe = .eof ∨ fe = .other) :
    ∀ t ∈ (tokenizeAll (newTokenizer inp ctx mb cdata fe)).1, t.start < t.stop ∧ t.stop ≤ inp.length := by
  exact (tokenizeAll_facts inp ctx mb cdata fe hfe).span

theorem exact_lossless (inp ctx : List Nat) (mb : Nat) (cdata : Bool) (fe : Err)
    (hfe : fe = .eof ∨ fe = .other) :
    let toks := (tokenizeAll (newTokenizer inp ctx mb cdata fe)).1
    (raws inp (toks.map fun t => (t.start, t.stop))).flatten = inp.take (lastStop 0 toks) := by
  intro toks
  have hch : StartsAt 0 toks := exact_tokens_chained (newTokenizer inp ctx mb cdata fe)
  have ho : SpanOrder toks := fun t ht => Nat.le_of_lt (exact_span_order inp ctx mb cdata fe hfe t ht).1
  rw [lastStop_eq_finalCursor]
  exact prefix_of_chained inp _ (chained_of_startsAt 0 toks hch ho)

theorem getD_toList (a : Array Nat) (i : Nat) (h : i < a.size) : a.getD i 0 = a.toList[i]'(by simpa using h) := by
  simp [Array.getD, h]

theorem openTagLike_of_OpenTag (inp : Array Nat) (a b : Nat) (hb : b ≤ inp.size) (h : OpenTag inp a b) :
    openTagLike (slice inp.toList a b) = true := by
  obtain ⟨h1, h2, h3⟩ := h
  have hl : inp.toList.length = inp.size := by simp
  have ha0 : a < inp.toList.length := by omega
  have ha1 : a + 1 < inp.toList.length := by omega
  have e0 := getD_toList inp a (by omega)
  have e1 := getD_toList inp (a + 1) (by omega)
  unfold slice
  obtain ⟨k, hk⟩ : ∃ k, b - a = k + 2 := ⟨b - a - 2, by omega⟩
  rw [hk, List.drop_eq_getElem_cons ha0, List.drop_eq_getElem_cons ha1]
  simp only [List.take_succ_cons]
  rw [← e0, ← e1, h2]
  have il : ∀ c, NetVerif.Model.HtmlTok.isLetter c = NetVerif.Model.HtmlTokExact.isLetter c := fun _ => rfl
  unfold openTagLike
  rcases h3 with h3 | ⟨h3, h4, h5⟩
  · simp [il]; left; simpa using h3
  · have ha2 : a + 2 < inp.toList.length := by omega
    have e2 := getD_toList inp (a + 2) (by omega)
    obtain ⟨k', hk'⟩ : ∃ k', k = k' + 1 := ⟨k - 1, by omega⟩
    rw [hk', List.drop_eq_getElem_cons ha2]
    simp only [List.take_succ_cons]
    rw [← e2]
    simp [il, h3]; right; simpa using h5

/-- C39's losslessness clause on the exact model, with its exception. For every input (any context tag,
MaxBuf, CDATA setting, reader error), with `errRaw` the `Raw()` of the final ErrorToken:
* the raws of the returned tokens followed by `errRaw` are exactly the input up to the cursor;
* `errRaw` is empty, or it is the tag that was still open: it begins `<`letter or `</`letter;
* if the final state has an error set and it is not ErrBufferExceeded, the cursor is the end of the input,
  so `input = concat raws ++ errRaw`: nothing but a final unterminated tag is ever omitted. (That the state
  returned with the ErrorToken has an error set is a hypothesis of this clause, not a conclusion.) -/
theorem exact_lossless_with_exception (inp ctx : List Nat) (mb : Nat) (cdata : Bool) (fe : Err)
    (hfe : fe = .eof ∨ fe = .other) :
    let res := tokenizeAll (newTokenizer inp ctx mb cdata fe)
    let errRaw := slice inp res.2.rawStart res.2.rawEnd
    (raws inp (res.1.map fun t => (t.start, t.stop))).flatten ++ errRaw = inp.take res.2.rawEnd ∧
    (errRaw = [] ∨ openTagLike errRaw = true) ∧
    (res.2.err ≠ .exceeded → res.2.err ≠ .none → res.2.rawEnd = inp.length) := by
  intro res errRaw
  have F : RunFacts _ [] res res.1 := tokenizeAll_facts inp ctx mb cdata fe hfe
  -- the input of a new tokenizer is `inp.toArray`: its size is `inp.length` and its list `inp` by `rfl`
  have hi : res.2.rawEnd ≤ inp.length := F.hi
  refine ⟨?_, ?_, fun hne hnn => Nat.le_antisymm hi (F.fin (between_newTokenizer inp ctx mb cdata fe hfe) hnn hne)⟩
  · have hloss : _ = inp.take (lastStop 0 res.1) := exact_lossless inp ctx mb cdata fe hfe
    show _ ++ slice inp res.2.rawStart res.2.rawEnd = _
    rw [hloss, ← show res.2.rawStart = lastStop 0 res.1 from F.start,
      show inp.take res.2.rawStart = slice inp 0 res.2.rawStart by simp [slice],
      slice_append inp 0 _ _ (Nat.zero_le _) F.lo]
    simp [slice]
  · show slice inp res.2.rawStart res.2.rawEnd = [] ∨ openTagLike (slice inp res.2.rawStart res.2.rawEnd) = true
    rcases F.good with hg | hg
    · left; rw [hg]; simp [slice]
    · exact Or.inr (openTagLike_of_OpenTag _ _ _ F.hi hg)

theorem runLoop_bound (mb f : Nat) (z : Z) (acc : List TokSpan) (hb : Between z) (hmb : z.maxBuf = mb)
    (hpos : mb > 0) (hacc : ∀ t ∈ acc, t.stop - t.start ≤ mb) :
    ∀ t ∈ (runLoop f z acc).1, t.stop - t.start ≤ mb := by
  induction f generalizing z acc with
  | zero => simpa [runLoop] using hacc
  | succ f ih =>
    simp only [runLoop]
    split
    · simpa using hacc
    · have hn := next_bound z hb
      have hm' : (next z).2.maxBuf = mb := by rw [(next_frame z).2.2, hmb]
      refine ih (next z).2 _ hn.between hm' fun t ht => ?_
      rcases List.mem_cons.1 ht with rfl | ht
      · exact hm' ▸ hn.le (by omega)
      · exact hacc t ht

end Run

/-- The MaxBuf clause of C39 on the exact model: no returned token is longer than the limit. -/
def MaxBufStatement : Prop :=
  ∀ (inp ctx : List Nat) (mb : Nat) (cdata : Bool) (fe : Err), (fe = .eof ∨ fe = .other) → mb > 0 →
    ∀ t ∈ (tokenizeAll (newTokenizer inp ctx mb cdata fe)).1, t.stop - t.start ≤ mb

/-- The model follows `readMarkupDeclaration` as repaired upstream (2850da0310): after a failed
`readDoctype` with an error pending it returns the bogus comment and does not call `readByte` again. -/
theorem maxBuf_statement_holds : MaxBufStatement := by
  intro inp ctx mb cdata fe hfe hpos
  exact runLoop_bound mb _ _ [] (between_newTokenizer inp ctx mb cdata fe hfe) rfl hpos fun _ h => nomatch h

open NetVerif.Proofs.Lemmas.HtmlTokMaxBuf (Between next_bound) in
/-- The final ErrorToken, and any token of any later call, is within the limit too. -/
theorem exact_every_next_within_maxBuf (z : Z) (hb : Between z) (hpos : z.maxBuf > 0) :
    (next z).2.rawEnd - (next z).2.rawStart ≤ z.maxBuf := by
  have := (next_bound z hb).le (by rw [(next_frame z).2.2]; exact hpos)
  rw [(next_frame z).2.2] at this
  exact this

def doctypeInput : List Nat := [60, 33, 68, 79, 67, 84, 89, 80, 69, 32, 104, 116, 109, 108, 62]  -- "<!DOCTYPE html>"

/-- The witness of finding `maxbuf-overshoot-markup-decl` (on the original tree `<!DOCTYPE html>` with
`SetMaxBuf(5)` gave `Raw() = "<!DOCT"`, 6 bytes; 7 with AllowCDATA): the bogus comment stops at the limit. -/
example : (tokenizeAll (newTokenizer doctypeInput [] 5 false .eof)).1 = [⟨5, 0, 5⟩] := by decide +kernel
example : (tokenizeAll (newTokenizer doctypeInput [] 5 true .eof)).1 = [⟨5, 0, 5⟩] := by decide +kernel

/-- without a limit the same input is one Doctype token covering everything -/
example : (tokenizeAll (newTokenizer doctypeInput [] 0 false .eof)).1 = [⟨6, 0, 15⟩] := by decide +kernel
/-- `<a>x</a` : StartTag, Text, and the unterminated end tag is the ErrorToken's raw -/
example : (tokenizeAll (newTokenizer [60, 97, 62, 120, 60, 47, 97] [] 0 false .eof)).1 = [⟨2, 0, 3⟩, ⟨1, 3, 4⟩] := by
  decide +kernel
example : (tokenizeAll (newTokenizer [60, 97, 62, 120, 60, 47, 97] [] 0 false .eof)).2.rawEnd = 7 := by decide +kernel

end Exact

end NetVerif.Proofs.C39
