import NetVerif.Model.QuicStream
import NetVerif.Model.QuicMonitor
import NetVerif.Gen.C20
import NetVerif.Proofs.C24
import NetVerif.Proofs.Lemmas.QuicMonitor
import NetVerif.Proofs.Lemmas.QuicRecv
import NetVerif.Proofs.Lemmas.QuicSendPath
/-! C19: QUIC streams deliver bytes reliably and in order over a faulty network. On the exact stream model (D-tied
state for state), receive side: over every history of frames that carry slices of one sender sequence `w` and of
reads, what `Read` has returned is `w` up to the read position (`HInv`, `run_inv`); send side: what an ack and a
loss do to `outunsent` / `outacked`, "all data acked", and the FIN and PTO repairs. At trace level (V-tie): what
was read is at every moment a prefix of what the peer wrote (`PrefixInv`). -/
namespace NetVerif.Proofs.C19
open NetVerif.Model NetVerif.Model.QuicStream
open NetVerif.Model.Rangeset (RS Rg)
open NetVerif.Proofs.C24 (Mem WF mem_add mem_add_all wf_add_all mem_sub_all)

theorem gen_consts : Gen.C20.autoFlushSize = autoFlushSize ∧ Gen.C20.pipebufSize = chunk := by decide

/-- C19: the received set grows by exactly the frame's range, whatever the arrival order, duplication or overlap. -/
theorem handleData_inset (c : Conn) (s : Stream) (off : Int) (b : List Nat) (fin : Bool)
    (hwf : WF s.inset) (h0 : (handleData c s off b fin).2.2 = 0)
    (hopen : ¬ (s.inclosed.isSet = true ∨ s.inresetcode ≠ -1)) :
    WF (handleData c s off b fin).2.1.inset ∧
    ∀ x, Mem (handleData c s off b fin).2.1.inset x ↔ (Mem s.inset x ∨ (off ≤ x ∧ x < off + b.length)) :=
  ⟨by rw [(Lemmas.QuicRecv.handleData_shape h0 hopen).2.1]; exact wf_add_all _ _ _ hwf,
    Lemmas.QuicRecv.handleData_mem hwf h0 hopen⟩

/-- Repaired code (`discardInbufLocked`): `CloseRead` empties `inbuf` before the pipe releases its chunks, so a
later `Read` never takes the lock-free path through a released buffer. That `inbuf` is filled only from
`Pipe.peek` of the stream's own pipe is read off the model (`Lemmas.QuicRecv.park`); no statement says it. -/
theorem closeRead_clears_inbuf (c c' : Conn) (s : Stream) (n : Nat) (hw : s.writeOnly = false) :
    (closeRead c s).2.inbuf = [] ∧ (closeRead c s).2.inbufoff = 0 ∧
      ((QuicStream.read c' (closeRead c s).2 n).2.2 = .errClosed ∨
       (QuicStream.read c' (closeRead c s).2 n).2.2 = .errReset) := by
  have hcl : ((if Rangeset.isrange s.inset 0 s.insize = true ∨ s.inresetcode ≠ -1 then SV.received
      else s.inclosed.set) : SV).isSet = true := by
    split
    · rfl
    · cases s.inclosed <;> rfl
  have hshape : (closeRead c s).2.inbuf = [] ∧ (closeRead c s).2.inbufoff = 0 ∧
      (closeRead c s).2.inclosed.isSet = true ∧ (closeRead c s).2.writeOnly = false := by
    unfold closeRead
    rw [if_neg (by rw [hw]; exact Bool.false_ne_true)]
    exact ⟨rfl, rfl, hcl, hw⟩
  generalize (closeRead c s).2 = t at hshape ⊢
  obtain ⟨h1, h2, h3, h4⟩ := hshape
  refine ⟨h1, h2, ?_⟩
  rw [Lemmas.QuicRecv.read_closed h4 (by rw [h1, h2]; exact Nat.lt_irrefl 0) (Or.inl h3)]
  split
  · exact Or.inr rfl
  · exact Or.inl rfl

theorem read_fast_path_bytes (c : Conn) (s : Stream) (n : Nat) (hw : s.writeOnly = false)
    (hf : s.inbuf.length > s.inbufoff) :
    (QuicStream.read c s n).2.2 = .data ((s.inbuf.drop s.inbufoff).take (min n (s.inbuf.length - s.inbufoff))) false := by
  rw [Lemmas.QuicRecv.read_eq_fast hw hf]

section Bytes
open NetVerif.Proofs.Lemmas.QuicRecv

/-- The pipe alone, before any `Read`: whatever prefix `[0,k)` the frames have completed, in any order and any
alignment to the pipe chunks, reads back as `w[0..k)`, and no pipe primitive has panicked. -/
theorem received_prefix_reads_back (w : List Nat) (frames : List (Int × List Nat × Bool))
    (hf : ∀ f ∈ frames, FrameOf w f.1 f.2.1) (c : Conn) (s : Stream)
    (h1 : s.inp = Pipe.empty) (h2 : s.inset = []) (h3 : s.inbuf = []) (h4 : s.inbufoff = 0)
    (ho : isOpen s) (hp : s.panicked = false) (k : Nat)
    (hk : ∀ x, 0 ≤ x → x < (k : Int) → Mem (frames.foldl feed (c, s)).2.inset x) :
    (frames.foldl feed (c, s)).2.panicked = false ∧
    ∃ bytes, Pipe.copy (frames.foldl feed (c, s)).2.inp 0 k = some bytes ∧ bytes.length = k ∧
      ∀ i : Nat, i < k → bytes[i]? = w[i]? := by
  obtain ⟨spec', hri, _, hst, hpan, _, _⟩ := frames_RI w frames hf c s NetVerif.Proofs.C30.Spec.empty (fresh_RI w s h1 h2 h3 h4) ho
  have hs0 : (frames.foldl feed (c, s)).2.inp.start = 0 := by rw [hst, h1]; rfl
  refine ⟨by rw [hpan, hp], ?_⟩
  obtain ⟨bytes, e1, e2, e3⟩ := copy_bytes w _ spec' hri k (by rw [hs0]; intro x a b; exact hk x a (by omega))
  rw [hs0] at e1
  refine ⟨bytes, e1, e2, fun i hi => ?_⟩
  have := e3 i hi
  rw [hs0] at this
  rw [this]; unfold wAt; simp

/-- the receive-side history alphabet: a delivered STREAM frame or an application `Read(n)` -/
inductive ROp where
  | frame (off : Int) (b : List Nat) (fin : Bool)
  | read (n : Nat)

/-- state: connection counters, the stream, and the concatenation of everything `Read` returned so far -/
def rstep (st : Conn × Stream × List Nat) : ROp → Conn × Stream × List Nat
  | .frame off b fin => ((feed (st.1, st.2.1) (off, b, fin)).1, (feed (st.1, st.2.1) (off, b, fin)).2, st.2.2)
  | .read n => ((QuicStream.read st.1 st.2.1 n).1, (QuicStream.read st.1 st.2.1 n).2.1,
                st.2.2 ++ bytesOf (QuicStream.read st.1 st.2.1 n).2.2)

def FramesOf (w : List Nat) (ops : List ROp) : Prop :=
  ∀ op ∈ ops, match op with | .frame off b _ => FrameOf w off b | .read _ => True

/-- what every history of frames of one sender `w` and of reads keeps, from a fresh open stream; the last two
fields say that everything `Read` has returned is `w` up to the read position -/
structure HInv (w : List Nat) (st : Conn × Stream × List Nat) : Prop where
  ri : ∃ spec, RI w st.2.1 spec
  pre : Pre st.2.1
  opn : isOpen st.2.1
  fin : FinInv st.2.1
  len : (st.2.2.length : Int) = pos st.2.1
  bytes : ∀ i : Nat, i < st.2.2.length → st.2.2[i]? = wAt w i

theorem rstep_inv (w : List Nat) (st : Conn × Stream × List Nat) (op : ROp) (h : HInv w st)
    (hop : match op with | .frame off b _ => FrameOf w off b | .read _ => True) :
    HInv w (rstep st op) ∧ (st.2.1.insize ≠ -1 → (rstep st op).2.1.insize = st.2.1.insize) := by
  obtain ⟨⟨spec, hri⟩, hpre, hopen, hfin, hlen, hbytes⟩ := h
  cases op with
  | frame off b fin =>
    obtain ⟨a1, a2, a3, a4⟩ := feed_post w st.1 st.2.1 spec (off, b, fin) hri hpre hopen hop
    obtain ⟨b1, b2⟩ := feed_fin w st.1 st.2.1 spec (off, b, fin) hri hfin hopen hop
    exact ⟨⟨a1, a2, a3, b1, hlen.trans a4.symm, hbytes⟩, b2⟩
  | read n =>
    obtain ⟨hp, hz, hs, _⟩ := read_spec w st.1 st.2.1 spec n hri hpre hopen
    refine ⟨⟨hp.ri, hp.pre, hp.opn, by show FinInv (QuicStream.read _ _ n).2.1; unfold FinInv; rw [hz, hs]; exact hfin,
      ?_, ?_⟩, fun _ => hz⟩
    · show ((st.2.2 ++ bytesOf (QuicStream.read st.1 st.2.1 n).2.2).length : Int) = pos (QuicStream.read st.1 st.2.1 n).2.1
      rw [hp.adv, List.length_append]; omega
    · intro i hi
      show (st.2.2 ++ bytesOf (QuicStream.read st.1 st.2.1 n).2.2)[i]? = wAt w i
      by_cases hlt : i < st.2.2.length
      · rw [List.getElem?_append_left hlt]; exact hbytes i hlt
      · have hi' : i < (st.2.2 ++ bytesOf (QuicStream.read st.1 st.2.1 n).2.2).length := hi
        rw [List.length_append] at hi'
        rw [List.getElem?_append_right (by omega), hp.bytes (i - st.2.2.length) (by omega)]
        congr 1; omega

theorem run_inv (w : List Nat) (ops : List ROp) (hops : FramesOf w ops) :
    ∀ st, HInv w st → HInv w (ops.foldl rstep st) ∧
      (st.2.1.insize ≠ -1 → (ops.foldl rstep st).2.1.insize = st.2.1.insize) := fun st h =>
  Lemmas.foldl_inv_mem rstep (fun t => HInv w t ∧ (st.2.1.insize ≠ -1 → t.2.1.insize = st.2.1.insize)) ops
    (fun t op hop ⟨ht, hz⟩ =>
      have h1 := rstep_inv w t op ht (hops op hop)
      ⟨h1.1, fun hne => (h1.2 (by rw [hz hne]; exact hne)).trans (hz hne)⟩)
    st ⟨h, fun _ => rfl⟩

theorem rstep_fin (w : List Nat) (st : Conn × Stream × List Nat) (op : ROp) (h : HInv w st)
    (hop : match op with | .frame off b _ => FrameOf w off b | .read _ => True) :
    FinInv (rstep st op).2.1 ∧ (st.2.1.insize ≠ -1 → (rstep st op).2.1.insize = st.2.1.insize) :=
  have a := rstep_inv w st op h hop
  ⟨a.1.fin, a.2⟩

theorem run_fin (w : List Nat) (ops : List ROp) (hops : FramesOf w ops) (st : Conn × Stream × List Nat) (h : HInv w st) :
    FinInv (ops.foldl rstep st).2.1 ∧ (st.2.1.insize ≠ -1 → (ops.foldl rstep st).2.1.insize = st.2.1.insize) :=
  have a := run_inv w ops hops st h
  ⟨a.1.fin, a.2⟩

theorem fresh_HInv (w : List Nat) (c : Conn) (s : Stream) (h1 : s.inp = Pipe.empty) (h2 : s.inset = [])
    (h3 : s.inbuf = []) (h4 : s.inbufoff = 0) (ho : isOpen s) : HInv w (c, s, []) := by
  refine ⟨⟨_, fresh_RI w s h1 h2 h3 h4⟩, fun x hx hx2 => ?_, ho, fun _ x hx => by rw [h2] at hx; simp at hx, ?_,
    fun i hi => absurd hi (Nat.not_lt_zero _)⟩
  · have : x < s.inp.start + (s.inbuf.length : Int) := hx2
    rw [h1, h3] at this
    exact absurd this (by show ¬ x < 0 + ((0 : Nat) : Int); omega)
  · show (([] : List Nat).length : Int) = s.inp.start + s.inbufoff
    rw [h1, h4]; rfl

/-- C19, in order and without duplication, at byte level: over any interleaving of frames that carry slices of one
`w` (any order, duplication, overlap; refused frames included) with reads of any size, on the lock-free and the
slow path, what `Read` has returned is `w` up to the read position. -/
theorem reads_are_prefix (w : List Nat) (ops : List ROp) (hops : FramesOf w ops) (c : Conn) (s : Stream)
    (h1 : s.inp = Pipe.empty) (h2 : s.inset = []) (h3 : s.inbuf = []) (h4 : s.inbufoff = 0) (ho : isOpen s) :
    (ops.foldl rstep (c, s, [])).2.2 = w.take (pos (ops.foldl rstep (c, s, [])).2.1).toNat := by
  obtain ⟨_, _, _, _, hlen, hbytes⟩ := (run_inv w ops hops _ (fresh_HInv w c s h1 h2 h3 h4 ho)).1
  generalize (ops.foldl rstep (c, s, [])) = st at *
  apply List.ext_getElem?
  intro i
  rw [List.getElem?_take]
  by_cases hi : i < st.2.2.length
  · have hi2 : i < (pos st.2.1).toNat := by omega
    rw [if_pos hi2, hbytes i hi]
    unfold wAt; simp
  · have hi2 : ¬ i < (pos st.2.1).toNat := by omega
    rw [if_neg hi2]
    exact List.getElem?_eq_none (by omega)

/-- The model's `panic` result stands for Go's `panic("BUG: inconsistent input stream state")` and for a
`pipe.copy` outside the window. A failed `peek` or `writeAt` only sets `Stream.panicked`, which this statement
does not read; `frames_RI` says that histories of frames alone leave the flag as it was. -/
theorem reads_never_panic (w : List Nat) (ops : List ROp) (hops : FramesOf w ops) (c : Conn) (s : Stream)
    (h1 : s.inp = Pipe.empty) (h2 : s.inset = []) (h3 : s.inbuf = []) (h4 : s.inbufoff = 0) (ho : isOpen s)
    (n : Nat) :
    (QuicStream.read (ops.foldl rstep (c, s, [])).1 (ops.foldl rstep (c, s, [])).2.1 n).2.2 ≠ .panic := by
  obtain ⟨⟨spec, hri⟩, hpre, hopen, _⟩ := (run_inv w ops hops _ (fresh_HInv w c s h1 h2 h3 h4 ho)).1
  exact (read_post w _ _ spec n hri hpre hopen).nopanic

theorem final_size_never_changes (w : List Nat) (ops1 ops2 : List ROp) (hops : FramesOf w (ops1 ++ ops2))
    (c : Conn) (s : Stream) (h1 : s.inp = Pipe.empty) (h2 : s.inset = []) (h3 : s.inbuf = []) (h4 : s.inbufoff = 0)
    (h5 : s.insize = -1) (ho : isOpen s)
    (hne : (ops1.foldl rstep (c, s, [])).2.1.insize ≠ -1) :
    ((ops1 ++ ops2).foldl rstep (c, s, [])).2.1.insize = (ops1.foldl rstep (c, s, [])).2.1.insize := by
  rw [List.foldl_append]
  exact (run_inv w ops2 (fun o ho => hops o (by simp [ho])) _
    (run_inv w ops1 (fun o ho => hops o (by simp [ho])) _ (fresh_HInv w c s h1 h2 h3 h4 ho)).1).2 hne

/-- C19, EOF exactly at the recorded final size, in every reachable state: io.EOF, alone or together with the last
bytes, iff a final size has been recorded (FIN received), the lock-free buffer is drained and the read position
reaches it. That the final size is `|w|` is not part of this: `FramesOf` leaves the FIN bit of a frame free. -/
theorem eof_iff (w : List Nat) (ops : List ROp) (hops : FramesOf w ops) (c : Conn) (s : Stream)
    (h1 : s.inp = Pipe.empty) (h2 : s.inset = []) (h3 : s.inbuf = []) (h4 : s.inbufoff = 0) (h5 : s.insize = -1)
    (ho : isOpen s) (n : Nat) (hw : (ops.foldl rstep (c, s, [])).2.1.writeOnly = false) :
    let st := ops.foldl rstep (c, s, [])
    isEOF (QuicStream.read st.1 st.2.1 n).2.2 ↔
      (st.2.1.insize ≠ -1 ∧ ¬ st.2.1.inbuf.length > st.2.1.inbufoff ∧
        pos (QuicStream.read st.1 st.2.1 n).2.1 = st.2.1.insize) := by
  obtain ⟨⟨spec, hri⟩, hpre, hopen, hfin, _⟩ := (run_inv w ops hops _ (fresh_HInv w c s h1 h2 h3 h4 ho)).1
  exact (read_more w _ _ spec n hri hpre hopen hfin hw).1

/-- Data is available exactly when the contiguous received prefix extends beyond the read position (everything
before it has been received, by `Pre`). -/
theorem read_available_iff (w : List Nat) (ops : List ROp) (hops : FramesOf w ops) (c : Conn) (s : Stream)
    (h1 : s.inp = Pipe.empty) (h2 : s.inset = []) (h3 : s.inbuf = []) (h4 : s.inbufoff = 0) (h5 : s.insize = -1)
    (ho : isOpen s) (n : Nat) (hn : 0 < n) (hw : (ops.foldl rstep (c, s, [])).2.1.writeOnly = false) :
    let st := ops.foldl rstep (c, s, [])
    (0 < (bytesOf (QuicStream.read st.1 st.2.1 n).2.2).length ↔ Mem st.2.1.inset (pos st.2.1)) ∧
    (∀ x, 0 ≤ x → x < pos st.2.1 → Mem st.2.1.inset x) := by
  obtain ⟨⟨spec, hri⟩, hpre, hopen, hfin, _⟩ := (run_inv w ops hops _ (fresh_HInv w c s h1 h2 h3 h4 ho)).1
  refine ⟨(read_more w _ _ spec n hri hpre hopen hfin hw).2.1 hn, fun x hx hx2 => hpre x hx ?_⟩
  have := hri.off
  unfold pos at hx2; omega

/-- non-vacuity: out-of-order, overlapping frames of `w = [10,11,12,13,14,15]` -/
example : FrameOf [10, 11, 12, 13, 14, 15] 3 [13, 14, 15] ∧ FrameOf [10, 11, 12, 13, 14, 15] 0 [10, 11, 12, 13] ∧
    FrameOf [10, 11, 12, 13, 14, 15] 2 [12] := by
  refine ⟨⟨by decide, by decide, ?_⟩, ⟨by decide, by decide, ?_⟩, ⟨by decide, by decide, ?_⟩⟩
  · intro i hi
    have : i = 0 ∨ i = 1 ∨ i = 2 := by simp at hi; omega
    rcases this with rfl | rfl | rfl <;> decide
  · intro i hi
    have : i = 0 ∨ i = 1 ∨ i = 2 ∨ i = 3 := by simp at hi; omega
    rcases this with rfl | rfl | rfl | rfl <;> decide
  · intro i hi
    have : i = 0 := by simp at hi; omega
    subst this; decide

end Bytes

theorem foldl_sub_spec (acked : List Rg) : ∀ (u : RS), WF u → (∀ a ∈ acked, a.s < a.e) →
    WF (acked.foldl (fun u a => Rangeset.sub u a.s a.e) u) ∧
    ∀ x, Mem (acked.foldl (fun u a => Rangeset.sub u a.s a.e) u) x ↔ (Mem u x ∧ ¬ Mem acked x) :=
  fun u hu _ => Lemmas.QuicSendPath.foldl_sub_mem acked u hu

/-- C19, send bookkeeping: a lost frame's bytes return to `unsent`, except for the ones acknowledged in the
meantime (e.g. through a retransmission). -/
theorem loss_returns_to_unsent (s : Stream) (pn st en : Int) (fin : Bool) (hse : st ≤ en)
    (hr : s.outreset.isSet = false) (hu : WF s.outunsent) (ha : WF s.outacked) :
    let s' := ackOrLossData s pn st en fin false
    s'.outacked = s.outacked ∧ WF s'.outunsent ∧
    ∀ x, Mem s'.outunsent x ↔ ((Mem s.outunsent x ∨ (st ≤ x ∧ x < en)) ∧ ¬ Mem s.outacked x) := by
  obtain ⟨h1, h2⟩ := Lemmas.QuicSendPath.ackOrLossData_sets s pn st en fin false hr
  have hspec := Lemmas.QuicSendPath.foldl_sub_mem s.outacked (Rangeset.add s.outunsent st en) (wf_add_all _ _ _ hu)
  exact ⟨h1, by rw [h2]; exact hspec.1, fun x => by rw [h2]; exact (hspec.2 x).trans (by rw [mem_add_all _ _ _ hu x])⟩

theorem ack_moves_to_acked (s : Stream) (pn st en : Int) (fin : Bool) (hse : st ≤ en)
    (hr : s.outreset.isSet = false) (hu : WF s.outunsent) (ha : WF s.outacked) :
    let s' := ackOrLossData s pn st en fin true
    (∀ x, Mem s'.outacked x ↔ (Mem s.outacked x ∨ (st ≤ x ∧ x < en))) ∧
    (∀ x, Mem s'.outunsent x ↔ (Mem s.outunsent x ∧ ¬ (st ≤ x ∧ x < en))) := by
  obtain ⟨h1, h2⟩ := Lemmas.QuicSendPath.ackOrLossData_sets s pn st en fin true hr
  exact ⟨fun x => by rw [h1]; exact mem_add_all s.outacked st en ha x,
    fun x => by rw [h2]; exact mem_sub_all s.outunsent st en hu x⟩

/-- `allAcked` is the condition under which Go's `Close` returns nil (`Close` itself is not modelled); with data
written it means that every byte of `[0, out.end)` has been acknowledged and the FIN as well. -/
theorem allAcked_means_everything (s : Stream) (ha : WF s.outacked) (hpos : 0 < s.out.stop)
    (h : s.allAcked = true) :
    s.outclosed = .received ∧ ∀ x, Mem s.outacked x ↔ (0 ≤ x ∧ x < s.out.stop) := by
  unfold Stream.allAcked at h
  simp only [Bool.and_eq_true] at h
  refine ⟨?_, (NetVerif.Proofs.C24.isrange_iff s.outacked 0 s.out.stop ha hpos).1 h.2⟩
  -- `isReceived` holds of `.received` only
  cases hc : s.outclosed
  case received => rfl
  all_goals rw [hc] at h; exact nomatch h.1

/-- `hb`: nothing sits in the fast-path write buffer, so `flushFastOutputBuffer` does not move `out.end`. -/
theorem flushLocked_adds (s : Stream) (hu : WF s.outunsent) (hfl : s.outflushed ≤ s.out.stop)
    (hb : s.outbuf = 0 ∧ s.outbufoff = 0) :
    ∀ x, Mem (flushLocked s).outunsent x ↔
      (Mem s.outunsent x ∨ (s.outflushed ≤ x ∧ x < imin s.outwin s.out.stop ∧ s.outflushed < s.outwin)) := by
  intro x
  unfold flushLocked flushFast
  simp only [hb, and_self, if_true]
  by_cases h1 : s.outflushed < s.outwin
  · simp only [h1, if_true]
    have hle : s.outflushed ≤ (if s.outwin ≤ s.out.stop then s.outwin else s.out.stop) := by split <;> omega
    rw [mem_add _ _ _ hu hle x]
    unfold imin
    exact or_congr_right ⟨fun h => ⟨h.1, h.2, trivial⟩, fun h => ⟨h.1, h.2.1⟩⟩
  · simp only [h1, if_false]
    exact (or_iff_left fun h => h.2.2).symm

theorem streamFrameFit_fin (a id off size : Int) (fin : Bool) (n : Int)
    (h : streamFrameFit a id off size fin = some (n, true)) : n = size ∧ fin = true := by
  rcases Lemmas.QuicSendPath.fit_cases h with ⟨_, _, h3⟩ | ⟨h1, h2⟩
  · exact nomatch h3
  · exact ⟨h1, h2.symm⟩

/-- Repaired code: the FIN is recorded as sent only when it is on the wire. An iteration of the STREAM loop
(`outLoop`) applies `markFin` with the FIN bit of the frame it just wrote, the bit the packet's `sentPacket` record
keeps, so the fate of that packet reaches `outclosed.ackOrLoss`. With the bit clear (`streamFrameFit_fin`: a
truncated frame, e.g. a PTO probe that did not fit) the stream is left alone, so a FIN lost earlier is still
reported lost and sent again. No statement here is about `outLoop` as a whole. -/
theorem markFin_spec (s : Stream) (wireFin : Bool) (pn : Int) :
    (wireFin = false → markFin s wireFin pn = s) ∧
    (wireFin = true → (markFin s wireFin pn).outclosed = .sent pn) ∧
    (markFin s wireFin pn).outunsent = s.outunsent ∧ (markFin s wireFin pn).outacked = s.outacked := by
  unfold markFin; cases wireFin <;> simp

theorem fin_loss_rescheduled (s : Stream) (pn st en : Int) (h : s.outclosed = .sent pn) :
    (ackOrLossData s pn st en true false).outclosed = .unsent := by
  unfold ackOrLossData
  simp only [h, SV.ackOrLoss]
  by_cases hr : s.outreset.isSet = true <;> simp [hr]

/-! PTO back-off after the handshake (repaired code): a little model of its own, not D-tied; the net tie witnesses it. -/

/-- `ptoPeriod = ptoBasePeriod << ptoBackoffCount` (loss.go), in milliseconds. -/
def ptoPeriodMs (baseMs backoff : Nat) : Nat := baseMs * 2 ^ backoff

/-- the events that move `ptoBackoffCount`: a PTO expiry, an ACK that resets it (any Handshake / 1-RTT
ACK; a client ignores Initial ACKs), and — repaired code, RFC 9002 §6.2.2 / A.4 — discarding the keys of
a packet number space. -/
inductive PtoEv where | expired | ackReset | ackIgnored | keysDiscarded
deriving DecidableEq, Repr

def ptoStep (k : Nat) : PtoEv → Nat
  | .expired => k + 1
  | .ackReset => 0
  | .ackIgnored => k
  | .keysDiscarded => 0

/-- Whatever happened during the handshake, once the Handshake keys are discarded (handshake confirmed)
the first application-data probe timeout is the base period again. -/
theorem pto_backoff_reset_on_key_discard (evs : List PtoEv) (k0 baseMs : Nat) :
    ptoPeriodMs baseMs (ptoStep (evs.foldl ptoStep k0) .keysDiscarded) = baseMs := by
  simp [ptoStep, ptoPeriodMs]

/-- Without the reset: 13 unanswered client probes during a lossy handshake and a 26 ms base period put the
first 1-RTT probe 213 s away, far beyond the 30 s default idle timeout. -/
example : ptoPeriodMs 26 ((List.replicate 13 PtoEv.expired).foldl ptoStep 0) = 212992 := by decide

section Monitor
open NetVerif.Model.QuicMonitor

theorem foldr_prepend_append {α : Type} (f : α → List Nat → List Nat)
    (hf : ∀ a x acc, f a (x ++ acc) = f a x ++ acc) (h l : List α) :
    (h ++ l).foldr f [] = h.foldr f [] ++ l.foldr f [] := by
  rw [List.foldr_append]
  induction h with
  | nil => rfl
  | cons a rest ih => rw [List.foldr_cons, List.foldr_cons, ih, hf]

theorem written_append (h l : List Ev) (s : Nat) (id : Int) :
    written (h ++ l) s id = written h s id ++ written l s id := by
  refine foldr_prepend_append _ (fun e x acc => ?_) h l
  cases e
  case write => dsimp only; split <;> simp only [List.append_assoc]
  all_goals rfl

theorem readBytes_append (h l : List Ev) (s : Nat) (id : Int) :
    readBytes (h ++ l) s id = readBytes h s id ++ readBytes l s id := by
  refine foldr_prepend_append _ (fun e x acc => ?_) h l
  cases e
  case read => dsimp only; split <;> simp only [List.append_assoc]
  all_goals rfl

def PrefixInv (h : List Ev) : Prop := ∀ s id, readBytes h s id <+: written h (peer s) id

theorem prefix_extend (rb w b : List Nat) (hp : rb <+: w) (hb : (w.drop rb.length).take b.length = b) :
    rb ++ b <+: w := by
  obtain ⟨t, rfl⟩ := hp
  rw [List.drop_left] at hb
  have := List.take_append_drop b.length t
  rw [hb] at this
  exact ⟨t.drop b.length, by rw [List.append_assoc, this]⟩

/-- Only a `read` extends `readBytes`, and the C19 clause for it says the bytes returned are the next
bytes written by the peer; a `write` only extends `written`; no other event touches either. -/
theorem prefixInv_step (h : List Ev) (e : Ev) (hi : PrefixInv h) (hk : okEv 19 h e = true) :
    PrefixInv (h ++ [e]) := by
  intro s id
  rw [readBytes_append, written_append]
  have hp := hi s id
  cases e with
  | read s' id' b =>
    show readBytes h s id ++ (if s' = s ∧ id' = id then b ++ [] else []) <+: written h (peer s) id ++ []
    simp only [List.append_nil]
    split
    · rename_i hc
      obtain ⟨rfl, rfl⟩ := hc
      exact prefix_extend _ _ _ hp (eq_of_beq hk)
    · rw [List.append_nil]; exact hp
  | write s' id' b =>
    show readBytes h s id ++ [] <+: _
    rw [List.append_nil]
    exact hp.trans (List.prefix_append _ _)
  | _ =>
    show readBytes h s id ++ [] <+: written h (peer s) id ++ []
    rw [List.append_nil, List.append_nil]
    exact hp

/-- C19, in-order delivery without duplication, at every moment of a trace the monitor accepts; the trace
constrains nothing about arrival order, loss or duplication. -/
theorem monitor_reads_prefix_of_writes (tr pre suf : List Ev) (heq : tr = pre ++ suf)
    (h : accepts 19 tr = true) (s : Nat) (id : Int) :
    readBytes pre s id <+: written pre (peer s) id :=
  NetVerif.Proofs.Lemmas.QuicMonitor.accepts_invariant 19 PrefixInv (fun _ _ => List.prefix_refl _)
    prefixInv_step tr pre suf heq h s id

/-- The other clauses of the C19 monitor: EOF only after the writer closed and with `|W|` bytes read; `Close`
returned nil only after the peer had received `[0,|W|)` and a FIN; `.fin` (the harness declares the network
quiescent): every cleanly closed stream, not reset and not read-closed, has been read completely and ended with
EOF; STREAM frames carry only bytes that were written, and FIN only at `|W|` after the close. -/
theorem monitor_sound (tr : List Ev) (h : accepts 19 tr = true) :
    (∀ pre suf s id, tr = pre ++ .eof s id :: suf →
        wclosed pre (peer s) id = true ∧ (readBytes pre s id).length = (written pre (peer s) id).length) ∧
    (∀ pre suf s id, tr = pre ++ .closeok s id :: suf →
        wclosed pre s id = true ∧ rxFin pre (peer s) id = true ∧
        ((written pre s id).length = 0 ∨
          Rangeset.isrange (rxSet pre (peer s) id) 0 (written pre s id).length = true)) ∧
    (∀ pre suf, tr = pre ++ .fin :: suf → deliveredAll pre 0 = true ∧ deliveredAll pre 1 = true) ∧
    (∀ pre suf s id (off len : Int) fin, tr = pre ++ .txStream s id off len fin :: suf →
        off + len ≤ (written pre s id).length ∧
        (fin = true → wclosed pre s id = true ∧ off + len = (written pre s id).length)) := by
  have hall := (NetVerif.Proofs.Lemmas.QuicMonitor.accepts_iff 19 tr).1 h
  refine ⟨?_, ?_, ?_, ?_⟩
  · exact fun pre suf s id heq => by simpa [okEv] using hall pre _ suf heq
  · exact fun pre suf s id heq => by simpa [okEv, and_assoc] using hall pre _ suf heq
  · exact fun pre suf heq => by simpa [okEv] using hall pre _ suf heq
  · intro pre suf s id off len fin heq
    have : (0 ≤ off ∧ 0 ≤ len) ∧ off + len ≤ (written pre s id).length ∧
        (fin = false ∨ wclosed pre s id = true ∧ off + len = (written pre s id).length) := by
      simpa [okEv] using hall pre _ suf heq
    exact ⟨this.2.1, fun hf => this.2.2.resolve_left (by simp [hf])⟩

/-- non-vacuity: a complete little transfer with a retransmission is accepted … -/
example : accepts 19
    [.init 0 100 50, .init 1 100 50, .write 0 2 [7, 8, 9], .wclose 0 2, .txStream 0 2 0 3 true,
     .txStream 0 2 0 3 true, .rxStream 1 2 0 3 true, .read 1 2 [7, 8], .read 1 2 [9], .eof 1 2,
     .closeok 0 2, .fin] = true := by decide
/-- … a reordered or duplicated byte at the reader is not. -/
example : accepts 19 [.write 0 2 [7, 8, 9], .read 1 2 [8]] = false := by decide
example : accepts 19 [.write 0 2 [7, 8, 9], .read 1 2 [7], .read 1 2 [7]] = false := by decide
example : accepts 19 [.write 0 2 [7], .wclose 0 2, .eof 1 2] = false := by decide

end Monitor

end NetVerif.Proofs.C19
