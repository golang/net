import NetVerif.Proofs.C16Parse
/-!
C07, first clause ("ReadFrame never panics") as a theorem about a CHECKED twin.

`Model/H2FrameParse.lean` (C16) restates the eleven payload parsers with checked slice/index
primitives (`none` = Go panic), and `C16Parse.ck_parseFrame` says that each returns `some` of exactly
what the pattern-matching C06/C07 parser returns. `readFrameCk` puts `ReadFrame` (size limit,
`checkFrameOrder` state, payload cut) around the checked parsers; everything here is read off
`readFrameCk_eq`.
-/
namespace NetVerif.Proofs.C07
open NetVerif NetVerif.Model.H2Frame
open NetVerif.Model

/-- `ck_parseFrame`, which holds of all eleven types, stated for those other than SETTINGS, PUSH_PROMISE,
WINDOW_UPDATE, PRIORITY_UPDATE: `h` is not used. -/
theorem checked_eq_model_partial (fh : FrameHeader) (p : List Nat)
    (h : fh.type ∉ [frameSettings, framePushPromise, frameWindowUpdate, framePriorityUpdate]) :
    H2FrameParse.parseFrame fh p = some (parseFrame fh p) :=
  ck_parseFrame fh p

/-- `Framer.ReadFrame` as `readFrame`, with the payload handed to the CHECKED parsers: `none` = a Go
panic (out-of-range slice or index) somewhere in the call. -/
def readFrameCk (fr : Framer) (bs : List Nat) : Option ReadResult :=
  match bs with
  | [] => some ⟨.error .eof, none, fr, []⟩
  | b0 :: b1 :: b2 :: t :: fl :: s0 :: s1 :: s2 :: s3 :: body =>
    let fh := decodeHeader b0 b1 b2 t fl s0 s1 s2 s3
    if fh.length > fr.maxReadSize then some ⟨.error .frameTooLarge, none, fr, body⟩
    else match checkFrameOrder fr.lastHeaderStream fh with
      | .error e => some ⟨.error e, none, fr, body⟩
      | .ok last' =>
        if body.length < fh.length then
          some ⟨.error (if body.isEmpty then .eof else .unexpectedEOF), some fh, { fr with lastHeaderStream := last' }, []⟩
        else (H2FrameParse.parseFrame fh (body.take fh.length)).map fun r =>
          ⟨r, some fh, { fr with lastHeaderStream := last' }, body.drop fh.length⟩
  | _ => some ⟨.error .unexpectedEOF, none, fr, []⟩

theorem readFrameCk_eq (fr : Framer) (bs : List Nat) : readFrameCk fr bs = some (readFrame fr bs) := by
  match bs with
  | b0 :: b1 :: b2 :: t :: fl :: s0 :: s1 :: s2 :: s3 :: body =>
    simp only [readFrameCk, readFrame]
    split
    · rfl
    cases checkFrameOrder fr.lastHeaderStream _ with
    | error e => rfl
    | ok last' =>
      dsimp only
      split
      · rfl
      · rw [ck_parseFrame]
        rfl
  | [] | [_] | [_, _] | [_, _, _] | [_, _, _, _] | [_, _, _, _, _] | [_, _, _, _, _, _]
  | [_, _, _, _, _, _, _] | [_, _, _, _, _, _, _, _] => rfl

theorem readFrameCk_shape (fr : Framer) (bs : List Nat) :
    ∃ res, readFrameCk fr bs = some ⟨res, (readFrame fr bs).hdr, (readFrame fr bs).fr, (readFrame fr bs).rest⟩ :=
  ⟨_, readFrameCk_eq fr bs⟩

theorem readFrameCk_agrees (fr : Framer) (bs : List Nat) (r : ReadResult) (h : readFrameCk fr bs = some r) :
    r.hdr = (readFrame fr bs).hdr ∧ r.fr = (readFrame fr bs).fr ∧ r.rest = (readFrame fr bs).rest := by
  cases (readFrameCk_eq fr bs).symm.trans h
  exact ⟨rfl, rfl, rfl⟩

/-- `readFrameCk_eq` on a complete header, for the types of `checked_eq_model_partial`. -/
theorem readFrameCk_eq_readFrame_partial (fr : Framer) (b0 b1 b2 t fl s0 s1 s2 s3 : Nat) (body : List Nat)
    (ht : t ∉ [frameSettings, framePushPromise, frameWindowUpdate, framePriorityUpdate]) :
    readFrameCk fr (b0 :: b1 :: b2 :: t :: fl :: s0 :: s1 :: s2 :: s3 :: body)
      = some (readFrame fr (b0 :: b1 :: b2 :: t :: fl :: s0 :: s1 :: s2 :: s3 :: body)) :=
  readFrameCk_eq fr _

/-- C07, first clause: for ANY byte stream, ANY `SetMaxReadFrameSize` and ANY HEADERS/CONTINUATION
state, `ReadFrame` performs no out-of-range slice or index (no panic). -/
theorem readFrame_never_panics (fr : Framer) (bs : List Nat) : readFrameCk fr bs ≠ none := by
  rw [readFrameCk_eq]
  nofun

/-- `remainSize -= size` in the emit callback cannot wrap below zero (it runs only after
`size > remainSize` was found false), and `Fields` only grows by `append`: the header-list
assembly of `readMetaFrame` indexes and slices nothing. The fragments themselves are handed whole
to `hdec.Write` (the decoder's own no-panic statement is C02/C03's). -/
theorem metaEmit_remain_no_underflow (st : MetaState) (f : Field) :
    (metaEmit st f).remainSize ≤ st.remainSize ∧
    ((metaEmit st f).fields = st.fields ∨
      ((metaEmit st f).fields = st.fields ++ [f] ∧ f.size ≤ st.remainSize ∧
       (metaEmit st f).remainSize + f.size = st.remainSize)) := by
  unfold metaEmit
  split
  · exact ⟨Nat.le_refl _, .inl rfl⟩
  split
  · exact ⟨Nat.le_refl _, .inl rfl⟩
  split
  · exact ⟨Nat.zero_le _, .inl rfl⟩
  · rename_i hsz
    exact ⟨by simp only; omega, .inr ⟨rfl, by omega, by simp only; omega⟩⟩

end NetVerif.Proofs.C07
