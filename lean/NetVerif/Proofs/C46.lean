import NetVerif.Model.WebdavCopyMove
import NetVerif.Proofs.Lemmas.FS
import NetVerif.Proofs.Lemmas.IfCases
/-!
C46 — WebDAV COPY and MOVE never destroy their source.

Model: `WebdavCopyMove.handle` (= `Handler.handleCopyMove` ∘ `copyFiles`/`moveFiles` over the
`memFS` model), for an arbitrary lock gate, prefix, tree and request.  `copy_holds` and `move_holds` are the
property at full strength.  They rest on `handle_cases` (a request is refused with the tree untouched, or reaches
`copyFiles` / `moveFiles` only past the overlap test and the lock check), `copyFiles_outside` (copyFiles writes
only at or below its destination) and `moveFiles_partial` (a non-overlapping MOVE moves the subtree as a whole or
leaves it).  `regress_*` are the requests that destroyed (part of) their source until the `fix:` commit of /repo
("webdav: COPY/MOVE compared source and destination textually"); they are also in `corpus/C46/findings.ops`.
-/
namespace NetVerif.Proofs.C46
open NetVerif.Model.FS NetVerif.Model.WebdavCopyMove NetVerif.Proofs.Lemmas.FS

theorem removeAll_ok {t t1 : Tree} {d : Path} (h : Mem.removeAll t d = .ok t1) :
    t1 = t ∨ t1 = outside d t := by
  unfold Mem.removeAll at h
  split at h
  · cases h; exact .inl rfl
  · cases h
  · split at h <;> cases h
    exact .inr rfl

theorem removeAll_outside {t t1 : Tree} {d d0 : Path} (h : Mem.removeAll t d = .ok t1)
    (hd : under d0 d = true) : outside d0 t1 = outside d0 t := by
  rcases removeAll_ok h with rfl | rfl
  · rfl
  · exact outside_outside_of_under hd t

theorem mkdir_outside {t t1 : Tree} {d d0 : Path} (h : Mem.mkdir t d = .ok t1)
    (hd : under d0 d = true) : outside d0 t1 = outside d0 t := by
  unfold Mem.mkdir at h
  split at h
  · cases h
  · split at h
    · cases h
    · split at h
      · cases h
      · cases h; exact outside_snoc_under hd _ _

theorem openFile_outside {t t1 : Tree} {d d0 : Path} {f : Mem.Flags} {info : Mem.OpenInfo}
    (h : Mem.openFile t d f = .ok (t1, info)) (hd : under d0 d = true) :
    outside d0 t1 = outside d0 t := by
  unfold Mem.openFile at h
  cases hw : Mem.walk t d with
  | error e => rw [hw] at h; cases h
  | ok u =>
    rw [hw] at h
    rcases Lemmas.ite_cases h with ⟨_, h⟩ | ⟨_, h⟩
    · rcases Lemmas.ite_cases h with ⟨_, h⟩ | ⟨_, h⟩
      · cases h
      · cases h; rfl
    · rcases Lemmas.ite_cases h with ⟨_, h⟩ | ⟨_, h⟩
      · cases h
      cases hg : get t d with
      | none =>
        rw [hg] at h
        rcases Lemmas.ite_cases h with ⟨_, h⟩ | ⟨_, h⟩
        · cases h; exact outside_snoc_under hd _ _
        · cases h
      | some e =>
        rw [hg] at h
        cases e with
        | dir => cases h; rfl
        | file data =>
          rcases Lemmas.ite_cases h with ⟨_, h⟩ | ⟨_, h⟩
          · cases h; exact outside_setEntry hd _ _
          · cases h; rfl

theorem copyPre_outside {t t1 : Tree} {d d0 : Path} {ow c : Bool} (h : copyPre t d ow = .ok (t1, c))
    (hd : under d0 d = true) : outside d0 t1 = outside d0 t := by
  unfold copyPre at h
  split at h
  · split at h
    · cases h; rfl
    · cases h
  · split at h
    · cases h
    · split at h
      · split at h
        · cases h; rfl
        · cases h
      · rename_i hr
        cases h; exact removeAll_outside hr hd

theorem copyFileTo_outside (t1 : Tree) (d d0 : Path) (data : List Nat) (done : Nat)
    (hd : under d0 d = true) : outside d0 (copyFileTo t1 d data done).1 = outside d0 t1 := by
  unfold copyFileTo
  split
  · rfl
  · rename_i t2 info h
    have h2 := openFile_outside h hd
    split
    · exact h2
    · split
      · exact h2
      · simp only; rw [outside_setEntry hd]; exact h2

theorem copyKids_outside (step : Tree → Name → Tree × Nat) (d0 : Path)
    (hstep : ∀ t c, outside d0 (step t c).1 = outside d0 t) (t : Tree) (cs : List Name) :
    outside d0 (copyKids step t cs).1 = outside d0 t := by
  induction cs generalizing t with
  | nil => rfl
  | cons c cs ih =>
    simp only [copyKids]
    split
    · rw [ih]; exact hstep t c
    · exact hstep t c

theorem copyFiles_outside (fuel : Nat) (t : Tree) (s d : Path) (ow inf : Bool) (d0 : Path)
    (hd : under d0 d = true) : outside d0 (copyFiles fuel t s d ow inf).1 = outside d0 t := by
  induction fuel generalizing t s d with
  | zero => rfl
  | succ n ih =>
    unfold copyFiles
    cases Mem.openFile t s Mem.rdonly with
    | error e => rfl
    | ok r =>
      obtain ⟨_, src⟩ := r
      cases hpre : copyPre t d ow with
      | error st => rfl
      | ok r1 =>
        obtain ⟨t1, created⟩ := r1
        have h1 := copyPre_outside hpre hd
        dsimp only
        cases src.isDir with
        | false => exact (copyFileTo_outside _ _ _ _ _ hd).trans h1
        | true =>
          rw [if_pos rfl]
          cases hmk : Mem.mkdir t1 d with
          | error e => exact h1
          | ok t2 =>
            have h2 := (mkdir_outside hmk hd).trans h1
            cases inf with
            | false => exact h2
            | true =>
              have hk := copyKids_outside (fun t' c => copyFiles n t' (s ++ [c]) (d ++ [c]) ow true) d0
                (fun t' c => ih t' _ _ (under_trans hd (under_append d [c]))) t2 src.kids
              dsimp only
              rw [if_pos rfl]
              generalize copyKids _ _ _ = x at hk ⊢
              rcases x with ⟨t3, _ | st⟩ <;> exact hk.trans h2

abbrev Handler := Gate → List Nat → Tree → Req → Tree × Nat

/-- What "the source resource and its descendants" means for source `S` and destination `D`
(cleaned): the entries at or below `S`; when `D` lies strictly inside `S`, the destination
subtree — which the client asked to create or overwrite — is left out. -/
def srcView (S D : Path) (t : Tree) : Tree :=
  if under D S then sub t S else sub (outside D t) S

/-- C46, COPY, full strength: whatever the Destination header, lock state, prefix and tree,
the source resource and its descendants are unchanged afterwards. -/
def CopyStatement (hdl : Handler) : Prop :=
  ∀ (gate : Gate) (pre : List Nat) (t : Tree) (r : Req) (host : HostClass) (dpath src dst : List Nat),
    r.isMove = false → r.dest = .parsed host dpath →
    stripPrefix pre r.path = some src → stripPrefix pre dpath = some dst →
    srcView (clean src) (clean dst) (hdl gate pre t r).1 = srcView (clean src) (clean dst) t

/-- C46, MOVE, full strength: the source is left intact, or it is gone and sits intact at
the destination. -/
def MoveStatement (hdl : Handler) : Prop :=
  ∀ (gate : Gate) (pre : List Nat) (t : Tree) (r : Req) (host : HostClass) (dpath src dst : List Nat),
    r.isMove = true → r.dest = .parsed host dpath →
    stripPrefix pre r.path = some src → stripPrefix pre dpath = some dst →
    sub (hdl gate pre t r).1 (clean src) = sub t (clean src) ∨
    (sub (hdl gate pre t r).1 (clean src) = [] ∧
     sub (hdl gate pre t r).1 (clean dst) = rebase (clean src) (clean dst) (sub t (clean src)))

/-- Where the handler refuses a COPY with 403: the destination resolves to the source or to an
ancestor of it.  `handle_overlap_refused` says so with the two regions written out; `copy_holds` needs
no exclusion. -/
def copyRegion (S D : Path) : Bool := under D S

/-- Where the handler refuses a MOVE with 403: source and destination resolve to the same resource,
or one contains the other. -/
def moveRegion (S D : Path) : Bool := under D S || under S D

theorem srcView_of_incomparable {S D : Path} (h1 : under D S = false) (h2 : under S D = false) (t : Tree) :
    srcView S D t = sub t S := by
  simp [srcView, h1, sub_outside_incomparable h1 h2]

theorem handle_no_destination (gate : Gate) (pre : List Nat) (t : Tree) (r : Req)
    (h : r.dest = .absent ∨ r.dest = .invalid) : handle gate pre t r = (t, 400) := by
  unfold handle; rcases h with h | h <;> rw [h]

theorem handle_other_host (gate : Gate) (pre : List Nat) (t : Tree) (r : Req) (p : List Nat)
    (h : r.dest = .parsed .other p) : handle gate pre t r = (t, 502) := by
  unfold handle; rw [h]; simp

theorem handle_prefix_mismatch (gate : Gate) (pre : List Nat) (t : Tree) (r : Req) (host : HostClass)
    (p : List Nat) (h : r.dest = .parsed host p)
    (hs : stripPrefix pre r.path = none ∨ stripPrefix pre p = none) : (handle gate pre t r).1 = t := by
  unfold handle; rw [h]
  rcases hs with hs | hs
  · simp only [hs, apply_ite Prod.fst, ite_self]
  · cases stripPrefix pre r.path <;> simp only [hs, apply_ite Prod.fst, ite_self]

theorem handle_textually_equal (gate : Gate) (pre : List Nat) (t : Tree) (r : Req) (host : HostClass)
    (p src : List Nat) (h : r.dest = .parsed host p) (hh : host ≠ .other) (hne : src ≠ [])
    (hs : stripPrefix pre r.path = some src) (hd : stripPrefix pre p = some src) :
    handle gate pre t r = (t, 403) := by
  unfold handle; rw [h]; simp [hh, hs, hd, hne]

theorem handle_cases (gate : Gate) (pre : List Nat) (t : Tree) {r : Req} {host : HostClass}
    {dpath src dst : List Nat} (hdest : r.dest = .parsed host dpath)
    (hs : stripPrefix pre r.path = some src) (hd : stripPrefix pre dpath = some dst) :
    (handle gate pre t r).1 = t ∨
    (r.isMove = false ∧ under (clean dst) (clean src) = false ∧ gate false [] dst r.ifTokens = none ∧
      ∃ ow inf, handle gate pre t r = copyFiles 1000 t (clean src) (clean dst) ow inf) ∨
    (r.isMove = true ∧ under (clean dst) (clean src) = false ∧ under (clean src) (clean dst) = false ∧
      gate true src dst r.ifTokens = none ∧
      ∃ ow, handle gate pre t r = moveFiles t (clean src) (clean dst) ow) := by
  generalize hres : handle gate pre t r = res
  unfold handle at hres
  rw [hdest] at hres
  simp only [hs, hd] at hres
  rcases Lemmas.ite_cases hres with ⟨_, rfl⟩ | ⟨_, hres⟩
  · exact .inl rfl
  rcases Lemmas.ite_cases hres with ⟨_, rfl⟩ | ⟨_, hres⟩
  · exact .inl rfl
  rcases Lemmas.ite_cases hres with ⟨_, rfl⟩ | ⟨_, hres⟩
  · exact .inl rfl
  rcases Lemmas.ite_cases hres with ⟨_, rfl⟩ | ⟨hreg, hres⟩
  · exact .inl rfl
  have h1 : under (clean dst) (clean src) = false := Bool.eq_false_iff.2 fun h => hreg (.inl h)
  cases hm : r.isMove
  case false =>
    simp only [hm, Bool.not_false, if_true] at hres
    cases hg : gate false [] dst r.ifTokens
    case some => rw [hg] at hres; subst hres; exact .inl rfl
    rw [hg] at hres
    rcases Lemmas.ite_cases hres with ⟨_, rfl⟩ | ⟨_, hres⟩
    · exact .inl rfl
    · exact .inr (.inl ⟨rfl, h1, rfl, _, _, hres.symm⟩)
  case true =>
    have h2 : under (clean src) (clean dst) = false := Bool.eq_false_iff.2 fun h => hreg (.inr ⟨hm, h⟩)
    simp only [hm, Bool.not_true, Bool.false_eq_true, if_false] at hres
    cases hg : gate true src dst r.ifTokens
    case some => rw [hg] at hres; subst hres; exact .inl rfl
    rw [hg] at hres
    rcases Lemmas.ite_cases hres with ⟨_, rfl⟩ | ⟨_, hres⟩
    · exact .inl rfl
    · exact .inr (.inr ⟨rfl, h1, h2, rfl, _, hres.symm⟩)

theorem handle_locked (gate : Gate) (pre : List Nat) (t : Tree) (r : Req) (host : HostClass)
    (p src dst : List Nat) (st : Nat) (h : r.dest = .parsed host p)
    (hs : stripPrefix pre r.path = some src) (hd : stripPrefix pre p = some dst)
    (hg : gate r.isMove (if r.isMove then src else []) dst r.ifTokens = some st) :
    (handle gate pre t r).1 = t := by
  rcases handle_cases gate pre t h hs hd with h | ⟨hm, _, hn, _⟩ | ⟨hm, _, _, hn, _⟩
  · exact h
  · rw [hm, if_neg Bool.false_ne_true, hn] at hg; cases hg
  · rw [hm, if_pos rfl, hn] at hg; cases hg

/-- The handler refuses (403 or an earlier status) every request in its region, leaving the tree alone; `hreg` is
`copyRegion` for a COPY and `moveRegion` for a MOVE, written out. -/
theorem handle_overlap_refused (gate : Gate) (pre : List Nat) (t : Tree) (r : Req) (host : HostClass)
    (dpath src dst : List Nat) (hdest : r.dest = .parsed host dpath)
    (hs : stripPrefix pre r.path = some src) (hd : stripPrefix pre dpath = some dst)
    (hreg : under (clean dst) (clean src) = true ∨ (r.isMove = true ∧ under (clean src) (clean dst) = true)) :
    (handle gate pre t r).1 = t := by
  rcases handle_cases gate pre t hdest hs hd with h | ⟨hm, h1, _⟩ | ⟨_, h1, h2, _⟩
  · exact h
  · rcases hreg with h | ⟨h, _⟩
    · rw [h1] at h; cases h
    · rw [hm] at h; cases h
  · rcases hreg with h | ⟨_, h⟩
    · rw [h1] at h; cases h
    · rw [h2] at h; cases h

theorem copy_outside (gate : Gate) (pre : List Nat) (t : Tree) {r : Req} {host : HostClass}
    {dpath src dst : List Nat} (hm : r.isMove = false) (hdest : r.dest = .parsed host dpath)
    (hs : stripPrefix pre r.path = some src) (hd : stripPrefix pre dpath = some dst) :
    (handle gate pre t r).1 = t ∨ (under (clean dst) (clean src) = false ∧
      outside (clean dst) (handle gate pre t r).1 = outside (clean dst) t) := by
  rcases handle_cases gate pre t hdest hs hd with h | ⟨_, h1, _, ow, inf, h⟩ | ⟨hm', _⟩
  · exact .inl h
  · exact .inr ⟨h1, by rw [h, copyFiles_outside _ _ _ _ _ _ _ (under_refl _)]⟩
  · rw [hm] at hm'; cases hm'

theorem copy_holds : CopyStatement handle := by
  intro gate pre t r host dpath src dst hm hdest hs hd
  rcases copy_outside gate pre t hm hdest hs hd with h | ⟨h1, h⟩
  · rw [h]
  · simp only [srcView, h1, Bool.false_eq_true, if_false, h]

theorem movePre_sub {t t1 : Tree} {S D : Path} {ow c : Bool} (h : movePre t D ow = .ok (t1, c))
    (h1 : under D S = false) (h2 : under S D = false) : sub t1 S = sub t S := by
  unfold movePre at h
  split at h
  · split at h <;> cases h
    rfl
  · split at h
    · split at h
      · cases h
      · rename_i hr
        cases h
        rcases removeAll_ok hr with rfl | rfl
        · rfl
        · exact sub_outside_incomparable h1 h2 t
    · cases h

theorem rename_ok {t t2 : Tree} {S D : Path} (h : Mem.rename t S D = .ok t2) (hne : S ≠ D) :
    t2 = outside D (outside S t) ++ rebase S D (sub t S) := by
  unfold Mem.rename at h
  rcases Lemmas.ite_cases h with ⟨_, h⟩ | ⟨_, h⟩
  · cases h
  cases hwa : Mem.walk t S with
  | error e => rw [hwa] at h; cases h
  | ok u =>
    rw [hwa] at h
    rcases Lemmas.ite_cases h with ⟨_, h⟩ | ⟨_, h⟩
    · cases h
    cases hwb : Mem.walk t D with
    | error e => rw [hwb] at h; cases h
    | ok u' =>
      rw [hwb] at h
      rcases Lemmas.ite_cases h with ⟨_, h⟩ | ⟨_, h⟩
      · cases h
      cases hga : get t S with
      | none => rw [hga] at h; cases h
      | some ea =>
        rw [hga] at h
        rcases Lemmas.ite_cases h with ⟨hab, _⟩ | ⟨_, h⟩
        · exact absurd hab hne
        dsimp only at h
        split at h
        · cases h
        · cases h; rfl

theorem moveFiles_partial (t : Tree) (S D : Path) (ow : Bool)
    (h1 : under D S = false) (h2 : under S D = false) :
    sub (moveFiles t S D ow).1 S = sub t S ∨
    (sub (moveFiles t S D ow).1 S = [] ∧ sub (moveFiles t S D ow).1 D = rebase S D (sub t S)) := by
  have hne : S ≠ D := by
    intro h; rw [h, under_refl] at h1; cases h1
  unfold moveFiles
  split
  · left; rfl
  · rename_i t1 created hpre
    have hsub := movePre_sub hpre h1 h2
    split
    · left; exact hsub
    · rename_i t2 hr
      right
      simp only
      rw [rename_ok hr hne, sub_append, sub_append]
      refine ⟨?_, ?_⟩
      · rw [sub_outside_incomparable h1 h2, sub_outside_self, sub_rebase_incomparable h1 h2]; rfl
      · rw [sub_outside_self, sub_rebase_dst, hsub]; rfl

theorem move_holds : MoveStatement handle := by
  intro gate pre t r host dpath src dst hm hdest hs hd
  rcases handle_cases gate pre t hdest hs hd with h | ⟨hm', _⟩ | ⟨_, h1, h2, _, ow, h⟩
  · rw [h]; exact .inl rfl
  · rw [hm] at hm'; cases hm'
  · rw [h]; exact moveFiles_partial _ _ _ _ h1 h2

/-- A gate that always confirms. -/
def openGate : Gate := fun _ _ _ _ => none

/-- `/a` (collection) with one member `/a/x`. -/
def treeA : Tree := [([[97]], .dir), ([[97], [120]], .file [1])]

/-- `COPY /a`, `Destination: /a/` (same resource, different spelling). -/
def copyEquivReq : Req :=
  { isMove := false, path := [47, 97], dest := .parsed .none [47, 97, 47],
    overwrite := .absent, depth := .absent, ifTokens := none }

/-- `COPY /a/x`, `Destination: /a` (an ancestor of the source). -/
def copyAncestorReq : Req :=
  { isMove := false, path := [47, 97, 47, 120], dest := .parsed .none [47, 97],
    overwrite := .absent, depth := .absent, ifTokens := none }

/-- `MOVE /a/x`, `Destination: /a`, `Overwrite: T`. -/
def moveAncestorReq : Req :=
  { isMove := true, path := [47, 97, 47, 120], dest := .parsed .none [47, 97],
    overwrite := .t, depth := .absent, ifTokens := none }

/-- `MOVE /a`, `Destination: /a/`, `Overwrite: T`, `If: (<token 0>)`. -/
def moveEquivReq : Req :=
  { isMove := true, path := [47, 97], dest := .parsed .none [47, 97, 47],
    overwrite := .t, depth := .absent, ifTokens := some [0] }

/-- `MOVE /a`, `Destination: /a/x`, `Overwrite: T` (destination inside the source). -/
def moveInsideReq : Req :=
  { isMove := true, path := [47, 97], dest := .parsed .none [47, 97, 47, 120],
    overwrite := .t, depth := .absent, ifTokens := none }

/-- Unfixed handler: 404 with `/a/x` gone. -/
theorem regress_copy_equivalent : handle (memGate []) [] treeA copyEquivReq = (treeA, 403) := by decide +kernel
/-- Unfixed handler: 204 with `/a` replaced by its former member. -/
theorem regress_copy_ancestor : handle (memGate []) [] treeA copyAncestorReq = (treeA, 403) := by decide +kernel
/-- Unfixed handler: 403 with `/a` and `/a/x` gone. -/
theorem regress_move_ancestor : handle (memGate []) [] treeA moveAncestorReq = (treeA, 403) := by decide +kernel
/-- Unfixed handler: 204 with `/a` gone. -/
theorem regress_move_equivalent :
    handle (memGate [some ⟨[[97]], false⟩]) [] treeA moveEquivReq = (treeA, 403) := by decide +kernel
/-- Unfixed handler: 403 with `/a/x` deleted. -/
theorem regress_move_inside : handle (memGate []) [] treeA moveInsideReq = (treeA, 403) := by decide +kernel

/-- COPY into the source's own subtree stays possible (RFC 4918 allows it): everything of the source
except the destination is untouched. -/
example : handle (memGate []) [] treeA
    { isMove := false, path := [47, 97], dest := .parsed .none [47, 97, 47, 121], overwrite := .absent,
      depth := .zero, ifTokens := none }
    = ([([[97]], .dir), ([[97], [120]], .file [1]), ([[97], [121]], .dir)], 201) := by decide +kernel

/-- `COPY /a → /b` (Depth infinity): 201 and `/a`, `/a/x` are still there, with a copy below `/b`. -/
example : handle (memGate []) [] treeA
    { isMove := false, path := [47, 97], dest := .parsed .none [47, 98], overwrite := .absent,
      depth := .absent, ifTokens := none }
    = ([([[97]], .dir), ([[97], [120]], .file [1]), ([[98]], .dir), ([[98], [120]], .file [1])], 201) := by
  decide +kernel

example : copyRegion (clean [47, 97]) (clean [47, 98]) = false := by decide
example : moveRegion (clean [47, 97]) (clean [47, 98]) = false := by decide
example : copyRegion (clean [47, 97]) (clean [47, 97, 47]) = true := by decide
example : copyRegion (clean [47, 97, 47, 120]) (clean [47, 46, 47, 97]) = true := by decide

/-- `MOVE /a → /b`: 201, the subtree now sits below `/b`. -/
example : handle (memGate []) [] treeA
    { isMove := true, path := [47, 97], dest := .parsed .none [47, 98], overwrite := .absent,
      depth := .absent, ifTokens := none }
    = ([([[98]], .dir), ([[98], [120]], .file [1])], 201) := by
  decide +kernel

end NetVerif.Proofs.C46
