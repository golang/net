import NetVerif.Proofs.Lemmas.RangesetBounds
import NetVerif.Proofs.Lemmas.Fold
/-! C24: `rangeset[int64]` (quic/rangeset.go) behaves exactly like a set of integers. The representation
invariant is `Chain b l`, with the end of the predecessor as a parameter, so that one induction over the
list serves each operation; `sub` is compared with a plain recursion `subS` first. -/
namespace NetVerif.Proofs.C24
open NetVerif.Model.Rangeset

def Mem (l : RS) (x : Int) : Prop := ∃ r ∈ l, r.s ≤ x ∧ x < r.e

/-- Every range is non-empty and starts strictly after `b`, the end of its
predecessor: sorted, pairwise disjoint, non-adjacent. -/
def Chain (b : Int) : List Rg → Prop
  | [] => True
  | r :: rest => b < r.s ∧ r.s < r.e ∧ Chain r.e rest

def WF (l : RS) : Prop := ∃ b, Chain b l

@[simp] theorem mem_nil (x : Int) : Mem [] x ↔ False := by simp [Mem]

@[simp] theorem mem_cons (r : Rg) (l : RS) (x : Int) :
    Mem (r :: l) x ↔ ((r.s ≤ x ∧ x < r.e) ∨ Mem l x) := by simp [Mem]

theorem chain_mono {b b' : Int} {l : RS} (h : Chain b l) (hb : b' ≤ b) : Chain b' l := by
  cases l with
  | nil => trivial
  | cons r rest => exact ⟨by have := h.1; omega, h.2.1, h.2.2⟩

theorem chain_bound_of_mem {b : Int} {l : RS} (h : Chain b l) {r : Rg} (hr : r ∈ l) : b < r.s ∧ r.s < r.e := by
  induction l generalizing b with
  | nil => simp at hr
  | cons q rest ih =>
    rcases List.mem_cons.1 hr with h1 | h1
    · subst h1; exact ⟨h.1, h.2.1⟩
    · have := ih h.2.2 h1; have := h.1; have := h.2.1; omega

theorem chain_lt_of_mem {b : Int} {l : RS} (h : Chain b l) {x : Int} (hx : Mem l x) : b < x := by
  obtain ⟨r, hr, h1, _⟩ := hx
  have := (chain_bound_of_mem h hr).1
  omega

theorem chain_head_le {b : Int} {q : Rg} {l : RS} (h : Chain b (q :: l)) {x : Int} (hx : Mem (q :: l) x) : q.s ≤ x := by
  rcases (mem_cons q l x).1 hx with h1 | h1
  · omega
  · have := chain_lt_of_mem h.2.2 h1; have := h.2.1; omega

theorem wf_cons_iff (r : Rg) (rest : RS) : WF (r :: rest) ↔ r.s < r.e ∧ Chain r.e rest := by
  constructor
  · rintro ⟨b, h⟩; exact ⟨h.2.1, h.2.2⟩
  · rintro ⟨h1, h2⟩; exact ⟨r.s - 1, by omega, h1, h2⟩

theorem removeranges_one (a : Rg) (rest : RS) (k : Nat) :
    removeranges (a :: rest) 1 (1 + k) = a :: rest.drop k := by
  rw [Lemmas.RangesetBounds.removeranges_eq, Nat.add_comm]
  rfl

/-- `lo` is the start of the range whose end `e` is being pushed over `rest`, and `b` the end of the range it was
merged with, under which `rest` is a chain: the merged range `[lo, new end)` and what is left of `rest` hold
together what `[lo, e)` and `rest` held. -/
theorem coalesce_spec (rest : RS) : ∀ (b e lo : Int), Chain b rest → lo ≤ b → b ≤ e →
    e ≤ (coalesce e rest).1 ∧ Chain (coalesce e rest).1 (rest.drop (coalesce e rest).2) ∧
    ∀ x, ((lo ≤ x ∧ x < (coalesce e rest).1) ∨ Mem (rest.drop (coalesce e rest).2) x) ↔
         ((lo ≤ x ∧ x < e) ∨ Mem rest x) := by
  induction rest with
  | nil => intro b e lo _ _ _; exact ⟨Int.le_refl e, trivial, fun _ => Iff.rfl⟩
  | cons r rest ih =>
    intro b e lo hc hlo hbe
    obtain ⟨h1, h2, h3⟩ := hc
    unfold coalesce
    by_cases hge : e ≥ r.s
    · simp only [hge, if_true, List.drop_succ_cons]
      generalize he' : (if r.e > e then r.e else e) = e'
      have hE : e ≤ e' ∧ r.e ≤ e' ∧ (e' = r.e ∨ e' = e) := by
        subst he'; split <;> omega
      obtain ⟨i1, i2, i3⟩ := ih r.e e' lo h3 (by omega) (by omega)
      refine ⟨by omega, i2, fun x => ?_⟩
      rw [i3 x, mem_cons]
      by_cases hM : Mem rest x
      · simp only [hM, or_true]
      · simp only [hM, or_false]
        omega
    · simp only [hge, if_false, List.drop_zero]
      exact ⟨Int.le_refl e, ⟨by omega, h2, h3⟩, fun _ => trivial⟩

theorem addLoop_spec (l : RS) : ∀ (b st en : Int), Chain b l → b < st → st < en →
    Chain b (addLoop st en l) ∧
    ∀ x, Mem (addLoop st en l) x ↔ (Mem l x ∨ (st ≤ x ∧ x < en)) := by
  induction l with
  | nil =>
    intro b st en _ hb hse
    exact ⟨⟨hb, hse, trivial⟩, fun x => by simp [addLoop]⟩
  | cons r rest ih =>
    intro b st en hc hb hse
    obtain ⟨h1, h2, h3⟩ := hc
    unfold addLoop
    by_cases c1 : r.s > en
    · rw [if_pos c1]
      refine ⟨⟨hb, hse, by omega, h2, h3⟩, fun x => ?_⟩
      rw [mem_cons, Or.comm]
    rw [if_neg c1]
    by_cases c2 : st > r.e
    · rw [if_pos c2]
      obtain ⟨i1, i2⟩ := ih r.e st en h3 (by omega) hse
      refine ⟨⟨h1, h2, i1⟩, fun x => ?_⟩
      rw [mem_cons, mem_cons, i2 x, or_assoc]
    rw [if_neg c2]
    simp only
    generalize hs' : (if st < r.s then st else r.s) = s'
    have hS : s' ≤ st ∧ s' ≤ r.s ∧ (s' = st ∨ s' = r.s) := by subst hs'; split <;> omega
    by_cases c3 : en ≤ r.e
    · rw [if_pos c3]
      refine ⟨⟨by show b < s'; omega, by show s' < r.e; omega, h3⟩, fun x => ?_⟩
      simp only [mem_cons]
      by_cases hM : Mem rest x
      · simp only [hM, or_true, true_or]
      · simp only [hM, or_false]
        omega
    rw [if_neg c3, removeranges_one]
    obtain ⟨j1, j2, j3⟩ := coalesce_spec rest r.e en s' h3 (by omega) (by omega)
    refine ⟨⟨by show b < s'; omega, by show s' < (coalesce en rest).1; omega, j2⟩, fun x => ?_⟩
    rw [mem_cons, j3 x, mem_cons]
    by_cases hM : Mem rest x
    · simp only [hM, or_true, true_or]
    · simp only [hM, or_false]
      omega

/-- C24, `add`, for every pair of arguments: an empty or inverted range (`start ≥ end`) denotes the empty
set and is a no-op by the guard of `add`. -/
theorem add_spec (l : RS) (st en : Int) (hwf : WF l) :
    WF (add l st en) ∧ ∀ x, Mem (add l st en) x ↔ (Mem l x ∨ (st ≤ x ∧ x < en)) := by
  unfold add
  by_cases he : st ≥ en
  · rw [if_pos he]
    exact ⟨hwf, fun x => ⟨Or.inl, fun h => h.elim id (fun h => by omega)⟩⟩
  · rw [if_neg he]
    obtain ⟨b, hb⟩ := hwf
    have hs := addLoop_spec l (Min.min b (st - 1)) st en (chain_mono hb (by omega)) (by omega) (by omega)
    exact ⟨⟨_, hs.1⟩, hs.2⟩

theorem mem_add_all (l : RS) (st en : Int) (hwf : WF l) (x : Int) :
    Mem (add l st en) x ↔ (Mem l x ∨ (st ≤ x ∧ x < en)) := (add_spec l st en hwf).2 x

theorem wf_add_all (l : RS) (st en : Int) (hwf : WF l) : WF (add l st en) := (add_spec l st en hwf).1

/-- `mem_add`, `wf_add`, `mem_sub`, `wf_sub` carry the contract `start ≤ end` that `add` and `sub` are called
under; the hypothesis is not used. -/
theorem mem_add (l : RS) (st en : Int) (hwf : WF l) (_h : st ≤ en) (x : Int) :
    Mem (add l st en) x ↔ (Mem l x ∨ (st ≤ x ∧ x < en)) := mem_add_all l st en hwf x

theorem wf_add (l : RS) (st en : Int) (hwf : WF l) (_h : st ≤ en) : WF (add l st en) := wf_add_all l st en hwf

/-- What the `sub` loop computes on a sorted list, written as a plain recursion
(whole ranges are dropped one by one instead of by a final `removeranges`). -/
def subS (st en : Int) : List Rg → List Rg
  | [] => []
  | r :: rest =>
    if en < r.s then r :: rest
    else if r.e < st then r :: subS st en rest
    else if st ≤ r.s ∧ en ≥ r.e then subS st en rest
    else if st ≤ r.s then ⟨en, r.e⟩ :: subS st en rest
    else if en ≥ r.e then ⟨r.s, st⟩ :: subS st en rest
    else ⟨r.s, st⟩ :: ⟨en, r.e⟩ :: rest

/-- The tail of `sub` after the loop, with the already processed prefix `pre` made explicit. -/
def finish (pre : List Rg) (q : SubRes) : List Rg :=
  if q.early then pre ++ q.l
  else match q.rf with
    | none => pre ++ q.l
    | some f => removeranges (pre ++ q.l) f q.rt

theorem sub_noop (l : RS) (st en : Int) (h : st ≥ en) : sub l st en = l := by
  unfold sub; rw [if_pos h]

theorem sub_empty (l : RS) (st : Int) : sub l st st = l := by
  exact sub_noop l st st (Int.le_refl _)

theorem finish_cons (pre : List Rg) (a : Rg) (q : SubRes) :
    finish pre ⟨a :: q.l, q.rf, q.rt, q.early⟩ = finish (pre ++ [a]) q := by
  simp [finish, List.append_assoc]

theorem removeranges_append (pre l : List Rg) (f : Nat) (hf : f ≤ pre.length) :
    removeranges (pre ++ l) f pre.length = pre.take f ++ l := by
  rw [Lemmas.RangesetBounds.removeranges_eq, List.take_append_of_le_length hf, List.drop_left]

theorem subLoop_brk {st en b : Int} {l : List Rg} (h : Chain b l) (hb : en ≤ b) (i : Nat) (rf : Option Nat)
    (rt : Nat) : subLoop st en l i rf rt = ⟨l, rf, rt, false⟩ := by
  cases l with
  | nil => rfl
  | cons r rest =>
    have : en < r.s := by have := h.1; omega
    simp [subLoop, this]

theorem subS_brk {st en b : Int} {l : List Rg} (h : Chain b l) (hb : en ≤ b) : subS st en l = l := by
  cases l with
  | nil => rfl
  | cons r rest =>
    have : en < r.s := by have := h.1; omega
    simp [subS, this]

/-- `some f`, `i`: `removefrom` is set and `removeto` is the current index, as after a fully covered range. -/
theorem finish_marked (st en : Int) (l : List Rg) : ∀ (b : Int) (pre : List Rg) (i f : Nat),
    Chain b l → st ≤ b → pre.length = i → f ≤ i →
    finish pre (subLoop st en l i (some f) i) = pre.take f ++ subS st en l := by
  induction l with
  | nil =>
    intro b pre i f _ _ hi hf
    subst hi
    simp [subLoop, finish, subS]
    have := removeranges_append pre [] f hf
    simpa using this
  | cons r rest ih =>
    intro b pre i f hc hb hi hf
    obtain ⟨h1, h2, h3⟩ := hc
    subst hi
    unfold subLoop subS
    by_cases c1 : en < r.s
    · simp only [c1, if_true]
      simp only [finish]
      exact removeranges_append pre (r :: rest) f hf
    · simp only [c1, if_false]
      have c2 : ¬ (r.e < st) := by omega
      simp only [c2, if_false]
      by_cases c3 : st ≤ r.s ∧ en ≥ r.e
      · simp only [c3, and_self, if_true]
        rw [finish_cons]
        have := ih r.e (pre ++ [r]) (pre.length + 1) f h3 (by omega) (by simp) (by omega)
        rw [this, List.take_append_of_le_length hf]
      · simp only [c3, if_false]
        have c4 : st ≤ r.s := by omega
        simp only [c4, if_true]
        have hbrk : en ≤ r.e := by omega
        rw [subLoop_brk h3 hbrk, subS_brk h3 hbrk]
        simp only [finish]
        exact removeranges_append pre (⟨en, r.e⟩ :: rest) f hf

theorem finish_unmarked (st en : Int) (l : List Rg) : ∀ (b : Int) (pre : List Rg) (i : Nat),
    Chain b l → pre.length = i →
    finish pre (subLoop st en l i none 0) = pre ++ subS st en l := by
  induction l with
  | nil => intro b pre i _ _; simp [subLoop, finish, subS]
  | cons r rest ih =>
    intro b pre i hc hi
    obtain ⟨h1, h2, h3⟩ := hc
    subst hi
    unfold subLoop subS
    by_cases c1 : en < r.s
    · simp [c1, finish]
    · simp only [c1, if_false]
      by_cases c2 : r.e < st
      · simp only [c2, if_true]
        rw [finish_cons, ih r.e (pre ++ [r]) (pre.length + 1) h3 (by simp)]
        simp
      · simp only [c2, if_false]
        by_cases c3 : st ≤ r.s ∧ en ≥ r.e
        · simp only [c3, and_self, if_true]
          rw [finish_cons]
          have := finish_marked st en rest r.e (pre ++ [r]) (pre.length + 1) pre.length h3 (by omega)
            (by simp) (by omega)
          rw [this]; simp
        · simp only [c3, if_false]
          by_cases c4 : st ≤ r.s
          · simp only [c4, if_true]
            have hbrk : en ≤ r.e := by omega
            rw [subLoop_brk h3 hbrk, subS_brk h3 hbrk]
            simp [finish]
          · simp only [c4, if_false]
            by_cases c5 : en ≥ r.e
            · simp only [c5, if_true]
              rw [finish_cons, ih r.e (pre ++ [Rg.mk r.s st]) (pre.length + 1) h3 (by simp)]
              simp
            · simp [c5, finish]

theorem sub_eq_subS (l : RS) (st en : Int) (hwf : WF l) (hlt : st < en) :
    sub l st en = subS st en l := by
  obtain ⟨b, hb⟩ := hwf
  unfold sub
  rw [if_neg (by omega)]
  show finish [] (subLoop st en l 0 none 0) = [] ++ subS st en l
  exact finish_unmarked st en l b [] 0 hb rfl

/-- `sub` adds a range only by splitting one, which takes a range that starts before `st`. -/
theorem length_subS_le (st en : Int) (l : RS) (h : ∀ r ∈ l, st ≤ r.s) : (subS st en l).length ≤ l.length := by
  fun_induction subS st en l with
  | case1 | case2 => exact Nat.le_refl _
  | case3 r rest _ _ ih | case4 r rest _ _ _ ih | case5 r rest _ _ _ _ ih | case6 r rest _ _ _ _ _ ih =>
    have := ih fun q hq => h q (List.mem_cons_of_mem _ hq)
    simp only [List.length_cons]; omega
  | case7 r rest _ _ _ c4 _ => exact absurd (h r List.mem_cons_self) c4

theorem length_sub_le (l : RS) (st en : Int) (hwf : WF l) (h : ∀ r ∈ l, st ≤ r.s) :
    (sub l st en).length ≤ l.length := by
  by_cases he : st ≥ en
  · rw [sub_noop l st en he]; exact Nat.le_refl _
  · rw [sub_eq_subS l st en hwf (by omega)]; exact length_subS_le st en l h

def Inside (l : RS) (x : Int) : Prop := ∃ r ∈ l, r.s < x ∧ x < r.e

/-- In every branch membership is read range by range: `∧ ¬ …` distributes over head and tail, the head is
interval arithmetic, and the tail is the induction hypothesis or lies beyond `r.e`, where nothing is removed. -/
theorem subS_spec (st en : Int) (hse : st < en) (l : RS) : ∀ (b : Int), Chain b l →
    (∀ x, Mem (subS st en l) x ↔ (Mem l x ∧ ¬ (st ≤ x ∧ x < en))) ∧ Chain b (subS st en l) := by
  fun_induction subS st en l with
  | case1 => exact fun b _ => ⟨fun x => by simp, trivial⟩
  | case2 r rest c1 =>
    exact fun b hc => ⟨fun x => iff_self_and.2 fun h => by have := chain_head_le hc h; omega, hc⟩
  | case3 r rest c1 c2 ih =>
    intro b ⟨h1, h2, h3⟩
    obtain ⟨im, ic⟩ := ih r.e h3
    refine ⟨fun x => ?_, h1, h2, ic⟩
    simp only [mem_cons, im x, or_and_right]
    exact or_congr_left (by omega)
  | case4 r rest c1 c2 c3 ih =>
    intro b ⟨h1, h2, h3⟩
    obtain ⟨im, ic⟩ := ih r.e h3
    refine ⟨fun x => ?_, chain_mono ic (by omega)⟩
    simp only [mem_cons, im x, or_and_right]
    exact (or_iff_right (by omega)).symm
  | case5 r rest c1 c2 c3 c4 ih =>
    intro b ⟨h1, h2, h3⟩
    obtain ⟨im, ic⟩ := ih r.e h3
    refine ⟨fun x => ?_, by show b < en; omega, by show en < r.e; omega, ic⟩
    simp only [mem_cons, im x, or_and_right]
    exact or_congr_left (by omega)
  | case6 r rest c1 c2 c3 c4 c5 ih =>
    intro b ⟨h1, h2, h3⟩
    obtain ⟨im, ic⟩ := ih r.e h3
    refine ⟨fun x => ?_, h1, by show r.s < st; omega, chain_mono ic (by show st ≤ r.e; omega)⟩
    simp only [mem_cons, im x, or_and_right]
    exact or_congr_left (by omega)
  | case7 r rest c1 c2 c3 c4 c5 =>
    intro b ⟨h1, h2, h3⟩
    refine ⟨fun x => ?_, h1, by show r.s < st; omega, hse, by show en < r.e; omega, h3⟩
    simp only [mem_cons, or_and_right, ← or_assoc]
    exact or_congr (by omega) (iff_self_and.2 fun h => by have := chain_lt_of_mem h3 h; omega)

/-- C24, `sub`, for every pair of arguments (`start ≥ end`: a no-op by the guard of `sub`). -/
theorem sub_spec (l : RS) (st en : Int) (hwf : WF l) :
    WF (sub l st en) ∧ ∀ x, Mem (sub l st en) x ↔ (Mem l x ∧ ¬ (st ≤ x ∧ x < en)) := by
  by_cases he : st ≥ en
  · rw [sub_noop l st en he]
    exact ⟨hwf, fun x => ⟨fun hm => ⟨hm, by omega⟩, fun hm => hm.1⟩⟩
  · rw [sub_eq_subS l st en hwf (by omega)]
    obtain ⟨b, hb⟩ := hwf
    have hs := subS_spec st en (by omega) l b hb
    exact ⟨⟨b, hs.2⟩, hs.1⟩

theorem mem_sub_all (l : RS) (st en : Int) (hwf : WF l) (x : Int) :
    Mem (sub l st en) x ↔ (Mem l x ∧ ¬ (st ≤ x ∧ x < en)) := (sub_spec l st en hwf).2 x

theorem wf_sub_all (l : RS) (st en : Int) (hwf : WF l) : WF (sub l st en) := (sub_spec l st en hwf).1

theorem mem_sub (l : RS) (st en : Int) (hwf : WF l) (_h : st ≤ en) (x : Int) :
    Mem (sub l st en) x ↔ (Mem l x ∧ ¬ (st ≤ x ∧ x < en)) := mem_sub_all l st en hwf x

theorem wf_sub (l : RS) (st en : Int) (hwf : WF l) (_h : st ≤ en) : WF (sub l st en) := wf_sub_all l st en hwf

/-- `_hx` excludes `sub(x, x)` strictly inside a range, which would split the range into two adjacent ones
were it not for the guard `start >= end` of `sub`. -/
theorem wf_sub_partial (l : RS) (st en : Int) (hwf : WF l) (h : st ≤ en)
    (_hx : ¬ (st = en ∧ Inside l st)) : WF (sub l st en) := wf_sub l st en hwf h

/-- The literal statement "every `sub` keeps the ranges non-adjacent". -/
def WfSubStatement : Prop := ∀ (l : RS) (st en : Int), WF l → st ≤ en → WF (sub l st en)

theorem wf_sub_statement_holds : WfSubStatement := fun l st en hwf h => wf_sub l st en hwf h

example : sub [⟨0, 10⟩] 5 5 = [⟨0, 10⟩] := by decide

theorem mem_cons_of_ge {r : Rg} {rest : RS} {x : Int} (hx : r.e ≤ x) :
    Mem (r :: rest) x ↔ Mem rest x := by
  rw [mem_cons]
  exact ⟨fun h => h.elim (fun h => by omega) id, Or.inr⟩

theorem mem_cons_of_lt {b : Int} {r : Rg} {rest : RS} (h : Chain b (r :: rest)) {x : Int} (hx : x < r.e) :
    Mem (r :: rest) x ↔ r.s ≤ x := by
  rw [mem_cons]
  exact ⟨fun h' => h'.elim (fun h' => h'.1) (fun h' => by have := chain_lt_of_mem h.2.2 h'; omega),
    fun h' => Or.inl ⟨h', hx⟩⟩

/-- `contains` and `rangeContaining` are the same walk: the first range that ends after `x` decides. -/
theorem find_chain (l : RS) : ∀ (b x : Int), Chain b l →
    (contains l x = true ↔ Mem l x) ∧
    (Mem l x → rangeContaining l x ∈ l ∧ (rangeContaining l x).s ≤ x ∧ x < (rangeContaining l x).e) ∧
    (¬ Mem l x → rangeContaining l x = ⟨0, 0⟩) := by
  induction l with
  | nil => intro b x _; simp [contains, rangeContaining]
  | cons r rest ih =>
    intro b x hc
    obtain ⟨i0, i1, i2⟩ := ih r.e x hc.2.2
    unfold contains rangeContaining
    by_cases c1 : x ≥ r.e
    · rw [if_pos c1, if_pos c1, mem_cons_of_ge c1]
      exact ⟨i0, fun h => ⟨List.mem_cons_of_mem _ (i1 h).1, (i1 h).2⟩, i2⟩
    · rw [if_neg c1, if_neg c1, mem_cons_of_lt hc (by omega)]
      by_cases c2 : r.s ≤ x
      · rw [if_pos c2, if_pos c2]
        exact ⟨⟨fun _ => c2, fun _ => rfl⟩, fun _ => ⟨List.mem_cons_self, c2, by omega⟩, fun h => absurd c2 h⟩
      · rw [if_neg c2, if_neg c2]
        exact ⟨⟨fun h => Bool.noConfusion h, fun h => absurd h c2⟩, fun h => absurd h c2, fun _ => rfl⟩

theorem contains_iff (l : RS) (hwf : WF l) (x : Int) : contains l x = true ↔ Mem l x := by
  obtain ⟨b, hb⟩ := hwf; exact (find_chain l b x hb).1

theorem rangeContaining_mem (l : RS) (hwf : WF l) (x : Int) (hx : Mem l x) :
    rangeContaining l x ∈ l ∧ (rangeContaining l x).s ≤ x ∧ x < (rangeContaining l x).e := by
  obtain ⟨b, hb⟩ := hwf; exact (find_chain l b x hb).2.1 hx

theorem rangeContaining_not_mem (l : RS) (hwf : WF l) (x : Int) (hx : ¬ Mem l x) :
    rangeContaining l x = ⟨0, 0⟩ := by
  obtain ⟨b, hb⟩ := hwf; exact (find_chain l b x hb).2.2 hx

theorem range_maximal_chain (l : RS) : ∀ (b : Int) (r : Rg), Chain b l → r ∈ l →
    ¬ Mem l (r.s - 1) ∧ ¬ Mem l r.e := by
  induction l with
  | nil => intro b r _ hr; simp at hr
  | cons q rest ih =>
    intro b r hb hr
    rcases List.mem_cons.1 hr with rfl | hr'
    · have := hb.2.1
      rw [mem_cons_of_lt hb (by omega), mem_cons_of_ge (Int.le_refl _)]
      exact ⟨by omega, fun h => by have := chain_lt_of_mem hb.2.2 h; omega⟩
    · have := chain_bound_of_mem hb.2.2 hr'
      rw [mem_cons_of_ge (by omega), mem_cons_of_ge (by omega)]
      exact ih q.e r hb.2.2 hr'

/-- So `rangeContaining` returns the maximal run of the set around `x`. -/
theorem range_maximal (l : RS) (hwf : WF l) (r : Rg) (hr : r ∈ l) :
    (∀ x, r.s ≤ x → x < r.e → Mem l x) ∧ ¬ Mem l (r.s - 1) ∧ ¬ Mem l r.e := by
  refine ⟨fun x h1 h2 => ⟨r, hr, h1, h2⟩, ?_⟩
  obtain ⟨b, hb⟩ := hwf
  exact range_maximal_chain l b r hb hr

theorem mem_head {b : Int} {q : Rg} {l : RS} (h : Chain b (q :: l)) : Mem (q :: l) q.s :=
  (mem_cons q l q.s).2 (Or.inl ⟨Int.le_refl _, h.2.1⟩)

theorem min_spec (l : RS) (hwf : WF l) :
    (l = [] → Model.Rangeset.min l = 0) ∧ (l ≠ [] → Mem l (Model.Rangeset.min l) ∧ ∀ x, Mem l x → Model.Rangeset.min l ≤ x) := by
  cases l with
  | nil => simp [Model.Rangeset.min]
  | cons r rest =>
    obtain ⟨b, hb⟩ := hwf
    exact ⟨fun h => by simp at h, fun _ => ⟨mem_head hb, fun x hx => chain_head_le hb hx⟩⟩

theorem last_chain (l : RS) : ∀ (b : Int), Chain b l → l ≠ [] →
    ∃ r, l.getLast? = some r ∧ r ∈ l ∧ ∀ x, Mem l x → x < r.e := by
  induction l with
  | nil => intro b _ h; exact absurd rfl h
  | cons q rest ih =>
    intro b hb _
    obtain ⟨h1, h2, h3⟩ := hb
    cases rest with
    | nil =>
      refine ⟨q, rfl, List.mem_cons_self, ?_⟩
      intro x hx; simp at hx; omega
    | cons q' rest' =>
      obtain ⟨r, e1, e2, e3⟩ := ih q.e h3 (by simp)
      refine ⟨r, by rw [List.getLast?_cons_cons]; exact e1, List.mem_cons_of_mem _ e2, ?_⟩
      intro x hx
      rcases (mem_cons q _ x).1 hx with h | h
      · have hq := chain_bound_of_mem h3 e2; omega
      · exact e3 x h

/-- int64 range of every stored endpoint (a typing fact of `rangeset[int64]`). -/
def InBounds (l : RS) : Prop := ∀ r ∈ l, -9223372036854775808 ≤ r.s ∧ r.e ≤ 9223372036854775807

theorem wrap64_id (x : Int) (h1 : -9223372036854775808 ≤ x) (h2 : x ≤ 9223372036854775807) : wrap64 x = x := by
  unfold wrap64; omega

/-- `InBounds` is for `max`, which is `end - 1` in int64 arithmetic. -/
theorem max_end_spec (l : RS) (hwf : WF l) (hb : InBounds l) :
    (l = [] → Model.Rangeset.max l = 0 ∧ end_ l = 0) ∧
    (l ≠ [] → end_ l = Model.Rangeset.max l + 1 ∧ Mem l (Model.Rangeset.max l) ∧ ∀ x, Mem l x → x ≤ Model.Rangeset.max l) := by
  constructor
  · intro h; subst h; simp [Model.Rangeset.max, end_]
  · intro hne
    obtain ⟨b, hc⟩ := hwf
    obtain ⟨r, e1, e2, e3⟩ := last_chain l b hc hne
    have hr := chain_bound_of_mem hc e2
    have hb' := hb r e2
    have hm : Model.Rangeset.max l = r.e - 1 := by
      unfold Model.Rangeset.max; rw [e1]; exact wrap64_id _ (by omega) (by omega)
    have he : end_ l = r.e := by unfold end_; rw [e1]
    rw [hm, he]
    refine ⟨by omega, ⟨r, e2, by omega, by omega⟩, ?_⟩
    intro x hx; have := e3 x hx; omega

theorem numRanges_eq (l : RS) : numRanges l = l.length := rfl

/-- `r.e` is not in the chain `r :: a'`, so `q` cannot reach it. -/
theorem head_end_le {ba : Int} {r q : Rg} {a' b' : RS} (ha : Chain ba (r :: a'))
    (h : ∀ x, Mem (q :: b') x → Mem (r :: a') x) (hs : q.s ≤ r.s) : q.e ≤ r.e := by
  apply Classical.byContradiction
  intro hlt
  have := ha.2.1
  rcases (mem_cons r a' r.e).1 (h r.e ((mem_cons q b' r.e).2 (Or.inl (by omega)))) with h1 | h1
  · omega
  · have := chain_lt_of_mem ha.2.2 h1; omega

theorem tail_subset {ba : Int} {r : Rg} {a' b' : RS} (ha : Chain ba (r :: a'))
    (h : ∀ x, Mem (r :: a') x → Mem (r :: b') x) (x : Int) (hx : Mem a' x) : Mem b' x := by
  have := chain_lt_of_mem ha.2.2 hx
  rcases (mem_cons r b' x).1 (h x ((mem_cons r a' x).2 (Or.inr hx))) with h1 | h1
  · omega
  · exact h1

theorem canonical_chain (a : RS) : ∀ (b : RS) (ba bb : Int), Chain ba a → Chain bb b →
    (∀ x, Mem a x ↔ Mem b x) → a = b := by
  induction a with
  | nil =>
    intro b ba bb _ hb h
    cases b with
    | nil => rfl
    | cons q b' => exact absurd ((h q.s).2 (mem_head hb)) (fun h => (mem_nil q.s).1 h)
  | cons r a' ih =>
    intro b ba bb ha hb h
    cases b with
    | nil => exact absurd ((h r.s).1 (mem_head ha)) (fun h => (mem_nil r.s).1 h)
    | cons q b' =>
      have hs : r.s = q.s :=
        Int.le_antisymm (chain_head_le ha ((h q.s).2 (mem_head hb))) (chain_head_le hb ((h r.s).1 (mem_head ha)))
      have he : r.e = q.e :=
        Int.le_antisymm (head_end_le hb (fun x => (h x).1) (by omega)) (head_end_le ha (fun x => (h x).2) (by omega))
      obtain rfl : r = q := by
        cases r; cases q; simp only [Rg.mk.injEq]; exact ⟨hs, he⟩
      rw [ih b' r.e r.e ha.2.2 hb.2.2
        (fun x => ⟨tail_subset ha (fun x => (h x).1) x, tail_subset hb (fun x => (h x).2) x⟩)]

/-- C24, canonical form: any correct implementation that keeps the representation invariant agrees with
this model list for list. -/
theorem canonical (a b : RS) (ha : WF a) (hb : WF b) (h : ∀ x, Mem a x ↔ Mem b x) : a = b := by
  obtain ⟨ba, ha⟩ := ha
  obtain ⟨bb, hb⟩ := hb
  exact canonical_chain a b ba bb ha hb h

theorem isrange_eq (l : RS) (st en : Int) :
    isrange l st en = true ↔ (l = [] ∧ st = 0 ∧ en = 0) ∨ l = [⟨st, en⟩] := by
  match l with
  | [] => simp [isrange]
  | [r] => cases r; simp [isrange]
  | _ :: _ :: _ => simp [isrange]

theorem isrange_iff (l : RS) (st en : Int) (hwf : WF l) (h : st < en) :
    isrange l st en = true ↔ ∀ x, Mem l x ↔ (st ≤ x ∧ x < en) := by
  have hw : WF [Rg.mk st en] := (wf_cons_iff _ []).2 ⟨h, trivial⟩
  rw [isrange_eq]
  constructor
  · rintro (⟨_, rfl, rfl⟩ | rfl)
    · omega
    · intro x; simp
  · exact fun hm => Or.inr (canonical l _ hwf hw (by intro x; rw [hm x, mem_cons]; simp))

/-- Go: `case 0: return start == 0 && end == 0`; no other empty interval is recognised. -/
theorem isrange_empty_iff (l : RS) (st en : Int) (hwf : WF l) (h : en ≤ st) :
    isrange l st en = true ↔ (l = [] ∧ st = 0 ∧ en = 0) := by
  rw [isrange_eq]
  refine or_iff_left fun hl => ?_
  subst hl
  have : st < en := ((wf_cons_iff _ []).1 hwf).1
  omega

def seg (r : Rg) : List Int := (List.range (r.e - r.s).toNat).map (fun (i : Nat) => r.s + (i : Int))

def elems : RS → List Int
  | [] => []
  | r :: rest => seg r ++ elems rest

theorem mem_seg (r : Rg) (x : Int) : x ∈ seg r ↔ (r.s ≤ x ∧ x < r.e) := by
  simp only [seg, List.mem_map, List.mem_range]
  constructor
  · rintro ⟨i, hi, rfl⟩; omega
  · intro h; exact ⟨(x - r.s).toNat, by omega, by omega⟩

theorem seg_sorted (r : Rg) : (seg r).Pairwise (· < ·) := by
  simp only [seg, List.pairwise_map]
  exact List.Pairwise.imp (fun h => by omega) List.pairwise_lt_range

theorem elems_chain (l : RS) : ∀ b, Chain b l →
    ((elems l).length : Int) = sizeZ l ∧ (∀ x, x ∈ elems l ↔ Mem l x) ∧ (elems l).Pairwise (· < ·) := by
  induction l with
  | nil => intro b _; simp [elems, sizeZ]
  | cons r rest ih =>
    intro b hc
    obtain ⟨h1, h2, h3⟩ := hc
    obtain ⟨i1, i2, i3⟩ := ih r.e h3
    refine ⟨?_, ?_, ?_⟩
    · simp only [elems, List.length_append, sizeZ, seg, List.length_map, List.length_range]
      push_cast; omega
    · intro x; simp only [elems, List.mem_append, mem_seg, mem_cons, i2 x]
    · simp only [elems]
      rw [List.pairwise_append]
      refine ⟨seg_sorted r, i3, ?_⟩
      intro a ha c hc'
      have := (mem_seg r a).1 ha
      have := chain_lt_of_mem h3 ((i2 c).1 hc')
      omega

/-- C24, `size`: the number of integers in the set is the length of `elems l`, which lists the set strictly
increasingly, hence without repetition. -/
theorem size_card (l : RS) (hwf : WF l) :
    ((elems l).length : Int) = sizeZ l ∧ (∀ x, x ∈ elems l ↔ Mem l x) ∧ (elems l).Pairwise (· < ·) := by
  obtain ⟨b, hb⟩ := hwf; exact elems_chain l b hb

/-- `h`: Go's running sum is in int64 and wraps otherwise. -/
theorem size_eq_card (l : RS) (hwf : WF l) (h : sizeZ l ≤ 9223372036854775807) :
    size l = ((elems l).length : Int) := by
  have h0 := (size_card l hwf).1
  unfold size; rw [wrap64_id _ (by omega) h]; exact h0.symm

def specStep (S : Int → Prop) : Op → Int → Prop
  | .add st en => fun x => S x ∨ (st ≤ x ∧ x < en)
  | .sub st en => fun x => S x ∧ ¬ (st ≤ x ∧ x < en)

def specRun (ops : List Op) (S : Int → Prop) : Int → Prop := ops.foldl specStep S

/-- C24 over all histories and all integer arguments, inverted pairs included. -/
theorem history_all (ops : List Op) : ∀ (l : RS) (S : Int → Prop), WF l → (∀ x, Mem l x ↔ S x) →
    WF (run ops l) ∧ ∀ x, Mem (run ops l) x ↔ specRun ops S x := by
  induction ops with
  | nil => intro l S hwf hm; exact ⟨hwf, hm⟩
  | cons op ops ih =>
    intro l S hwf hm
    have hs : WF (applyOp l op) ∧ ∀ x, Mem (applyOp l op) x ↔ specStep S op x := by
      cases op with
      | add st en => exact ⟨(add_spec l st en hwf).1, fun x => ((add_spec l st en hwf).2 x).trans (or_congr_left (hm x))⟩
      | sub st en => exact ⟨(sub_spec l st en hwf).1, fun x => ((sub_spec l st en hwf).2 x).trans (and_congr_left' (hm x))⟩
    exact ih (applyOp l op) (specStep S op) hs.1 hs.2

theorem history_all_from_empty (ops : List Op) :
    WF (run ops []) ∧ ∀ x, Mem (run ops []) x ↔ specRun ops (fun _ => False) x :=
  history_all ops [] (fun _ => False) ⟨0, trivial⟩ (fun x => by simp)

def Ordered : Op → Prop
  | .add st en => st ≤ en
  | .sub st en => st ≤ en

/-- `Ordered` is the contract `add` and `sub` are called under; `history_all` does without it. -/
theorem history_refines (ops : List Op) : ∀ (l : RS) (S : Int → Prop), WF l → (∀ x, Mem l x ↔ S x) →
    (∀ op ∈ ops, Ordered op) → WF (run ops l) ∧ ∀ x, Mem (run ops l) x ↔ specRun ops S x :=
  fun l S hwf hm _ => history_all ops l S hwf hm

/-- C24 as the property list words it: any sequence of `add`/`sub` of ranges (`start ≤ end`) from the empty set. -/
theorem history_correct (ops : List Op) (h : ∀ op ∈ ops, Ordered op) :
    WF (run ops []) ∧ ∀ x, Mem (run ops []) x ↔ specRun ops (fun _ => False) x :=
  history_all_from_empty ops

theorem history_contains (ops : List Op) (h : ∀ op ∈ ops, Ordered op) (x : Int) :
    contains (run ops []) x = true ↔ specRun ops (fun _ => False) x := by
  obtain ⟨hw, hm⟩ := history_correct ops h
  rw [contains_iff _ hw x, hm x]

theorem history_canonical (ops ops' : List Op) (h : ∀ op ∈ ops, Ordered op) (h' : ∀ op ∈ ops', Ordered op)
    (hs : ∀ x, specRun ops (fun _ => False) x ↔ specRun ops' (fun _ => False) x) :
    run ops [] = run ops' [] := by
  obtain ⟨hw, hm⟩ := history_correct ops h
  obtain ⟨hw', hm'⟩ := history_correct ops' h'
  exact canonical _ _ hw hw' (fun x => by rw [hm x, hm' x, hs x])

example : run [.add 10 5] [] = [] := by decide
example : run [.add 0 20, .sub 10 5] [] = [⟨0, 20⟩] := by decide

/-- The literal statement of C24 (every op with `start ≤ end`). -/
def HistoryStatement : Prop :=
  ∀ ops : List Op, (∀ op ∈ ops, match op with | .add st en => st ≤ en | .sub st en => st ≤ en) →
    WF (run ops [])

theorem history_statement_holds : HistoryStatement :=
  fun ops _ => (history_all_from_empty ops).1

example : run [.add 0 10, .sub 5 5] [] = [⟨0, 10⟩] := by decide

def Bnd (lo hi : Int) (l : RS) : Prop := ∀ r ∈ l, lo ≤ r.s ∧ r.e ≤ hi

theorem bnd_add (lo hi : Int) (l : RS) (st en : Int) (h : Bnd lo hi l) (h1 : lo ≤ st) (h2 : en ≤ hi) :
    Bnd lo hi (add l st en) :=
  NetVerif.Proofs.Lemmas.RangesetBounds.add_all (S := (lo ≤ ·)) (E := (· ≤ hi)) (fun _ _ ha hb _ _ _ => ⟨ha, hb⟩) h1 h2 l
    (fun r hr => ⟨h r hr, h r hr⟩)

theorem bnd_sub (lo hi : Int) (l : RS) (st en : Int) (h : Bnd lo hi l) : Bnd lo hi (sub l st en) :=
  NetVerif.Proofs.Lemmas.RangesetBounds.sub_all (P := fun r => lo ≤ r.s ∧ r.e ≤ hi)
    (fun _ _ _ hr h1 _ h3 _ => ⟨Int.le_trans hr.1 h1, Int.le_trans h3 hr.2⟩) l h

theorem inBounds_iff_bnd (l : RS) : InBounds l ↔ Bnd (-9223372036854775808) 9223372036854775807 l := Iff.rfl

def I64 (x : Int) : Prop := -9223372036854775808 ≤ x ∧ x ≤ 9223372036854775807

def OpI64 : Op → Prop
  | .add st en => I64 st ∧ I64 en
  | .sub st en => I64 st ∧ I64 en

theorem inBounds_add (l : RS) (st en : Int) (h : InBounds l) (h1 : I64 st) (h2 : I64 en) :
    InBounds (add l st en) := bnd_add _ _ l st en h h1.1 h2.2

theorem inBounds_sub (l : RS) (st en : Int) (h : InBounds l) (h1 : I64 st) (h2 : I64 en) :
    InBounds (sub l st en) := bnd_sub _ _ l st en h

theorem bnd_run (lo hi : Int) (ops : List Op) (l : RS) (h : Bnd lo hi l)
    (hops : ∀ op ∈ ops, match op with | .add st en => lo ≤ st ∧ en ≤ hi | .sub _ _ => True) :
    Bnd lo hi (run ops l) :=
  Lemmas.foldl_inv_mem applyOp (Bnd lo hi) ops (fun s op hop hs => by
    have := hops op hop
    cases op with
    | add st en => exact bnd_add lo hi s st en hs this.1 this.2
    | sub st en => exact bnd_sub lo hi s st en hs) l h

theorem inBounds_run (ops : List Op) (h : ∀ op ∈ ops, OpI64 op) : InBounds (run ops []) := by
  apply bnd_run _ _ ops [] (fun _ hr => by simp at hr)
  intro op hop
  have := h op hop
  cases op with
  | add st en => exact ⟨this.1.1, this.2.2⟩
  | sub st en => trivial

theorem max_end_reachable (ops : List Op) (h : ∀ op ∈ ops, Ordered op) (h64 : ∀ op ∈ ops, OpI64 op) :
    (run ops [] = [] → Model.Rangeset.max (run ops []) = 0 ∧ end_ (run ops []) = 0) ∧
    (run ops [] ≠ [] → end_ (run ops []) = Model.Rangeset.max (run ops []) + 1 ∧
      Mem (run ops []) (Model.Rangeset.max (run ops [])) ∧
      ∀ x, Mem (run ops []) x → x ≤ Model.Rangeset.max (run ops [])) :=
  max_end_spec _ (history_correct ops h).1 (inBounds_run ops h64)

theorem sizeZ_le (hi : Int) (l : RS) : ∀ (b lo : Int), Chain b l → (∀ r ∈ l, lo ≤ r.s ∧ r.e ≤ hi) → lo ≤ hi →
    sizeZ l ≤ hi - lo := by
  induction l with
  | nil => intro b lo _ _ h; simp only [sizeZ]; omega
  | cons r rest ih =>
    intro b lo hc hb hlo
    have hr := hb r List.mem_cons_self
    have := ih r.e r.e hc.2.2 (fun q hq =>
      ⟨by have := (chain_bound_of_mem hc.2.2 hq).1; omega, (hb q (List.mem_cons_of_mem _ hq)).2⟩) hr.2
    simp only [sizeZ]; omega

theorem size_reachable (ops : List Op) (h : ∀ op ∈ ops, Ordered op) :
    size (run ops []) = wrap64 ((elems (run ops [])).length : Int) ∧
    (∀ x, x ∈ elems (run ops []) ↔ specRun ops (fun _ => False) x) ∧
    (elems (run ops [])).Pairwise (· < ·) := by
  obtain ⟨hw, hm⟩ := history_correct ops h
  obtain ⟨c1, c2, c3⟩ := size_card _ hw
  exact ⟨by unfold size; rw [c1], fun x => by rw [c2 x, hm x], c3⟩

/-- `hnn` holds at every use in package quic: packet numbers, stream offsets, connection-ID sequence numbers. -/
theorem size_reachable_nonneg (ops : List Op) (h : ∀ op ∈ ops, Ordered op)
    (hnn : ∀ op ∈ ops, match op with
      | .add st en => 0 ≤ st ∧ en ≤ 9223372036854775807
      | .sub st en => 0 ≤ en ∧ st ≤ 9223372036854775807) :
    size (run ops []) = ((elems (run ops [])).length : Int) := by
  obtain ⟨hw, _⟩ := history_correct ops h
  have hb : Bnd 0 9223372036854775807 (run ops []) := bnd_run 0 _ ops [] (fun _ hr => by simp at hr)
    (fun op hop => by
      have := hnn op hop
      cases op with
      | add st en => exact this
      | sub st en => trivial)
  obtain ⟨b, hc⟩ := hw
  exact size_eq_card _ ⟨b, hc⟩ (by have := sizeZ_le _ _ b 0 hc hb (by omega); omega)

example : WF [⟨0, 5⟩, ⟨7, 9⟩] := ⟨-1, by decide, by decide, by decide, by decide, trivial⟩
example : add [⟨0, 5⟩, ⟨7, 9⟩, ⟨20, 30⟩] 5 8 = [⟨0, 9⟩, ⟨20, 30⟩] := by decide
example : sub [⟨0, 9⟩, ⟨20, 30⟩] 3 25 = [⟨0, 3⟩, ⟨25, 30⟩] := by decide
example : sub [⟨0, 2⟩, ⟨4, 6⟩, ⟨8, 9⟩, ⟨20, 30⟩] 1 25 = [⟨0, 1⟩, ⟨25, 30⟩] := by decide
example : ∀ op ∈ [Op.add 0 10, Op.sub 3 5, Op.sub 4 4], Ordered op := by
  intro op hop
  simp only [List.mem_cons, List.mem_nil_iff, or_false] at hop
  rcases hop with e | e | e <;> subst e
  · show (0:Int) ≤ 10; decide
  · show (3:Int) ≤ 5; decide
  · show (4:Int) ≤ 4; decide

end NetVerif.Proofs.C24
