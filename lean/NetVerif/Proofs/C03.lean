import NetVerif.Proofs.Lemmas.Hpack
/-!
C03 — HPACK decoding is independent of how a header block is split into `Write` calls.

`Decoder.write` resumes from `saveBuf` exactly as coded, including the
`len(buf) > 2*(maxStrLen+varIntOverhead)` "paranoia" branch of `Decoder.Write`. The decoder without that
branch is split independent (`write_split_ideal`). An incomplete representation is at most
`2·maxStrLen + 20` bytes long (`needMore_length_le`); with `varIntOverhead = 10` that is exactly the
bound, so the branch is dead (`writeLoop_paranoia_dead`) and the code as it is is split independent
(`write_split`). With `varIntOverhead = 8` the statement is false: `maxStrLen = 127`, a 275-byte literal
with two 10-byte over-long length varints, split at 271 (`witness_regression` evaluates that input; it
is also in `corpus/C03`).
-/
namespace NetVerif.Proofs.C03
open NetVerif.Model.Hpack
open NetVerif.Proofs.Lemmas.Hpack
open NetVerif.Model

/-- Bytes kept between Writes are always something the loop would keep again. -/
def SaveInv (d : Decoder) : Prop :=
  ∀ em, loopG false d.toDecCore d.saveBuf em = (d.toDecCore, em, .saved d.saveBuf)

theorem saveInv_of_nil (d : Decoder) (h : d.saveBuf = []) : SaveInv d := by
  intro em
  rw [h]
  rfl

theorem finishWrite_emits (d1 : DecCore) (em1 em2 : List Field) (e : LoopEnd) :
    finishWrite (d1, em1 ++ em2, e) =
      ((finishWrite (d1, em2, e)).1, em1 ++ (finishWrite (d1, em2, e)).2.1, (finishWrite (d1, em2, e)).2.2) := by
  unfold finishWrite
  cases e <;> rfl

theorem runChunks_ideal : ∀ (cs : List Bytes) (d : Decoder), SaveInv d →
    runChunks false d cs = finishWrite (loopG false d.toDecCore (d.saveBuf ++ cs.flatten) []) := by
  intro cs
  induction cs with
  | nil =>
    intro d hinv
    rw [List.flatten_nil, List.append_nil, hinv []]
    rfl
  | cons c cs ih =>
    intro d hinv
    by_cases hc : c = []
    · subst hc
      simp only [runChunks, Decoder.writeG, ↓reduceIte, List.flatten_cons, List.nil_append]
      rw [ih d hinv]
    · simp only [runChunks, List.flatten_cons]
      rw [writeG_eq false d hc, ← List.append_assoc, loopI_append cs.flatten d.toDecCore (d.saveBuf ++ c)]
      cases hl : loopG false d.toDecCore (d.saveBuf ++ c) [] with
      | mk d1 r =>
        obtain ⟨em1, e⟩ := r
        cases e with
        | err e => rfl
        | saved l =>
          show (match runChunks false { toDecCore := d1, saveBuf := l } cs with
            | (d2, em2, r) => (d2, em1 ++ em2, r)) = finishWrite (loopG false d1 (l ++ cs.flatten) em1)
          rw [ih { toDecCore := d1, saveBuf := l } (loopI_saved_idem hl), loopG_emits false _ _ em1,
            finishWrite_emits]

theorem write_split_ideal (d : Decoder) (chunks : List Bytes) (h : d.saveBuf = []) :
    runWritesG false d chunks = runWritesG false d [chunks.flatten] := by
  unfold runWritesG
  rw [runChunks_ideal chunks d (saveInv_of_nil d h), runChunks_ideal [chunks.flatten] d (saveInv_of_nil d h)]
  simp

theorem readVarInt_needMore (n : Nat) (buf : Bytes) (h : readVarInt n buf = .error .needMore) :
    buf.length ≤ 9 :=
  (readVarInt_err h).elim nofun (·.2)

theorem readVarInt_zero (n : Nat) (hn : 1 ≤ n) (buf rest : Bytes) (h : readVarInt n buf = .ok (0, rest)) :
    buf.length = rest.length + 1 := by
  obtain ⟨c, rfl, _, _, hz, _⟩ := readVarInt_ok h
  rw [List.length_append, hz rfl hn, Nat.add_comm]

theorem needMore_length_le (d : DecCore) (buf : Bytes) (hm : d.maxStrLen ≠ 0)
    (h : parseRepr d buf = .needMore) : buf.length ≤ 2 * d.maxStrLen + 20 :=
  (parseAction_err (parseRepr_needMore_iff.1 h)).2 rfl hm

/-- The constant of `Decoder.Write`, generated from the Go source; with a smaller value the bound fires on
legal input. -/
theorem varIntOverhead_eq : Gen.HpackStatic.varIntOverhead = 10 := by decide

theorem paranoiaBound_eq (m : Nat) : paranoiaBound m = 2 * m + 20 := by
  unfold paranoiaBound
  rw [varIntOverhead_eq]
  omega

/-- The saveBuf bound of `Decoder.Write` never fires: the code as it is *is* the ideal decoder. -/
theorem writeLoop_paranoia_dead : ∀ (f : Nat) (d : DecCore) (buf : Bytes) (em : List Field),
    writeLoop true f d buf em = writeLoop false f d buf em := by
  intro f
  induction f with
  | zero => intro d buf em; rfl
  | succ f ih =>
    intro d buf em
    simp only [writeLoop]
    split
    · rfl
    · cases hpr : parseRepr d buf with
      | needMore =>
        by_cases hm : d.maxStrLen = 0
        · simp [hm]
        · have := needMore_length_le d buf hm hpr
          have hb := paranoiaBound_eq d.maxStrLen
          have hn : ¬ buf.length > paranoiaBound d.maxStrLen := by omega
          simp [hn]
      | err e d' => rfl
      | ok d' rest e =>
        simp only
        split
        · exact ih _ _ _
        · rfl

theorem runChunks_paranoia_dead : ∀ (chunks : List Bytes) (d : Decoder),
    runChunks true d chunks = runChunks false d chunks := by
  intro cs
  induction cs with
  | nil => intro d; rfl
  | cons c cs ih =>
    intro d
    have hw : d.writeG true c = d.writeG false c := by
      unfold Decoder.writeG
      split
      · rfl
      · simp only [writeLoop_paranoia_dead]
    rw [runChunks_cons, runChunks_cons, hw, ih]

/-- The hypothesis (the saveBuf bound does not fire) is not used, here and in `runWrites_real_ideal`: the
bound never fires. -/
theorem real_eq_ideal (chunks : List Bytes) (d : Decoder)
    (_ : (runChunks true d chunks).2.2 ≠ some .strLenParanoia) :
    runChunks false d chunks = runChunks true d chunks :=
  (runChunks_paranoia_dead chunks d).symm

theorem runWrites_real_ideal (d : Decoder) (chunks : List Bytes)
    (_ : (runWrites d chunks).2.2 ≠ some .strLenParanoia) :
    runWritesG false d chunks = runWrites d chunks := by
  unfold runWrites runWritesG
  rw [runChunks_paranoia_dead]

def WriteSplitStatement : Prop :=
  ∀ (d : Decoder) (chunks : List Bytes), d.saveBuf = [] →
    let a := runWrites d chunks
    let b := runWrites d [chunks.flatten]
    a.2.1 = b.2.1 ∧ a.1 = b.1 ∧ (a.2.2.isNone = b.2.2.isNone)

/-- C03: every partition of every header block into `Write` calls yields exactly the same decoder
state, emitted fields and result (including the error kind) as a single `Write`. -/
theorem write_split (d : Decoder) (chunks : List Bytes) (h : d.saveBuf = []) :
    runWrites d chunks = runWrites d [chunks.flatten] := by
  unfold runWrites runWritesG
  rw [runChunks_paranoia_dead, runChunks_paranoia_dead]
  exact write_split_ideal d chunks h

/-- `write_split` under the hypotheses that the saveBuf bound fires in neither run; `write_split` shows
they are not needed. -/
theorem write_split_partial (d : Decoder) (chunks : List Bytes) (h : d.saveBuf = [])
    (h1 : (runWrites d chunks).2.2 ≠ some .strLenParanoia)
    (h2 : (runWrites d [chunks.flatten]).2.2 ≠ some .strLenParanoia) :
    runWrites d chunks = runWrites d [chunks.flatten] := by
  rw [← runWrites_real_ideal d chunks h1, ← runWrites_real_ideal d [chunks.flatten] h2]
  exact write_split_ideal d chunks h

theorem write_split_statement : WriteSplitStatement := by
  intro d chunks h
  simp only [write_split d chunks h, and_self]

def witnessVarint : Bytes := [127, 128, 128, 128, 128, 128, 128, 128, 128, 0]

/-- literal without indexing, new name: 1 + 10 + 127 + 10 + 127 = 275 bytes. -/
def witnessBlock : Bytes :=
  [0] ++ witnessVarint ++ List.replicate 127 110 ++ witnessVarint ++ List.replicate 127 118

def witnessDecoder : Decoder := (Decoder.new 4096).setMaxStringLength 127

theorem witness_regression :
    (runWrites witnessDecoder [witnessBlock]).2.2 = none ∧
    (runWrites witnessDecoder [witnessBlock.take 271, witnessBlock.drop 271]).2.2 = none ∧
    (runWrites witnessDecoder [witnessBlock.take 271, witnessBlock.drop 271]).2.1 =
      [{ name := List.replicate 127 110, value := List.replicate 127 118, sensitive := false }] ∧
    (runWrites witnessDecoder [witnessBlock]).2.1 =
      (runWrites witnessDecoder [witnessBlock.take 271, witnessBlock.drop 271]).2.1 := by
  decide +kernel

/-- The hypotheses of `write_split_partial` are satisfiable by a non-trivial split block
(two fields, split inside the second one; one of them enters the dynamic table). -/
example :
    let d := (Decoder.new 4096).setMaxStringLength 10
    let b : Bytes := [0x82, 0x40, 0x01, 0x61, 0x02, 0x62, 0x63]
    d.saveBuf = [] ∧
    (runWrites d [b.take 3, b.drop 3]).2.2 = none ∧
    (runWrites d [b]).2.2 = none ∧
    (runWrites d [b]).2.1.length = 2 ∧ (runWrites d [b]).1.dyn.ents = [([0x61], [0x62, 0x63])] := by
  decide +kernel

end NetVerif.Proofs.C03
