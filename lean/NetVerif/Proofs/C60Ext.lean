import NetVerif.Proofs.C60
/-! C60 — RFC 4884 multipart bodies with extensions: the object loop, the checksum of the extension header, the round
trip of marshalMultipartMessageBody / parseMultipartMessageBody. -/
namespace NetVerif.Proofs.C60
open NetVerif NetVerif.Model.Icmp

def LabelWF (l : MplsLabel) : Prop :=
  0 ≤ l.label ∧ l.label < 1048576 ∧ 0 ≤ l.tc ∧ l.tc < 8 ∧ 0 ≤ l.ttl ∧ l.ttl < 256

theorem label_roundtrip (l : MplsLabel) (h : LabelWF l) (rest : List Nat) (fuel : Nat) :
    parseMPLS.labels (fuel + 1) (mplsLabelBytes l ++ rest) = l :: parseMPLS.labels fuel rest := by
  obtain ⟨label, tc, s, ttl⟩ := l
  obtain ⟨h1, h2, h3, h4, h5, h6⟩ : 0 ≤ label ∧ label < 1048576 ∧ 0 ≤ tc ∧ tc < 8 ∧ 0 ≤ ttl ∧ ttl < 256 := h
  obtain ⟨n, rfl⟩ := Int.eq_ofNat_of_zero_le h1
  obtain ⟨t, rfl⟩ := Int.eq_ofNat_of_zero_le h3
  obtain ⟨w, rfl⟩ := Int.eq_ofNat_of_zero_le h5
  have hn : n < 1048576 := by omega
  have ht : t < 8 := by omega
  have hw : w < 256 := by omega
  -- the third octet: low nibble of the label, traffic class, bottom-of-stack bit
  have hb : (n % 16 * 16 + t % 8 * 2 + (if s then 1 else 0)) / 16 = n % 16 ∧
      (n % 16 * 16 + t % 8 * 2 + (if s then 1 else 0)) / 2 % 8 = t ∧
      ((n % 16 * 16 + t % 8 * 2 + (if s then 1 else 0)) % 2 == 1) = s := by
    have hr : n % 16 < 16 := Nat.mod_lt _ (by decide)
    rw [Nat.mod_eq_of_lt ht]
    generalize n % 16 = r at hr ⊢
    clear hn hw h2 h4 h6
    cases s <;> simp <;> omega
  obtain ⟨e1, e2, e3⟩ := hb
  rw [parseMPLS.labels]
  show (MplsLabel.mk ((n / 4096 % 256 * 4096 + n / 16 % 256 * 16 + (n % 16 * 16 + t % 8 * 2 + (if s then 1 else 0)) / 16 : Nat) : Int)
      (((n % 16 * 16 + t % 8 * 2 + (if s then 1 else 0)) / 2 % 8 : Nat) : Int)
      ((n % 16 * 16 + t % 8 * 2 + (if s then 1 else 0)) % 2 == 1) ((w % 256 : Nat) : Int)) :: _ = _
  rw [e1, e2, e3, Nat.add_assoc, Lemmas.be_step n 16, Lemmas.be_step n 4096,
    Nat.mod_eq_of_lt hn, Nat.mod_eq_of_lt hw]
  rfl

theorem labels_roundtrip (ls : List MplsLabel) (h : ∀ l ∈ ls, LabelWF l) :
    ∀ fuel, ls.length ≤ fuel → parseMPLS.labels fuel (ls.flatMap mplsLabelBytes) = ls := by
  induction ls with
  | nil =>
    intro fuel _
    cases fuel with
    | zero => rfl
    | succ k =>
      unfold parseMPLS.labels
      simp
  | cons l r ih =>
    intro fuel hf
    cases fuel with
    | zero => simp at hf
    | succ k =>
      simp only [List.flatMap_cons]
      rw [label_roundtrip l (h l (by simp)) _ k, ih (fun x hx => h x (by simp [hx])) k (by simpa using hf)]

theorem flatMap_labels_length (ls : List MplsLabel) : (ls.flatMap mplsLabelBytes).length = 4 * ls.length := by
  induction ls with
  | nil => rfl
  | cons l r ih =>
    simp [List.flatMap_cons, mplsLabelBytes, ih]
    omega

/-- An extension object that the codec represents faithfully: its bytes have the announced length and
`parseExtensions`' object loop reads it back. -/
structure ObjOK (proto : Nat) (e : Ext) : Prop where
  len_eq : (e.bytes proto).length = e.len proto
  len_ge : 4 ≤ e.len proto
  wf : BytesWF (e.bytes proto)
  parse : ∀ (fuel : Nat) (tail : List Nat),
    parseObjects (fuel + 1) (e.bytes proto ++ tail) = (parseObjects fuel tail).map (e :: ·)

theorem parseObjects_obj {a b cls t : Nat} {rest : List Nat} {e : Ext} (hlen : a * 256 + b = rest.length + 4)
    (hp : (if cls = classMPLSLabelStack then some (parseMPLS (a :: b :: cls :: t :: rest))
           else if cls = classInterfaceInfo then parseInfo (a :: b :: cls :: t :: rest)
           else if cls = classInterfaceIdent then parseIdent (a :: b :: cls :: t :: rest)
           else some (.raw (a :: b :: cls :: t :: rest))) = some e) (fuel : Nat) (tail : List Nat) :
    parseObjects (fuel + 1) (a :: b :: cls :: t :: rest ++ tail) = (parseObjects fuel tail).map (e :: ·) := by
  have htake : (a :: b :: cls :: t :: rest ++ tail).take (rest.length + 4) = a :: b :: cls :: t :: rest :=
    List.take_left' rfl
  have hdrop : (a :: b :: cls :: t :: rest ++ tail).drop (rest.length + 4) = tail := List.drop_left' rfl
  rw [parseObjects]
  simp only [rd16, List.cons_append, List.getD_cons_zero, List.getD_cons_succ, hlen]
  rw [if_pos (by simp), if_neg (by simp), ← List.cons_append, ← List.cons_append, ← List.cons_append,
    ← List.cons_append, htake, hdrop, hp]
  cases parseObjects fuel tail <;> rfl

theorem parseObjects_nil (fuel : Nat) : parseObjects fuel [] = some [] := by
  cases fuel with
  | zero => rfl
  | succ k =>
    rw [parseObjects]
    rfl

theorem mplsLabelBytes_wf (l : MplsLabel) : BytesWF (mplsLabelBytes l) :=
  .cons (u8_lt _) (.cons (u8_lt _) (.cons (by cases l.s <;> simp <;> omega) (.cons (u8_lt _) .nil)))

/-- At most 16000 labels: the object length 4 + 4·n has to fit its 16-bit field (16382 would still do). -/
theorem objOK_mpls (proto : Nat) (ls : List MplsLabel) (hwf : ∀ l ∈ ls, LabelWF l) (hk : ls.length ≤ 16000) :
    ObjOK proto (.mpls 1 1 ls) := by
  obtain ⟨a, b, hab, e⟩ := be16_bytes ((4 + 4 * ls.length : Nat) : Int) (by omega)
  have hb : Ext.bytes proto (.mpls 1 1 ls) = a :: b :: 1 :: 1 :: ls.flatMap mplsLabelBytes := by
    show be16 _ ++ _ ++ _ = _
    rw [hab]
    rfl
  have hlen : (Ext.bytes proto (.mpls 1 1 ls)).length = 4 + 4 * ls.length := by
    rw [hb]
    simp only [List.length_cons, flatMap_labels_length]
    omega
  refine ⟨hlen, Nat.le_add_right _ _, ?_, ?_⟩
  · refine ((be16_wf _).append (.cons ?_ (.cons ?_ .nil))).append (.flatMap fun l _ => mplsLabelBytes_wf l)
    · decide
    · decide
  · have hp : parseMPLS (Ext.bytes proto (.mpls 1 1 ls)) = .mpls 1 1 ls := by
      unfold parseMPLS
      rw [hlen, hb]
      show Ext.mpls _ _ (parseMPLS.labels _ (ls.flatMap mplsLabelBytes)) = _
      rw [labels_roundtrip ls hwf _ (by omega)]
      rfl
    rw [hb] at hp ⊢
    exact parseObjects_obj (by rw [flatMap_labels_length]; omega) ((if_pos rfl).trans (congrArg some hp))

theorem parseObjects_flat (proto : Nat) (exts : List Ext) (h : ∀ e ∈ exts, ObjOK proto e) :
    ∀ fuel, exts.length ≤ fuel → parseObjects fuel (exts.flatMap (Ext.bytes proto)) = some exts := by
  induction exts with
  | nil =>
    intro fuel _
    exact parseObjects_nil fuel
  | cons e r ih =>
    intro fuel hf
    cases fuel with
    | zero => simp at hf
    | succ k =>
      simp only [List.flatMap_cons]
      rw [(h e (by simp)).parse k _, ih (fun x hx => h x (by simp [hx])) k (by simpa using hf)]
      rfl

theorem writeExts_flat (proto : Nat) (exts : List Ext)
    (h : ∀ e ∈ exts, (e.bytes proto).length = e.len proto) :
    ∀ (pre post : List Nat),
      writeExts proto (pre ++ zeros ((exts.map (Ext.len proto)).sum) ++ post) pre.length exts =
        pre ++ exts.flatMap (Ext.bytes proto) ++ post := by
  induction exts with
  | nil =>
    intro pre post
    simp [writeExts, zeros]
  | cons e r ih =>
    intro pre post
    have he := h e (by simp)
    simp only [List.map_cons, List.sum_cons, writeExts, List.flatMap_cons]
    rw [zeros_add]
    have e1 : pre ++ (zeros (e.len proto) ++ zeros ((r.map (Ext.len proto)).sum)) ++ post =
        pre ++ zeros (e.len proto) ++ (zeros ((r.map (Ext.len proto)).sum) ++ post) := by simp
    rw [e1, copyAt_exact pre (zeros (e.len proto)) (e.bytes proto) _ (by simp [zeros, he])]
    have e2 : pre.length + e.len proto = (pre ++ e.bytes proto).length := by simp [he]
    have e3 : pre ++ e.bytes proto ++ (zeros ((r.map (Ext.len proto)).sum) ++ post) =
        (pre ++ e.bytes proto) ++ zeros ((r.map (Ext.len proto)).sum) ++ post := by simp
    rw [e2, e3, ih (fun x hx => h x (by simp [hx]))]
    simp

theorem checksum_zero_of_valid (b : List Nat) (hwf : BytesWF b) (hv : Valid1071 b) : checksum b = 0 := by
  obtain ⟨f, hc, f1, f2, f3⟩ := checksum_spec b hwf
  obtain ⟨v1, v2⟩ := hv
  rw [hc]
  omega

theorem validHdr (E : List Nat) (hwf : BytesWF E) :
    validExtensionHeader (32 :: 0 :: (checksum (32 :: 0 :: 0 :: 0 :: E) % 256) ::
      (checksum (32 :: 0 :: 0 :: 0 :: E) / 256 % 256) :: E) = true := by
  have hz := checksum_zero_of_valid _
    (.cons (by decide) (.cons (by decide) (.cons (Nat.mod_lt _ (by decide)) (.cons (Nat.mod_lt _ (by decide)) hwf))))
    (checksum_at2 (a := 32) (b := 0) (by decide) (by decide) hwf)
  generalize checksum (32 :: 0 :: 0 :: 0 :: E) = c at *
  unfold validExtensionHeader
  simp only [List.getD_cons_zero, List.drop_succ_cons, List.drop_zero, rd16, List.getD_cons_succ, extensionVersion]
  by_cases hs : (c % 256 * 256 + c / 256 % 256 != 0) = true
  · rw [if_pos hs, hz]
    decide
  · rw [if_neg hs, show c % 256 * 256 + c / 256 % 256 = 0 by simpa using hs]
    decide

/-- Original datagram zero-padded to the RFC 4884 length. -/
def padded (proto : Nat) (data : List Nat) : List Nat :=
  data ++ zeros (origDatagramLen proto data.length - data.length)

theorem padded_length (proto : Nat) (data : List Nat) (hp : proto = protocolICMP ∨ proto = protocolIPv6ICMP) :
    (padded proto data).length = origDatagramLen proto data.length := by
  have := origDatagramLen_spec data.length
  unfold padded
  simp only [List.length_append, zeros, List.length_replicate]
  rcases hp with h | h <;> subst h <;> omega

def extBytes (proto : Nat) (exts : List Ext) : List Nat := exts.flatMap (Ext.bytes proto)

/-- The extension structure: header (version 2, checksum) and objects. -/
def extStruct (proto : Nat) (exts : List Ext) : List Nat :=
  32 :: 0 :: (checksum (32 :: 0 :: 0 :: 0 :: extBytes proto exts) % 256) ::
    (checksum (32 :: 0 :: 0 :: 0 :: extBytes proto exts) / 256 % 256) :: extBytes proto exts

theorem extBytes_length (proto : Nat) (exts : List Ext) (hok : ∀ e ∈ exts, ObjOK proto e) :
    (extBytes proto exts).length = (exts.map (Ext.len proto)).sum ∧
    4 * exts.length ≤ (exts.map (Ext.len proto)).sum := by
  induction exts with
  | nil => exact ⟨rfl, Nat.le_refl _⟩
  | cons e r ih =>
    obtain ⟨h1, h2⟩ := ih fun x hx => hok x (List.mem_cons_of_mem _ hx)
    have ho := hok e List.mem_cons_self
    have := ho.len_ge
    simp only [extBytes, List.flatMap_cons, List.length_append, List.map_cons, List.sum_cons, List.length_cons,
      ho.len_eq] at h1 ⊢
    omega

theorem extLen_pos (proto : Nat) (exts : List Ext) (hne : exts ≠ []) (hok : ∀ e ∈ exts, ObjOK proto e) :
    0 < (exts.map (Ext.len proto)).sum := by
  have := (extBytes_length proto exts hok).2
  have := List.length_pos_iff.2 hne
  omega

/-- The extension structure as `marshalMultipartMessageBody` writes it into a zeroed buffer behind any `pre`:
version nibble, objects, then the checksum of the structure. -/
theorem writeExtStruct (proto : Nat) (pre : List Nat) (exts : List Ext)
    (hlen : ∀ e ∈ exts, (e.bytes proto).length = e.len proto) (b : List Nat)
    (hb : b = writeExts proto ((pre ++ zeros (4 + (exts.map (Ext.len proto)).sum)).set pre.length
      (extensionVersion * 16)) (pre.length + 4) exts) :
    xorCsumAt b (pre.length + 2) (checksum (b.drop pre.length)) = pre ++ extStruct proto exts := by
  have h1 : (pre ++ zeros (4 + (exts.map (Ext.len proto)).sum)).set pre.length (extensionVersion * 16) =
      (pre ++ [32, 0, 0, 0]) ++ zeros ((exts.map (Ext.len proto)).sum) ++ [] := by
    rw [zeros_add, show zeros 4 = 0 :: [0, 0, 0] from rfl, List.cons_append, List.set_append_right _ _ (Nat.le_refl _),
      Nat.sub_self, List.set_cons_zero]
    simp [extensionVersion]
  have h2 : pre.length + 4 = (pre ++ [32, 0, 0, 0]).length := by simp
  rw [h1, h2, writeExts_flat proto exts hlen] at hb
  have h3 : b = (pre ++ [32, 0]) ++ 0 :: 0 :: extBytes proto exts := by simp [hb, extBytes]
  have h4 : pre.length + 2 = (pre ++ [32, 0]).length := by simp
  rw [h4, h3, xorCsumAt_zero]
  simp [extStruct]

/-- `marshalMultipartMessageBody` with extensions: 4 leading octets carrying the length attribute,
the zero-padded datagram, the extension structure. -/
theorem marshalMultipart_ext (proto : Nat) (hp : proto = protocolICMP ∨ proto = protocolIPv6ICMP)
    (data : List Nat) (exts : List Ext) (hne : exts ≠ []) (hok : ∀ e ∈ exts, ObjOK proto e) :
    marshalMultipart proto true data exts =
      (if proto = protocolICMP then 0 else origDatagramLen proto data.length / 8 % 256) ::
      (if proto = protocolICMP then origDatagramLen proto data.length / 4 % 256 else 0) :: 0 :: 0 ::
      (padded proto data ++ extStruct proto exts) := by
  have hL := extLen_pos proto exts hne hok
  have hD := padded_length proto data hp
  have hnD : data.length ≤ origDatagramLen proto data.length := by
    have := origDatagramLen_spec data.length
    rcases hp with h | h <;> subst h <;> omega
  unfold marshalMultipart
  rw [multipartLens_ext proto data exts hL]
  simp only
  rw [if_pos (List.length_pos_iff.2 hne)]
  generalize hDd : origDatagramLen proto data.length = D at *
  generalize hLd : (exts.map (Ext.len proto)).sum = L
  -- the datagram goes behind four zero octets, the extension structure behind the padded datagram
  have hc : copyAt (zeros (4 + 4 + D + L)) 4 data = (zeros 4 ++ padded proto data) ++ zeros (4 + L) := by
    rw [show 4 + 4 + D + L = 4 + (data.length + ((D - data.length) + (4 + L))) by omega, zeros_add, zeros_add,
      ← List.append_assoc]
    refine (copyAt_exact (zeros 4) _ data _ (by simp [zeros])).trans ?_
    simp [padded, hDd, zeros_add]
  have hpre : 4 + D = (zeros 4 ++ padded proto data).length := by
    rw [List.length_append, hD]
    rfl
  rw [hc, ← hLd, hpre, writeExtStruct proto _ exts (fun e he => (hok e he).len_eq) _ rfl]
  rcases hp with h | h
  · subst h
    simp [zeros, protocolICMP]
  · subst h
    have hne6 : ¬ (protocolIPv6ICMP = protocolICMP) := by decide
    simp [zeros, hne6]

theorem extBytes_wf (proto : Nat) (exts : List Ext) (hok : ∀ e ∈ exts, ObjOK proto e) : BytesWF (extBytes proto exts) :=
  .flatMap fun e he => (hok e he).wf

/-- `parseMultipartMessageBody` on a body with an extension structure: four octets announcing the length of
the datagram `pre` (128 octets or more), the datagram, and a structure `X` with a valid header whose objects
parse to `es`. -/
theorem parseMultipart_struct {proto typ : Nat} (hx : isExtEchoRequest proto typ = false) (b0 b1 b2 b3 : Nat)
    (pre X : List Nat) (es : List Ext)
    (hl : (if proto = protocolICMP then 4 * b1 else if proto = protocolIPv6ICMP then 8 * b0 else 0) = pre.length)
    (h128 : 128 ≤ pre.length) (hX : 8 ≤ X.length) (hv : validExtensionHeader X = true)
    (hobj : parseObjects (pre.length + X.length) (X.drop 4) = some es) :
    parseMultipart proto typ (b0 :: b1 :: b2 :: b3 :: (pre ++ X)) = (pre, es) := by
  have hpe : parseExtensions proto typ (pre ++ X) pre.length = some (es, pre.length) := by
    unfold parseExtensions
    have c1 : ¬ (128 > pre.length ∨ pre.length + 8 > pre.length + X.length) := by omega
    simp only [hx, Bool.false_eq_true, if_false, List.length_append, c1]
    rw [if_neg (by omega), List.drop_left, hv]
    simp only [Bool.not_true, Bool.false_eq_true, if_false]
    rw [← List.drop_drop, List.drop_left, hobj]
  unfold parseMultipart
  simp only [List.getD_cons_zero, List.getD_cons_succ, hl, List.length_cons, List.drop_succ_cons, List.drop_zero,
    List.length_append]
  rw [if_neg (by omega), hpe]
  simp only
  rw [List.take_left]

/-- `parseMultipartMessageBody` reads back what `marshalMultipartMessageBody` wrote, whatever the two unused leading
octets are. -/
theorem parseMultipart_ext (proto typ : Nat) (hp : proto = protocolICMP ∨ proto = protocolIPv6ICMP)
    (hx : isExtEchoRequest proto typ = false) (data : List Nat) (exts : List Ext) (hne : exts ≠ [])
    (hok : ∀ e ∈ exts, ObjOK proto e)
    (h0 h1 h2 h3 : Nat)
    (hl : (if proto = protocolICMP then 4 * h1 else if proto = protocolIPv6ICMP then 8 * h0 else 0) =
      origDatagramLen proto data.length) :
    parseMultipart proto typ (h0 :: h1 :: h2 :: h3 :: (padded proto data ++ extStruct proto exts)) =
      (padded proto data, exts) := by
  obtain ⟨hEl, hE4⟩ := extBytes_length proto exts hok
  have hD := padded_length proto data hp
  have hspec := origDatagramLen_spec data.length
  have hXl : (extStruct proto exts).length = 4 + (exts.map (Ext.len proto)).sum :=
    (congrArg (· + 4) hEl).trans (Nat.add_comm _ _)
  have := List.length_pos_iff.2 hne
  refine parseMultipart_struct hx _ _ _ _ _ _ _ (hl.trans hD.symm) ?_ (by omega)
    (validHdr _ (extBytes_wf proto exts hok)) (parseObjects_flat proto exts hok _ (by omega))
  rcases hp with h | h <;> subst h <;> omega

def lengthAttrFits (proto : Nat) (data : List Nat) : Prop :=
  if proto = protocolICMP then origDatagramLen proto data.length / 4 < 256
  else origDatagramLen proto data.length / 8 < 256

theorem lengthAttrOK_iff (proto : Nat) (hp : proto = protocolICMP ∨ proto = protocolIPv6ICMP)
    (data : List Nat) (exts : List Ext) (hL : 0 < (exts.map (Ext.len proto)).sum) :
    lengthAttrOK proto data exts = true ↔ lengthAttrFits proto data := by
  have hlen : exts.length > 0 := by
    cases exts with
    | nil => cases hL
    | cons _ _ => exact Nat.succ_pos _
  unfold lengthAttrOK lengthAttrFits
  rw [multipartLens_ext proto data exts hL, if_pos hlen]
  rcases hp with rfl | rfl
  · simp only [if_true, decide_eq_true_eq]
    omega
  · simp only [show ¬ (protocolIPv6ICMP = protocolICMP) by decide, if_false, if_true, decide_eq_true_eq]
    omega

/-- `none` is `errInvalidBody` (multipart.go, repair `23a10ce`). -/
theorem lengthAttr_rejected (proto : Nat) (hp : proto = protocolICMP ∨ proto = protocolIPv6ICMP)
    (data : List Nat) (exts : List Ext) (hL : 0 < (exts.map (Ext.len proto)).sum)
    (hfit : ¬ lengthAttrFits proto data) :
    Body.marshal proto (.dstUnreach data exts) = none ∧ Body.marshal proto (.timeExceeded data exts) = none := by
  have hno : lengthAttrOK proto data exts = false :=
    Bool.eq_false_iff.2 (mt (lengthAttrOK_iff proto hp data exts hL).1 hfit)
  constructor <;> simp [Body.marshal, hno]

/-- ICMPv4 stores the length in 32-bit words in octet 1, ICMPv6 in 64-bit words in octet 0; the padded length is aligned
and fits the octet. -/
theorem lengthAttr_decodes (proto : Nat) (hp : proto = protocolICMP ∨ proto = protocolIPv6ICMP) (data : List Nat)
    (hfit : lengthAttrFits proto data) (h0 : Nat) (h6 : proto ≠ protocolICMP → h0 = origDatagramLen proto data.length / 8 % 256) :
    (if proto = protocolICMP then 4 * (if proto = protocolICMP then origDatagramLen proto data.length / 4 % 256 else 0)
     else if proto = protocolIPv6ICMP then 8 * h0 else 0) = origDatagramLen proto data.length := by
  have hspec := origDatagramLen_spec data.length
  unfold lengthAttrFits at hfit
  rcases hp with rfl | rfl
  · rw [if_pos rfl] at hfit
    rw [if_pos rfl, if_pos rfl]
    omega
  · have hne6 : ¬ (protocolIPv6ICMP = protocolICMP) := by decide
    rw [if_neg hne6] at hfit
    rw [if_neg hne6, if_pos rfl, h6 hne6]
    omega

/-- InterfaceIdent by index (RFC 8335, class 3 type 2) is represented faithfully. -/
theorem objOK_identIndex (proto : Nat) (index : Int) (h : 0 ≤ index ∧ index < 4294967296) :
    ObjOK proto (.ident 3 2 [] index 0 []) := by
  have hb : Ext.bytes proto (.ident 3 2 [] index 0 []) = 0 :: 8 :: 3 :: 2 :: be32 index := rfl
  refine ⟨rfl, Nat.le_of_ble_eq_true rfl, ?_, ?_⟩
  · rw [hb]
    exact .cons (by decide) (.cons (by decide) (.cons (by decide) (.cons (by decide) (be32_wf _))))
  · obtain ⟨a, b, c, d, hab, e⟩ := be32_bytes index h
    rw [hb, hab]
    exact parseObjects_obj rfl (by
      simp [classMPLSLabelStack, classInterfaceInfo, classInterfaceIdent, parseIdent, typeInterfaceByName,
        typeInterfaceByIndex, rd32, e])

end NetVerif.Proofs.C60
