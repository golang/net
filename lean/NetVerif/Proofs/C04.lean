import NetVerif.Proofs.Lemmas.Huffman
import NetVerif.Spec.Rfc7541Huffman
import NetVerif.Proofs.Lemmas.HuffmanAcc
import NetVerif.Proofs.Lemmas.HuffmanStride
import NetVerif.Proofs.Lemmas.IfCases
/-!
C04 — Huffman coding is a canonical bijection on byte strings: `decode (encode s) = s`, and whatever
`decode` accepts is `encode` of its output (code words, then at most 7 one-bits: `Canon`,
`decodeAux_ok_iff`). `encode`/`decode` are the bit-level specifications in `Model.Huffman`; the two Go
functions as coded are tied to them by
`appendHuffman_eq_encode` (the 64-bit accumulator of `AppendHuffmanString`, invariant `AccInv`) and
`decodeBytesMax_eq_decodeMax` (the byte-stride loop of `huffmanDecode` over its 256-ary lookup tree).
`Bytes s`: every element `< 256` (Go `byte`).
-/
namespace NetVerif.Proofs.C04
open NetVerif.Model.Huffman
open NetVerif.Proofs.Lemmas.Huffman
open NetVerif.Proofs.Lemmas.HuffmanStride (stride decodeAux_stride stride_walk_leaf stride_walk_node stride_walk_dead)
open NetVerif
open NetVerif.Proofs.Lemmas (ok_of_ite_error ite_cases)

def Bytes (s : List Nat) : Prop := ∀ b ∈ s, b < 256

theorem table_lengths : Gen.Huffman.codes.length = 256 ∧ Gen.Huffman.lens.length = 256 := by
  decide +kernel

/-- **The code is the RFC 7541 Appendix B code** (the literal in `Spec/Rfc7541Huffman.lean`), not merely
some prefix code on which encoder and decoder agree. -/
theorem rfc_table : Gen.Huffman.codes = Spec.Rfc7541.codes ∧ Gen.Huffman.lens = Spec.Rfc7541.lens ∧
    Gen.Huffman.eosCode = Spec.Rfc7541.eosCode ∧ Gen.Huffman.eosNBits = Spec.Rfc7541.eosLen := by
  decide +kernel

/-- **T-fact on the lazy initialisation**: `getRootHuffmanNode` is exactly
`buildRootOnce.Do(buildRootHuffmanNode); return lazyRootHuffmanNode` — the tree is reachable only
after the `sync.Once` has completed, which is what makes the sequential model valid for concurrent
first use (any fast path around the `Once` breaks this obligation). -/
theorem root_init_once :
    Gen.Huffman.rootInitBody = "buildRootOnce.Do(buildRootHuffmanNode); return lazyRootHuffmanNode" := by
  rfl

/-- Every code fits its length; lengths are between 5 and 30 (so `AppendHuffmanString`'s
"less than 32 valid bits can always accommodate another code" holds). -/
theorem table_code_bounds (s : Nat) (h : s < 256) :
    codeOf s < 2 ^ lenOf s ∧ 5 ≤ lenOf s ∧ lenOf s ≤ 30 := code_lt s h

/-- With `table_leaf_unique`: the decoding tree is exactly the tree of the table. -/
theorem table_walk (s : Nat) (h : s < 256) : trie.walk (symBits s) = .leaf s := walk_symBits s h

theorem table_leaf_unique (p : List Bool) (s : Nat) (h : trie.walk p = .leaf s) :
    s < 256 ∧ symBits s = p := walk_leaf_unique p s h

theorem table_prefix_free (a b : Nat) (ha : a < 256) (hb : b < 256) (q : List Bool)
    (h : symBits b = symBits a ++ q) : a = b := prefix_free a b ha hb q h

/-- EOS is 30 one-bits: the all-ones path stays inside the tree for 29 steps and then falls off;
in particular no code word consists of ≤ 7 (indeed ≤ 29) one-bits. -/
theorem table_eos : (∀ j < 30, (trie.walk (List.replicate j true)).isNode = true) ∧
    trie.walk (List.replicate 30 true) = .empty ∧
    Gen.Huffman.eosCode = 2 ^ 30 - 1 ∧ Gen.Huffman.eosNBits = 30 ∧ Gen.Huffman.eosPadByte = 255 :=
  ⟨walk_ones_isNode, walk_ones_30, eos_consts⟩

theorem encodeBits_cons (c : Nat) (s : List Nat) : encodeBits (c :: s) = symBits c ++ encodeBits s :=
  List.flatMap_cons

theorem decodeAux_encodeBits (m : Nat) (s : List Nat) (hs : Bytes s) (acc : List Nat) (rest : List Bool)
    (hm : m ≠ 0 → acc.length + s.length ≤ m) :
    decodeAux trie m trie [] acc (encodeBits s ++ rest) =
      decodeAux trie m trie [] (s.reverse ++ acc) rest := by
  induction s generalizing acc with
  | nil => rfl
  | cons c s ih =>
    have h := decodeAux_stride trie m (encodeBits s ++ rest) (symBits c) trie [] acc
    rw [stride_walk_leaf trie_isNode (walk_symBits c (hs c List.mem_cons_self))] at h
    have hlim : ¬(m ≠ 0 ∧ acc.length = m) := fun ⟨h0, he⟩ => by
      have := hm h0; simp only [List.length_cons] at this; omega
    simp only [if_neg hlim, List.drop_length, List.nil_append] at h
    rw [encodeBits_cons, List.append_assoc, h, ih (fun b hb => hs b (List.mem_cons_of_mem c hb)) _
      (fun h0 => by have := hm h0; simp only [List.length_cons] at this ⊢; omega),
      List.reverse_cons, List.append_assoc]
    rfl

theorem decodeAux_partial (m : Nat) (acc : List Nat) (p : List Bool) (cur : Trie) (pend : List Bool)
    (hw : (cur.walk p).isNode = true) (hc : cur.isNode = true) :
    decodeAux trie m cur pend acc p =
      if (p.reverse ++ pend).length > 7 then .error .invalid
      else if (p.reverse ++ pend).all id then .ok acc.reverse else .error .invalid := by
  have h := decodeAux_stride trie m [] p cur pend acc
  rw [stride_walk_node hc hw, List.append_nil] at h
  rw [h, decodeAux]

theorem decodeAux_dead (m : Nat) (acc : List Nat) (p q : List Bool) (b : Bool) (cur : Trie) (pend : List Bool)
    (hw : (cur.walk p).isNode = true) (hc : cur.isNode = true) (he : (cur.walk p).child b = .empty) :
    decodeAux trie m cur pend acc (p ++ b :: q) = .error .invalid := by
  have h := decodeAux_stride trie m [] (p ++ b :: q) cur pend acc
  rw [stride_walk_dead hc hw he, List.append_nil] at h
  exact h

theorem padLen_lt (n : Nat) : padLen n < 8 := by unfold padLen; omega
theorem padLen_mod (n : Nat) : (n + padLen n) % 8 = 0 := by unfold padLen; omega

theorem bits_encode (s : List Nat) :
    bytesToBits (encode s) = encodeBits s ++ List.replicate (padLen (encodeBits s).length) true := by
  unfold encode
  apply bytesToBits_packBits
  simp only [List.length_append, List.length_replicate]
  exact padLen_mod _

/-- `HuffmanEncodeLength(s)` is the length of the encoding. -/
theorem encodeLength_eq (s : List Nat) : encodeLength s = (encode s).length := by
  unfold encode encodeLength
  rw [packBits_length, List.length_append, List.length_replicate, encodeBits_length]
  unfold padLen
  omega

/-- `bits` are the code words of `syms` and then at most 7 one-bits. -/
structure Canon (syms : List Nat) (bits : List Bool) : Prop where
  bytes : Bytes syms
  split : ∃ k < 8, bits = encodeBits syms ++ List.replicate k true

/-- Invariant of a run that ends in `ok out`: `cur` is the tree node reached by the pending bits, and
pending bits plus remaining input are the code words of the symbols still to come, then the padding. -/
theorem decodeAux_sound (m : Nat) (bits : List Bool) (cur : Trie) (pend : List Bool) (acc out : List Nat)
    (hcur : cur = trie.walk pend.reverse) (hacc : m ≠ 0 → acc.length ≤ m)
    (h : decodeAux trie m cur pend acc bits = .ok out) :
    ∃ syms, out = acc.reverse ++ syms ∧ Canon syms (pend.reverse ++ bits) ∧ (m ≠ 0 → out.length ≤ m) := by
  induction bits generalizing cur pend acc with
  | nil =>
    rw [decodeAux] at h
    obtain ⟨hlen, h⟩ := ok_of_ite_error h
    rcases ite_cases h with ⟨hall, h⟩ | ⟨_, h⟩
    · cases h
      refine ⟨[], (List.append_nil _).symm,
        ⟨(fun _ hb => nomatch hb), pend.length, Nat.lt_succ_of_le (Nat.le_of_not_lt hlen), ?_⟩,
        by rwa [List.length_reverse]⟩
      rw [List.append_nil]
      exact List.eq_replicate_iff.mpr
        ⟨List.length_reverse, fun b hb => List.all_eq_true.mp hall b (List.mem_reverse.mp hb)⟩
    · cases h
  | cons b bs ih =>
    rw [decodeAux] at h
    have hstep : cur.child b = trie.walk (b :: pend).reverse := by
      rw [List.reverse_cons, walk_append, ← hcur]; rfl
    have hrev : (b :: pend).reverse ++ bs = pend.reverse ++ b :: bs := by
      rw [List.reverse_cons, List.append_assoc]; rfl
    cases hch : cur.child b <;> rw [hch] at h hstep
    · cases h
    · rename_i s
      obtain ⟨hlim, h⟩ := ok_of_ite_error h
      obtain ⟨syms, ho, ⟨hb, k, hk, hbits⟩, hl⟩ := ih trie [] (s :: acc) rfl
        (fun h0 => by have := hacc h0; simp only [List.length_cons]; omega) h
      obtain ⟨hs, hsb⟩ := walk_leaf_unique _ s hstep.symm
      refine ⟨s :: syms, by rw [ho, List.reverse_cons, List.append_assoc]; rfl,
        ⟨List.forall_mem_cons.mpr ⟨hs, hb⟩, k, hk, ?_⟩, hl⟩
      rw [encodeBits_cons, hsb, List.append_assoc, ← hbits, ← hrev]
      rfl
    · obtain ⟨syms, ho, hc, hl⟩ := ih _ (b :: pend) acc hstep hacc h
      exact ⟨syms, ho, hrev ▸ hc, hl⟩

theorem decodeAux_ok_iff (m : Nat) (bits : List Bool) (out : List Nat) :
    decodeAux trie m trie [] [] bits = .ok out ↔ Canon out bits ∧ (m ≠ 0 → out.length ≤ m) := by
  constructor
  · intro h
    obtain ⟨syms, rfl, hc, hl⟩ := decodeAux_sound m bits trie [] [] out rfl (fun _ => Nat.zero_le _) h
    exact ⟨hc, hl⟩
  · rintro ⟨⟨hb, k, hk, rfl⟩, hl⟩
    rw [decodeAux_encodeBits m out hb [] _ (by simpa using hl),
      decodeAux_partial m _ _ trie [] (walk_ones_isNode k (by omega)) trie_isNode, if_neg (by simp; omega),
      if_pos (by simp)]
    simp

/-- Round trip on the bit-level specification; for the models of the Go functions see
`decode_appendHuffman` and `decodeBytes_appendHuffman`. -/
theorem decode_encode (s : List Nat) (hs : Bytes s) : decode (encode s) = .ok s :=
  (decodeAux_ok_iff 0 _ s).mpr ⟨⟨hs, _, padLen_lt _, bits_encode s⟩, fun h => absurd rfl h⟩

/-- Any input `HuffmanDecode` accepts is the canonical encoding of its output. -/
theorem encode_decode (v s : List Nat) (hv : Bytes v) (h : decode v = .ok s) :
    v = encode s ∧ Bytes s := by
  obtain ⟨⟨hb, k, hk, hbits⟩, -⟩ := (decodeAux_ok_iff 0 _ s).mp h
  refine ⟨?_, hb⟩
  have hlen := congrArg List.length hbits
  rw [bytesToBits_length, List.length_append, List.length_replicate] at hlen
  have hpad : k = padLen (encodeBits s).length := by unfold padLen; omega
  unfold encode
  rw [← hpad, ← hbits, packBits_bytesToBits v hv]

theorem decode_unique (v w s : List Nat) (hv : Bytes v) (hw : Bytes w)
    (h1 : decode v = .ok s) (h2 : decode w = .ok s) : v = w := by
  rw [(encode_decode v s hv h1).1, (encode_decode w s hw h2).1]

theorem decodeMax_ok (m : Nat) (v s : List Nat) (h : decodeMax m v = .ok s) :
    decode v = .ok s ∧ (m ≠ 0 → s.length ≤ m) :=
  have h := (decodeAux_ok_iff m _ s).mp h
  ⟨(decodeAux_ok_iff 0 _ s).mpr ⟨h.1, fun h => absurd rfl h⟩, h.2⟩

theorem decodeMax_of_decode (m : Nat) (v s : List Nat) (h : decode v = .ok s) (hl : s.length ≤ m) :
    decodeMax m v = .ok s :=
  (decodeAux_ok_iff m _ s).mpr ⟨((decodeAux_ok_iff 0 _ s).mp h).1, fun _ => hl⟩

theorem decodeMax_zero (v : List Nat) : decodeMax 0 v = decode v := rfl

/-- **Over-long padding is rejected**: a whole extra byte of EOS prefix after any encoding. -/
theorem reject_long_padding (s : List Nat) (hs : Bytes s) :
    decode (encode s ++ [255]) = .error .invalid := by
  have hp := padLen_lt (encodeBits s).length
  have h255 : bytesToBits [255] = List.replicate 8 true := by decide
  rw [decode, decodeMax, bytesToBits_append, bits_encode, h255, List.append_assoc]
  -- behind the symbols, padding and extra byte are 8 to 15 one-bits: inside a code word, and more than 7
  rw [decodeAux_encodeBits 0 s hs _ _ (fun h => absurd rfl h), List.replicate_append_replicate,
    decodeAux_partial 0 _ _ trie [] (walk_ones_isNode _ (by omega)) trie_isNode, if_pos (by simp)]

/-- More generally: an accepted input never has 8 or more bits after its last symbol. -/
theorem accepted_padding_short (v s : List Nat) (hv : Bytes v) (h : decode v = .ok s) :
    8 * v.length - bitLen s < 8 ∧ bitLen s ≤ 8 * v.length := by
  have := (encode_decode v s hv h).1
  have hl := congrArg List.length this
  rw [← encodeLength_eq] at hl
  unfold encodeLength at hl
  omega

/-- **Non-EOS padding is rejected**, bit-level (on `decodeAux`, any number of bits): if the bits after
the last complete symbol are an incomplete code prefix containing a zero bit, the input is invalid. -/
theorem reject_non_eos_padding (s : List Nat) (hs : Bytes s) (p : List Bool)
    (hp : (trie.walk p).isNode = true) (hz : p.all id = false) :
    decodeAux trie 0 trie [] [] (encodeBits s ++ p) = .error .invalid := by
  rw [decodeAux_encodeBits 0 s hs _ _ (fun h => absurd rfl h), decodeAux_partial 0 _ p trie [] hp trie_isNode]
  simp [hz]

/-- **The EOS symbol inside a string is rejected**, bit-level (on `decodeAux`): 30 one-bits at a symbol
boundary, whatever follows. -/
theorem reject_eos_symbol (s : List Nat) (hs : Bytes s) (rest : List Bool) :
    decodeAux trie 0 trie [] [] (encodeBits s ++ List.replicate 30 true ++ rest) = .error .invalid := by
  rw [List.append_assoc, decodeAux_encodeBits 0 s hs _ _ (fun h => absurd rfl h), List.replicate_succ' (n := 29),
    List.append_assoc]
  exact decodeAux_dead 0 _ _ rest true trie [] (walk_ones_isNode 29 (by decide)) trie_isNode
    (by have := walk_ones_30; rwa [List.replicate_succ' (n := 29), walk_append] at this)

def AppendHuffmanEqEncodeStatement : Prop := ∀ s : List Nat, Bytes s → appendHuffman s = encode s

open NetVerif.Proofs.Lemmas.HuffmanAcc

/-- Invariant of the loop of `AppendHuffmanString`: `bits` = all code bits so far = the bits already
written out (`done`, whole bytes) followed by the `n < 32` pending ones, which are the low end of `x`
(older bits above them are never cleared, exactly as in the Go code). -/
def AccInv (a : Acc) (bits : List Bool) : Prop :=
  ∃ done pend, bits = done ++ pend ∧ done.length % 8 = 0 ∧ a.out = packBits done ∧
    a.n = pend.length ∧ a.n < 32 ∧ Low a.x pend

theorem accInv_init : AccInv { x := 0, n := 0, out := [] } [] :=
  ⟨[], [], rfl, rfl, rfl, rfl, by decide, [], rfl⟩

/-- The new code word goes behind the pending bits (`q`); if that makes 32 or more, the first 32 are
written out as 4 bytes, which `Low.bits` reads off `x`, and the rest stay pending. -/
theorem accInv_step (a : Acc) (bits : List Bool) (c : Nat) (hc : c < 256) (h : AccInv a bits) :
    AccInv (accStep a c) (bits ++ symBits c) := by
  have harith : ∀ n L : Nat, n < 32 → L ≤ 30 → 32 ≤ n + L →
      min 32 (n + L) = 32 ∧ n + L - 32 = (n + L) % 32 := by
    intro n L _ _ _; omega
  obtain ⟨done, pend, rfl, hd, hout, hn, hn32, hx⟩ := h
  obtain ⟨hcode, -, hl30⟩ := code_lt c hc
  have hl64 : lenOf c < 64 := Nat.lt_of_le_of_lt hl30 (by decide)
  have hx' : Low (((a.x <<< (lenOf c % 64)) % 2 ^ 64) ||| codeOf c) (pend ++ symBits c) := by
    rw [Nat.mod_eq_of_lt hl64]
    exact hx.shift_or _ _ hl64 hcode
  have hlen : (pend ++ symBits c).length = a.n + lenOf c := by rw [List.length_append, symBits_length, hn]
  rw [List.append_assoc]
  generalize pend ++ symBits c = q at hx' hlen ⊢
  simp only [accStep]
  by_cases hge : a.n + lenOf c ≥ 32
  · obtain ⟨hmin, hsub⟩ := harith _ _ hn32 hl30 hge
    have hwlen : (q.take 32).length = 32 := by rw [List.length_take, hlen, hmin]
    have hrlen : (q.drop 32).length = (a.n + lenOf c) % 32 := by rw [List.length_drop, hlen, hsub]
    have hy := Low.bits (P := q.take 32) (Q := q.drop 32) (by rwa [List.take_append_drop])
      (by rw [hwlen, hrlen]; exact Nat.le_of_lt (Nat.add_lt_add_left (Nat.mod_lt _ (by decide)) 32))
    rw [hwlen, hrlen] at hy
    rw [if_pos hge]
    refine ⟨done ++ q.take 32, q.drop 32, by rw [List.append_assoc, List.take_append_drop], ?_, ?_, hrlen.symm,
      Nat.mod_lt _ (by decide), hx'.drop 32⟩
    · rw [List.length_append, hwlen, Nat.add_mod, hd]
    · rw [packBits_append _ _ hd, ← hout, packBits_eq_beBytes 4 _ hwlen, hy]
  · rw [if_neg hge]
    exact ⟨done, q, rfl, hd, hout, hlen.symm, Nat.lt_of_not_le hge, hx'⟩

theorem accInv_foldl (s : List Nat) (hs : Bytes s) (a : Acc) (bits : List Bool) (h : AccInv a bits) :
    AccInv (s.foldl accStep a) (bits ++ encodeBits s) := by
  induction s generalizing a bits with
  | nil => simpa [encodeBits] using h
  | cons c s ih =>
    have := ih (fun b hb => hs b (List.mem_cons_of_mem c hb)) _ _ (accInv_step a bits c (hs c List.mem_cons_self) h)
    simpa [encodeBits, List.append_assoc] using this

/-- The trailing `switch n / 8` of `AppendHuffmanString` writes the `n / 8` low bytes of `x`. -/
theorem finish_bytes (out : List Nat) (x k : Nat) (hk : k ≤ 4) :
    (match (generalizing := false) k with
      | 0 => out
      | 1 => out ++ [x % 256]
      | 2 => let y := x % 2 ^ 16; out ++ [y >>> 8 % 256, y % 256]
      | 3 => let y := (x >>> 8) % 2 ^ 16; out ++ [y >>> 8 % 256, y % 256, x % 256]
      | _ => let y := x % 2 ^ 32; out ++ [y >>> 24 % 256, y >>> 16 % 256, y >>> 8 % 256, y % 256]) =
      out ++ beBytes k x := by
  match k, hk with
  | 0, _ => simp [beBytes]
  | 1, _ => simp [beBytes]
  | 2, _ => rw [← beBytes_mod_pow 2 16 x (by decide)]; simp [beBytes, Nat.shiftRight_eq_div_pow]
  | 3, _ =>
    rw [beBytes_snoc, ← beBytes_mod_pow 2 16 (x / 256) (by decide)]
    simp [beBytes, Nat.shiftRight_eq_div_pow]
  | 4, _ => rw [← beBytes_mod_pow 4 32 x (by decide)]; simp [beBytes, Nat.shiftRight_eq_div_pow]

theorem pad_byte : ∀ o < 8, 0 < o → 255 >>> o = 2 ^ (8 - o) - 1 := by decide

theorem padLen_add (d n : Nat) (h : d % 8 = 0) : padLen (d + n) = padLen n := by
  rw [padLen, Nat.add_mod, h, Nat.zero_add, Nat.mod_mod, padLen]

theorem accFinish_eq (a : Acc) (bits : List Bool) (h : AccInv a bits) :
    accFinish a = packBits (bits ++ List.replicate (padLen bits.length) true) := by
  have harith : ∀ n : Nat, n < 32 → (n + padLen n) / 8 ≤ 4 ∧ (n % 8 > 0 → padLen n = 8 - n % 8) ∧
      (¬ n % 8 > 0 → padLen n = 0) := by
    intro n _; unfold padLen; omega
  obtain ⟨done, pend, rfl, hd, hout, hn, hn32, hx⟩ := h
  obtain ⟨hk, hp1, hp0⟩ := harith a.n hn32
  rw [List.length_append, padLen_add _ _ hd, ← hn]
  -- the bytes still to be written are the low bytes of a register that ends in the padded pending bits
  have htail : ∀ x', Low x' (pend ++ List.replicate (padLen a.n) true) →
      a.out ++ beBytes ((a.n + padLen a.n) / 8) x' =
        packBits (done ++ pend ++ List.replicate (padLen a.n) true) := by
    intro x' hl
    have hmod := padLen_mod a.n
    have hlt := padLen_lt a.n
    rw [List.append_assoc, packBits_append _ _ hd, ← hout,
      hl.beBytes _ (by rw [List.length_append, List.length_replicate, ← hn]; omega) (by omega)]
  unfold accFinish
  by_cases hov : a.n % 8 > 0
  · have hl := hx.shift_or (8 - a.n % 8) (2 ^ (8 - a.n % 8) - 1) (Nat.lt_of_le_of_lt (Nat.sub_le _ _) (by decide))
      (Nat.sub_one_lt (Nat.ne_of_gt (Nat.two_pow_pos _)))
    rw [natToBits_ones] at hl
    rw [hp1 hov] at hk htail ⊢
    simp only [hov, ↓reduceIte]
    rw [eos_consts.2.2, pad_byte _ (Nat.mod_lt _ (by decide)) hov]
    exact (finish_bytes _ _ _ hk).trans (htail _ hl)
  · rw [hp0 hov] at hk htail ⊢
    rw [Nat.add_zero] at hk htail
    simp only [hov, ↓reduceIte]
    exact (finish_bytes _ _ _ hk).trans (htail _ (by rwa [List.replicate_zero, List.append_nil]))

/-- The 64-bit accumulator of `AppendHuffmanString` (flush of 4 bytes at
`n ≥ 32`, EOS padding, 0–4 trailing bytes) computes exactly the bit-level encoding. -/
theorem appendHuffman_eq_encode : AppendHuffmanEqEncodeStatement := by
  intro s hs
  unfold appendHuffman encode
  have := accInv_foldl s hs _ _ accInv_init
  rw [List.nil_append] at this
  exact accFinish_eq _ _ this

theorem appendHuffman_length (s : List Nat) (hs : Bytes s) : (appendHuffman s).length = encodeLength s := by
  rw [appendHuffman_eq_encode s hs, encodeLength_eq]

theorem decode_appendHuffman (s : List Nat) (hs : Bytes s) : decode (appendHuffman s) = .ok s := by
  rw [appendHuffman_eq_encode s hs]; exact decode_encode s hs

/-- **Table obligation for the decoder's lookup tree**: the transcription of `buildRootHuffmanNode`,
evaluated by the kernel on the generated code tables, yields exactly the 8-bit-stride view of the
binary code tree (every slot of every node), never follows a leaf pointer, and dead ends of the
tree are behind one-bits only. -/
theorem table_lookup_tree :
    Lemmas.HuffmanStride.checkNode rootTable.tbl 5 0 trie = true ∧ rootTable.ok = true ∧
      Lemmas.HuffmanStride.checkNZ trie = true ∧ trie.isNode = true :=
  have ⟨h, ok⟩ := Lemmas.HuffmanStride.rootTable_ok
  ⟨h.check, ok, h.nz, h.node⟩

/-- The byte-stride loop of `huffmanDecode` — lookup tree, `cur`
(uint64), `cbits`/`sbits` (uint8), the `maxLen` check, the trailing `for cbits > 0` loop and the two
padding tests — computes exactly the bit-level decoder, for every input and every `maxLen`. -/
theorem decodeBytesMax_eq_decodeMax (m : Nat) (v : List Nat) (hv : Bytes v) :
    decodeBytesMax m v = decodeMax m v :=
  Lemmas.HuffmanStride.decodeBytes_sim Lemmas.HuffmanStride.rootTable_ok.1 m v hv

theorem decodeBytes_eq_decode (v : List Nat) (hv : Bytes v) : decodeBytes v = decode v :=
  decodeBytesMax_eq_decodeMax 0 v hv

/-- Round trip through the two byte-level models of the Go functions:
`huffmanDecode(AppendHuffmanString(s)) = s`. -/
theorem decodeBytes_appendHuffman (s : List Nat) (hs : Bytes s) :
    decodeBytes (appendHuffman s) = .ok s := by
  rw [appendHuffman_eq_encode s hs, decodeBytes_eq_decode (encode s) (packBits_lt _)]
  exact decode_encode s hs

/-- Canonicity for the decoder as coded: whatever `huffmanDecode` accepts is exactly
`AppendHuffmanString` of its output. -/
theorem decodeBytes_canonical (v s : List Nat) (hv : Bytes v) (h : decodeBytes v = .ok s) :
    v = appendHuffman s ∧ Bytes s := by
  rw [decodeBytes_eq_decode v hv] at h
  obtain ⟨h1, h2⟩ := encode_decode v s hv h
  exact ⟨by rw [appendHuffman_eq_encode s h2]; exact h1, h2⟩

theorem decodeBytesMax_ok (m : Nat) (v s : List Nat) (hv : Bytes v) (h : decodeBytesMax m v = .ok s) :
    decodeBytes v = .ok s ∧ (m ≠ 0 → s.length ≤ m) := by
  rw [decodeBytesMax_eq_decodeMax m v hv] at h
  rw [decodeBytes_eq_decode v hv]
  exact decodeMax_ok m v s h

end NetVerif.Proofs.C04
