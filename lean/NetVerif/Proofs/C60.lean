import NetVerif.Model.Icmp
import NetVerif.Gen.C60
import NetVerif.Proofs.Lemmas.IfCases
import NetVerif.Proofs.Lemmas.ByteArith
/-! C60 — ICMP and IP header codecs round-trip with valid checksums. Here: the checksum against the exact word sum
(`exactSum`, `Valid1071`; `checksum_rfc1071`, `ChecksumStatement`, and `wrapWitness`, an input on which a 32-bit sum
wraps); the byte lemmas and `RoundTrips`, the shape of the message round trips proved in `C60Msg`; RFC 4884 bodies
without extensions (`marshalMultipart_noext`, `parseMultipart_noext`; with extensions: `C60Ext`); `parserKind` by cases
(`kind_*`); the IPv4 header (`header_roundtrip`); the T-ties `gen_*_eq`. -/
namespace NetVerif.Proofs.C60
open NetVerif NetVerif.Model.Icmp

/-- Exact (unbounded) sum of little-endian 16-bit words; an odd trailing byte is a low byte. -/
def exactSum : List Nat → Nat
  | a :: b :: rest => (b * 256 + a) + exactSum rest
  | [a] => a
  | [] => 0

def BytesWF (bs : List Nat) : Prop := ∀ b ∈ bs, b < 256

theorem BytesWF.cons {a : Nat} {l : List Nat} (ha : a < 256) (hl : BytesWF l) : BytesWF (a :: l) :=
  List.forall_mem_cons.2 ⟨ha, hl⟩

theorem BytesWF.append {a b : List Nat} (ha : BytesWF a) (hb : BytesWF b) : BytesWF (a ++ b) :=
  List.forall_mem_append.2 ⟨ha, hb⟩

theorem BytesWF.nil : BytesWF [] := fun _ h => nomatch h

theorem BytesWF.replicate {b : Nat} (n : Nat) (hb : b < 256) : BytesWF (List.replicate n b) :=
  fun _ h => List.eq_of_mem_replicate h ▸ hb

theorem BytesWF.flatMap {α} {f : α → List Nat} {l : List α} (h : ∀ a ∈ l, BytesWF (f a)) :
    BytesWF (l.flatMap f) :=
  fun b hb =>
    let ⟨a, ha, hba⟩ := List.mem_flatMap.1 hb
    h a ha b hba

theorem u8_lt (x : Int) : u8 x < 256 := by
  unfold u8
  omega

theorem be16_wf (x : Int) : BytesWF (be16 x) :=
  .cons (by omega) (.cons (by omega) .nil)

theorem be32_wf (x : Int) : BytesWF (be32 x) :=
  .cons (by omega) (.cons (by omega) (.cons (by omega) (.cons (by omega) .nil)))

/-- RFC 1071 validity of data that contains its checksum field: the one's-complement sum of all
16-bit words is 0xffff, i.e. the exact word sum is a positive multiple of 65535. (One's-complement
addition is byte-order independent, so summing little-endian words as the code does is the
RFC's sum byte-swapped.) -/
def Valid1071 (b : List Nat) : Prop := exactSum b % 65535 = 0 ∧ 0 < exactSum b

theorem exactSum_append (pre rest : List Nat) (h : pre.length % 2 = 0) :
    exactSum (pre ++ rest) = exactSum pre + exactSum rest := by
  induction pre using exactSum.induct with
  | case1 a b r ih =>
    simp only [List.cons_append, exactSum]
    rw [ih (by simp at h; omega)]
    omega
  | case2 a => simp at h
  | case3 => simp [exactSum]

theorem exactSum_le (b : List Nat) (h : BytesWF b) : exactSum b ≤ 65535 * ((b.length + 1) / 2) := by
  induction b using exactSum.induct with
  | case1 a b r ih =>
    have ha : a < 256 := h a (by simp)
    have hb : b < 256 := h b (by simp)
    have := ih (fun x hx => h x (by simp [hx]))
    simp only [exactSum, List.length_cons]
    omega
  | case2 a =>
    have ha : a < 256 := h a (by simp)
    simp [exactSum]
    omega
  | case3 => simp [exactSum]

theorem modify_append_length {α} (pre : List α) (x : α) (rest : List α) (f : α → α) :
    (pre ++ x :: rest).modify pre.length f = pre ++ f x :: rest := by
  induction pre with
  | nil => simp
  | cons a p ih => simp [ih]

theorem xorCsumAt_zero (pre post : List Nat) (s : Nat) :
    xorCsumAt (pre ++ 0 :: 0 :: post) pre.length s = pre ++ (s % 256) :: (s / 256 % 256) :: post := by
  unfold xorCsumAt
  rw [modify_append_length]
  have : pre ++ (0 ^^^ s % 256) :: 0 :: post = (pre ++ [0 ^^^ s % 256]) ++ 0 :: post := by simp
  rw [this]
  have hl : pre.length + 1 = (pre ++ [0 ^^^ s % 256]).length := by simp
  rw [hl, modify_append_length]
  simp

theorem fold16_spec (s : Nat) (hs : s < 4294967296) :
    fold16 s ≤ 65535 ∧ fold16 s % 65535 = s % 65535 ∧ (fold16 s = 0 ↔ s = 0) := by
  -- first fold `t`: congruent to `s`, below 2^17 - 1; the second fold adds its carry bit
  have h1 : (s / 65536 + s % 65536) % 65535 = s % 65535 ∧ (s / 65536 + s % 65536 = 0 ↔ s = 0) ∧
      s / 65536 + s % 65536 < 131071 := by omega
  unfold fold16
  simp only []
  generalize s / 65536 + s % 65536 = t at h1 ⊢
  obtain ⟨h2, h3, h4⟩ := h1
  rw [← h2, ← h3, Nat.mod_eq_of_lt (by omega : t < 4294967296)]
  clear h2 h3 hs
  by_cases hc : t < 65536
  · rw [Nat.div_eq_of_lt hc]
    omega
  · rw [show t / 65536 = 1 by omega]
    omega

theorem addCarry_spec (s w : Nat) (hs : s < 4294967296) (hw : w < 65536) :
    addCarry s w < 4294967296 ∧ addCarry s w % 65535 = (s + w) % 65535 ∧ (addCarry s w = 0 ↔ s + w = 0) := by
  unfold addCarry
  simp only
  by_cases hc : s + w < 4294967296
  · rw [Nat.mod_eq_of_lt hc, if_neg (by omega)]
    omega
  · rw [if_pos (by omega)]
    omega

/-- No length bound: the end-around carry of `addCarry` makes the 32-bit wrap-around harmless. -/
theorem sumWords_spec (b : List Nat) (hwf : BytesWF b) :
    ∀ s, s < 4294967296 →
      sumWords s b < 4294967296 ∧ sumWords s b % 65535 = (s + exactSum b) % 65535 ∧
      (sumWords s b = 0 ↔ s + exactSum b = 0) := by
  induction b using exactSum.induct with
  | case1 a b rest ih =>
    intro s hs
    have ha : a < 256 := hwf a (by simp)
    have hb : b < 256 := hwf b (by simp)
    obtain ⟨c1, c2, c3⟩ := addCarry_spec s (b * 256 + a) hs (by omega)
    obtain ⟨r1, r2, r3⟩ := ih (fun x hx => hwf x (by simp [hx])) _ c1
    refine ⟨r1, ?_, ?_⟩
    · rw [sumWords, exactSum, r2, Nat.add_mod, c2, ← Nat.add_mod, Nat.add_assoc]
    · rw [sumWords, exactSum, r3]
      clear r2 c2
      omega
  | case2 a =>
    intro s hs
    exact addCarry_spec s a hs (Nat.lt_trans (hwf a (by simp)) (by decide))
  | case3 =>
    intro s hs
    exact ⟨hs, rfl, Iff.rfl⟩

theorem checksum_spec (b : List Nat) (hwf : BytesWF b) :
    ∃ f, checksum b = 65535 - f ∧ f ≤ 65535 ∧ f % 65535 = exactSum b % 65535 ∧ (f = 0 ↔ exactSum b = 0) := by
  obtain ⟨r1, r2, r3⟩ := sumWords_spec b hwf 0 (by decide)
  obtain ⟨f1, f2, f3⟩ := fold16_spec _ r1
  refine ⟨fold16 (sumWords 0 b), rfl, f1, ?_, ?_⟩
  · rw [f2, r2, Nat.zero_add]
  · rw [f3, r3, Nat.zero_add]

/-- C60, RFC 1071 clause, for every length: with a zero checksum field at an even offset, inserting `checksum` (low byte
first, as the code stores it) gives data whose one's-complement word sum is 0xffff. Before the repair `ed6085a` of
`checksum` (end-around carry in the loop) the 32-bit accumulator wrapped beyond 131076 bytes. -/
theorem checksum_rfc1071 (pre post : List Nat) (hpre : pre.length % 2 = 0)
    (hwf : BytesWF (pre ++ 0 :: 0 :: post)) :
    Valid1071 (xorCsumAt (pre ++ 0 :: 0 :: post) pre.length (checksum (pre ++ 0 :: 0 :: post))) := by
  rw [xorCsumAt_zero]
  have hS : exactSum (pre ++ 0 :: 0 :: post) = exactSum pre + exactSum post := by
    rw [exactSum_append _ _ hpre]
    simp [exactSum]
  obtain ⟨f, hc, f1, f2, f3⟩ := checksum_spec _ hwf
  rw [hc, hS] at *
  unfold Valid1071
  rw [exactSum_append _ _ hpre]
  simp only [exactSum]
  rw [Lemmas.be_step, Nat.mod_eq_of_lt (Nat.lt_succ_of_le (Nat.sub_le _ _))]
  omega

/-- The ICMP header and the RFC 4884 extension header both keep their checksum in octets 2 and 3. -/
theorem checksum_at2 {a b : Nat} {rest : List Nat} (ha : a < 256) (hb : b < 256) (hwf : BytesWF rest) :
    Valid1071 (a :: b :: checksum (a :: b :: 0 :: 0 :: rest) % 256 ::
      checksum (a :: b :: 0 :: 0 :: rest) / 256 % 256 :: rest) := by
  have hv := checksum_rfc1071 [a, b] rest (by simp)
    (.cons ha (.cons hb (.cons (by decide) (.cons (by decide) hwf))))
  rwa [xorCsumAt_zero] at hv

/-- ICMPv4 echo request with ID = Seq = 0xffff and data `d`, checksum field zero. -/
def echoFF (d : List Nat) : List Nat := 8 :: 0 :: 0 :: 0 :: 255 :: 255 :: 255 :: 255 :: d

def wrapData : List Nat := List.replicate (2 * 65535) 255

/-- ICMPv4 echo request, ID = Seq = 0xffff, 131070 data bytes 0xff: 131078 bytes, an input whose checksum did not verify
before `ed6085a`. -/
def wrapWitness : List Nat := echoFF wrapData

theorem wrapWitness_wf : BytesWF wrapWitness :=
  show BytesWF ([8, 0, 0, 0, 255, 255, 255, 255] ++ wrapData) from
    .append (by unfold BytesWF; decide) (.replicate _ (by decide))

example : Valid1071 (xorCsumAt wrapWitness 2 (checksum wrapWitness)) :=
  checksum_rfc1071 [8, 0] (255 :: 255 :: 255 :: 255 :: wrapData) (by rfl) wrapWitness_wf

/-- The marshalled body that `Message.Marshal` appends. -/
def bodyBytes (m : Msg) : Option (List Nat) :=
  if m.body ≠ Body.noBody ∧ m.body.len m.proto ≠ 0 then m.body.marshal m.proto else some []

theorem marshal_v4 (m : Msg) (hp : m.proto = protocolICMP) (mb : List Nat) (hb : bodyBytes m = some mb) :
    m.marshal none =
      some ([m.typ % 256, u8 m.code, checksum ([m.typ % 256, u8 m.code, 0, 0] ++ mb) % 256,
             checksum ([m.typ % 256, u8 m.code, 0, 0] ++ mb) / 256 % 256] ++ mb) := by
  unfold bodyBytes at hb
  rw [hp] at hb
  unfold Msg.marshal
  simp only [hp, hb]
  have hne : ¬ (protocolICMP = protocolIPv6ICMP) := by decide
  simp only [hne, if_false, List.nil_append]
  exact congrArg some (xorCsumAt_zero [m.typ % 256, u8 m.code] mb _)

/-- ICMPv6 without pseudo-header: checksum left zero for the kernel. -/
theorem marshal_v6_nopsh (m : Msg) (hp : m.proto = protocolIPv6ICMP) (mb : List Nat) (hb : bodyBytes m = some mb) :
    m.marshal none = some ([m.typ % 256, u8 m.code, 0, 0] ++ mb) := by
  unfold bodyBytes at hb
  rw [hp] at hb
  unfold Msg.marshal
  simp [hb, hp]

/-- C60, checksum clause on `Message.Marshal` for ICMPv4, every body size. -/
theorem marshal_v4_checksum_valid (m : Msg) (hp : m.proto = protocolICMP)
    (mb wire : List Nat) (hb : bodyBytes m = some mb) (hwf : BytesWF mb)
    (hw : m.marshal none = some wire) : Valid1071 wire := by
  rw [marshal_v4 m hp mb hb] at hw
  injection hw with hw
  subst hw
  exact checksum_at2 (Nat.mod_lt _ (by decide)) (u8_lt _) hwf

def ChecksumStatement : Prop :=
  ∀ (m : Msg) (mb wire : List Nat), m.proto = protocolICMP → m.typ < 256 → bodyBytes m = some mb →
    BytesWF mb → m.marshal none = some wire → Valid1071 wire

theorem checksum_holds : ChecksumStatement :=
  fun m mb wire hp _ hb hwf hw => marshal_v4_checksum_valid m hp mb wire hb hwf hw

-- On a cast natural number `Int`'s `/`, `%` and `toNat` compute, so the bytes are those of the natural
-- number by `rfl` and recombine by `Lemmas.be_step`.

theorem be16_rd16 (x : Int) (h0 : 0 ≤ x) (h1 : x < 65536) (rest : List Nat) :
    ((rd16 (be16 x ++ rest) : Nat) : Int) = x := by
  obtain ⟨n, rfl⟩ := Int.eq_ofNat_of_zero_le h0
  show ((n / 256 % 256 * 256 + n % 256 : Nat) : Int) = n
  rw [Lemmas.be_step, Nat.mod_eq_of_lt (Int.ofNat_lt.mp h1)]

theorem be16_bytes (x : Int) (h : 0 ≤ x ∧ x < 65536) :
    ∃ a b : Nat, be16 x = [a, b] ∧ ((a * 256 + b : Nat) : Int) = x :=
  ⟨_, _, rfl, be16_rd16 x h.1 h.2 []⟩

theorem be32_rd32 (x : Int) (h0 : 0 ≤ x) (h1 : x < 4294967296) (rest : List Nat) :
    ((rd32 (be32 x ++ rest) : Nat) : Int) = x := by
  obtain ⟨n, rfl⟩ := Int.eq_ofNat_of_zero_le h0
  show ((n / 16777216 % 256 * 16777216 + n / 65536 % 256 * 65536 + n / 256 % 256 * 256 + n % 256 : Nat) : Int) = n
  simp only [Nat.add_assoc, Lemmas.be_step, Nat.reduceMul]
  rw [Nat.mod_eq_of_lt (Int.ofNat_lt.mp h1)]

theorem be32_bytes (x : Int) (h : 0 ≤ x ∧ x < 4294967296) :
    ∃ a b c d : Nat, be32 x = [a, b, c, d] ∧ ((a * 16777216 + b * 65536 + c * 256 + d : Nat) : Int) = x :=
  ⟨_, _, _, _, rfl, be32_rd32 x h.1 h.2 []⟩

theorem u8_id (x : Int) (h0 : 0 ≤ x) (h1 : x < 256) : ((u8 x : Nat) : Int) = x := by
  unfold u8
  omega

theorem parseMessage_hdr (proto typ code c0 c1 : Nat) (rest : List Nat)
    (hp : proto = protocolICMP ∨ proto = protocolIPv6ICMP) :
    parseMessage proto (typ :: code :: c0 :: c1 :: rest) =
      (parseBody proto typ rest).map (fun body => ⟨proto, typ, (code : Int), c0 * 256 + c1, body⟩) := by
  unfold parseMessage
  have h : ¬ (proto ≠ protocolICMP ∧ proto ≠ protocolIPv6ICMP) := by
    rcases hp with h | h <;> simp [h, protocolICMP, protocolIPv6ICMP]
  simp only [List.length_cons, h, if_false]
  have hl : ¬ (rest.length + 1 + 1 + 1 + 1 < 4) := by omega
  simp only [hl, if_false, List.getD_cons_zero, List.getD_cons_succ, List.drop_succ_cons, List.drop_zero, rd16]
  cases parseBody proto typ rest <;> simp

/-- A message as sent (checksum field of the struct is ignored by `Marshal`). -/
def mkMsg (proto typ : Nat) (code : Int) (body : Body) : Msg := ⟨proto, typ, code, 0, body⟩

/-- Round trip modulo the received checksum: `ParseMessage(Marshal(m))` is `m` with some checksum. -/
def RoundTrips (proto typ : Nat) (code : Int) (body : Body) (psh : Option (List Nat)) : Prop :=
  ∃ wire, (mkMsg proto typ code body).marshal psh = some wire ∧
    (parseMessage proto wire).map (fun m => (m.proto, m.typ, m.code, m.body)) = some (proto, typ, code, body)

theorem copyAt_exact (pre old new post : List Nat) (h : old.length = new.length) :
    copyAt (pre ++ old ++ post) pre.length new = pre ++ new ++ post := by
  unfold copyAt
  have h1 : (pre ++ old ++ post).length - pre.length = old.length + post.length := by simp
  have h2 : new.take (old.length + post.length) = new := by
    apply List.take_of_length_le
    omega
  rw [h1, h2]
  have h3 : (pre ++ old ++ post).take pre.length = pre := by simp
  have h4 : (pre ++ old ++ post).drop (pre.length + new.length) = post := by
    rw [← h, List.append_assoc, ← List.drop_drop]
    simp
  rw [h3, h4]

theorem zeros_add (a b : Nat) : zeros (a + b) = zeros a ++ zeros b := by
  simp [zeros, List.replicate_append_replicate]

theorem copyAt_zeros_tail {hd : List Nat} {n : Nat} (h : hd.length = n) (data : List Nat) :
    copyAt (hd ++ zeros data.length) n data = hd ++ data := by
  subst h
  have := copyAt_exact hd (zeros data.length) data [] (by simp [zeros])
  rwa [List.append_nil, List.append_nil] at this

theorem pp6_bytes (ptr : Int) (data : List Nat) :
    copyAt (copyAt (zeros (4 + data.length)) 0 (be32 ptr)) 4 data = be32 ptr ++ data := by
  rw [zeros_add, show copyAt (zeros 4 ++ zeros data.length) 0 (be32 ptr) = be32 ptr ++ zeros data.length from
    copyAt_exact [] (zeros 4) (be32 ptr) _ rfl]
  exact copyAt_zeros_tail rfl data

/-- The flag octet of an extended echo reply: state in the top three bits, then A, 4, 6. -/
theorem xrep_flags : ∀ n < 8, ∀ a b c : Bool,
    (n * 32 + (if a then 4 else 0) + (if b then 2 else 0) + (if c then 1 else 0)) / 32 = n ∧
    ((n * 32 + (if a then 4 else 0) + (if b then 2 else 0) + (if c then 1 else 0)) / 4 % 2 == 1) = a ∧
    ((n * 32 + (if a then 4 else 0) + (if b then 2 else 0) + (if c then 1 else 0)) / 2 % 2 == 1) = b ∧
    ((n * 32 + (if a then 4 else 0) + (if b then 2 else 0) + (if c then 1 else 0)) % 2 == 1) = c := by
  decide

theorem origDatagramLen_spec (n : Nat) :
    (128 ≤ origDatagramLen protocolICMP n ∧ n ≤ origDatagramLen protocolICMP n ∧
     origDatagramLen protocolICMP n % 4 = 0 ∧ (128 ≤ n → origDatagramLen protocolICMP n < n + 4)) ∧
    (128 ≤ origDatagramLen protocolIPv6ICMP n ∧ n ≤ origDatagramLen protocolIPv6ICMP n ∧
     origDatagramLen protocolIPv6ICMP n % 8 = 0 ∧ (128 ≤ n → origDatagramLen protocolIPv6ICMP n < n + 8)) := by
  unfold origDatagramLen
  have h1 : ¬ (protocolIPv6ICMP = protocolICMP) := by decide
  simp only [h1, if_false, if_true]
  constructor <;> split <;> omega

theorem multipartLens_noext (proto : Nat) (w : Bool) (data : List Nat) :
    multipartLens proto w data [] = (4 + data.length, data.length) := by
  simp [multipartLens]

/-- With extensions (`extLen > 0`): 4 leading octets, padded datagram, 4-octet extension header, objects. -/
theorem multipartLens_ext (proto : Nat) (data : List Nat) (exts : List Ext)
    (h : 0 < (exts.map (Ext.len proto)).sum) :
    multipartLens proto true data exts =
      (4 + 4 + origDatagramLen proto data.length + (exts.map (Ext.len proto)).sum,
       origDatagramLen proto data.length) := by
  unfold multipartLens
  have : decide ((exts.map (Ext.len proto)).sum > 0) = true := by simpa using h
  simp [this]

theorem marshalMultipart_noext (proto : Nat) (w : Bool) (data : List Nat) :
    marshalMultipart proto w data [] = zeros 4 ++ data := by
  unfold marshalMultipart
  rw [multipartLens_noext]
  simp only [List.length_nil, Nat.lt_irrefl, if_false, gt_iff_lt]
  rw [zeros_add]
  exact copyAt_zeros_tail rfl data

/-- The RFC 4884 compatibility heuristic: a body without extensions is re-read as "128 octets of
datagram + extension structure" exactly when octet 128 onwards looks like an extension header. -/
def legacyAmbiguous (data : List Nat) : Bool :=
  decide (data.length ≥ 136) && validExtensionHeader (data.drop 128)

theorem parseMultipart_noext (proto typ : Nat) (hx : isExtEchoRequest proto typ = false) (b0 b1 b2 b3 : Nat)
    (hl : (if proto = protocolICMP then 4 * b1 else if proto = protocolIPv6ICMP then 8 * b0 else 0) = 0)
    (data : List Nat) (hamb : legacyAmbiguous data = false) :
    parseMultipart proto typ (b0 :: b1 :: b2 :: b3 :: data) = (data, []) := by
  unfold parseMultipart
  simp only [List.getD_cons_zero, List.getD_cons_succ, hl, List.length_cons, List.drop_succ_cons, List.drop_zero]
  by_cases hd : data = []
  · subst hd
    simp
  · have hne : ¬ (data.length + 1 + 1 + 1 + 1 = 4) := by
      have : data.length ≠ 0 := fun h => hd (List.eq_nil_of_length_eq_zero h)
      omega
    simp only [hne, if_false]
    have hpe : parseExtensions proto typ data 0 = none := by
      unfold parseExtensions
      simp only [hx, Bool.false_eq_true, if_false]
      have h128 : (128 > 0 ∨ 0 + 8 > data.length) := Or.inl (by omega)
      simp only [h128, if_true]
      unfold legacyAmbiguous at hamb
      by_cases hlen : 128 + 8 > data.length
      · simp [hlen]
      · have hge : data.length ≥ 136 := by omega
        simp only [hge, decide_true, Bool.true_and] at hamb
        simp [hlen, hamb]
    rw [hpe]

/-- `parseFns` read backwards for the RFC 4884 multipart messages: each has one type per protocol.
`Lemmas.ite_eq_iff` turns the dispatch into the disjunction of its paths. -/
theorem kind_cases {proto typ : Nat} {k : PK} (h : parserKind proto typ = k) :
    match k with
    | .du => (proto = protocolICMP ∧ typ = v4DstUnreach) ∨ (proto = protocolIPv6ICMP ∧ typ = v6DstUnreach)
    | .te => (proto = protocolICMP ∧ typ = v4TimeExceeded) ∨ (proto = protocolIPv6ICMP ∧ typ = v6TimeExceeded)
    | .pp => (proto = protocolICMP ∧ typ = v4ParamProb) ∨ (proto = protocolIPv6ICMP ∧ typ = v6ParamProb)
    | _ => True := by
  simp only [parserKind, Lemmas.ite_eq_iff] at h
  cases k with
  | du | te | pp =>
    -- what is left of `h` are the two paths that end in this parser, with the tests that failed on the way
    simp only [reduceCtorEq, and_false, or_false, false_or, and_true] at h
    omega
  | _ => trivial

theorem kind_pp_cases (proto typ : Nat) (h : parserKind proto typ = .pp) :
    (proto = protocolICMP ∧ typ = v4ParamProb) ∨ (proto = protocolIPv6ICMP ∧ typ = v6ParamProb) :=
  kind_cases h

/-- The protocol is one of the two, and the type is the one `Marshal` validates extensions against. -/
theorem kind_proto_typ {proto typ t4 t6 : Nat}
    (h : (proto = protocolICMP ∧ typ = t4) ∨ (proto = protocolIPv6ICMP ∧ typ = t6)) :
    (proto = protocolICMP ∨ proto = protocolIPv6ICMP) ∧ (if proto = protocolICMP then t4 else t6) = typ := by
  rcases h with ⟨rfl, rfl⟩ | ⟨rfl, rfl⟩
  · exact ⟨Or.inl rfl, if_pos rfl⟩
  · exact ⟨Or.inr rfl, if_neg (by decide)⟩

theorem kind_not_xreq {proto typ : Nat} {k : PK} (h : parserKind proto typ = k) (hk : k ≠ .xreq) :
    isExtEchoRequest proto typ = false := by
  cases hx : isExtEchoRequest proto typ
  · rfl
  · simp only [isExtEchoRequest, Bool.or_eq_true, Bool.and_eq_true, beq_iff_eq] at hx
    rcases hx with ⟨rfl, rfl⟩ | ⟨rfl, rfl⟩ <;> exact absurd h.symm hk

/-- With extensions, a padded datagram of 1024 octets would need the length attribute 256, which does not fit its octet:
`Marshal` refuses (since `23a10ce`; before, it stored 0 and the message parsed back without extensions). 1020 octets
give 255. -/
theorem lengthAttr_rejected_witness :
    (mkMsg protocolICMP v4TimeExceeded 0 (.timeExceeded (zeros 1021) [.mpls 1 1 []])).marshal none = none ∧
    ((mkMsg protocolICMP v4TimeExceeded 0 (.timeExceeded (zeros 1017) [.mpls 1 1 []])).marshal none).map
        (fun w => (w.length, w.getD 5 99)) = some (8 + 1020 + 8, 255) := by
  decide +kernel

/-- RFC 4884 does not extend the ICMPv6 parameter problem; before `f200ae9` `Marshal` silently dropped the extensions. -/
theorem paramprob_v6_exts_rejected (ptr : Int) (data : List Nat) (e : Ext) (es : List Ext) :
    Body.marshal protocolIPv6ICMP (.paramProb ptr data (e :: es)) = none := by
  have hne : ¬ (protocolIPv6ICMP = protocolICMP) := by decide
  simp [Body.marshal, hne]

/-- Headers the wire format represents faithfully: version 4, `Len = 20 + len(Options)`, options a
multiple of 4 and at most 40 bytes, every field within its wire width, IPv4 addresses. -/
def HeaderWF (h : Header) : Prop :=
  h.version = 4 ∧ h.len = 20 + h.options.length ∧ h.options.length % 4 = 0 ∧ h.options.length ≤ 40 ∧
  (0 ≤ h.tos ∧ h.tos < 256) ∧ (0 ≤ h.totalLen ∧ h.totalLen < 65536) ∧ (0 ≤ h.id ∧ h.id < 65536) ∧
  (0 ≤ h.flags ∧ h.flags < 8) ∧ (0 ≤ h.fragOff ∧ h.fragOff < 8192) ∧ (0 ≤ h.ttl ∧ h.ttl < 256) ∧
  (0 ≤ h.protocol ∧ h.protocol < 256) ∧ (0 ≤ h.cksum ∧ h.cksum < 65536) ∧
  h.src.length = 4 ∧ h.dst.length = 4

theorem list4 (l : List Nat) (h : l.length = 4) : ∃ a b c d, l = [a, b, c, d] := by
  match l, h with
  | [a, b, c, d], _ => exact ⟨a, b, c, d, rfl⟩

/-- The header-length nibble for `n` option bytes, and the length guards of `Marshal` and `ParseHeader` in the
form they take there (kept apart so that `omega` sees only `n`). -/
theorem ihl_spec (n : Nat) (h4 : n % 4 = 0) (h40 : n ≤ 40) :
    (20 + n) / 4 % 16 = 5 + n / 4 ∧ (4 * 16 + (5 + n / 4)) % 16 * 4 = 20 + n ∧
    (4 * 16 + (5 + n / 4)) / 16 = 4 ∧ ¬ (n % 4 ≠ 0 ∨ 20 + n > 60) ∧ ¬ ((20 : Int) + n < (20 : Nat)) ∧
    ¬ (n + 20 < 20) ∧ ¬ (n + 20 < 20 + n) := by
  omega

/-- Flags (3 bits) and fragment offset (13 bits) share a 16-bit field. -/
theorem flagsFrag_spec (flags fragOff : Int) (hfl : 0 ≤ flags ∧ flags < 8) (hfo : 0 ≤ fragOff ∧ fragOff < 8192) :
    (0 ≤ fragOff % 8192 + flags * 8192 ∧ fragOff % 8192 + flags * 8192 < 65536) ∧
    ∀ m : Nat, (m : Int) = fragOff % 8192 + flags * 8192 →
      ((m / 8192 : Nat) : Int) = flags ∧ ((m % 8192 : Nat) : Int) = fragOff := by
  refine ⟨by omega, fun m hm => by omega⟩

/-- Every 16-bit field is handed over as two opaque bytes with their value (`be16_bytes`), so `Marshal` and
`ParseHeader` compute on a list of 20 named bytes; the arithmetic left is `ihl_spec` and `flagsFrag_spec`. -/
theorem header_roundtrip (h : Header) (hwf : HeaderWF h) :
    ∃ wire, h.marshal = .ok wire ∧ wire.length = 20 + h.options.length ∧ parseHeader wire = .ok h := by
  obtain ⟨version, len, tos, totalLen, id, flags, fragOff, ttl, protocol, cksum, src, dst, options⟩ := h
  obtain ⟨hv, hl, ho4, ho40, htos, htl, hid, hfl, hfo, httl, hpr, hck, hs, hd⟩ := hwf
  obtain ⟨s0, s1, s2, s3, hs'⟩ := list4 _ hs
  obtain ⟨d0, d1, d2, d3, hd'⟩ := list4 _ hd
  simp only at hv hl ho4 ho40 htos htl hid hfl hfo httl hpr hck hs' hd'
  subst hv hl hs' hd'
  obtain ⟨hffr, hff⟩ := flagsFrag_spec flags fragOff hfl hfo
  obtain ⟨f1, f2, hf, e_ff⟩ := be16_bytes (fragOff % 8192 + flags * 8192) hffr
  obtain ⟨q1, q2, q3, q4, q5, q6, q7⟩ := ihl_spec options.length ho4 ho40
  obtain ⟨t1, t2, ht, e_tl⟩ := be16_bytes totalLen htl
  obtain ⟨i1, i2, hi, e_id⟩ := be16_bytes id hid
  obtain ⟨c1, c2, hc, e_ck⟩ := be16_bytes cksum hck
  refine ⟨[4 * 16 + (5 + options.length / 4), u8 tos, t1, t2, i1, i2, f1, f2, u8 ttl, u8 protocol, c1, c2,
      s0, s1, s2, s3, d0, d1, d2, d3] ++ options, ?_, ?_, ?_⟩
  · simp only [Header.marshal, headerLen, q5, if_false, q4, ht, hi, hc, hf, q1]
    rfl
  · simp only [List.length_append, List.length_cons, List.length_nil]
  · have hopt : (if 20 + options.length > 20 then List.take (20 + options.length - 20) options else []) = options := by
      rw [Nat.add_sub_cancel_left, List.take_length]
      by_cases hn : 20 + options.length > 20
      · rw [if_pos hn]
      · rw [if_neg hn, List.eq_nil_of_length_eq_zero (by omega : options.length = 0)]
    simp only [parseHeader, List.cons_append, List.nil_append, List.length_cons,
      List.getD_cons_zero, List.getD_cons_succ, List.drop_succ_cons, List.drop_zero, q2, q3, headerLen]
    rw [if_neg q6, if_neg q7]
    simp only [rd16, List.getD_cons_zero, List.getD_cons_succ, List.take_succ_cons, List.take_zero, hopt]
    congr 1
    simp only [Header.mk.injEq, and_true]
    exact ⟨rfl, by omega, u8_id tos htos.1 htos.2, e_tl, e_id, (hff _ e_ff).1, (hff _ e_ff).2,
      u8_id ttl httl.1 httl.2, u8_id protocol hpr.1 hpr.2, e_ck⟩

/-- `Header.Marshal` refuses options the 4-bit header length cannot represent (since `f98d139`; before, they were encoded
with a wrong IHL and did not survive `Parse`). -/
theorem header_marshal_options (h : Header) (w : List Nat) (hm : h.marshal = .ok w) :
    h.options.length % 4 = 0 ∧ h.options.length ≤ 40 := by
  obtain ⟨_, hm⟩ := Lemmas.ok_of_ite_error hm
  obtain ⟨hc, _⟩ := Lemmas.ok_of_ite_error hm
  simp only [headerLen] at hc
  omega

theorem gen_protocols_eq :
    Gen.C60.iana_ProtocolICMP = protocolICMP ∧ Gen.C60.iana_ProtocolIPv6ICMP = protocolIPv6ICMP ∧
    Gen.C60.iana_AddrFamilyIPv4 = addrFamilyIPv4 ∧ Gen.C60.iana_AddrFamilyIPv6 = addrFamilyIPv6 ∧
    Gen.C60.v4_Version = 4 ∧ Gen.C60.v4_HeaderLen = headerLen := by decide

theorem gen_types_eq :
    Gen.C60.v4_ICMPTypeEchoReply = v4EchoReply ∧ Gen.C60.v4_ICMPTypeDestinationUnreachable = v4DstUnreach ∧
    Gen.C60.v4_ICMPTypeEcho = v4Echo ∧ Gen.C60.v4_ICMPTypeTimeExceeded = v4TimeExceeded ∧
    Gen.C60.v4_ICMPTypeParameterProblem = v4ParamProb ∧ Gen.C60.v4_ICMPTypeExtendedEchoRequest = v4ExtEchoRequest ∧
    Gen.C60.v4_ICMPTypeExtendedEchoReply = v4ExtEchoReply ∧
    Gen.C60.v6_ICMPTypeDestinationUnreachable = v6DstUnreach ∧ Gen.C60.v6_ICMPTypePacketTooBig = v6PacketTooBig ∧
    Gen.C60.v6_ICMPTypeTimeExceeded = v6TimeExceeded ∧ Gen.C60.v6_ICMPTypeParameterProblem = v6ParamProb ∧
    Gen.C60.v6_ICMPTypeEchoRequest = v6EchoRequest ∧ Gen.C60.v6_ICMPTypeEchoReply = v6EchoReply ∧
    Gen.C60.v6_ICMPTypeExtendedEchoRequest = v6ExtEchoRequest ∧ Gen.C60.v6_ICMPTypeExtendedEchoReply = v6ExtEchoReply := by
  decide

theorem gen_extension_consts_eq :
    Gen.C60.icmp_extensionVersion = extensionVersion ∧ Gen.C60.icmp_classMPLSLabelStack = classMPLSLabelStack ∧
    Gen.C60.icmp_typeIncomingMPLSLabelStack = typeIncomingMPLSLabelStack ∧
    Gen.C60.icmp_classInterfaceInfo = classInterfaceInfo ∧ Gen.C60.icmp_classInterfaceIdent = classInterfaceIdent ∧
    (Gen.C60.icmp_typeInterfaceByName : Int) = typeInterfaceByName ∧
    (Gen.C60.icmp_typeInterfaceByIndex : Int) = typeInterfaceByIndex ∧
    (Gen.C60.icmp_typeInterfaceByAddress : Int) = typeInterfaceByAddress ∧
    Gen.C60.icmp_attrMTU = attrMTU ∧ Gen.C60.icmp_attrName = attrName ∧
    Gen.C60.icmp_attrIPAddr = attrIPAddr ∧ Gen.C60.icmp_attrIfIndex = attrIfIndex := by decide

def pkOfName (s : String) : PK :=
  if s = "parseEcho" then .echo else if s = "parseExtendedEchoRequest" then .xreq
  else if s = "parseExtendedEchoReply" then .xrep else if s = "parseDstUnreach" then .du
  else if s = "parseTimeExceeded" then .te else if s = "parseParamProb" then .pp
  else if s = "parsePacketTooBig" then .ptb else .raw

/-- The model's dispatch is exactly the regenerated `parseFns` map: every entry selects the same
parser, and every (protocol, type) without an entry falls back to the raw body. -/
theorem gen_parseFns_eq :
    (∀ e ∈ Gen.C60.parseFns, parserKind e.1 e.2.1 = pkOfName e.2.2 ∧ pkOfName e.2.2 ≠ .raw) ∧
    (∀ p ∈ [protocolICMP, protocolIPv6ICMP], ∀ t ∈ List.range 256,
      (Gen.C60.parseFns.all fun e => !(e.1 == p && e.2.1 == t)) = true → parserKind p t = .raw) := by
  decide +kernel

end NetVerif.Proofs.C60
