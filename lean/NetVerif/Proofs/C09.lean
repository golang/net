import NetVerif.Proofs.C08
/-!
C09: the HTTP/2 client (Transport) never sends request DATA beyond the server's windows; a blocked request body resumes
when the server extends the window. Monitor, refinement and progress are those of `Proofs/C08.lean`, in the client role.
-/
namespace NetVerif.Proofs.C09
open NetVerif.Model.SendWin NetVerif.Model.Flow NetVerif.Proofs.SendWin NetVerif.Proofs.SendWinFlow NetVerif.Proofs.C08

/-- All traces of the client mechanism (`awaitFlowControl`, `processSettingsNoWrite` with the ignored
`cs.flow.add(delta)`, `processWindowUpdate`) satisfy the property, for every server behaviour and every
request-body write pattern. -/
theorem client_refines (acts : List Act) : TraceOK Ledger.init (Send.init.run .client acts).2 :=
  mechanism_refines .client acts

/-- The server role of the same theorem (C08's statement). -/
theorem server_refines (acts : List Act) : TraceOK Ledger.init (Send.init.run .server acts).2 :=
  mechanism_refines .server acts

/-- The Transport ignores the result of `cs.flow.add(delta)` when SETTINGS_INITIAL_WINDOW_SIZE changes.
On every reachable stream state (`a ≤` server's view `b`, `iw − (2^31−1) ≤ a`) a refused add is an overflow
*upwards*, so leaving the counter alone keeps it at or below the server's view `b + delta`. -/
theorem client_ignored_add_safe (a b c iw v : Int) (hab : a ≤ b) (ha : IsInt32 a) (hlo : iw - maxWindow ≤ a)
    (hiw0 : 0 ≤ iw) (hiwM : iw ≤ maxWindow) (hv0 : 0 ≤ v) (hvM : v ≤ maxWindow) :
    ((Outflow.mk a (some c)).add (v - iw)).2.n ≤ b + (v - iw) ∧
    (((Outflow.mk a (some c)).add (v - iw)).1 = false → a + (v - iw) > maxWindow) :=
  let h := add_settings_str a b c iw v hab ha hlo hiw0 hiwM hv0 hvM
  ⟨h.1, h.2.2.2⟩

/-- C09's resume clause, stream level: the body is parked in `awaitFlowControl` on a stream window `a ≤ 0`; a WINDOW_UPDATE
that lifts it above 0 is accepted and the very next `awaitFlowControl` returns a non-empty allowance. -/
theorem stream_wu_resumes_body (s : Send) (sid maxBytes : Nat) (a inc : Int) (hs : sid ≠ 0)
    (h7 : IsInt32 s.conn) (ha : IsInt32 a) (ea : tget s.wins sid = some a) (hmb : 0 < maxBytes)
    (hmf : 0 < s.maxFrame) (hblocked : a ≤ 0) (hconn : 0 < s.conn) (hinc : 0 < inc) (hincM : inc ≤ maxWindow)
    (hopen : 0 < a + inc) :
    s.await sid maxBytes = none ∧
    (s.windowUpdate sid inc).2 = [] ∧
    ∃ n s', (s.windowUpdate sid inc).1.await sid maxBytes = some (n, s') ∧ 0 < n := by
  have hsum : IsInt32 (a + inc) := by unfold IsInt32 at *; unfold maxWindow at hincM; omega
  rw [windowUpdate_stream s sid a inc hs ha ea hinc hincM hsum]
  refine ⟨(await_progress s sid maxBytes a h7 ha ea hmb hmf).2 (by have := avail_le s a; omega), rfl, ?_⟩
  obtain ⟨n, s', h1, h2, _⟩ := (await_progress ({ s with wins := tset s.wins sid (a + inc) } : Send) sid maxBytes
    (a + inc) h7 hsum (by simp [tget_tset, ea]) hmb hmf).1 ((avail_pos _ _).2 ⟨hopen, hconn⟩)
  exact ⟨n, s', h1, h2⟩

/-- The connection-level counterpart: `cc.flow` is exhausted. -/
theorem conn_wu_resumes_body (s : Send) (sid maxBytes : Nat) (a inc : Int)
    (h7 : IsInt32 s.conn) (ha : IsInt32 a) (ea : tget s.wins sid = some a) (hmb : 0 < maxBytes)
    (hmf : 0 < s.maxFrame) (hblocked : s.conn ≤ 0) (hstream : 0 < a) (hinc : 0 < inc) (hincM : inc ≤ maxWindow)
    (hopen : 0 < s.conn + inc) :
    s.await sid maxBytes = none ∧
    (s.windowUpdate 0 inc).2 = [] ∧
    ∃ n s', (s.windowUpdate 0 inc).1.await sid maxBytes = some (n, s') ∧ 0 < n := by
  have hsum : IsInt32 (s.conn + inc) := by unfold IsInt32 at *; unfold maxWindow at hincM; omega
  rw [windowUpdate_conn s inc h7 hinc hincM hsum]
  refine ⟨(await_progress s sid maxBytes a h7 ha ea hmb hmf).2 (by have := avail_le s a; omega), rfl, ?_⟩
  obtain ⟨n, s', h1, h2, _⟩ := (await_progress ({ s with conn := s.conn + inc } : Send) sid maxBytes a
    hsum ha ea hmb hmf).1 ((avail_pos _ _).2 ⟨hstream, hopen⟩)
  exact ⟨n, s', h1, h2⟩

/-! Non-vacuity: the ignored add, on a concrete history.
Initial window 100, WINDOW_UPDATE lifts stream 1 to 2^31−1; SETTINGS_INITIAL_WINDOW_SIZE := 200 would lift it
to 2^31+99: the client leaves its counter alone (no error, unlike the server role); back to 100 the client is
at 2^31−101 while the server's view is 2^31−1; DATA keeps flowing within both until the connection window (65535) is used up, and resumes
with the connection-level WINDOW_UPDATE. -/

def exClient : List Act :=
  [.settings none (some 100), .sopen 1, .wu 1 2147483547, .settings none (some 200), .settings none (some 100),
   .send 1 70000 false 0, .send 1 53616 false 0, .send 1 37232 false 0, .send 1 20848 false 0,
   .send 1 4465 false 0, .wu 0 10, .send 1 4465 true 0]

example : (Send.init.run .client exClient).2 =
    [.settings none (some 100), .sopen 1, .wu 1 2147483547, .settings none (some 200), .settings none (some 100),
     .data 1 16384 false, .data 1 16384 false, .data 1 16384 false, .data 1 16383 false, .wu 0 10,
     .data 1 10 false] := by decide

example : (Send.init.run .client (exClient.take 5)).1.wins = [(1, 2147483547)] := by decide
example : (Send.init.run .server (exClient.take 4)).1.dead = true := by decide

end NetVerif.Proofs.C09
