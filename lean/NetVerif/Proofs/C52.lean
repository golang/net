import NetVerif.Model.HttpProxy
import NetVerif.Proofs.Lemmas.NetIP
/-!
C52 — httpproxy: proxy selection follows the documented NO_PROXY rules.

Specification side (declarative): a NO_PROXY string is a comma separated list of VALUES; each value
is read as an `Entry` (`*`, CIDR, IP[:port], domain[:port] with "subdomains only" flag); a request
BYPASSES the proxy iff its host is `localhost`, a loopback IP, or SOME entry matches it.
Implementation side (model of the Go code): `init` builds two ordered matcher lists with an early
return on `*`; `useProxy` walks them (IP matchers only for IP literals).
`useProxy_false_iff_bypass` (= `holds`) is their agreement; the theorems after it say which proxy `proxyForURL`
returns.
The specification reads a single value with the model's own `pieceStep` (`entries`), so the agreement is
about building the lists and walking them.  What a value means is said apart: the `piece_*` lemmas give
the entry a value denotes, `domain_entry_meaning` and `ip_entry_meaning` what an entry matches.  The
`piece_*` lemmas are silent on a value that `SplitHostPort` splits into an empty or a bracketed host
(`:port`, `[IPv6]:port`): see `HostPortOf`.
-/
namespace NetVerif.Proofs.C52
open NetVerif.Model.NetIP NetVerif.Model.HttpProxy

/-- One NO_PROXY value as the documentation reads it. `dotted` is the domain with its leading
dot (".example.com", after IDNA); `port = []` means "any port". -/
inductive Entry where
  | star
  | cidr (ip : List Nat) (ones bits : Nat)
  | ip (ip : List Nat) (port : List Nat)
  | domain (dotted : List Nat) (subOnly : Bool) (port : List Nat)
  deriving DecidableEq

/-- The entry a value denotes (`none`: the value is empty/malformed and ignored). -/
def stepEntry : Step → Option Entry
  | .skip => none
  | .star => some .star
  | .addCIDR ip ones bits => some (.cidr ip ones bits)
  | .addIP ip port => some (.ip ip port)
  | .addDomain h port mh => some (.domain h (!mh) port)

def entries (O : Oracles) (noProxy : List Nat) : List Entry :=
  (splitComma noProxy).filterMap (fun v => stepEntry (pieceStep O v))

def PortOK (eport rport : List Nat) : Prop := eport = [] ∨ eport = rport

/-- The host as it is compared: white space trimmed, lower-cased, and without the trailing dot of a
fully qualified spelling ("example.com." is the name "example.com"). -/
def canonHost (r : Req) : List Nat := trimSuffixDot (toLower (trimSpace r.host))

def EntryMatches (e : Entry) (r : Req) : Prop :=
  match e with
  | .star => True
  | .cidr nip ones bits => ∃ ip, r.ip = some ip ∧ contains nip ones bits ip = true
  | .ip eip port => ∃ ip, r.ip = some ip ∧ ipEqual eip ip = true ∧ PortOK port r.port
  | .domain dotted subOnly port =>
    r.ip = none ∧ PortOK port r.port ∧
      (dotted <:+ canonHost r ∨ (subOnly = false ∧ canonHost r = dotted.drop 1))

def Bypass (O : Oracles) (noProxy : List Nat) (r : Req) : Prop :=
  canonHost r = localhost ∨ (∃ ip, r.ip = some ip ∧ isLoopback ip = true) ∨
  ∃ e ∈ entries O noProxy, EntryMatches e r

def ipOf : List Step → List Matcher
  | [] => []
  | .addCIDR ip ones bits :: t => .cidr ip ones bits :: ipOf t
  | .addIP ip port :: t => .ip ip port :: ipOf t
  | _ :: t => ipOf t

def domOf : List Step → List Matcher
  | [] => []
  | .addDomain h port mh :: t => .domain h port mh :: domOf t
  | _ :: t => domOf t

theorem initLoop_eq (O : Oracles) (ps : List (List Nat)) (ipM domM : List Matcher) :
    initLoop O ps ipM domM =
      if Step.star ∈ ps.map (pieceStep O) then ([.all], [.all])
      else (ipM ++ ipOf (ps.map (pieceStep O)), domM ++ domOf (ps.map (pieceStep O))) := by
  induction ps generalizing ipM domM with
  | nil => simp [initLoop, ipOf, domOf]
  | cons p rest ih =>
    simp only [initLoop, List.map_cons, List.mem_cons]
    cases hp : pieceStep O p <;> simp [ih, ipOf, domOf, List.append_assoc]

private theorem entries_eq (O : Oracles) (np : List Nat) :
    entries O np = ((splitComma np).map (pieceStep O)).filterMap stepEntry := by
  simp [entries, List.filterMap_map, Function.comp_def]

private theorem star_step_iff (O : Oracles) (np : List Nat) :
    Step.star ∈ (splitComma np).map (pieceStep O) ↔ Entry.star ∈ entries O np := by
  rw [entries_eq, List.mem_filterMap]
  constructor
  · exact fun h => ⟨_, h, rfl⟩
  · rintro ⟨s, hs, he⟩
    cases s <;> cases he
    exact hs

theorem init_star (O : Oracles) (cgi : Bool) (hp sp : Option (List Nat)) (np : List Nat)
    (h : Entry.star ∈ entries O np) :
    (init O cgi hp sp np).ipMatchers = [.all] ∧ (init O cgi hp sp np).domainMatchers = [.all] := by
  simp [init, initLoop_eq, (star_step_iff O np).2 h]

private theorem portOK_iff (a b : List Nat) : (a == [] || a == b) = true ↔ PortOK a b := by
  simp [PortOK]

/-- What one step contributes to the walk. -/
private def headB (r : Req) : Step → Bool
  | .addCIDR a b c => r.ip.isSome && (Matcher.cidr a b c).matches (canonHost r) r.port r.ip
  | .addIP a b => r.ip.isSome && (Matcher.ip a b).matches (canonHost r) r.port r.ip
  | .addDomain h p mh => (Matcher.domain h p mh).matches (canonHost r) r.port r.ip
  | _ => false

/-- The two matcher walks of `useProxyHostPort` (IP matchers only for IP literals). -/
private def walk (r : Req) (ipM domM : List Matcher) : Bool :=
  (r.ip.isSome && ipM.any (fun m => m.matches (canonHost r) r.port r.ip)) ||
    domM.any (fun m => m.matches (canonHost r) r.port r.ip)

private theorem walk_cons (r : Req) (s : Step) (t : List Step) :
    walk r (ipOf (s :: t)) (domOf (s :: t)) = (headB r s || walk r (ipOf t) (domOf t)) := by
  cases s <;> simp only [walk, ipOf, domOf, headB, List.any_cons, Bool.false_or,
    Bool.and_or_distrib_left, Bool.or_assoc, Bool.or_left_comm]

private theorem headB_iff (r : Req) (s : Step) (hs : s ≠ .star) :
    headB r s = true ↔ ∃ e, stepEntry s = some e ∧ EntryMatches e r := by
  cases s with
  | skip => simp [headB, stepEntry]
  | star => exact absurd rfl hs
  | addCIDR a b c =>
    cases hip : r.ip with
    | none => simp [headB, stepEntry, EntryMatches, hip]
    | some ip => simp [headB, stepEntry, Matcher.matches, EntryMatches, hip]
  | addIP a b =>
    cases hip : r.ip with
    | none => simp [headB, stepEntry, EntryMatches, hip]
    | some ip => simp [headB, stepEntry, Matcher.matches, EntryMatches, hip, PortOK]
  | addDomain h p mh =>
    cases hip : r.ip with
    | some ip => simp [headB, stepEntry, Matcher.matches, EntryMatches, hip]
    | none =>
      -- `matchHost` is the negation of the entry's "subdomains only"
      cases mh
      · simp [headB, stepEntry, Matcher.matches, EntryMatches, hip, PortOK, hasSuffix]
        exact and_comm
      · simp [headB, stepEntry, Matcher.matches, EntryMatches, hip, PortOK, hasSuffix]
        exact and_comm

private theorem walk_iff (steps : List Step) (r : Req) (hns : Step.star ∉ steps) :
    walk r (ipOf steps) (domOf steps) = true ↔ ∃ e ∈ steps.filterMap stepEntry, EntryMatches e r := by
  induction steps with
  | nil => simp [walk, ipOf, domOf]
  | cons s t ih =>
    have hns' : Step.star ∉ t := fun h => hns (List.mem_cons_of_mem _ h)
    have hs : s ≠ .star := fun h => hns (h ▸ List.mem_cons_self)
    rw [walk_cons, Bool.or_eq_true, ih hns', headB_iff r s hs]
    cases hse : stepEntry s <;> simp [hse]

theorem init_nostar (O : Oracles) (cgi : Bool) (hp sp : Option (List Nat)) (np : List Nat)
    (h : Step.star ∉ (splitComma np).map (pieceStep O)) :
    (init O cgi hp sp np).ipMatchers = ipOf ((splitComma np).map (pieceStep O)) ∧
    (init O cgi hp sp np).domainMatchers = domOf ((splitComma np).map (pieceStep O)) := by
  simp [init, initLoop_eq, h]

/-- One refusal test of `useProxyHostPort`: the answer is `false` if it fires or a later one does. -/
private theorem ite_false_iff (c : Prop) [Decidable c] (x : Bool) :
    (if c then false else x) = false ↔ c ∨ x = false := by
  by_cases h : c
  · rw [if_pos h]; exact ⟨fun _ => Or.inl h, fun _ => rfl⟩
  · rw [if_neg h]; exact ⟨Or.inr, fun h' => h'.resolve_left h⟩

private theorem useProxy_false_iff (c : Cfg) (r : Req) :
    useProxy c r = false ↔ canonHost r = localhost ∨ (∃ ip, r.ip = some ip ∧ isLoopback ip = true) ∨
      walk r c.ipMatchers c.domainMatchers = true := by
  unfold useProxy walk canonHost
  simp only [ite_false_iff, Bool.or_eq_true]
  refine or_congr_right (or_congr ?_ (or_congr_right (or_iff_left nofun)))
  -- the loopback test reads the parsed address, if there is one
  cases r.ip with
  | none => simp
  | some ip => simp

/-- The NO_PROXY clause of C52; `O` ranges over every behaviour of the unmodelled parsers (`net.ParseCIDR`,
`net.SplitHostPort`, `net.ParseIP`, `idna.Lookup.ToASCII`). -/
theorem useProxy_false_iff_bypass (O : Oracles) (cgi : Bool) (hp sp : Option (List Nat)) (np : List Nat)
    (r : Req) :
    useProxy (init O cgi hp sp np) r = false ↔ Bypass O np r := by
  rw [useProxy_false_iff, Bypass]
  refine or_congr_right (or_congr_right ?_)
  by_cases hs : Step.star ∈ (splitComma np).map (pieceStep O)
  · have hs' := (star_step_iff O np).1 hs
    obtain ⟨h1, h2⟩ := init_star O cgi hp sp np hs'
    rw [h1, h2]
    exact ⟨fun _ => ⟨.star, hs', trivial⟩, fun _ => by simp [walk, Matcher.matches]⟩
  · obtain ⟨h1, h2⟩ := init_nostar O cgi hp sp np hs
    rw [h1, h2, entries_eq]
    exact walk_iff _ r hs

/-- The literal statement of C52's NO_PROXY clause: for ALL configurations and ALL requests. -/
def BypassExactlyWhenDocumented : Prop :=
  ∀ (O : Oracles) (cgi : Bool) (hp sp : Option (List Nat)) (np : List Nat) (r : Req),
    useProxy (init O cgi hp sp np) r = false ↔ Bypass O np r

/-- Without exception, because host and port reach `useProxyHostPort` without a `JoinHostPort`/`SplitHostPort`
round trip (`fix:` commit for `unsplittable-addr-bypass`): every request has a host and nothing is exempted silently. -/
theorem holds : BypassExactlyWhenDocumented := useProxy_false_iff_bypass

private theorem init_fields (O : Oracles) (cgi : Bool) (hp sp : Option (List Nat)) (np : List Nat) :
    (init O cgi hp sp np).cgi = cgi ∧ (init O cgi hp sp np).httpProxy = hp ∧
      (init O cgi hp sp np).httpsProxy = sp := by
  simp [init]

private theorem http_ne_https : schemeHTTP ≠ schemeHTTPS := by decide

theorem https_selection (O : Oracles) (cgi : Bool) (hp sp : Option (List Nat)) (np : List Nat) (r : Req)
    (hs : r.scheme = schemeHTTPS) (u : List Nat) (hu : sp = some u) :
    (Bypass O np r → proxyForURL (init O cgi hp sp np) r = .noProxy) ∧
    (¬ Bypass O np r → proxyForURL (init O cgi hp sp np) r = .proxy u) := by
  subst hu
  have hb := useProxy_false_iff_bypass O cgi hp (some u) np r
  simp only [proxyForURL, init_fields]
  cases hup : useProxy (init O cgi hp (some u) np) r <;> simp_all

theorem http_selection (O : Oracles) (hp sp : Option (List Nat)) (np : List Nat) (r : Req)
    (hs : r.scheme = schemeHTTP) (u : List Nat) (hu : hp = some u) :
    (Bypass O np r → proxyForURL (init O false hp sp np) r = .noProxy) ∧
    (¬ Bypass O np r → proxyForURL (init O false hp sp np) r = .proxy u) := by
  subst hu
  have hb := useProxy_false_iff_bypass O false (some u) sp np r
  simp only [proxyForURL, init_fields]
  cases hup : useProxy (init O false (some u) sp np) r <;> simp_all [http_ne_https]

/-- `cgi`: REQUEST_METHOD is set.  Whatever NO_PROXY says; https requests are unaffected (`https_selection` holds
for any `cgi`). -/
theorem cgi_refusal (O : Oracles) (hp sp : Option (List Nat)) (np : List Nat) (r : Req)
    (hs : r.scheme = schemeHTTP) (u : List Nat) (hu : hp = some u) :
    proxyForURL (init O true hp sp np) r = .errCGI := by
  subst hu
  simp only [proxyForURL, init_fields]
  simp [hs, http_ne_https]

theorem no_proxy_configured (O : Oracles) (cgi : Bool) (hp sp : Option (List Nat)) (np : List Nat) (r : Req)
    (h : (r.scheme = schemeHTTPS ∧ sp = none) ∨ (r.scheme = schemeHTTP ∧ hp = none) ∨
         (r.scheme ≠ schemeHTTPS ∧ r.scheme ≠ schemeHTTP)) :
    proxyForURL (init O cgi hp sp np) r = .noProxy := by
  simp only [proxyForURL, init_fields]
  rcases h with ⟨hs, hn⟩ | ⟨hs, hn⟩ | ⟨h1, h2'⟩
  · simp [hs, hn]
  · simp [hs, http_ne_https, hn]
  · simp [h1, h2']

theorem result_is_selected (O : Oracles) (cgi : Bool) (hp sp : Option (List Nat)) (np : List Nat) (r : Req)
    (u : List Nat) (h : proxyForURL (init O cgi hp sp np) r = .proxy u) :
    (r.scheme = schemeHTTPS ∧ sp = some u) ∨ (r.scheme = schemeHTTP ∧ hp = some u ∧ cgi = false) := by
  simp only [proxyForURL, init_fields] at h
  by_cases hs : r.scheme = schemeHTTPS
  · left
    cases sp <;> simp [hs] at h
    split at h <;> simp_all
  · by_cases hh : r.scheme = schemeHTTP
    · right
      cases hp <;> cases cgi <;> simp [hh, http_ne_https] at h
      split at h <;> simp_all
    · simp [hs, hh] at h

/-- `h` is a strict subdomain of `name`: `h = pre ++ "." ++ name`. -/
def IsSubdomainOf (h name : List Nat) : Prop := ∃ pre, h = pre ++ 46 :: name

theorem domain_entry_meaning (name port : List Nat) (subOnly : Bool) (r : Req) :
    EntryMatches (.domain (46 :: name) subOnly port) r ↔
      r.ip = none ∧ PortOK port r.port ∧
        (IsSubdomainOf (canonHost r) name ∨ (subOnly = false ∧ canonHost r = name)) := by
  simp only [EntryMatches, IsSubdomainOf, List.IsSuffix, List.drop_succ_cons, List.drop_zero, eq_comm]

theorem piece_star_iff (O : Oracles) (v : List Nat) :
    pieceStep O v = .star ↔ toLower (trimSpace v) = star := by
  unfold pieceStep
  by_cases h0 : toLower (trimSpace v) = []
  · simp [h0, star]
  by_cases h1 : toLower (trimSpace v) = star
  · simp [h1, star]
  -- every later branch ends in `skip` or one of the `add…` steps
  simp only [h0, h1, if_false, iff_false]
  repeat' split
  all_goals nofun

theorem piece_cidr (O : Oracles) (v ip : List Nat) (ones bits : Nat)
    (h0 : toLower (trimSpace v) ≠ []) (h1 : toLower (trimSpace v) ≠ star)
    (hc : O.parseCIDR (toLower (trimSpace v)) = some (ip, ones, bits)) :
    stepEntry (pieceStep O v) = some (.cidr ip ones bits) := by
  simp [pieceStep, h0, h1, hc, stepEntry]

/-- `host` and `port` of a value: what `net.SplitHostPort` returns, else the whole value and no port.
Two branches of `pieceStep` are left out, so that `piece_ip`, `piece_domain` and `piece_dot_ignored` say
nothing of them: a split with an empty host (`:port`: the value is skipped) and one with a bracketed
host (`[IPv6]:port`: the brackets are stripped first). -/
def HostPortOf (O : Oracles) (p h port : List Nat) : Prop :=
  (O.splitHostPort p = none ∧ h = p ∧ port = []) ∨
  (O.splitHostPort p = some (h, port) ∧ h ≠ [] ∧ ¬ (h.head? = some 91 ∧ h.getLast? = some 93))

private theorem pieceStep_hostPort (O : Oracles) (v h port : List Nat)
    (h0 : toLower (trimSpace v) ≠ []) (h1 : toLower (trimSpace v) ≠ star)
    (hc : O.parseCIDR (toLower (trimSpace v)) = none)
    (hhp : HostPortOf O (toLower (trimSpace v)) h port) :
    pieceStep O v =
      match O.parseIP h with
      | some pip => .addIP pip port
      | none =>
        if trimSuffixDot h = [] then .skip
        else
          let phost1 := if hasPrefix (trimSuffixDot h) starDot then (trimSuffixDot h).drop 1 else trimSuffixDot h
          let matchHost := phost1.head? != some 46
          Step.addDomain (idnaASCII O (if matchHost then 46 :: phost1 else phost1)) port matchHost := by
  rcases hhp with ⟨hs, rfl, rfl⟩ | ⟨hs, hne, hb⟩
  · cases hip : O.parseIP _ <;> simp [pieceStep, h0, h1, hc, hs, hip]
  · cases hip : O.parseIP h <;> simp [pieceStep, h0, h1, hc, hs, hne, hb, hip]

theorem piece_ip (O : Oracles) (v h port ip : List Nat)
    (h0 : toLower (trimSpace v) ≠ []) (h1 : toLower (trimSpace v) ≠ star)
    (hc : O.parseCIDR (toLower (trimSpace v)) = none)
    (hhp : HostPortOf O (toLower (trimSpace v)) h port) (hip : O.parseIP h = some ip) :
    stepEntry (pieceStep O v) = some (.ip ip port) := by
  rw [pieceStep_hostPort O v h port h0 h1 hc hhp, hip]
  rfl

/-- Domain[:port] forms: `*.d` and `.d` mean "subdomains of d only", a plain `d` means "d and its
subdomains".  (`idnaASCII` is the identity on ASCII input.) -/
theorem piece_domain (O : Oracles) (v h port : List Nat)
    (h0 : toLower (trimSpace v) ≠ []) (h1 : toLower (trimSpace v) ≠ star)
    (hc : O.parseCIDR (toLower (trimSpace v)) = none)
    (hhp : HostPortOf O (toLower (trimSpace v)) h port) (hip : O.parseIP h = none)
    (hd0 : trimSuffixDot h ≠ []) :
    stepEntry (pieceStep O v) = some
      (if hasPrefix (trimSuffixDot h) starDot then .domain (idnaASCII O ((trimSuffixDot h).drop 1)) true port
       else if (trimSuffixDot h).head? = some 46 then .domain (idnaASCII O (trimSuffixDot h)) true port
       else .domain (idnaASCII O (46 :: trimSuffixDot h)) false port) := by
  rw [pieceStep_hostPort O v h port h0 h1 hc hhp, hip]
  simp only [if_neg hd0]
  generalize trimSuffixDot h = d
  by_cases hsd : hasPrefix d starDot = true
  · -- "*.d": after dropping '*' the string starts with '.'
    obtain ⟨t, rfl⟩ := List.isPrefixOf_iff_prefix.1 hsd
    simp [hasPrefix, stepEntry, starDot]
  · by_cases hd : d.head? = some 46 <;> simp [hsd, hd, stepEntry]

/-- A value that is only a dot (after the port is removed) is ignored. -/
theorem piece_dot_ignored (O : Oracles) (v h port : List Nat)
    (h0 : toLower (trimSpace v) ≠ []) (h1 : toLower (trimSpace v) ≠ star)
    (hc : O.parseCIDR (toLower (trimSpace v)) = none)
    (hhp : HostPortOf O (toLower (trimSpace v)) h port) (hip : O.parseIP h = none)
    (hd0 : trimSuffixDot h = []) : pieceStep O v = .skip := by
  rw [pieceStep_hostPort O v h port h0 h1 hc hhp, hip]
  exact if_pos hd0

theorem idnaASCII_ascii (O : Oracles) (v : List Nat) (h : isASCII v = true) : idnaASCII O v = v := by
  simp [idnaASCII, h]

theorem ip_entry_meaning (eip port : List Nat) (r : Req) (he : Lemmas.NetIP.IPWF eip)
    (hr : ∀ ip, r.ip = some ip → Lemmas.NetIP.IPWF ip) :
    EntryMatches (.ip eip port) r ↔
      ∃ ip, r.ip = some ip ∧ Lemmas.NetIP.norm eip = Lemmas.NetIP.norm ip ∧ PortOK port r.port := by
  exact exists_congr fun ip => and_congr_right fun h1 =>
    and_congr_left' (Lemmas.NetIP.ipEqual_iff eip ip he (hr ip h1))

def noOracles : Oracles :=
  { parseCIDR := fun _ => none, splitHostPort := fun _ => none, parseIP := fun _ => none, idna := fun _ => none }

private def fooCom : List Nat := [102, 111, 111, 46, 99, 111, 109]            -- "foo.com"
private def xFooCom : List Nat := [120, 46, 102, 111, 111, 46, 99, 111, 109]  -- "x.foo.com"
private def xfooCom : List Nat := [120, 102, 111, 111, 46, 99, 111, 109]      -- "xfoo.com"
private def p80 : List Nat := [56, 48]
private def proxyURL : List Nat := [112]
private def mkReq (host : List Nat) : Req :=
  { scheme := schemeHTTP, host := host, port := p80, ip := none }

/-- NO_PROXY=" FOO.com ,.foo.com": "foo.com" and "x.foo.com" bypass, "xfoo.com" is proxied. -/
example : proxyForURL (init noOracles false (some proxyURL) none ([32, 70, 79, 79] ++ [46, 99, 111, 109, 32, 44, 46] ++ fooCom)) (mkReq fooCom) = .noProxy := by decide +kernel
example : proxyForURL (init noOracles false (some proxyURL) none ([32, 70, 79, 79] ++ [46, 99, 111, 109, 32, 44, 46] ++ fooCom)) (mkReq xFooCom) = .noProxy := by decide +kernel
example : proxyForURL (init noOracles false (some proxyURL) none ([32, 70, 79, 79] ++ [46, 99, 111, 109, 32, 44, 46] ++ fooCom)) (mkReq xfooCom) = .proxy proxyURL := by decide +kernel
/-- ".foo.com" alone: subdomains only. -/
example : proxyForURL (init noOracles false (some proxyURL) none (46 :: fooCom)) (mkReq fooCom) = .proxy proxyURL := by decide +kernel
example : proxyForURL (init noOracles false (some proxyURL) none (46 :: fooCom)) (mkReq xFooCom) = .noProxy := by decide +kernel
/-- The witness of `unsplittable-addr-bypass`, host `a]b` (`SplitHostPort` fails on it): with an empty NO_PROXY
it is proxied, and it honours `*`. -/
example : proxyForURL (init noOracles false (some proxyURL) none []) (mkReq [97, 93, 98]) = .proxy proxyURL := by decide +kernel
example : ¬ Bypass noOracles [] (mkReq [97, 93, 98]) := by
  rw [← useProxy_false_iff_bypass noOracles false none none]
  decide +kernel
example : proxyForURL (init noOracles false (some proxyURL) none [42]) (mkReq [97, 93, 98]) = .noProxy := by decide +kernel
/-- Regression for the repaired defect `localhost-case-sensitive`: "LocalHost" is localhost. -/
example : proxyForURL (init noOracles false (some proxyURL) none []) (mkReq [76, 111, 99, 97, 108, 72, 111, 115, 116]) = .noProxy := by decide +kernel
/-- Regression for the repaired defect `noproxy-trailing-dot`: rooted spellings on either side.
NO_PROXY="foo.com" vs host "foo.com." and "x.foo.com."; NO_PROXY="foo.com." vs host "foo.com";
"localhost." is localhost; "xfoo.com." is still proxied. -/
example : proxyForURL (init noOracles false (some proxyURL) none fooCom) (mkReq (fooCom ++ [46])) = .noProxy := by decide +kernel
example : proxyForURL (init noOracles false (some proxyURL) none fooCom) (mkReq (xFooCom ++ [46])) = .noProxy := by decide +kernel
example : proxyForURL (init noOracles false (some proxyURL) none (fooCom ++ [46])) (mkReq fooCom) = .noProxy := by decide +kernel
example : proxyForURL (init noOracles false (some proxyURL) none []) (mkReq (localhost ++ [46])) = .noProxy := by decide +kernel
example : proxyForURL (init noOracles false (some proxyURL) none fooCom) (mkReq (xfooCom ++ [46])) = .proxy proxyURL := by decide +kernel
/-- "x,*,y": everything bypasses; CGI refuses http. -/
example : proxyForURL (init noOracles false (some proxyURL) none [120, 44, 42, 44, 121]) (mkReq fooCom) = .noProxy := by decide +kernel
example : proxyForURL (init noOracles true (some proxyURL) none []) (mkReq fooCom) = .errCGI := by decide +kernel
/-- A CIDR entry (as `net.ParseCIDR` would return 10.0.0.0/8) and an IP request 10.1.2.3 / 11.1.2.3. -/
private def cidrOracles : Oracles :=
  { noOracles with parseCIDR := fun s => if s = [49] then some ([10, 0, 0, 0], 8, 32) else none }
example : useProxy (init cidrOracles false none none [49])
    { scheme := schemeHTTP, host := [], port := p80, ip := some [10, 1, 2, 3] } = false := by decide +kernel
example : useProxy (init cidrOracles false none none [49])
    { scheme := schemeHTTP, host := [], port := p80, ip := some [11, 1, 2, 3] } = true := by decide +kernel
example : useProxy (init cidrOracles false none none [49])
    { scheme := schemeHTTP, host := [], port := p80,
      ip := some [0, 0, 0, 0, 0, 0, 0, 0, 0, 0, 255, 255, 10, 1, 2, 3] } = false := by decide +kernel

end NetVerif.Proofs.C52
