import NetVerif.Proofs.C56
import NetVerif.Proofs.Lemmas.IfCases
/-!
C56, containers — the RFC 9651 §4.2 parsing algorithms for parameters, inner lists, items, lists
and dictionaries transcribed as big-step relations (one constructor per path through the numbered
steps of the RFC text, no fuel, results accumulated from the consumed characters), and the theorems
that the model of the Go code accepts exactly what these relations derive and reports exactly the same
members / keys / values / parameters. Corollaries: the model's loop fuel suffices; the round trips through
the §4.1 serialisation, whose text derives its members in the RFC relation.

The bare-item and key sub-parsers are shared with the model (`consumeBareItem`, `consumeKey`).
`Proofs/C56.lean` characterises `consumeKey` and each of the seven consumers `consumeBareItem` dispatches to
against the RFC ABNF with arbitrary trailing text (`*_cuts`); the dispatch on the first character (§4.2.3.1)
is the model's own in these relations and no theorem specifies it.
-/
namespace NetVerif.Proofs.C56
open NetVerif NetVerif.Model.Httpsfv

/-- A fuelled loop that is sound and, above `len(s)` fuel, complete for a fuel-free relation does not
    depend on the fuel (the model's four loops: each iteration consumes at least one byte). -/
theorem fuel_irrelevant {α : Type} {loop : Nat → List Nat → Option α} {P : List Nat → α → Prop}
    (sound : ∀ fuel s a, loop fuel s = some a → P s a)
    (complete : ∀ s a, P s a → ∀ fuel, s.length + 1 ≤ fuel → loop fuel s = some a)
    (s : List Nat) (fuel : Nat) (hf : s.length + 1 ≤ fuel) : loop fuel s = loop (s.length + 1) s := by
  cases h1 : loop fuel s with
  | some a => rw [complete s a (sound _ s a h1) _ (Nat.le_refl _)]
  | none =>
    cases h2 : loop (s.length + 1) s with
    | none => rfl
    | some a =>
      rw [complete s a (sound _ s a h2) fuel hf] at h1
      cases h1

theorem consumedOf_append (t r : List Nat) : consumedOf (t ++ r) r = t := by
  unfold consumedOf; simp

theorem consumeKey_split (s c r : List Nat) (h : consumeKey s = some (c, r)) :
    s = c ++ r ∧ c ≠ [] :=
  consumeKey_cuts.split (fun _ _ ⟨⟨⟨_, _, e, _⟩, _⟩, _⟩ => e ▸ List.cons_ne_nil _ _) h

theorem consumeBareItem_split (s c r : List Nat) (h : consumeBareItem s = some (c, r)) :
    s = c ++ r ∧ c ≠ [] := by
  cases s with
  | nil => cases h
  | cons ch t =>
    simp only [consumeBareItem] at h
    rcases Lemmas.ite_cases h with ⟨_, h⟩ | ⟨_, h⟩
    · exact ciod_cuts.split (fun _ _ ⟨_, _, _, _, e, hc⟩ => by
        rw [e]; exact fun e' => (numBody_first hc).1 (List.append_eq_nil_iff.1 e').2) h
    rcases Lemmas.ite_cases h with ⟨_, h⟩ | ⟨_, h⟩
    · exact consumeString_cuts.split (fun _ _ ⟨_, e, _⟩ => e ▸ List.cons_ne_nil _ _) h
    rcases Lemmas.ite_cases h with ⟨_, h⟩ | ⟨_, h⟩
    · exact consumeToken_cuts.split (fun _ _ ⟨⟨_, _, e, _⟩, _⟩ => e ▸ List.cons_ne_nil _ _) h
    rcases Lemmas.ite_cases h with ⟨_, h⟩ | ⟨_, h⟩
    · exact consumeByteSequence_cuts.split (fun _ _ ⟨_, e, _⟩ => e ▸ List.cons_ne_nil _ _) h
    rcases Lemmas.ite_cases h with ⟨_, h⟩ | ⟨_, h⟩
    · exact consumeBoolean_cuts.split
        (by rintro _ _ ⟨_, ⟨rfl, _⟩ | ⟨rfl, _⟩⟩ <;> exact List.cons_ne_nil _ _) h
    rcases Lemmas.ite_cases h with ⟨_, h⟩ | ⟨_, h⟩
    · exact consumeDate_cuts.split (fun _ _ ⟨⟨_, _, e, _⟩, _⟩ => e ▸ List.cons_ne_nil _ _) h
    rcases Lemmas.ite_cases h with ⟨_, h⟩ | ⟨_, h⟩
    · exact consumeDisplayString_cuts.split (fun _ _ ⟨_, _, e, _⟩ => e ▸ List.cons_ne_nil _ _) h
    cases h

def IsSpRun (sp : List Nat) : Prop := ∀ b ∈ sp, b = 32
def NoLeadSP (r : List Nat) : Prop := ∀ c t, r = c :: t → c ≠ 32
def IsOwsRun (ws : List Nat) : Prop := ∀ b ∈ ws, b = 32 ∨ b = 9
def NoLeadOWS (r : List Nat) : Prop := ∀ c t, r = c :: t → c ≠ 32 ∧ c ≠ 9

theorem dropSP_eq (r : List Nat) : dropSP r = r.dropWhile (· == 32) := by
  induction r with
  | nil => rfl
  | cons c r ih =>
    unfold dropSP
    rw [List.dropWhile_cons, ih]
    cases h : c == 32 <;> simp [bne, h]

theorem dropWS_eq (r : List Nat) : dropWS r = r.dropWhile (fun c => c == 32 || c == 9) := by
  induction r with
  | nil => rfl
  | cons c r ih =>
    unfold dropWS
    rw [List.dropWhile_cons, ih]
    cases h : c == 32 <;> cases h' : c == 9 <;> simp [bne, h, h']

theorem dropSP_decomp (r : List Nat) : ∃ sp, IsSpRun sp ∧ r = sp ++ dropSP r ∧ NoLeadSP (dropSP r) := by
  rw [dropSP_eq]
  obtain ⟨h1, h2⟩ := span_all (· == 32) r
  exact ⟨_, fun b hb => by simpa using h1 b hb, List.takeWhile_append_dropWhile.symm,
    fun c t h => by simpa using h2 c t h⟩

theorem dropSP_of_decomp (sp r0 : List Nat) (h1 : IsSpRun sp) (h2 : NoLeadSP r0) : dropSP (sp ++ r0) = r0 := by
  rw [dropSP_eq]
  exact (span_append _ sp r0 (fun b hb => by simp [h1 b hb]) (fun c t h => by simpa using h2 c t h)).2

theorem dropWS_decomp (r : List Nat) : ∃ ws, IsOwsRun ws ∧ r = ws ++ dropWS r ∧ NoLeadOWS (dropWS r) := by
  rw [dropWS_eq]
  obtain ⟨h1, h2⟩ := span_all (fun c => c == 32 || c == 9) r
  exact ⟨_, fun b hb => by simpa using h1 b hb, List.takeWhile_append_dropWhile.symm,
    fun c t h => by simpa using h2 c t h⟩

theorem dropWS_of_decomp (ws r0 : List Nat) (h1 : IsOwsRun ws) (h2 : NoLeadOWS r0) : dropWS (ws ++ r0) = r0 := by
  rw [dropWS_eq]
  exact (span_append _ ws r0 (fun b hb => by simpa using h1 b hb) (fun c t h => by simpa using h2 c t h)).2

/-- `RfcParams input params text rest`: the algorithm of §4.2.3.2 run on `input` consumes `text`, leaves
    `rest`, and meets the (key, value) pairs `params` in this order (the RFC's ordered map, steps 2.7 / 2.8,
    would be `rfcOrderedMap params`; no theorem uses it, so for a repeated parameter key only the sequence of
    its instances is specified).  A parameter without "=" has the value Boolean true,
    written "?1".  No derivation = "fail parsing". -/
inductive RfcParams : List Nat → List (List Nat × List Nat) → List Nat → List Nat → Prop
  /-- step 2: input_string is empty — return (step 3) -/
  | done_nil : RfcParams [] [] [] []
  /-- step 2.1: the first character is not ";" — exit the loop -/
  | done_other (c : Nat) (r : List Nat) : c ≠ 59 → RfcParams (c :: r) [] [] (c :: r)
  /-- steps 2.2 (consume ";"), 2.3 (discard SP), 2.4 (key), 2.5 (true), 2.6 not taken, 2.7/2.8, loop -/
  | flag (sp r0 key r1 : List Nat) (ps : List (List Nat × List Nat)) (text out : List Nat) :
      IsSpRun sp → NoLeadSP r0 → consumeKey r0 = some (key, r1) → (∀ t, r1 ≠ 61 :: t) →
      RfcParams r1 ps text out →
      RfcParams (59 :: (sp ++ r0)) ((key, boolTrueText) :: ps) (59 :: (sp ++ (key ++ text))) out
  /-- steps 2.2–2.5, 2.6.1 (consume "="), 2.6.2 (bare item), 2.7/2.8, loop -/
  | valued (sp r0 key r2 val r3 : List Nat) (ps : List (List Nat × List Nat)) (text out : List Nat) :
      IsSpRun sp → NoLeadSP r0 → consumeKey r0 = some (key, 61 :: r2) →
      consumeBareItem r2 = some (val, r3) → RfcParams r3 ps text out →
      RfcParams (59 :: (sp ++ r0)) ((key, val) :: ps) (59 :: (sp ++ (key ++ 61 :: (val ++ text)))) out

/-- Steps 2.7 / 2.8: a repeated key overwrites the value in place, a new key is appended. -/
def rfcOrderedMap : List (List Nat × List Nat) → List (List Nat × List Nat)
  | [] => []
  | (k, v) :: rest =>
    let rec ins (m : List (List Nat × List Nat)) (k v : List Nat) : List (List Nat × List Nat) :=
      match m with
      | [] => [(k, v)]
      | (k', v') :: m' => if k' = k then (k', v) :: m' else (k', v') :: ins m' k v
    (rest.foldl (fun m kv => ins m kv.1 kv.2) [(k, v)])

theorem rfcParams_split {s text out : List Nat} {ps : List (List Nat × List Nat)}
    (h : RfcParams s ps text out) : s = text ++ out ∧ ps.length ≤ text.length := by
  induction h with
  | done_nil => exact ⟨rfl, by simp⟩
  | done_other c r _ => exact ⟨rfl, by simp⟩
  | flag sp r0 key r1 ps text out _ _ hk _ _ ih =>
    obtain ⟨e, _⟩ := consumeKey_split r0 key r1 hk
    refine ⟨by rw [e, ih.1]; simp, ?_⟩
    simp; omega
  | valued sp r0 key r2 val r3 ps text out _ _ hk hb _ ih =>
    obtain ⟨e, _⟩ := consumeKey_split r0 key _ hk
    obtain ⟨e2, _⟩ := consumeBareItem_split r2 val r3 hb
    refine ⟨by rw [e, e2, ih.1]; simp, ?_⟩
    simp; omega

theorem paramLoop_sound : ∀ (fuel : Nat) (s : List Nat) (cbs : List (List Nat × List Nat)) (out : List Nat),
    paramLoop fuel s = some (cbs, out) → ∃ text, RfcParams s cbs text out := by
  intro fuel
  induction fuel with
  | zero => intro s cbs out h; simp [paramLoop] at h
  | succ f ih =>
    intro s cbs out h
    unfold paramLoop at h
    cases s with
    | nil =>
      cases h
      exact ⟨[], RfcParams.done_nil⟩
    | cons c r =>
      simp only at h
      by_cases hc : c = 59
      · subst hc
        simp only [bne_self_eq_false, Bool.false_eq_true, if_false] at h
        obtain ⟨sp, hs1, hs2, hs3⟩ := dropSP_decomp r
        split at h; · cases h
        rename_i key r1 hk
        split at h; · cases h
        rename_i val r3 hv
        split at h; · cases h
        rename_i cbs' out' hl
        cases h
        obtain ⟨text, ht⟩ := ih r3 cbs' out hl
        unfold paramValue at hv
        split at hv
        · rename_i r2
          have := RfcParams.valued sp (dropSP r) key r2 val r3 cbs' text out hs1 hs3 hk hv ht
          rw [← hs2] at this
          exact ⟨_, this⟩
        · rename_i hne
          cases hv
          have := RfcParams.flag sp (dropSP r) key r1 cbs' text out hs1 hs3 hk (fun t ht' => hne t ht') ht
          rw [← hs2] at this
          exact ⟨_, this⟩
      · have e : (c != 59) = true := by simpa using hc
        simp only [e, if_true, Option.some.injEq, Prod.mk.injEq] at h
        obtain ⟨h1, h2⟩ := h; subst h1; subst h2
        exact ⟨[], RfcParams.done_other c r hc⟩

theorem paramLoop_complete {s text out : List Nat} {cbs : List (List Nat × List Nat)}
    (h : RfcParams s cbs text out) : ∀ fuel, cbs.length + 1 ≤ fuel → paramLoop fuel s = some (cbs, out) := by
  induction h with
  | done_nil => intro fuel hf; cases fuel with | zero => omega | succ f => simp [paramLoop]
  | done_other c r hc =>
    intro fuel hf
    cases fuel with
    | zero => omega
    | succ f =>
      have e : (c != 59) = true := by simpa using hc
      simp [paramLoop, e]
  | flag sp r0 key r1 ps text out h1 h2 hk hne _ ih =>
    intro fuel hf
    cases fuel with
    | zero => omega
    | succ f =>
      have := ih f (by simp at hf; omega)
      unfold paramLoop
      have hv : paramValue r1 = some (boolTrueText, r1) := by
        unfold paramValue
        split
        · rename_i r2 _; exact absurd rfl (hne r2)
        · rfl
      simp only [bne_self_eq_false, Bool.false_eq_true, if_false, dropSP_of_decomp sp r0 h1 h2, hk, hv, this]
  | valued sp r0 key r2 val r3 ps text out h1 h2 hk hb _ ih =>
    intro fuel hf
    cases fuel with
    | zero => omega
    | succ f =>
      have := ih f (by simp at hf; omega)
      unfold paramLoop
      have hv : paramValue (61 :: r2) = some (val, r3) := by simp [paramValue, hb]
      simp only [bne_self_eq_false, Bool.false_eq_true, if_false, dropSP_of_decomp sp r0 h1 h2, hk, hv, this]

theorem consumeParameter_iff (s text out : List Nat) (cbs : List (List Nat × List Nat)) :
    consumeParameter s = some (cbs, text, out) ↔ RfcParams s cbs text out := by
  unfold consumeParameter
  constructor
  · intro h
    split at h; · cases h
    rename_i cbs' rest hl
    simp only [Option.some.injEq, Prod.mk.injEq] at h
    obtain ⟨h1, h2, h3⟩ := h
    subst h1; subst h3
    obtain ⟨text', ht⟩ := paramLoop_sound _ s cbs' rest hl
    have e := (rfcParams_split ht).1
    rw [← h2, e, consumedOf_append]
    rw [← e]; exact ht
  · intro h
    obtain ⟨e, hl⟩ := rfcParams_split h
    have hlen : cbs.length + 1 ≤ s.length + 1 := by rw [e]; simp; omega
    rw [paramLoop_complete h _ hlen]
    simp only [Option.some.injEq, Prod.mk.injEq, true_and, and_true]
    rw [e, consumedOf_append]

/-- `cbs` are the calls of `f` in `ParseParameter(s, f)`, in order. -/
theorem parseParameter_iff (s : List Nat) (cbs : List (List Nat × List Nat)) :
    parseParameter s = some cbs ↔ RfcParams s cbs s [] := by
  unfold parseParameter
  constructor
  · intro h
    split at h
    · rename_i cbs' text heq
      cases h
      have := (consumeParameter_iff s text [] cbs).1 heq
      have e := (rfcParams_split this).1
      rw [List.append_nil] at e
      rw [e]; rw [e] at this; exact this
    · cases h
  · intro h
    rw [(consumeParameter_iff s s [] cbs).2 h]

theorem paramLoop_fuel (s : List Nat) (fuel : Nat) (hf : s.length + 1 ≤ fuel) :
    paramLoop fuel s = paramLoop (s.length + 1) s :=
  fuel_irrelevant (P := fun s a => ∃ text, RfcParams s a.1 text a.2)
    (fun fuel s a h => paramLoop_sound fuel s a.1 a.2 h)
    (fun s a ⟨text, ht⟩ fuel hf => paramLoop_complete ht fuel (by
      obtain ⟨e, hl⟩ := rfcParams_split ht
      rw [e, List.length_append] at hf; omega)) s fuel hf

/-- `RfcInnerLoop input items text rest`: the loop of §4.2.1.2 step 3, run on the input after "(".
    `items` are (bare item text, parameter text) of each Item (§4.2.3), in order. -/
inductive RfcInnerLoop : List Nat → List (List Nat × List Nat) → List Nat → List Nat → Prop
  /-- 3.1 discard SP; 3.2 the first character is ")": 3.2.1 consume it and stop -/
  | close (sp out : List Nat) : IsSpRun sp → RfcInnerLoop (sp ++ 41 :: out) [] (sp ++ [41]) out
  /-- 3.1 discard SP; 3.2 not ")"; 3.3 parse an Item (bare item, then parameters); 3.4 append;
      3.5 the next character is SP or ")"; loop (input is not empty) -/
  | item (sp r0 bi r1 : List Nat) (ps : List (List Nat × List Nat)) (pt : List Nat) (c : Nat) (r2 : List Nat)
      (items : List (List Nat × List Nat)) (text out : List Nat) :
      IsSpRun sp → NoLeadSP r0 → (∀ t, r0 ≠ 41 :: t) → consumeBareItem r0 = some (bi, r1) →
      RfcParams r1 ps pt (c :: r2) → (c = 32 ∨ c = 41) → RfcInnerLoop (c :: r2) items text out →
      RfcInnerLoop (sp ++ r0) ((bi, pt) :: items) (sp ++ (bi ++ (pt ++ text))) out

/-- §4.2.1.2 steps 1–3 (step 4, "the end of the Inner List was not found", is the absence of a derivation). -/
def RfcBareInner (s : List Nat) (items : List (List Nat × List Nat)) (text out : List Nat) : Prop :=
  ∃ r t, s = 40 :: r ∧ RfcInnerLoop r items t out ∧ text = 40 :: t

theorem rfcInnerLoop_split {r text out : List Nat} {items : List (List Nat × List Nat)}
    (h : RfcInnerLoop r items text out) : r = text ++ out ∧ items.length + 1 ≤ text.length := by
  induction h with
  | close sp out _ => exact ⟨by simp, by simp⟩
  | item sp r0 bi r1 ps pt c r2 items text out _ _ _ hb hp _ _ ih =>
    obtain ⟨e1, hne⟩ := consumeBareItem_split r0 bi r1 hb
    obtain ⟨e2, _⟩ := rfcParams_split hp
    refine ⟨by rw [e1, e2, ih.1]; simp, ?_⟩
    have : 1 ≤ bi.length := List.length_pos_iff.2 hne
    simp; omega

theorem rfcBareInner_split {s text out : List Nat} {items : List (List Nat × List Nat)}
    (h : RfcBareInner s items text out) : s = text ++ out ∧ text ≠ [] := by
  obtain ⟨r, t, rfl, hl, rfl⟩ := h
  exact ⟨by rw [(rfcInnerLoop_split hl).1]; rfl, List.cons_ne_nil _ _⟩

theorem innerLoop_sound : ∀ (fuel : Nat) (r : List Nat) (cbs : List (List Nat × List Nat)) (out : List Nat),
    innerLoop fuel r = some (cbs, out) → ∃ text, RfcInnerLoop r cbs text out := by
  intro fuel
  induction fuel with
  | zero => intro r cbs out h; simp [innerLoop] at h
  | succ f ih =>
    intro r cbs out h
    unfold innerLoop at h
    cases r with
    | nil => cases h
    | cons c0 r' =>
      simp only at h
      obtain ⟨sp, hs1, hs2, hs3⟩ := dropSP_decomp (c0 :: r')
      split at h
      · rename_i out heq
        cases h
        have := RfcInnerLoop.close sp out hs1
        rw [← heq, ← hs2] at this
        exact ⟨_, this⟩
      · rename_i hne
        split at h; · cases h
        rename_i bi r1 hb
        split at h; · cases h
        rename_i ps param r2 hp
        split at h; · cases h
        rename_i c r2'
        split at h; · cases h
        rename_i hc
        split at h; · cases h
        rename_i cbs' out' hl
        cases h
        obtain ⟨text, ht⟩ := ih (c :: r2') cbs' out hl
        have hc' : c = 32 ∨ c = 41 := by
          simp only [Bool.and_eq_true, bne_iff_ne, ne_eq, Bool.not_eq_true', not_and] at hc
          unfold isSP at hc
          by_cases h41 : c = 41
          · exact Or.inr h41
          · have := hc h41; simp at this; exact Or.inl this
        have hp' := (consumeParameter_iff r1 param (c :: r2') ps).1 hp
        have := RfcInnerLoop.item sp (dropSP (c0 :: r')) bi r1 ps param c r2' cbs' text out hs1 hs3
          (fun t ht' => hne t ht') hb hp' hc' ht
        rw [← hs2] at this
        exact ⟨_, this⟩

theorem innerLoop_complete {r text out : List Nat} {cbs : List (List Nat × List Nat)}
    (h : RfcInnerLoop r cbs text out) : ∀ fuel, cbs.length + 1 ≤ fuel → innerLoop fuel r = some (cbs, out) := by
  induction h with
  | close sp out h1 =>
    intro fuel hf
    cases fuel with
    | zero => omega
    | succ f =>
      obtain ⟨c, t, hne⟩ :=
        List.exists_cons_of_ne_nil (List.append_ne_nil_of_right_ne_nil sp (List.cons_ne_nil 41 out))
      have hd : dropSP (sp ++ 41 :: out) = 41 :: out :=
        dropSP_of_decomp sp _ h1 (by intro c t h; simp at h; omega)
      unfold innerLoop
      rw [hne]; simp only; rw [← hne, hd]
      rfl
  | item sp r0 bi r1 ps pt c r2 items text out h1 h2 hne hb hp hc _ ih =>
    intro fuel hf
    cases fuel with
    | zero => omega
    | succ f =>
      have hr0 : r0 ≠ [] := by
        intro e; subst e; simp [consumeBareItem] at hb
      obtain ⟨c0, t0, hne0⟩ := List.exists_cons_of_ne_nil (List.append_ne_nil_of_right_ne_nil sp hr0)
      have hd : dropSP (sp ++ r0) = r0 := dropSP_of_decomp sp r0 h1 h2
      have hcp := (consumeParameter_iff r1 pt (c :: r2) ps).2 hp
      have hcc : (c != 41 && !isSP c) = false := by rcases hc with rfl | rfl <;> decide
      have := ih f (by simp at hf; omega)
      unfold innerLoop
      rw [hne0]; simp only; rw [← hne0, hd]
      split
      · rename_i o; exact absurd rfl (hne o)
      · simp only [hb, hcp, hcc, Bool.false_eq_true, if_false, this]

theorem consumeBareInnerList_iff (s text out : List Nat) (cbs : List (List Nat × List Nat)) :
    consumeBareInnerList s = some (cbs, text, out) ↔ RfcBareInner s cbs text out := by
  unfold consumeBareInnerList RfcBareInner
  constructor
  · intro h
    split at h; · cases h
    rename_i c r
    split at h; · cases h
    rename_i hc
    have : c = 40 := by simpa using hc
    subst this
    split at h; · cases h
    rename_i cbs' rest hl
    simp only [Option.some.injEq, Prod.mk.injEq] at h
    obtain ⟨h1, h2, h3⟩ := h
    subst h1; subst h3
    obtain ⟨t, ht⟩ := innerLoop_sound _ r cbs' rest hl
    have e := (rfcInnerLoop_split ht).1
    refine ⟨r, t, rfl, ht, ?_⟩
    rw [← h2, e, show 40 :: (t ++ rest) = (40 :: t) ++ rest from rfl, consumedOf_append]
  · rintro ⟨r, t, rfl, ht, rfl⟩
    obtain ⟨e, hl⟩ := rfcInnerLoop_split ht
    have hlen : cbs.length + 1 ≤ r.length + 1 := by rw [e]; simp; omega
    simp only [bne_self_eq_false, Bool.false_eq_true, if_false, innerLoop_complete ht _ hlen]
    rw [e, show 40 :: (t ++ out) = (40 :: t) ++ out from rfl, consumedOf_append]

/-- `cbs` are the calls of `f` in `ParseBareInnerList(s, f)`, in order. -/
theorem parseBareInnerList_iff (s : List Nat) (cbs : List (List Nat × List Nat)) :
    parseBareInnerList s = some cbs ↔ RfcBareInner s cbs s [] := by
  unfold parseBareInnerList
  constructor
  · intro h
    split at h
    · rename_i cbs' text heq
      cases h
      have := (consumeBareInnerList_iff s text [] cbs).1 heq
      have e := (rfcBareInner_split this).1
      rw [List.append_nil] at e
      subst e
      exact this
    · cases h
  · intro h
    rw [(consumeBareInnerList_iff s s [] cbs).2 h]

theorem innerLoop_fuel (r : List Nat) (fuel : Nat) (hf : r.length + 1 ≤ fuel) :
    innerLoop fuel r = innerLoop (r.length + 1) r :=
  fuel_irrelevant (P := fun r a => ∃ text, RfcInnerLoop r a.1 text a.2)
    (fun fuel r a h => innerLoop_sound fuel r a.1 a.2 h)
    (fun r a ⟨text, ht⟩ fuel hf => innerLoop_complete ht fuel (by
      obtain ⟨e, hl⟩ := rfcInnerLoop_split ht
      rw [e, List.length_append] at hf; omega)) r fuel hf

/-- §4.2.3: 1–2 bare item, 3 parameters.  `bi` / `pt` are the bare item and parameter texts. -/
def RfcItem (s bi pt text out : List Nat) : Prop :=
  ∃ r1 ps, consumeBareItem s = some (bi, r1) ∧ RfcParams r1 ps pt out ∧ text = bi ++ pt

theorem consumeItem_iff (s bi pt text out : List Nat) :
    consumeItem s = some (bi, pt, text, out) ↔ RfcItem s bi pt text out := by
  unfold consumeItem RfcItem
  constructor
  · intro h
    split at h; · cases h
    rename_i bi' r1 hb
    split at h; · cases h
    rename_i ps param rest hp
    simp only [Option.some.injEq, Prod.mk.injEq] at h
    obtain ⟨h1, h2, h3, h4⟩ := h
    subst h1; subst h2; subst h4
    have hp' := (consumeParameter_iff r1 param rest ps).1 hp
    refine ⟨r1, ps, hb, hp', ?_⟩
    rw [← h3, (consumeBareItem_split s bi' r1 hb).1, (rfcParams_split hp').1, ← List.append_assoc,
      consumedOf_append]
  · rintro ⟨r1, ps, hb, hp, rfl⟩
    rw [hb]
    simp only [(consumeParameter_iff r1 pt out ps).2 hp, Option.some.injEq, Prod.mk.injEq, true_and, and_true]
    rw [(consumeBareItem_split s bi r1 hb).1, (rfcParams_split hp).1, ← List.append_assoc, consumedOf_append]

/-- `(bi, pt)` is the one call of `f` in `ParseItem(s, f)`. -/
theorem parseItem_iff (s bi pt : List Nat) : parseItem s = some (bi, pt) ↔ RfcItem s bi pt s [] := by
  unfold parseItem
  constructor
  · intro h
    split at h
    · rename_i bi' pt' text heq
      cases h
      obtain ⟨r1, ps, hb, hp, ht⟩ := (consumeItem_iff s bi pt text []).1 heq
      refine ⟨r1, ps, hb, hp, ?_⟩
      rw [(consumeBareItem_split s bi r1 hb).1, (rfcParams_split hp).1]; simp
    · cases h
  · intro h
    rw [(consumeItem_iff s bi pt s []).2 h]

/-- §4.2.1.1: `member` is the text of the bare item or of the inner list (without its parameters),
    `pt` the text of the parameters that follow it. -/
inductive RfcMember : List Nat → List Nat → List Nat → List Nat → Prop
  /-- step 1: the first character is "(" — §4.2.1.2 (inner list, then its parameters: step 3.2.2) -/
  | inner (t : List Nat) (items : List (List Nat × List Nat)) (m r1 : List Nat)
      (ps : List (List Nat × List Nat)) (pt out : List Nat) :
      RfcBareInner (40 :: t) items m r1 → RfcParams r1 ps pt out → RfcMember (40 :: t) m pt out
  /-- step 2: otherwise — §4.2.3 (item) -/
  | item (s m r1 : List Nat) (ps : List (List Nat × List Nat)) (pt out : List Nat) :
      (∀ t, s ≠ 40 :: t) → consumeBareItem s = some (m, r1) → RfcParams r1 ps pt out → RfcMember s m pt out

theorem rfcMember_split {s m pt out : List Nat} (h : RfcMember s m pt out) :
    s = m ++ (pt ++ out) ∧ m ≠ [] := by
  cases h with
  | inner t items m r1 ps pt out hi hp =>
    obtain ⟨e, hne⟩ := rfcBareInner_split hi
    exact ⟨by rw [e, (rfcParams_split hp).1], hne⟩
  | item s m r1 ps pt out _ hb hp =>
    obtain ⟨e, hne⟩ := consumeBareItem_split s m r1 hb
    exact ⟨by rw [e, (rfcParams_split hp).1], hne⟩

theorem member_iff (s m pt out : List Nat) :
    (∃ r1 ps, consumeMember s = some (m, r1) ∧ consumeParameter r1 = some (ps, pt, out)) ↔
      RfcMember s m pt out := by
  constructor
  · rintro ⟨r1, ps, hm, hp⟩
    have hp' := (consumeParameter_iff r1 pt out ps).1 hp
    unfold consumeMember at hm
    split at hm
    · rename_i t
      split at hm; · cases hm
      rename_i items consumed rest hi
      cases hm
      exact RfcMember.inner t items m r1 ps pt out
        ((consumeBareInnerList_iff (40 :: t) m r1 items).1 hi) hp'
    · rename_i hne
      exact RfcMember.item s m r1 ps pt out (fun t ht => hne t ht) hm hp'
  · intro h
    cases h with
    | inner t items m r1 ps pt out hi hp =>
      refine ⟨r1, ps, ?_, (consumeParameter_iff r1 pt out ps).2 hp⟩
      unfold consumeMember
      simp only [(consumeBareInnerList_iff (40 :: t) m r1 items).2 hi]
    | item s m r1 ps pt out hne hb hp =>
      refine ⟨r1, ps, ?_, (consumeParameter_iff r1 pt out ps).2 hp⟩
      unfold consumeMember
      split
      · rename_i t; exact absurd rfl (hne t)
      · exact hb

/-- `RfcList input members`: §4.2.1 run on the whole input. -/
inductive RfcList : List Nat → List (List Nat × List Nat) → Prop
  /-- step 2 not entered (input empty); step 3: return the empty list -/
  | nil : RfcList [] []
  /-- 2.1 member; 2.2 discard OWS; 2.3 input empty: return -/
  | last (s m pt ws : List Nat) : RfcMember s m pt ws → IsOwsRun ws → RfcList s [(m, pt)]
  /-- 2.1 member; 2.2 discard OWS; 2.4 consume ","; 2.5 discard OWS; 2.6 input not empty; loop -/
  | more (s m pt ws1 ws2 s' : List Nat) (ms : List (List Nat × List Nat)) :
      RfcMember s m pt (ws1 ++ 44 :: (ws2 ++ s')) → IsOwsRun ws1 → IsOwsRun ws2 → NoLeadOWS s' → s' ≠ [] →
      RfcList s' ms → RfcList s ((m, pt) :: ms)

theorem rfcList_len {s : List Nat} {ms : List (List Nat × List Nat)} (h : RfcList s ms) :
    ms.length ≤ s.length := by
  induction h with
  | nil => simp
  | last s m pt ws hm _ =>
    obtain ⟨e, hne⟩ := rfcMember_split hm
    have : 1 ≤ m.length := List.length_pos_iff.2 hne
    rw [e]; simp; omega
  | more s m pt ws1 ws2 s' ms hm _ _ _ _ _ ih =>
    obtain ⟨e, hne⟩ := rfcMember_split hm
    rw [e]; simp; omega

theorem listLoop_sound : ∀ (fuel : Nat) (s : List Nat) (ms : List (List Nat × List Nat)),
    listLoop fuel s = some ms → RfcList s ms := by
  intro fuel
  induction fuel with
  | zero => intro s ms h; simp [listLoop] at h
  | succ f ih =>
    intro s ms h
    unfold listLoop at h
    cases s with
    | nil =>
      cases h; exact RfcList.nil
    | cons c0 s0 =>
      simp only at h
      split at h; · cases h
      rename_i m s1 hm
      split at h; · cases h
      rename_i ps pt s2 hp
      have hmem := (member_iff (c0 :: s0) m pt s2).1 ⟨s1, ps, hm, hp⟩
      obtain ⟨ws, hw1, hw2, hw3⟩ := dropWS_decomp s2
      split at h
      · rename_i hd
        cases h
        rw [hd, List.append_nil] at hw2
        rw [hw2] at hmem
        exact RfcList.last _ m pt ws hmem hw1
      · rename_i c s3 hd
        split at h; · cases h
        rename_i hc
        have hc' : c = 44 := by simpa using hc
        subst hc'
        obtain ⟨ws2, hv1, hv2, hv3⟩ := dropWS_decomp s3
        split at h; · cases h
        rename_i s4 hne4
        split at h; · cases h
        rename_i ms' hl
        cases h
        have hrec := ih (dropWS s3) ms' hl
        have hne : dropWS s3 ≠ [] := fun e => hne4 e
        rw [hd, hv2] at hw2
        rw [hw2] at hmem
        exact RfcList.more _ m pt ws ws2 (dropWS s3) ms' hmem hw1 hv1 hv3 hne hrec

theorem listLoop_complete {s : List Nat} {ms : List (List Nat × List Nat)} (h : RfcList s ms) :
    ∀ fuel, ms.length + 1 ≤ fuel → listLoop fuel s = some ms := by
  induction h with
  | nil => intro fuel hf; cases fuel with | zero => omega | succ f => simp [listLoop]
  | last s m pt ws hm hw =>
    intro fuel hf
    cases fuel with
    | zero => omega
    | succ f =>
      obtain ⟨r1, ps, h1, h2⟩ := (member_iff s m pt ws).2 hm
      have hd : dropWS ws = [] := by
        have := dropWS_of_decomp ws [] hw (by intro c t h; cases h)
        simpa using this
      cases s with
      | nil => cases h1
      | cons c0 s0 =>
        unfold listLoop
        simp only [h1, h2, hd]
  | more s m pt ws1 ws2 s' ms hm hw1 hw2 hw3 hne' _ ih =>
    intro fuel hf
    cases fuel with
    | zero => omega
    | succ f =>
      obtain ⟨r1, ps, h1, h2⟩ := (member_iff s m pt _).2 hm
      have hd1 : dropWS (ws1 ++ 44 :: (ws2 ++ s')) = 44 :: (ws2 ++ s') :=
        dropWS_of_decomp ws1 _ hw1 (by intro c t h; simp at h; omega)
      have hd2 : dropWS (ws2 ++ s') = s' := dropWS_of_decomp ws2 s' hw2 hw3
      have := ih f (by simp at hf; omega)
      cases s with
      | nil => cases h1
      | cons c0 s0 =>
        cases s' with
        | nil => exact absurd rfl hne'
        | cons c1 t1 =>
          unfold listLoop
          simp only [h1, h2, hd1, bne_self_eq_false, Bool.false_eq_true, if_false, hd2, this]

/-- `ms` are the calls of `f` in `ParseList(s, f)`, in order. -/
theorem parseList_iff (s : List Nat) (ms : List (List Nat × List Nat)) :
    parseList s = some ms ↔ RfcList s ms := by
  unfold parseList
  constructor
  · exact listLoop_sound _ s ms
  · intro h
    exact listLoop_complete h _ (by have := rfcList_len h; omega)

theorem listLoop_fuel (s : List Nat) (fuel : Nat) (hf : s.length + 1 ≤ fuel) :
    listLoop fuel s = listLoop (s.length + 1) s :=
  fuel_irrelevant listLoop_sound
    (fun s ms ht fuel hf => listLoop_complete ht fuel (by have := rfcList_len ht; omega)) s fuel hf

/-- One dictionary member (steps 2.1–2.3): key, value text ("?1" when omitted), parameter text, rest. -/
inductive RfcDictMember : List Nat → List Nat → List Nat → List Nat → List Nat → Prop
  /-- 2.1 key; 2.3 no "=": value is Boolean true, then parameters (§4.2.3.2) -/
  | bare (s key r1 : List Nat) (ps : List (List Nat × List Nat)) (pt out : List Nat) :
      consumeKey s = some (key, r1) → (∀ t, r1 ≠ 61 :: t) → RfcParams r1 ps pt out →
      RfcDictMember s key boolTrueText pt out
  /-- 2.1 key; 2.2 "=": 2.2.1 consume it, 2.2.2 an Item or Inner List (§4.2.1.1) -/
  | valued (s key r2 val pt out : List Nat) :
      consumeKey s = some (key, 61 :: r2) → RfcMember r2 val pt out → RfcDictMember s key val pt out

/-- `RfcDict input members`: §4.2.2 run on the whole input (the ordered map of steps 2.4 / 2.5 is obtained
    from the member sequence by overwriting repeated keys). -/
inductive RfcDict : List Nat → List (List Nat × List Nat × List Nat) → Prop
  /-- step 2 not entered; step 3: return the empty dictionary -/
  | nil : RfcDict [] []
  /-- 2.1–2.5 member; 2.6 discard OWS; 2.7 input empty: return -/
  | last (s key val pt ws : List Nat) : RfcDictMember s key val pt ws → IsOwsRun ws →
      RfcDict s [(key, val, pt)]
  /-- 2.1–2.5 member; 2.6 discard OWS; 2.8 consume ","; 2.9 discard OWS; 2.10 input not empty; loop -/
  | more (s key val pt ws1 ws2 s' : List Nat) (ms : List (List Nat × List Nat × List Nat)) :
      RfcDictMember s key val pt (ws1 ++ 44 :: (ws2 ++ s')) → IsOwsRun ws1 → IsOwsRun ws2 → NoLeadOWS s' →
      s' ≠ [] → RfcDict s' ms → RfcDict s ((key, val, pt) :: ms)

theorem rfcDictMember_len {s key val pt out : List Nat} (h : RfcDictMember s key val pt out) :
    1 ≤ key.length ∧ out.length + key.length ≤ s.length := by
  match h with
  | .bare _ _ r1 ps _ _ hk _ hp =>
    obtain ⟨e, hne⟩ := consumeKey_split s key r1 hk
    refine ⟨List.length_pos_iff.2 hne, ?_⟩
    rw [e, (rfcParams_split hp).1]; simp; omega
  | .valued _ _ r2 _ _ _ hk hm =>
    obtain ⟨e, hne⟩ := consumeKey_split s key _ hk
    refine ⟨List.length_pos_iff.2 hne, ?_⟩
    rw [e, (rfcMember_split hm).1]; simp; omega

theorem dictMember_iff (s key val pt out : List Nat) :
    (∃ s1 s2 ps, consumeKey s = some (key, s1) ∧ dictValue s1 = some (val, s2) ∧
        consumeParameter s2 = some (ps, pt, out)) ↔ RfcDictMember s key val pt out := by
  constructor
  · rintro ⟨s1, s2, ps, hk, hv, hp⟩
    unfold dictValue at hv
    split at hv
    · rename_i r2
      exact RfcDictMember.valued s key r2 val pt out hk ((member_iff r2 val pt out).1 ⟨s2, ps, hv, hp⟩)
    · rename_i hne
      cases hv
      exact RfcDictMember.bare s key s1 ps pt out hk (fun t ht => hne t ht)
        ((consumeParameter_iff s1 pt out ps).1 hp)
  · intro h
    match h with
    | .bare _ _ r1 ps _ _ hk hne hp =>
      refine ⟨r1, r1, ps, hk, ?_, (consumeParameter_iff r1 pt out ps).2 hp⟩
      unfold dictValue
      split
      · rename_i t; exact absurd rfl (hne t)
      · rfl
    | .valued _ _ r2 _ _ _ hk hm =>
      obtain ⟨r1, ps, h1, h2⟩ := (member_iff r2 val pt out).2 hm
      exact ⟨61 :: r2, r1, ps, hk, by simp [dictValue, h1], h2⟩

theorem rfcDict_len {s : List Nat} {ms : List (List Nat × List Nat × List Nat)} (h : RfcDict s ms) :
    ms.length ≤ s.length := by
  induction h with
  | nil => simp
  | last s key val pt ws hm _ =>
    have := rfcDictMember_len hm
    simp; omega
  | more s key val pt ws1 ws2 s' ms hm _ _ _ _ _ ih =>
    have := rfcDictMember_len hm
    simp at this ⊢; omega

theorem dictLoop_sound : ∀ (fuel : Nat) (s : List Nat) (ms : List (List Nat × List Nat × List Nat)),
    dictLoop fuel s = some ms → RfcDict s ms := by
  intro fuel
  induction fuel with
  | zero => intro s ms h; simp [dictLoop] at h
  | succ f ih =>
    intro s ms h
    unfold dictLoop at h
    cases s with
    | nil =>
      cases h; exact RfcDict.nil
    | cons c0 s0 =>
      simp only at h
      split at h; · cases h
      rename_i key s1 hk
      split at h; · cases h
      rename_i val s2 hv
      split at h; · cases h
      rename_i ps pt s3 hp
      have hmem := (dictMember_iff (c0 :: s0) key val pt s3).1 ⟨s1, s2, ps, hk, hv, hp⟩
      obtain ⟨ws, hw1, hw2, hw3⟩ := dropWS_decomp s3
      split at h
      · rename_i hd
        cases h
        rw [hd, List.append_nil] at hw2
        rw [hw2] at hmem
        exact RfcDict.last _ key val pt ws hmem hw1
      · rename_i c s4 hd
        split at h; · cases h
        rename_i hc
        have hc' : c = 44 := by simpa using hc
        subst hc'
        obtain ⟨ws2, hv1, hv2, hv3⟩ := dropWS_decomp s4
        split at h; · cases h
        rename_i s6 hne6
        split at h; · cases h
        rename_i ms' hl
        cases h
        have hrec := ih (dropWS s4) ms' hl
        have hne : dropWS s4 ≠ [] := fun e => hne6 e
        rw [hd, hv2] at hw2
        rw [hw2] at hmem
        exact RfcDict.more _ key val pt ws ws2 (dropWS s4) ms' hmem hw1 hv1 hv3 hne hrec

theorem dictLoop_complete {s : List Nat} {ms : List (List Nat × List Nat × List Nat)} (h : RfcDict s ms) :
    ∀ fuel, ms.length + 1 ≤ fuel → dictLoop fuel s = some ms := by
  induction h with
  | nil => intro fuel hf; cases fuel with | zero => omega | succ f => simp [dictLoop]
  | last s key val pt ws hm hw =>
    intro fuel hf
    cases fuel with
    | zero => omega
    | succ f =>
      obtain ⟨s1, s2, ps, h1, h2, h3⟩ := (dictMember_iff s key val pt ws).2 hm
      have hd : dropWS ws = [] := by
        have := dropWS_of_decomp ws [] hw (by intro c t h; cases h)
        simpa using this
      cases s with
      | nil => cases h1
      | cons c0 s0 =>
        unfold dictLoop
        simp only [h1, h2, h3, hd]
  | more s key val pt ws1 ws2 s' ms hm hw1 hw2 hw3 hne' _ ih =>
    intro fuel hf
    cases fuel with
    | zero => omega
    | succ f =>
      obtain ⟨s1, s2, ps, h1, h2, h3⟩ := (dictMember_iff s key val pt _).2 hm
      have hd1 : dropWS (ws1 ++ 44 :: (ws2 ++ s')) = 44 :: (ws2 ++ s') :=
        dropWS_of_decomp ws1 _ hw1 (by intro c t h; simp at h; omega)
      have hd2 : dropWS (ws2 ++ s') = s' := dropWS_of_decomp ws2 s' hw2 hw3
      have := ih f (by simp at hf; omega)
      cases s with
      | nil => cases h1
      | cons c0 s0 =>
        cases s' with
        | nil => exact absurd rfl hne'
        | cons c1 t1 =>
          unfold dictLoop
          simp only [h1, h2, h3, hd1, bne_self_eq_false, Bool.false_eq_true, if_false, hd2, this]

/-- `ms` are the calls of `f` in `ParseDictionary(s, f)`, in order: one for every member met, not one for
    every key of the RFC's dictionary (`dictValue_full_false`). -/
theorem parseDictionary_iff (s : List Nat) (ms : List (List Nat × List Nat × List Nat)) :
    parseDictionary s = some ms ↔ RfcDict s ms := by
  unfold parseDictionary
  constructor
  · exact dictLoop_sound _ s ms
  · intro h
    exact dictLoop_complete h _ (by have := rfcDict_len h; omega)

theorem dictLoop_fuel (s : List Nat) (fuel : Nat) (hf : s.length + 1 ≤ fuel) :
    dictLoop fuel s = dictLoop (s.length + 1) s :=
  fuel_irrelevant dictLoop_sound
    (fun s ms ht fuel hf => dictLoop_complete ht fuel (by have := rfcDict_len ht; omega)) s fuel hf

theorem isSome_iff_of_spec {α : Type} {o : Option α} {P : α → Prop} (h : ∀ a, o = some a ↔ P a) :
    o.isSome ↔ ∃ a, P a := by
  rw [Option.isSome_iff_exists]
  exact exists_congr h

theorem unique_of_spec {α : Type} {o : Option α} {P : α → Prop} (h : ∀ a, o = some a ↔ P a) {a b : α}
    (ha : P a) (hb : P b) : a = b :=
  Option.some.inj (((h a).2 ha).symm.trans ((h b).2 hb))

theorem parseParameter_accepts_iff (s : List Nat) : (parseParameter s).isSome ↔ ∃ ps, RfcParams s ps s [] :=
  isSome_iff_of_spec (parseParameter_iff s)

theorem parseBareInnerList_accepts_iff (s : List Nat) :
    (parseBareInnerList s).isSome ↔ ∃ items, RfcBareInner s items s [] :=
  isSome_iff_of_spec (parseBareInnerList_iff s)

theorem parseItem_accepts_iff (s : List Nat) : (parseItem s).isSome ↔ ∃ bi pt, RfcItem s bi pt s [] :=
  (isSome_iff_of_spec fun r => parseItem_iff s r.1 r.2).trans
    ⟨fun ⟨r, h⟩ => ⟨r.1, r.2, h⟩, fun ⟨bi, pt, h⟩ => ⟨(bi, pt), h⟩⟩

theorem parseList_accepts_iff (s : List Nat) : (parseList s).isSome ↔ ∃ ms, RfcList s ms :=
  isSome_iff_of_spec (parseList_iff s)

theorem parseDictionary_accepts_iff (s : List Nat) : (parseDictionary s).isSome ↔ ∃ ms, RfcDict s ms :=
  isSome_iff_of_spec (parseDictionary_iff s)

theorem rfcList_deterministic (s : List Nat) (a b : List (List Nat × List Nat))
    (ha : RfcList s a) (hb : RfcList s b) : a = b :=
  unique_of_spec (parseList_iff s) ha hb

theorem rfcDict_deterministic (s : List Nat) (a b : List (List Nat × List Nat × List Nat))
    (ha : RfcDict s a) (hb : RfcDict s b) : a = b :=
  unique_of_spec (parseDictionary_iff s) ha hb

/-! RFC 9651 §4.2, the top-level wrapper: step 2 discards leading SP before, and step 6 trailing SP after, the
structure's algorithm. No httpsfv function does this (callers pass trimmed header values), so read literally
("accept exactly the strings RFC 9651 accepts for that structure") the property fails on inputs such as " a" —
known finding `C56:top-level-sp-not-discarded`.  It holds for every input without such surrounding SP. -/

/-- §4.2 for a List: steps 2, 3 (§4.2.1 returns only at the end of input, so steps 6–7 are vacuous). -/
def RfcTopList (s : List Nat) (ms : List (List Nat × List Nat)) : Prop := RfcList (dropSP s) ms
/-- §4.2 for a Dictionary: steps 2, 4. -/
def RfcTopDict (s : List Nat) (ms : List (List Nat × List Nat × List Nat)) : Prop := RfcDict (dropSP s) ms
/-- §4.2 for an Item: steps 2, 5, 6 (discard trailing SP), 7 (nothing left). -/
def RfcTopItem (s bi pt : List Nat) : Prop := ∃ text sp, RfcItem (dropSP s) bi pt text sp ∧ IsSpRun sp

def TopLevelStatement : Prop :=
  (∀ s ms, parseList s = some ms ↔ RfcTopList s ms) ∧
  (∀ s ms, parseDictionary s = some ms ↔ RfcTopDict s ms) ∧
  (∀ s bi pt, parseItem s = some (bi, pt) ↔ RfcTopItem s bi pt)

/-- False on the code as it is: " a" is a valid List per §4.2 and is rejected. -/
theorem topLevel_full_false : ¬ TopLevelStatement := by
  rintro ⟨h, _, _⟩
  have hr : RfcTopList [32, 97] [([97], [])] := by
    show RfcList (dropSP [32, 97]) _
    have : dropSP [32, 97] = [97] := by decide
    rw [this]
    exact (parseList_iff _ _).1 (by decide)
  have := (h _ _).2 hr
  revert this; decide

private theorem dropSP_noLead (s : List Nat) (h : NoLeadSP s) : dropSP s = s := by
  have := dropSP_of_decomp [] s (fun b hb => by cases hb) h
  simpa using this

/-- Lists and dictionaries: trailing SP / HTAB is accepted by both sides, so leading SP is all that is
    excluded. -/
theorem topLevel_list_holds_partial (s : List Nat) (ms : List (List Nat × List Nat)) (h : NoLeadSP s) :
    parseList s = some ms ↔ RfcTopList s ms := by
  unfold RfcTopList; rw [dropSP_noLead s h]; exact parseList_iff s ms

theorem topLevel_dict_holds_partial (s : List Nat) (ms : List (List Nat × List Nat × List Nat))
    (h : NoLeadSP s) : parseDictionary s = some ms ↔ RfcTopDict s ms := by
  unfold RfcTopDict; rw [dropSP_noLead s h]; exact parseDictionary_iff s ms

/-- Items: one direction holds always for inputs not starting with SP (what the package accepts, §4.2
    accepts with the same result); the converse needs "no trailing SP" and is the finding. -/
theorem topLevel_item_holds_partial (s bi pt : List Nat) (h : NoLeadSP s)
    (hp : parseItem s = some (bi, pt)) : RfcTopItem s bi pt := by
  refine ⟨s, [], ?_, fun b hb => by cases hb⟩
  rw [dropSP_noLead s h]; exact (parseItem_iff s bi pt).1 hp

/-! Repeated dictionary keys. §4.2.2 steps 2.4–2.5: "If dictionary already contains a key this_key, overwrite
its value with member; otherwise append".  `ParseDictionary` calls its callback for every instance, in input
order (`RfcDict` is that sequence); the RFC's dictionary is `rfcDictMap` of it.  Read literally ("report the
members … RFC 9651 yields") the reports are the RFC's members when no key is repeated (`rfcDictMap_nodup`) and
differ on "u=5, u=9" (`dictValue_full_false`; the converse of `rfcDictMap_nodup` is not proved) — known finding
`C56:duplicate-key-instances-all-reported`; a last-wins consumer reconstructs the RFC value. -/

/-- step 2.4 / 2.5 for one member -/
def dictInsert (m : List (List Nat × List Nat × List Nat)) (e : List Nat × List Nat × List Nat) :
    List (List Nat × List Nat × List Nat) :=
  match m with
  | [] => [e]
  | x :: m' => if x.1 = e.1 then e :: m' else x :: dictInsert m' e

/-- the dictionary §4.2.2 returns for the member sequence `seq` -/
def rfcDictMap (seq : List (List Nat × List Nat × List Nat)) : List (List Nat × List Nat × List Nat) :=
  seq.foldl dictInsert []

def DictValueStatement : Prop :=
  ∀ s ms, parseDictionary s = some ms ↔ ∃ seq, RfcDict s seq ∧ ms = rfcDictMap seq

/-- False on the code as it is: "u=5, u=9" is the dictionary {u: 9}; two members are reported. -/
theorem dictValue_full_false : ¬ DictValueStatement := by
  intro h
  have hseq : RfcDict [117, 61, 53, 44, 32, 117, 61, 57] [([117], [53], []), ([117], [57], [])] :=
    (parseDictionary_iff _ _).1 (by decide)
  have := (h [117, 61, 53, 44, 32, 117, 61, 57] [([117], [57], [])]).2 ⟨_, hseq, by decide⟩
  revert this; decide

private theorem dictInsert_new (m : List (List Nat × List Nat × List Nat)) (e : List Nat × List Nat × List Nat)
    (h : ∀ x ∈ m, x.1 ≠ e.1) : dictInsert m e = m ++ [e] := by
  induction m with
  | nil => rfl
  | cons x m ih =>
    have hx := h x (by simp)
    simp only [dictInsert, hx, if_false, List.cons_append]
    rw [ih (fun y hy => h y (by simp [hy]))]

private theorem foldl_dictInsert_nodup (seq acc : List (List Nat × List Nat × List Nat))
    (h1 : ∀ e ∈ seq, ∀ x ∈ acc, x.1 ≠ e.1) (h2 : (seq.map (fun e => e.1)).Nodup) :
    seq.foldl dictInsert acc = acc ++ seq := by
  induction seq generalizing acc with
  | nil => simp
  | cons e rest ih =>
    simp only [List.map_cons, List.nodup_cons] at h2
    simp only [List.foldl_cons]
    rw [dictInsert_new acc e (h1 e (by simp))]
    rw [ih (acc ++ [e]) ?_ h2.2]
    · simp
    · intro e' he' x hx
      simp at hx
      rcases hx with hx | rfl
      · exact h1 e' (by simp [he']) x hx
      · intro heq
        apply h2.1
        simp only [List.mem_map]
        exact ⟨e', he', heq.symm⟩

theorem rfcDictMap_nodup (seq : List (List Nat × List Nat × List Nat))
    (h : (seq.map (fun e => e.1)).Nodup) : rfcDictMap seq = seq := by
  unfold rfcDictMap
  have := foldl_dictInsert_nodup seq [] (by intro e _ x hx; cases hx) h
  simpa using this

theorem dictValue_holds_partial (s : List Nat) (ms : List (List Nat × List Nat × List Nat)) :
    (parseDictionary s = some ms → (ms.map (fun e => e.1)).Nodup →
        ∃ seq, RfcDict s seq ∧ ms = rfcDictMap seq) ∧
    (∀ seq, RfcDict s seq → (seq.map (fun e => e.1)).Nodup → ms = rfcDictMap seq →
        parseDictionary s = some ms) := by
  constructor
  · intro h hn
    exact ⟨ms, (parseDictionary_iff s ms).1 h, (rfcDictMap_nodup ms hn).symm⟩
  · intro seq hs hn he
    rw [he, rfcDictMap_nodup seq hn]
    exact (parseDictionary_iff s seq).2 hs

/-- With repeated keys a last-wins fold over the reports gives the RFC's dictionary:
    "u=5, u=9" ↦ {u: 9};  "a;x=1, b, a=2" ↦ {a: 2, b: ?1} (the overwritten member keeps its position). -/
example : (parseDictionary [117, 61, 53, 44, 32, 117, 61, 57]).map rfcDictMap = some [([117], [57], [])] := by decide +kernel
example : (parseDictionary [97, 59, 120, 61, 49, 44, 32, 98, 44, 32, 97, 61, 50]).map rfcDictMap =
    some [([97], [50], []), ([98], [63, 49], [])] := by decide +kernel

/-! Non-vacuity: derivations for concrete inputs. -/

-- "u=3, i" (an RFC 9218 priority value)
example : RfcDict [117, 61, 51, 44, 32, 105] [([117], [51], []), ([105], [63, 49], [])] :=
  (parseDictionary_iff _ _).1 (by decide)
-- "(a;x b) , 1;q=?0"
example : RfcList [40, 97, 59, 120, 32, 98, 41, 32, 44, 32, 49, 59, 113, 61, 63, 48]
    [([40, 97, 59, 120, 32, 98, 41], []), ([49], [59, 113, 61, 63, 48])] :=
  (parseList_iff _ _).1 (by decide)
-- "(" and "a b" have no derivation
example : ¬ ∃ ms, RfcList [40] ms := by
  rintro ⟨ms, h⟩
  have h2 := (parseList_iff _ _).2 h
  rw [show parseList [40] = none by decide] at h2
  cases h2
example : ¬ ∃ ms, RfcDict [97, 32, 98] ms := by
  rintro ⟨ms, h⟩
  have h2 := (parseDictionary_iff _ _).2 h
  rw [show parseDictionary [97, 32, 98] = none by decide] at h2
  cases h2

/-- What can follow a member in a serialised list / inner list: end, ",", SP, ")" or ";". -/
def Delim (rest : List Nat) : Prop :=
  rest = [] ∨ ∃ c r, rest = c :: r ∧ (c = 44 ∨ c = 32 ∨ c = 41 ∨ c = 59)

/-- What can follow a parameter list: end, ",", SP or ")". -/
def PDelim (rest : List Nat) : Prop :=
  rest = [] ∨ ∃ c r, rest = c :: r ∧ (c = 44 ∨ c = 32 ∨ c = 41)

/-- `m` is the text of a member (bare item or bare inner list) that the parser cuts off exactly. -/
def MemberText (m : List Nat) : Prop :=
  (∃ c r, m = c :: r ∧ c ≠ 32 ∧ c ≠ 9) ∧ ∀ rest, Delim rest → consumeMember (m ++ rest) = some (m, rest)

/-- `p` is the text of a (possibly empty) parameter list that the parser cuts off exactly. -/
def ParamText (p : List Nat) : Prop :=
  (p = [] ∨ ∃ r, p = 59 :: r) ∧ ∀ rest, PDelim rest → ∃ cbs, consumeParameter (p ++ rest) = some (cbs, p, rest)

/-- RFC 9651 §4.1.1: members joined by ", ". -/
def serList : List (List Nat × List Nat) → List Nat
  | [] => []
  | [(m, p)] => m ++ p
  | (m, p) :: more => m ++ p ++ 44 :: 32 :: serList more

private theorem delim_of_param (p rest : List Nat) (hp : p = [] ∨ ∃ r, p = 59 :: r) (hr : PDelim rest) :
    Delim (p ++ rest) := by
  rcases hp with rfl | ⟨r, rfl⟩
  · rcases hr with rfl | ⟨c, r, rfl, hc⟩
    · exact Or.inl rfl
    · exact Or.inr ⟨c, r, rfl, hc.imp_right (·.imp_right .inl)⟩
  · exact Or.inr ⟨59, r ++ rest, rfl, .inr (.inr (.inr rfl))⟩

private theorem rfcMember_of_text {m p tail : List Nat} (hm : MemberText m) (hp : ParamText p)
    (ht : PDelim tail) : RfcMember (m ++ (p ++ tail)) m p tail := by
  obtain ⟨cbs, hcp⟩ := hp.2 tail ht
  exact (member_iff _ m p tail).1 ⟨_, cbs, hm.2 _ (delim_of_param p tail hp.1 ht), hcp⟩

/-- What `RfcList.more` / `RfcDict.more` ask of the input after "," OWS. -/
private theorem lead_append {m : List Nat} (hm : ∃ c r, m = c :: r ∧ c ≠ 32 ∧ c ≠ 9) (x : List Nat) :
    NoLeadOWS (m ++ x) ∧ m ++ x ≠ [] := by
  obtain ⟨c, r, rfl, hc⟩ := hm
  exact ⟨fun _ _ e => by cases e; exact hc, List.cons_ne_nil _ _⟩

private theorem serList_head {m p : List Nat} (hm : MemberText m) (more : List (List Nat × List Nat)) :
    NoLeadOWS (serList ((m, p) :: more)) ∧ serList ((m, p) :: more) ≠ [] := by
  cases more with
  | nil => exact lead_append hm.1 p
  | cons x y =>
    show NoLeadOWS (m ++ p ++ _) ∧ m ++ p ++ _ ≠ []
    rw [List.append_assoc]
    exact lead_append hm.1 _

/-- Each ", " is the RFC's "," followed by one SP of optional white space. -/
theorem rfcList_serList (ms : List (List Nat × List Nat))
    (h : ∀ mp ∈ ms, MemberText mp.1 ∧ ParamText mp.2) : RfcList (serList ms) ms := by
  induction ms with
  | nil => exact .nil
  | cons mp more ih =>
    obtain ⟨m, p⟩ := mp
    obtain ⟨hm, hp⟩ := h (m, p) (List.mem_cons_self ..)
    have ih := ih fun x hx => h x (List.mem_cons_of_mem _ hx)
    cases more with
    | nil =>
      have := rfcMember_of_text hm hp (.inl rfl)
      rw [List.append_nil] at this
      exact .last _ m p [] this (fun _ hb => by cases hb)
    | cons mp2 more2 =>
      obtain ⟨hl, hne⟩ := serList_head (p := mp2.2) (h mp2 (by simp)).1 more2
      refine .more _ m p [] [32] (serList (mp2 :: more2)) _ ?_ (fun _ hb => by cases hb)
        (fun b hb => .inl (List.mem_singleton.1 hb)) hl hne ih
      have := rfcMember_of_text hm hp (tail := 44 :: 32 :: serList (mp2 :: more2)) (.inr ⟨44, _, rfl, .inl rfl⟩)
      rw [← List.append_assoc] at this
      exact this

/-- Round trip through the §4.1.1 serialisation. `MemberText` and `ParamText` are hypotheses about the
    parser; they are shown for unsigned integers, tokens, strings and booleans (`memberText_*`) and for the
    empty parameter list (`paramText_nil`) only.
    `_partial`: says nothing about non-canonical spellings (covered by the D-tie and the oracle). -/
theorem parseList_roundtrip_partial (ms : List (List Nat × List Nat))
    (h : ∀ mp ∈ ms, MemberText mp.1 ∧ ParamText mp.2) : parseList (serList ms) = some ms :=
  (parseList_iff _ ms).2 (rfcList_serList ms h)

private theorem startsNot_of_delim {p : Nat → Bool} {rest : List Nat} (h : Delim rest)
    (hp : p 44 = false ∧ p 32 = false ∧ p 41 = false ∧ p 59 = false) : StartsNot p rest := by
  intro c' r' hr'
  rcases h with rfl | ⟨c, r, rfl, hc⟩
  · cases hr'
  · cases hr'
    rcases hc with rfl | rfl | rfl | rfl
    · exact hp.1
    · exact hp.2.1
    · exact hp.2.2.1
    · exact hp.2.2.2

theorem paramText_nil : ParamText [] := by
  refine ⟨Or.inl rfl, ?_⟩
  intro rest hr
  refine ⟨[], ?_⟩
  unfold consumeParameter
  rcases hr with rfl | ⟨c, r, rfl, hc⟩
  · simp [paramLoop, consumedOf]
  · have : (c != 59) = true := by simp; omega
    simp [paramLoop, this, consumedOf]

theorem consumeMember_of_ne_paren (c : Nat) (t : List Nat) (h : c ≠ 40) :
    consumeMember (c :: t) = consumeBareItem (c :: t) := by
  unfold consumeMember
  split
  · rename_i tl heq
    cases heq
    exact absurd rfl h
  · rfl

theorem memberText_integer (ds : List Nat) (hd : ∀ d ∈ ds, Digit d) (h1 : 1 ≤ ds.length)
    (h2 : ds.length ≤ 15) : MemberText ds := by
  cases ds with
  | nil => cases h1
  | cons c r =>
    have hc := hd c (List.mem_cons_self ..)
    unfold Digit at hc
    refine ⟨⟨c, r, rfl, by omega, by omega⟩, fun rest hrest => ?_⟩
    rw [List.cons_append, consumeMember_of_ne_paren c _ (by omega)]
    simp only [consumeBareItem, (isDigit_iff c).2 hc, Bool.or_true, if_true]
    exact (ciod_cuts _ _ rest).2 ⟨rfl, [], false, _, .inl ⟨rfl, rfl⟩, rfl,
      .int hd h1 h2 (startsNot_of_delim hrest (by decide))⟩

theorem memberText_token (c : Nat) (r : List Nat) (hc : Alpha c ∨ c = 42)
    (hr : ∀ b ∈ r, TChar b ∨ b = 58 ∨ b = 47) : MemberText (c :: r) := by
  refine ⟨⟨c, r, rfl, by unfold Alpha at hc; omega, by unfold Alpha at hc; omega⟩, ?_⟩
  intro rest hrest
  have hd : (c == 45 || isDigit c) = false ∧ (c == 34) = false ∧ (c == 42 || isAlpha c) = true := by
    rcases hc with hc | rfl
    · rw [(isAlpha_iff c).2 hc]; unfold Alpha at hc; unfold isDigit; simp; omega
    · decide
  rw [List.cons_append, consumeMember_of_ne_paren c _ (by unfold Alpha at hc; omega)]
  simp only [consumeBareItem, hd, Bool.false_eq_true, if_false, if_true]
  exact (consumeToken_cuts _ _ rest).2 ⟨rfl, ⟨c, r, rfl, hc, hr⟩, startsNot_of_delim hrest (by decide)⟩

theorem memberText_string (t : List Nat) (ht : StrTail t) : MemberText (34 :: t) := by
  refine ⟨⟨34, t, rfl, by omega, by omega⟩, fun rest _ => ?_⟩
  rw [List.cons_append, consumeMember_of_ne_paren 34 _ (by decide)]
  exact (consumeString_cuts _ _ rest).2 ⟨rfl, t, rfl, ht⟩

theorem memberText_boolean (b : Nat) (hb : b = 48 ∨ b = 49) : MemberText [63, b] := by
  refine ⟨⟨63, [b], rfl, by omega, by omega⟩, ?_⟩
  intro rest _
  rcases hb with rfl | rfl <;> simp [consumeMember, consumeBareItem, consumeBoolean, isDigit, isAlpha, isLCAlpha]

/-- "=value" or nothing (Boolean true is serialised by omitting the value). -/
def valPart : Option (List Nat) → List Nat
  | none => []
  | some m => 61 :: m

def entryText (e : List Nat × Option (List Nat) × List Nat) (tail : List Nat) : List Nat :=
  e.1 ++ (valPart e.2.1 ++ (e.2.2 ++ tail))

/-- RFC 9651 §4.1.2: members joined by ", ". -/
def serDict : List (List Nat × Option (List Nat) × List Nat) → List Nat
  | [] => []
  | [e] => entryText e []
  | e :: more => entryText e (44 :: 32 :: serDict more)

/-- What `ParseDictionary` reports for an entry: the omitted value is "?1". -/
def reportEntry (e : List Nat × Option (List Nat) × List Nat) : List Nat × List Nat × List Nat :=
  (e.1, e.2.1.getD boolTrueText, e.2.2)

def EntryOK (e : List Nat × Option (List Nat) × List Nat) : Prop :=
  KeyText e.1 ∧ (∀ m, e.2.1 = some m → MemberText m) ∧ ParamText e.2.2

private theorem rfcDictMember_of_entry (e : List Nat × Option (List Nat) × List Nat) (tail : List Nat)
    (he : EntryOK e) (ht : PDelim tail) :
    RfcDictMember (entryText e tail) e.1 (e.2.1.getD boolTrueText) e.2.2 tail := by
  obtain ⟨k, vo, p⟩ := e
  obtain ⟨hk, hv, hp0, hpar⟩ := he
  dsimp only at hk hv hp0 hpar ⊢
  obtain ⟨cbs, hcp⟩ := hpar tail ht
  have hd := delim_of_param p tail hp0 ht
  -- the key ends at "=" or, without a value, at what ends the parameters
  have hkey : StartsNot isKeyChar (valPart vo ++ (p ++ tail)) := by
    cases vo with
    | some m => rintro _ _ ⟨⟩; decide
    | none => exact startsNot_of_delim hd (by decide)
  refine (dictMember_iff _ k _ p tail).1 ⟨_, _, cbs, (consumeKey_cuts _ k _).2 ⟨rfl, hk, hkey⟩, ?_, hcp⟩
  cases vo with
  | some m => simp [valPart, dictValue, (hv m rfl).2 (p ++ tail) hd]
  | none =>
    unfold dictValue
    split
    · rename_i t heq
      exact absurd (startsNot_of_delim (p := (· == 61)) hd (by decide) 61 t heq) (by decide)
    · rfl

private theorem serDict_head (e : List Nat × Option (List Nat) × List Nat)
    (more : List (List Nat × Option (List Nat) × List Nat)) (he : EntryOK e) :
    NoLeadOWS (serDict (e :: more)) ∧ serDict (e :: more) ≠ [] := by
  obtain ⟨⟨⟨c, r, hkc, hc⟩, _⟩, _⟩ := he
  have hk : ∃ c r, e.1 = c :: r ∧ c ≠ 32 ∧ c ≠ 9 := ⟨c, r, hkc, by unfold LcAlpha at hc; omega⟩
  cases more <;> exact lead_append hk _

theorem rfcDict_serDict (es : List (List Nat × Option (List Nat) × List Nat))
    (h : ∀ e ∈ es, EntryOK e) : RfcDict (serDict es) (es.map reportEntry) := by
  induction es with
  | nil => exact .nil
  | cons e more ih =>
    have ih := ih fun x hx => h x (List.mem_cons_of_mem _ hx)
    have he := h e (List.mem_cons_self ..)
    cases more with
    | nil => exact .last _ e.1 _ e.2.2 [] (rfcDictMember_of_entry e [] he (.inl rfl)) (fun _ hb => by cases hb)
    | cons e2 more2 =>
      obtain ⟨hl, hne⟩ := serDict_head e2 more2 (h e2 (by simp))
      exact .more _ e.1 _ e.2.2 [] [32] (serDict (e2 :: more2)) _
        (rfcDictMember_of_entry e _ he (.inr ⟨44, _, rfl, .inl rfl⟩)) (fun _ hb => by cases hb)
        (fun b hb => .inl (List.mem_singleton.1 hb)) hl hne ih

/-- Round trip through the §4.1.2 serialisation `key[=member][;params]` (the container http2's RFC 9218
    priority parsing uses).  `_partial`: canonical spelling only, and `EntryOK` can be shown from what is
    proved here only for the member forms of `memberText_*` with empty parameter text. -/
theorem parseDictionary_roundtrip_partial (es : List (List Nat × Option (List Nat) × List Nat))
    (h : ∀ e ∈ es, EntryOK e) : parseDictionary (serDict es) = some (es.map reportEntry) :=
  (parseDictionary_iff _ _).2 (rfcDict_serDict es h)

/-- Non-vacuity: the RFC 9218 priority value "u=3, i" parses into (u, 3) and (i, ?1). -/
example : parseDictionary (serDict [([117], some [51], []), ([105], none, [])]) =
    some [([117], [51], []), ([105], [63, 49], [])] := by decide +kernel

/-- Non-vacuity: "12, abc, *" parses back into its three members. -/
example : parseList (serList [([49, 50], []), ([97, 98, 99], []), ([42], [])]) =
    some [([49, 50], []), ([97, 98, 99], []), ([42], [])] := by decide +kernel

end NetVerif.Proofs.C56
