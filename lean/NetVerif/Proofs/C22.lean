import NetVerif.Model.VarintQuic
import NetVerif.Gen.C22
import NetVerif.Proofs.Lemmas.ByteArith
import NetVerif.Proofs.Lemmas.IfCases
/-!
C22 — the QUIC variable-length integers of internal/quic/quicwire/wire.go round-trip for all
62-bit values, in the shortest of the four forms, and nothing shorter than an encoding decodes.
-/
namespace NetVerif.Proofs.C22
open NetVerif NetVerif.Model.VarintQuic

def BytesWF (bs : List Nat) : Prop := ∀ b ∈ bs, b < 256

theorem append_accepts_iff (v : Nat) : (appendVarint v).isSome ↔ v ≤ maxVarint := by
  simp only [appendVarint, apply_ite Option.isSome, Option.isSome_some, Option.isSome_none, maxVarint]
  simp
  omega

theorem sizeVarint_eq (v : Nat) : sizeVarint v = (appendVarint v).map List.length := by
  simp only [sizeVarint, appendVarint, apply_ite (Option.map List.length), Option.map_some, Option.map_none,
    List.length_cons, List.length_nil]

theorem append_length_eq_size (v : Nat) (bs : List Nat) (h : appendVarint v = some bs) :
    sizeVarint v = some bs.length := by
  rw [sizeVarint_eq, h]
  rfl

theorem append_bytesWF (v : Nat) (bs : List Nat) (h : appendVarint v = some bs) : BytesWF bs := by
  unfold appendVarint at h
  unfold BytesWF
  intro b hb
  rcases Lemmas.ite_cases h with ⟨_, h⟩ | ⟨_, h⟩
  · cases h
    simp at hb
    omega
  rcases Lemmas.ite_cases h with ⟨_, h⟩ | ⟨_, h⟩
  · cases h
    simp at hb
    omega
  rcases Lemmas.ite_cases h with ⟨_, h⟩ | ⟨_, h⟩
  · cases h
    simp at hb
    omega
  rcases Lemmas.ite_cases h with ⟨_, h⟩ | ⟨_, h⟩
  · cases h
    simp at hb
    omega
  · cases h

theorem size_shortest (v n : Nat) (h : sizeVarint v = some n) :
    (n = 1 ∧ v < 2^6) ∨ (n = 2 ∧ 2^6 ≤ v ∧ v < 2^14) ∨
    (n = 4 ∧ 2^14 ≤ v ∧ v < 2^30) ∨ (n = 8 ∧ 2^30 ≤ v ∧ v < 2^62) := by
  unfold sizeVarint at h
  rcases Lemmas.ite_cases h with ⟨c1, h⟩ | ⟨c1, h⟩
  · cases h
    omega
  rcases Lemmas.ite_cases h with ⟨c2, h⟩ | ⟨c2, h⟩
  · cases h
    omega
  rcases Lemmas.ite_cases h with ⟨c3, h⟩ | ⟨c3, h⟩
  · cases h
    omega
  rcases Lemmas.ite_cases h with ⟨c4, h⟩ | ⟨c4, h⟩
  · cases h
    omega
  · cases h

theorem append_length_range (v : Nat) (bs : List Nat) (h : appendVarint v = some bs) :
    1 ≤ bs.length ∧ bs.length ≤ 8 := by
  have := size_shortest v _ (append_length_eq_size v bs h)
  omega

/-- `be_step` digit by digit: `omega` is very slow on the eight-byte sum. -/
theorem be4 (v : Nat) :
    v / 16777216 % 256 * 16777216 + v / 65536 % 256 * 65536 + v / 256 % 256 * 256 + v % 256 =
      v % 4294967296 := by
  simp only [Nat.add_assoc]
  rw [Lemmas.be_step v 256, Lemmas.be_step v 65536, Lemmas.be_step v 16777216]

theorem be8 (v : Nat) :
    v / 72057594037927936 % 256 * 72057594037927936 + v / 281474976710656 % 256 * 281474976710656 +
      v / 1099511627776 % 256 * 1099511627776 + v / 4294967296 % 256 * 4294967296 +
      v / 16777216 % 256 * 16777216 + v / 65536 % 256 * 65536 + v / 256 % 256 * 256 + v % 256 =
      v % 18446744073709551616 := by
  simp only [Nat.add_assoc]
  rw [Lemmas.be_step v 256, Lemmas.be_step v 65536, Lemmas.be_step v 16777216, Lemmas.be_step v 4294967296, Lemmas.be_step v 1099511627776,
    Lemmas.be_step v 281474976710656, Lemmas.be_step v 72057594037927936]

theorem consume_append (v : Nat) (bs tail : List Nat) (h : appendVarint v = some bs) :
    consumeVarint (bs ++ tail) = some (v, bs.length) := by
  -- In each size class the two length bits sit above the leading digit of `v` in the first
  -- byte, so `/ 64` reads the class and `% 64` the digit back.
  unfold appendVarint at h
  split at h
  · cases h
    have h0 : v / 64 = 0 := by omega
    have h1 : v % 64 = v := by omega
    simp [consumeVarint, h0, h1]
  split at h
  · cases h
    have h0 : (64 + v / 256) / 64 = 1 := by omega
    have h1 : (64 + v / 256) % 64 * 256 + v % 256 = v := by omega
    simp only [List.cons_append, consumeVarint, h0, h1]
    simp
  split at h
  · cases h
    have h0 : (128 + v / 16777216) / 64 = 2 := by omega
    have h1 : (128 + v / 16777216) % 64 = v / 16777216 % 256 := by omega
    have h2 : v % 4294967296 = v := by omega
    simp only [List.cons_append, consumeVarint, h0, h1, be4, h2]
    simp
  split at h
  · cases h
    have h0 : (192 + v / 72057594037927936) / 64 = 3 := by omega
    have h1 : (192 + v / 72057594037927936) % 64 = v / 72057594037927936 % 256 := by omega
    have h2 : v % 18446744073709551616 = v := by omega
    simp only [List.cons_append, consumeVarint, h0, h1, be8, h2]
    simp
  · cases h

/-- One walk of the decoder; the facts about `consumeVarint` below are read off it. -/
theorem consume_some (b : List Nat) (v n : Nat) (h : consumeVarint b = some (v, n)) :
    ∃ hd tl, b = hd ++ tl ∧ hd.length = n ∧ (n = 1 ∨ n = 2 ∨ n = 4 ∨ n = 8) ∧
      (∀ tail, consumeVarint (hd ++ tail) = some (v, n)) ∧ (BytesWF hd → v ≤ maxVarint) := by
  unfold consumeVarint at h
  unfold BytesWF maxVarint
  split at h
  · cases h
  rename_i b0 rest
  rcases Lemmas.ite_cases h with ⟨c0, h⟩ | ⟨c0, h⟩
  · cases h
    exact ⟨[b0], rest, rfl, rfl, .inl rfl, fun tail => by simp [consumeVarint, c0], fun _ => by omega⟩
  rcases Lemmas.ite_cases h with ⟨c1, h⟩ | ⟨c1, h⟩
  · split at h
    · rename_i b1 tl _ _
      cases h
      exact ⟨[b0, b1], tl, rfl, rfl, .inr (.inl rfl), fun tail => by simp [consumeVarint, c1],
        fun hb => by simp at hb; omega⟩
    · cases h
  rcases Lemmas.ite_cases h with ⟨c2, h⟩ | ⟨c2, h⟩
  · split at h
    · rename_i b1 b2 b3 tl _ _ _
      cases h
      exact ⟨[b0, b1, b2, b3], tl, rfl, rfl, .inr (.inr (.inl rfl)), fun tail => by simp [consumeVarint, c2],
        fun hb => by simp at hb; omega⟩
    · cases h
  · split at h
    · rename_i b1 b2 b3 b4 b5 b6 b7 tl _ _ _
      cases h
      exact ⟨[b0, b1, b2, b3, b4, b5, b6, b7], tl, rfl, rfl, .inr (.inr (.inr rfl)),
        fun tail => by simp [consumeVarint, c0, c1, c2], fun hb => by simp at hb; omega⟩
    · cases h

theorem consume_within_input (b : List Nat) (v n : Nat) (h : consumeVarint b = some (v, n)) :
    n ≤ b.length ∧ (n = 1 ∨ n = 2 ∨ n = 4 ∨ n = 8) := by
  obtain ⟨hd, tl, rfl, hn, hc, _, _⟩ := consume_some b v n h
  exact ⟨by rw [List.length_append]; omega, hc⟩

theorem consume_prefix_only (b : List Nat) (v n : Nat) (h : consumeVarint b = some (v, n))
    (tail : List Nat) : consumeVarint (b.take n ++ tail) = some (v, n) := by
  obtain ⟨hd, tl, rfl, hn, _, hp, _⟩ := consume_some b v n h
  rw [List.take_left' hn]
  exact hp tail

/-- Were `m ≤ k` bytes of the prefix accepted, the same `m` bytes would be accepted at the head of
`b`, which reads `n > k` bytes. -/
theorem consume_prefix_free (b : List Nat) (v n : Nat) (h : consumeVarint b = some (v, n))
    (k : Nat) (hk : k < n) : consumeVarint (b.take k) = none := by
  cases hc : consumeVarint (b.take k) with
  | none => rfl
  | some r =>
    have hn := (consume_within_input _ r.1 r.2 hc).1
    have hp := consume_prefix_only _ r.1 r.2 hc (b.drop r.2)
    rw [List.length_take] at hn
    rw [List.take_take, Nat.min_eq_left (by omega), List.take_append_drop, h] at hp
    have := Option.some.inj hp
    simp at this
    omega

theorem consume_truncated (v : Nat) (bs : List Nat) (h : appendVarint v = some bs)
    (k : Nat) (hk : k < bs.length) : consumeVarint (bs.take k) = none :=
  consume_prefix_free bs v bs.length (by simpa using consume_append v bs [] h) k hk

theorem consume_value_bound (b : List Nat) (hb : BytesWF b) (v n : Nat)
    (h : consumeVarint b = some (v, n)) : v ≤ maxVarint := by
  obtain ⟨hd, tl, rfl, _, _, _, hv⟩ := consume_some b v n h
  exact hv fun x hx => hb x (List.mem_append_left _ hx)

theorem uint8Bytes_roundtrip (v tail bs : List Nat) (h : appendUint8Bytes v = some bs) :
    consumeUint8Bytes (bs ++ tail) = some (v, bs.length) := by
  unfold appendUint8Bytes at h
  split at h
  · simp at h
  · simp at h; subst h
    simp [consumeUint8Bytes]

theorem varintBytes_roundtrip (v tail bs : List Nat) (h : appendVarintBytes v = some bs) :
    consumeVarintBytes (bs ++ tail) = some (v, bs.length) := by
  unfold appendVarintBytes at h
  split at h
  · rename_i p hp
    simp at h; subst h
    have := consume_append v.length p (v ++ tail) hp
    simp [consumeVarintBytes, List.append_assoc, this]
    omega
  · simp at h

theorem gen_sizeVarint_eq (v : Nat) : Gen.C22.sizeVarint v = sizeVarint v := by
  unfold Gen.C22.sizeVarint sizeVarint
  rfl

theorem gen_appendVarint_eq (v : Nat) : Gen.C22.appendVarint [] v = appendVarint v := by
  unfold Gen.C22.appendVarint appendVarint
  repeat' split
  -- both sides branch on the same tests; `simp` leaves the first byte of each size class
  all_goals simp
  · omega
  · rw [Nat.or_comm, Lemmas.or_eq_add_of_disjoint _ 64 6 (by omega) rfl]
    omega
  · rw [Nat.or_comm, Lemmas.or_eq_add_of_disjoint _ 128 6 (by omega) rfl]
    omega
  · rw [Nat.or_comm, Lemmas.or_eq_add_of_disjoint _ 192 6 (by omega) rfl]
    omega

theorem gen_maxVarint_eq : Gen.C22.maxVarint = maxVarint ∧ Gen.C22.maxVarintSize = 8 := by decide

example : appendVarint 494878333 = some [0x9d, 0x7f, 0x3e, 0x7d] := by decide
example : consumeVarint [0xc2, 0x19, 0x7c, 0x5e, 0xff, 0x14, 0xe8, 0x8c, 7] =
    some (151288809941952652, 8) := by decide
example : appendVarintBytes [1, 2, 3] = some [3, 1, 2, 3] := by decide

end NetVerif.Proofs.C22
