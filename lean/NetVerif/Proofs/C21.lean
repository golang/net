import NetVerif.Model.StreamLimits
import NetVerif.Gen.C21
import NetVerif.Model.StreamWire
import NetVerif.Model.ConnStreams
import NetVerif.Proofs.Lemmas.Fold
/-!
C21 — QUIC stream-count limits are never exceeded.

The counters of quic/stream_limits.go (`Model/StreamLimits.lean`), for every history of operations;
`section Table`: the stream table of quic/conn_streams.go (`Model/ConnStreams.lean`) on top of them;
`section Wire`: soundness of the wire monitor of the V-tie (`Model/StreamWire.lean`).
-/
namespace NetVerif.Proofs.C21
open NetVerif NetVerif.Model.StreamLimits

/-- Invariant of `localStreamLimits`. -/
structure LInv (l : Local) : Prop where
  gate : l.gate = gateCond l.opened l.max
  max_nonneg : 0 ≤ l.max
  opened_ge : -1 ≤ l.opened
  opened_le : l.opened ≤ l.max

theorem local_inv_init : LInv Local.init := by
  constructor <;> simp [Local.init, gateCond]

/-- Every operation ends in `unlock`, which records the gate condition the invariant asks for. -/
theorem linv_unlock (l : Local) (h0 : 0 ≤ l.max) (h1 : -1 ≤ l.opened) (h2 : l.opened ≤ l.max) : LInv l.unlock :=
  ⟨rfl, h0, h1, h2⟩

theorem local_inv_step (l : Local) (op : LOp) (h : LInv l) : LInv (l.step op) := by
  obtain ⟨hg, h0, h1, h2⟩ := h
  cases op
  · show LInv l.open.1
    unfold Local.open
    cases hgt : l.gate
    · exact ⟨hg, h0, h1, h2⟩
    · have hlt : l.opened < l.max := by simpa [hg, gateCond] using hgt
      simp only
      split
      · exact linv_unlock _ h0 h1 h2
      · exact linv_unlock _ h0 (by simp only; omega) (by simp only; omega)
  · exact linv_unlock _ (by simp only; omega) h1 (by simp only; omega)
  · exact linv_unlock _ h0 (by simp only; omega) (by simp only; omega)
  · exact linv_unlock _ h0 h1 h2

theorem local_inv_run (ops : List LOp) (l : Local) (h : LInv l) : LInv (l.run ops) :=
  Lemmas.foldl_inv Local.step LInv local_inv_step ops l h

def LReachable (l : Local) : Prop := ∃ ops, l = Local.init.run ops

theorem local_reachable_inv {l : Local} (h : LReachable l) : LInv l := by
  obtain ⟨ops, rfl⟩ := h; exact local_inv_run ops _ local_inv_init

theorem local_open_spec (l : Local) (hi : LInv l) :
    l.open.2 = (if l.max ≤ l.opened then OpenRes.blocked else if l.opened < 0 then OpenRes.closed
      else OpenRes.ok l.opened) ∧
    l.open.1.opened = (if l.max ≤ l.opened ∨ l.opened < 0 then l.opened else l.opened + 1) ∧
    l.open.1.max = l.max := by
  obtain ⟨mx, op', g⟩ := l
  obtain ⟨hg, h0, h1, h2⟩ := hi
  simp only [gateCond] at hg h0 h1 h2
  unfold Local.open
  cases g
  · have hge : mx ≤ op' := by simpa using hg.symm
    simp [hge]
  · have hlt : ¬ mx ≤ op' := by simpa using hg.symm
    simp only [hlt, if_false, false_or]
    by_cases hc : op' < 0 <;> simp [hc, Local.unlock]

/-- C21: `NewStream` blocks iff the peer's MAX_STREAMS quota is used up. -/
theorem local_open_blocks_iff {l : Local} (h : LReachable l) :
    l.open.2 = OpenRes.blocked ↔ l.opened ≥ l.max := by
  rw [(local_open_spec l (local_reachable_inv h)).1]
  by_cases h1 : l.max ≤ l.opened
  · simp [h1]
  · by_cases h2 : l.opened < 0 <;> simp [h1, h2]

theorem local_open_ok_of_inv (l : Local) (hi : LInv l) (n : Int) (hok : l.open.2 = OpenRes.ok n) :
    n < l.max ∧ n = l.opened ∧ 0 ≤ n ∧ l.open.1.opened = n + 1 ∧ l.open.1.max = l.max := by
  obtain ⟨h1, h2, h3⟩ := local_open_spec l hi
  rw [h1] at hok
  rw [h2, h3]
  by_cases c1 : l.max ≤ l.opened
  · simp [c1] at hok
  · by_cases c2 : l.opened < 0
    · simp [c1, c2] at hok
    · simp [c1, c2] at hok ⊢
      omega

/-- C21: we never open a stream at or beyond the peer's current MAX_STREAMS. -/
theorem local_open_within_limit {l : Local} (h : LReachable l) (n : Int)
    (hok : l.open.2 = OpenRes.ok n) :
    n < l.max ∧ n = l.opened ∧ 0 ≤ n ∧ l.open.1.opened = n + 1 ∧ l.open.1.max = l.max :=
  local_open_ok_of_inv l (local_reachable_inv h) n hok

theorem local_closed_open {l : Local} (h : LReachable l) (hc : l.opened < 0) :
    l.open.2 = OpenRes.closed ∧ l.open.1.opened = l.opened := by
  obtain ⟨h1, h2, _⟩ := local_open_spec l (local_reachable_inv h)
  have hm := (local_reachable_inv h).max_nonneg
  have c1 : ¬ l.max ≤ l.opened := by omega
  rw [h1, h2]
  simp [c1, hc]

/-- C21, `max` monotone: `setMax` ignores a stale or reordered MAX_STREAMS. -/
theorem local_max_mono_step (l : Local) (op : LOp) : l.max ≤ (l.step op).max := by
  cases op <;> simp only [Local.step, Local.open, Local.setMax, Local.connHasClosed, Local.wasOpened, Local.unlock]
  · split
    · simp
    · split <;> simp
  · exact Int.le_max_left _ _
  · simp
  · simp

theorem local_max_mono_run (ops : List LOp) (l : Local) : l.max ≤ (l.run ops).max :=
  Lemmas.foldl_rel Local.step (fun a b => a.max ≤ b.max) (fun _ => Int.le_refl _) (fun _ _ _ => Int.le_trans)
    local_max_mono_step ops l

theorem local_setMax_max (l : Local) (m : Int) : (l.setMax m).max = max l.max m ∧ (l.setMax m).opened = l.opened := by
  simp [Local.setMax, Local.unlock]

/-- Invariant of `remoteStreamLimits`. -/
structure RInv (r : Remote) : Prop where
  opened_le_max : r.opened ≤ r.max
  max_le : r.max ≤ r.closed + r.maxOpen
  implicit : r.max ≤ r.opened + implicitStreamLimit
  opened_nonneg : 0 ≤ r.opened
  closed_nonneg : 0 ≤ r.closed

theorem maxRemoteStreams_range (v : Int) : 0 ≤ maxRemoteStreams v ∧ maxRemoteStreams v ≤ maxStreamsLimit := by
  unfold maxRemoteStreams configDefault maxStreamsLimit
  split
  · omega
  · split <;> omega

theorem remote_inv_init (maxOpen : Int) (h : 0 ≤ maxOpen) : RInv (Remote.init maxOpen) := by
  constructor <;> simp [Remote.init, implicitStreamLimit] <;> omega

theorem mum_cases (r : Remote) :
    (r.maybeUpdateMax = r ∧ (r.newMax ≤ r.max ∨ (8 ≤ r.max - r.opened ∧ r.newMax - r.max < 2 * (r.max - r.opened)))) ∨
    (r.max < r.newMax ∧ r.maybeUpdateMax = { r with max := r.newMax, sendUnsent := true }) := by
  unfold Remote.maybeUpdateMax
  split
  · rename_i hs
    simp [Remote.shouldUpdate] at hs
    exact .inr ⟨hs.1, rfl⟩
  · rename_i hs
    simp [Remote.shouldUpdate] at hs
    refine .inl ⟨rfl, ?_⟩
    by_cases h : r.newMax ≤ r.max
    · exact .inl h
    · have := hs (by omega)
      exact .inr (by omega)

theorem remote_inv_maybeUpdateMax (r : Remote) (h : RInv r) : RInv r.maybeUpdateMax := by
  rcases mum_cases r with ⟨e, _⟩ | ⟨hlt, e⟩ <;> rw [e]
  · exact h
  · obtain ⟨h1, h2, h3, h4, h5⟩ := h
    -- `newMax` is the smaller of `closed + maxOpen` and `opened + implicitStreamLimit`, the two bounds `RInv` puts on `max`
    constructor <;> simp [Remote.newMax, implicitStreamLimit] <;> omega

theorem mum_fields (r : Remote) : r.maybeUpdateMax.opened = r.opened ∧ r.maybeUpdateMax.closed = r.closed ∧
    r.maybeUpdateMax.maxOpen = r.maxOpen := by
  rcases mum_cases r with ⟨e, _⟩ | ⟨_, e⟩ <;> rw [e] <;> exact ⟨rfl, rfl, rfl⟩

theorem open_fields (r : Remote) (n : Int) :
    (r.open n).1.closed = r.closed ∧ (r.open n).1.maxOpen = r.maxOpen ∧
    ((r.open n).2 = true → r.opened ≤ n → (r.open n).1.opened = n + 1) ∧
    (n < r.opened → (r.open n).1.opened = r.opened) := by
  unfold Remote.open
  split
  · exact ⟨rfl, rfl, by simp, fun _ => rfl⟩
  · split
    · have := mum_fields ({ r with opened := n + 1 } : Remote)
      exact ⟨this.2.1, this.2.2, fun _ _ => this.1, fun h => by omega⟩
    · exact ⟨rfl, rfl, fun _ h => by omega, fun _ => rfl⟩

theorem close_fields (r : Remote) : r.close.opened = r.opened ∧ r.close.closed = r.closed + 1 := by
  have := mum_fields ({ r with closed := r.closed + 1 } : Remote)
  exact ⟨this.1, this.2.1⟩

theorem remote_inv_step (r : Remote) (op : ROp) (h : RInv r) : RInv (r.step op) := by
  obtain ⟨h1, h2, h3, h4, h5⟩ := h
  cases op with
  | «open» n =>
    simp only [Remote.step, Remote.open]
    split
    · exact ⟨h1, h2, h3, h4, h5⟩
    · split
      · exact remote_inv_maybeUpdateMax _
          ⟨by simp only; omega, h2, by simp only; omega, by simp only; omega, h5⟩
      · exact ⟨h1, h2, h3, h4, h5⟩
  | close =>
    exact remote_inv_maybeUpdateMax _ ⟨h1, by simp only; omega, h3, h4, by simp only; omega⟩
  | appendFrame =>
    simp only [Remote.step, Remote.appendFrame]
    split
    · exact ⟨h1, h2, h3, h4, h5⟩
    · exact ⟨h1, h2, h3, h4, h5⟩

theorem remote_inv_run (ops : List ROp) (r : Remote) (h : RInv r) : RInv (r.run ops) :=
  Lemmas.foldl_inv Remote.step RInv remote_inv_step ops r h

def RReachable (r : Remote) : Prop := ∃ cfg ops, r = (Remote.init (maxRemoteStreams cfg)).run ops

theorem remote_reachable_inv {r : Remote} (h : RReachable r) : RInv r := by
  obtain ⟨cfg, ops, rfl⟩ := h
  exact remote_inv_run ops _ (remote_inv_init _ (maxRemoteStreams_range cfg).1)

theorem remote_maxOpen_step (r : Remote) (op : ROp) : (r.step op).maxOpen = r.maxOpen := by
  cases op
  · exact (open_fields r _).2.1
  · exact (mum_fields _).2.2
  · simp only [Remote.step, Remote.appendFrame]; split <;> rfl

theorem remote_maxOpen_run (ops : List ROp) (r : Remote) : (r.run ops).maxOpen = r.maxOpen :=
  Lemmas.foldl_rel Remote.step (fun a b => b.maxOpen = a.maxOpen) (fun _ => rfl) (fun _ _ _ f g => g.trans f)
    remote_maxOpen_step ops r

/-- C21: the peer never holds more open streams than configured (`maxOpen` is the configured value, at most
`2^60`: `remote_maxOpen_is_config`, `maxRemoteStreams_range`), nor does `lim.max` allow it to; one frame
implicitly opens at most `implicitStreamLimit` streams. -/
theorem remote_open_streams_bounded {r : Remote} (h : RReachable r) :
    r.opened - r.closed ≤ r.maxOpen ∧ r.max - r.closed ≤ r.maxOpen ∧ r.opened ≤ r.max ∧
    r.max - r.opened ≤ implicitStreamLimit := by
  have hi := remote_reachable_inv h
  obtain ⟨h1, h2, h3, _, _⟩ := hi
  omega

theorem remote_maxOpen_is_config (cfg : Int) (ops : List ROp) :
    ((Remote.init (maxRemoteStreams cfg)).run ops).maxOpen = maxRemoteStreams cfg := by
  rw [remote_maxOpen_run]; rfl

/-- C21: STREAM_LIMIT_ERROR iff the stream number is at or beyond `lim.max`, which may be ahead of
what the peer was told (`sent_limit_full_false`). -/
theorem remote_open_error_iff (r : Remote) (n : Int) : (r.open n).2 = false ↔ n ≥ r.max := by
  unfold Remote.open
  split
  · simp; omega
  · split <;> simp <;> omega

theorem remote_open_error_unchanged (r : Remote) (n : Int) (h : (r.open n).2 = false) : (r.open n).1 = r := by
  unfold Remote.open at h ⊢
  by_cases h1 : n ≥ r.max
  · simp [h1]
  · by_cases h2 : n ≥ r.opened
    · simp [h1, h2] at h
    · simp [h1, h2] at h

theorem remote_open_ok_opened (r : Remote) (n : Int) (h : (r.open n).2 = true) :
    n < (r.open n).1.opened ∧ r.opened ≤ (r.open n).1.opened := by
  obtain ⟨_, _, f3, f4⟩ := open_fields r n
  by_cases hn : n < r.opened
  · rw [f4 hn]; omega
  · rw [f3 h (by omega)]; omega

/-- C21: the limit enforced on the peer never decreases. -/
theorem remote_max_mono_step (r : Remote) (op : ROp) : r.max ≤ (r.step op).max := by
  have hm : ∀ q : Remote, q.max ≤ q.maybeUpdateMax.max := by
    intro q
    rcases mum_cases q with ⟨e, _⟩ | ⟨hlt, e⟩ <;> rw [e]
    · exact Int.le_refl _
    · exact Int.le_of_lt hlt
  cases op with
  | «open» n =>
    simp only [Remote.step, Remote.open]
    split
    · simp
    · split
      · exact hm _
      · simp
  | close => exact hm _
  | appendFrame =>
    simp only [Remote.step, Remote.appendFrame]
    split <;> simp

theorem remote_max_mono_run (ops : List ROp) (r : Remote) : r.max ≤ (r.run ops).max :=
  Lemmas.foldl_rel Remote.step (fun a b => a.max ≤ b.max) (fun _ => Int.le_refl _) (fun _ _ _ => Int.le_trans)
    remote_max_mono_step ops r

private theorem frames_appendFrame (r : Remote) (rest : List ROp) :
    Remote.frames r (.appendFrame :: rest) =
      if r.sendUnsent then r.max :: Remote.frames { r with sendUnsent := false } rest
      else Remote.frames r rest := by
  simp only [Remote.frames, Remote.appendFrame]
  split <;> simp

/-- C21: the MAX_STREAMS values put on the wire never decrease, and none is below the limit at the start
of the history (from `Remote.init`: the `initial_max_streams_*` transport parameter). -/
theorem remote_frames_monotone (ops : List ROp) (r : Remote) :
    (Remote.frames r ops).Pairwise (· ≤ ·) ∧ ∀ v ∈ Remote.frames r ops, r.max ≤ v := by
  induction ops generalizing r with
  | nil => simp [Remote.frames]
  | cons op rest ih =>
    -- the frames of the rest are sorted and at least the limit after `op`, which is at least the limit before
    have hm := remote_max_mono_step r op
    cases op with
    | appendFrame =>
      rw [frames_appendFrame]
      split
      · obtain ⟨p, g⟩ := ih { r with sendUnsent := false }
        exact ⟨List.pairwise_cons.2 ⟨g, p⟩, List.forall_mem_cons.2 ⟨Int.le_refl _, g⟩⟩
      · exact ih r
    | «open» n =>
      obtain ⟨p, g⟩ := ih (r.step (.open n))
      exact ⟨p, fun v hv => Int.le_trans hm (g v hv)⟩
    | close =>
      obtain ⟨p, g⟩ := ih (r.step .close)
      exact ⟨p, fun v hv => Int.le_trans hm (g v hv)⟩

/-- C21, when `maybeUpdateMax` acts: a larger limit (`max < newMax`) is adopted and scheduled whenever fewer than
8 streams remain or the raise is at least twice what remains. This is `shouldUpdate` read off (`mum_cases`);
nothing here says that the peer is never starved over a history. -/
theorem remote_heuristic_no_starvation (r : Remote) :
    (r.maybeUpdateMax.max = r.newMax ∧ r.maybeUpdateMax.sendUnsent = true) ∨
    r.newMax ≤ r.max ∨ (8 ≤ r.max - r.opened ∧ r.newMax - r.max < 2 * (r.max - r.opened)) := by
  rcases mum_cases r with ⟨_, h⟩ | ⟨_, e⟩
  · exact .inr h
  · exact .inl (by rw [e]; exact ⟨rfl, rfl⟩)

/-- What allows `Int` for Go's `int64`: every intermediate value of `maybeUpdateMax` is below `2^62`. -/
theorem remote_no_overflow {r : Remote} (h : RInv r) (hm : r.maxOpen ≤ maxStreamsLimit)
    (hc : r.closed ≤ r.opened) (ho : r.opened ≤ maxStreamsLimit) :
    r.closed + r.maxOpen < 2^62 ∧ r.opened + implicitStreamLimit < 2^62 ∧ r.max < 2^62 ∧
    2 * (r.max - r.opened) < 2^62 := by
  obtain ⟨h1, h2, h3, h4, h5⟩ := h
  simp only [maxStreamsLimit, implicitStreamLimit] at *
  omega

/-- History state with the ghost "last MAX_STREAMS value the peer was told" (initially the
`initial_max_streams_*` transport parameter). -/
structure RH where
  r : Remote
  lastSent : Int

def RH.init (cfg : Int) : RH := ⟨Remote.init (maxRemoteStreams cfg), (Remote.init (maxRemoteStreams cfg)).max⟩

def RH.step (h : RH) : ROp → RH
  | .appendFrame => ⟨h.r.appendFrame.1, (h.r.appendFrame.2).getD h.lastSent⟩
  | op => ⟨h.r.step op, h.lastSent⟩

def RH.run (h : RH) (ops : List ROp) : RH := ops.foldl RH.step h

theorem rh_inv (cfg : Int) (ops : List ROp) :
    ((RH.init cfg).run ops).lastSent ≤ ((RH.init cfg).run ops).r.max ∧
    (((RH.init cfg).run ops).r.sendUnsent = false → ((RH.init cfg).run ops).lastSent = ((RH.init cfg).run ops).r.max) := by
  refine Lemmas.foldl_inv RH.step (fun h => h.lastSent ≤ h.r.max ∧ (h.r.sendUnsent = false → h.lastSent = h.r.max))
    (fun h op hh => ?_) ops _ ⟨Int.le_refl _, fun _ => rfl⟩
  · obtain ⟨h1, h2⟩ := hh
    have hm : ∀ q : Remote, h.lastSent ≤ q.max → (q.sendUnsent = false → h.lastSent = q.max) →
        h.lastSent ≤ q.maybeUpdateMax.max ∧ (q.maybeUpdateMax.sendUnsent = false → h.lastSent = q.maybeUpdateMax.max) := by
      intro q a b
      rcases mum_cases q with ⟨e, _⟩ | ⟨hlt, e⟩ <;> rw [e]
      · exact ⟨a, b⟩
      · exact ⟨by simp only; omega, by simp⟩
    cases op with
    | appendFrame =>
      simp only [RH.step, Remote.appendFrame]
      split
      · simp
      · rename_i hu
        simp only [Option.getD_none]
        exact ⟨h1, fun _ => h2 (by simpa using hu)⟩
    | «open» n =>
      simp only [RH.step, Remote.step, Remote.open]
      split
      · exact ⟨h1, h2⟩
      · split
        · exact hm _ h1 h2
        · exact ⟨h1, h2⟩
    | close => exact hm _ h1 h2

/-- The literal statement: a stream is refused iff its number is at or beyond the last limit
the peer was actually told. -/
def SentLimitStatement : Prop :=
  ∀ (cfg : Int) (ops : List ROp) (n : Int),
    ((((RH.init cfg).run ops).r.open n).2 = false ↔ n ≥ ((RH.init cfg).run ops).lastSent)

/-- The literal statement fails: `maybeUpdateMax` raises `lim.max` before the MAX_STREAMS frame is written.
maxOpen = 1: stream 0 opened and closed ⇒ `lim.max = 2` (frame pending); stream 1 is accepted
although the peer was only ever told 1. -/
theorem sent_limit_full_false : ¬ SentLimitStatement := by
  intro h
  have := h 1 [.open 0, .close] 1
  revert this
  decide

/-- Outside the window `sendUnsent ∧ lastSent ≤ n < lim.max` the literal statement holds in every reachable state.
(Inside it `n < lim.max`, so by `remote_open_error_iff` the stream is accepted although the peer was told less.) -/
theorem sent_limit_holds_partial (cfg : Int) (ops : List ROp) (n : Int)
    (hex : ¬ (((RH.init cfg).run ops).r.sendUnsent = true ∧ ((RH.init cfg).run ops).lastSent ≤ n ∧
              n < ((RH.init cfg).run ops).r.max)) :
    ((((RH.init cfg).run ops).r.open n).2 = false ↔ n ≥ ((RH.init cfg).run ops).lastSent) := by
  obtain ⟨h1, h2⟩ := rh_inv cfg ops
  rw [remote_open_error_iff]
  cases hu : ((RH.init cfg).run ops).r.sendUnsent with
  | false => have := h2 hu; omega
  | true =>
    constructor
    · intro h; omega
    · intro h
      apply Classical.byContradiction; intro hn
      exact hex ⟨hu, h, by omega⟩

section Table
open NetVerif.Model.ConnStreams

def pcount (tab : List Entry) : Int := (tab.filter (·.peer)).length
def pnums (tab : List Entry) : List Int := (tab.filter (·.peer)).map (·.num)

/-- Invariant tying the table to the counters. -/
structure CInv (c : CS) : Prop where
  rinv : RInv c.rem
  linv : LInv c.loc
  nodup : (pnums c.tab).Nodup
  peerLt : ∀ n ∈ pnums c.tab, 0 ≤ n ∧ n < c.rem.opened
  count : pcount c.tab = c.rem.opened - c.rem.closed

theorem cinv_init (uni : Bool) (maxOpen : Int) (h : 0 ≤ maxOpen) : CInv (CS.init uni maxOpen) :=
  ⟨remote_inv_init maxOpen h, local_inv_init, by simp [CS.init, pnums], by simp [CS.init, pnums],
   by simp [CS.init, pcount, Remote.init]⟩

private theorem pnums_implicit : ∀ (k : Nat) (lo : Int), pnums (implicitEntries lo k) = (List.range k).map fun i : Nat => lo + (i : Int)
  | 0, _ => rfl
  | k + 1, lo => by
    have ih := pnums_implicit k (lo + 1)
    simp only [pnums, implicitEntries, List.filter_cons, List.map_cons, if_true] at ih ⊢
    rw [ih, List.range_succ_eq_map, List.map_cons, List.map_map]
    congr 1
    · omega
    · refine List.map_congr_left fun i _ => ?_
      simp only [Function.comp_apply, Nat.succ_eq_add_one]
      omega

private theorem implicit_mem (n : Int) (k : Nat) (lo : Int) : n ∈ pnums (implicitEntries lo k) ↔ (lo ≤ n ∧ n < lo + k) := by
  rw [pnums_implicit, List.mem_map]
  constructor
  · rintro ⟨i, hi, rfl⟩
    have := List.mem_range.1 hi
    omega
  · intro h
    refine ⟨(n - lo).toNat, List.mem_range.2 ?_, ?_⟩ <;> omega

private theorem pnums_append (a b : List Entry) : pnums (a ++ b) = pnums a ++ pnums b := by
  simp [pnums, List.filter_append]

private theorem pcount_eq_len (tab : List Entry) : pcount tab = (pnums tab).length := by simp [pcount, pnums]

private theorem length_filter_ne (l : List Int) (n : Int) (hnd : l.Nodup) (hm : n ∈ l) :
    ((l.filter (fun m => m != n)).length : Int) = l.length - 1 := by
  rw [← hnd.erase_eq_filter, List.length_erase_of_mem hm]
  have := List.length_pos_of_mem hm
  omega

/-- As far as the invariant sees, the stream a frame creates is one more placeholder after those for the numbers it skipped. -/
private theorem pnums_block (uni : Bool) (n : Int) (k : Nat) (lo : Int) (h : n = lo + k) :
    pnums (implicitEntries lo k ++ [newPeerStream uni n]) = pnums (implicitEntries lo (k + 1)) := by
  rw [pnums_append, pnums_implicit, pnums_implicit, List.range_succ, List.map_append, h]
  rfl

/-- What the invariant asks of the peer's stream numbers in the table, given the counters `opened` and `closed`. -/
structure Nums (l : List Int) (o c : Int) : Prop where
  nodup : l.Nodup
  lt : ∀ n ∈ l, 0 ≤ n ∧ n < o
  count : (l.length : Int) = o - c

theorem cinv_iff (c : CS) : CInv c ↔ RInv c.rem ∧ LInv c.loc ∧ Nums (pnums c.tab) c.rem.opened c.rem.closed :=
  ⟨fun ⟨a, b, d, e, f⟩ => ⟨a, b, d, e, by rw [← pcount_eq_len]; exact f⟩,
   fun ⟨a, b, d, e, f⟩ => ⟨a, b, d, e, by rw [pcount_eq_len]; exact f⟩⟩

/-- Opening up to stream `o + k - 1` puts `o … o + k - 1` into the table. -/
theorem Nums.extend {l : List Int} {o c : Int} (h : Nums l o c) (h0 : 0 ≤ o) (k : Nat) :
    Nums (l ++ pnums (implicitEntries o k)) (o + k) c := by
  refine ⟨List.nodup_append.2 ⟨h.nodup, ?_, ?_⟩, ?_, ?_⟩
  · rw [pnums_implicit]
    exact List.Pairwise.map (R := (· ≠ ·)) _ (fun a b hab h => hab (by omega)) List.nodup_range
  · intro a ha b hb hab; subst hab
    have := (h.lt a ha).2
    have := (implicit_mem a _ _).1 hb
    omega
  · intro m hm
    rcases List.mem_append.1 hm with hm | hm
    · have := h.lt m hm; omega
    · have := (implicit_mem m _ _).1 hm; omega
  · have := h.count
    rw [List.length_append, pnums_implicit, List.length_map, List.length_range]
    omega

/-- Retiring stream `n` takes it out of the table and counts it as closed. -/
theorem Nums.remove {l : List Int} {o c n : Int} (h : Nums l o c) (hn : n ∈ l) : Nums (l.filter (fun m => m != n)) o (c + 1) :=
  ⟨h.nodup.filter _, fun m hm => h.lt m (List.mem_filter.1 hm).1, by rw [length_filter_ne _ n h.nodup hn, h.count]; omega⟩

private theorem find_some {tab : List Entry} {p : Bool} {n : Int} {e : Entry} (h : find tab p n = some e) :
    e ∈ tab ∧ e.peer = p ∧ e.num = n := by
  unfold find at h
  have h1 := List.mem_of_find?_eq_some h
  have h2 := List.find?_some h
  simp at h2
  exact ⟨h1, h2.1, h2.2⟩

private theorem find_none {tab : List Entry} {p : Bool} {n : Int} (h : find tab p n = none) :
    ∀ e ∈ tab, ¬ (e.peer = p ∧ e.num = n) := by
  unfold find at h
  intro e he hc
  have := List.find?_eq_none.1 h e he
  simp [hc.1, hc.2] at this

private theorem mem_pnums_of_find {tab : List Entry} {n : Int} {e : Entry} (hf : find tab true n = some e) : n ∈ pnums tab := by
  obtain ⟨he, hp, hn⟩ := find_some hf
  simp only [pnums, List.mem_map, List.mem_filter]
  exact ⟨e, ⟨he, by simp [hp]⟩, hn⟩

/-- C21 on the stream table (`conn_streams.go: streamForFrame`): STREAM_LIMIT_ERROR iff `num ≥ lim.max`. -/
theorem over_limit_iff_error (c : CS) (h : CInv c) (num : Int) :
    (c.peerFrame num).2 = FrameRes.limitError ↔ num ≥ c.rem.max := by
  have hom := h.rinv.opened_le_max
  unfold CS.peerFrame
  cases hf : find c.tab true num with
  | some e =>
    have := mem_pnums_of_find hf
    have := (h.peerLt num this).2
    simp only
    -- `num` is in the table, so `num < opened ≤ max`, and neither outcome for a known stream is `limitError`
    split <;> simp <;> omega
  | none =>
    simp only
    split
    · simp; omega
    · have hiff := remote_open_error_iff c.rem num
      split
      · rename_i hr; simp; exact hiff.1 hr
      · rename_i hr
        simp
        have : ¬ num ≥ c.rem.max := fun hh => hr (hiff.2 hh)
        omega

theorem finish_rem (c : CS) (p : Bool) (n : Int) (d : Bool) :
    (c.finish p n d).rem = c.rem ∨ ((c.finish p n d).rem = c.rem.close ∧ p = true) := by
  unfold CS.finish
  cases find c.tab p n with
  | none => exact Or.inl rfl
  | some e =>
    simp only
    by_cases h1 : (!e.real) = true
    · simp [h1]
    · simp only [h1]
      by_cases h2 : ((markDone e d).inDone && (markDone e d).outDone) = true
      · simp only [h2, if_true]; cases p <;> simp
      · simp only [h2]; simp

theorem step_rem (c : CS) (op : Op) : (c.step op).rem = c.rem ∨ ∃ rop, (c.step op).rem = c.rem.step rop := by
  cases op with
  | peerFrame n =>
    simp only [CS.step, CS.peerFrame]
    split
    · split
      · exact .inl rfl
      · exact .inr ⟨.open n, rfl⟩
    · split
      · exact .inl rfl
      · split
        · exact .inl rfl
        · exact .inr ⟨.open n, rfl⟩
  | localFrame n =>
    simp only [CS.step, CS.localFrame]
    split
    · exact .inl rfl
    · exact .inl rfl
  | newLocal =>
    simp only [CS.step, CS.newLocal]
    split
    · exact .inl rfl
    · exact .inl rfl
  | peerMax v => exact .inl rfl
  | finish p n d =>
    rcases finish_rem c p n d with h | ⟨h, _⟩
    · exact .inl h
    · exact .inr ⟨.close, h⟩
  | sendMax => exact .inr ⟨.appendFrame, rfl⟩

/-- The limit enforced on the peer (`rem.max`) does not fall across one step of the table. The values sent in
MAX_STREAMS frames are the subject of `remote_frames_monotone` and `wire_maxStreams_monotone`. -/
theorem sent_max_streams_monotone (c : CS) (op : Op) : c.rem.max ≤ (c.step op).rem.max := by
  rcases step_rem c op with h | ⟨rop, h⟩
  · rw [h]
    exact Int.le_refl _
  · rw [h]
    exact remote_max_mono_step c.rem rop

/-- C21 on the stream table: a locally opened stream is below the largest MAX_STREAMS received
(`loc.max`, which `peerMax` only ever raises). -/
theorem local_open_below_peer_limit (c : CS) (h : CInv c) (n : Int) (hok : c.newLocal.2 = OpenRes.ok n) :
    n < c.loc.max ∧ n = c.loc.opened ∧ (∀ v, c.loc.max ≤ (c.peerMax v).loc.max ∧ v ≤ (c.peerMax v).loc.max) := by
  have hok' : c.loc.open.2 = OpenRes.ok n := by
    unfold CS.newLocal at hok
    simp only at hok
    cases hr : c.loc.open.2 with
    | ok m => rw [hr] at hok; simpa using hok
    | blocked => rw [hr] at hok; simp at hok
    | closed => rw [hr] at hok; simp at hok
  obtain ⟨a, b, _⟩ := local_open_ok_of_inv c.loc h.linv n hok'
  refine ⟨a, b, fun v => ?_⟩
  have := (local_setMax_max c.loc v).1
  simp only [CS.peerMax]
  omega

/-- C21 on the stream table: the streams a frame opens implicitly are counted, each with an entry of its own. -/
theorem implicit_open_counts_all (c : CS) (h : CInv c) (num : Int) (hnew : c.rem.opened ≤ num)
    (hok : (c.peerFrame num).2 = FrameRes.stream) :
    (c.peerFrame num).1.rem.opened = num + 1 ∧
    ∀ n, c.rem.opened ≤ n → n ≤ num → n ∈ pnums (c.peerFrame num).1.tab := by
  unfold CS.peerFrame at hok ⊢
  cases hf : find c.tab true num with
  | some e =>
    have := mem_pnums_of_find hf
    have := (h.peerLt num this).2
    omega
  | none =>
    rw [hf] at hok
    simp only at hok ⊢
    have h1 : ¬ num < c.rem.opened := by omega
    simp only [h1, if_false] at hok ⊢
    split at hok
    · simp at hok
    · rename_i hr
      simp only [hr]
      have hr' : (c.rem.open num).2 = true := by simpa using hr
      refine ⟨(open_fields c.rem num).2.2.1 hr' hnew, ?_⟩
      intro n hn1 hn2
      rw [if_neg (by simp)]
      simp only
      rw [List.append_assoc, pnums_append, pnums_block _ _ _ _ (by omega)]
      exact List.mem_append_right _ ((implicit_mem ..).2 (by omega))

private theorem pnums_map (tab : List Entry) (g : Entry → Entry) (hg : ∀ x, (g x).peer = x.peer ∧ (g x).num = x.num) :
    pnums (tab.map g) = pnums tab := by
  simp only [pnums, List.filter_map, List.map_map, Function.comp_def]
  rw [List.filter_congr (q := fun x : Entry => x.peer) fun x _ => (hg x).1]
  exact List.map_congr_left fun x _ => (hg x).2

private theorem pnums_replace (tab : List Entry) {p : Bool} {n : Int} {e : Entry} (he : e.peer = p ∧ e.num = n) :
    pnums (tab.map fun x => if x.peer == p && x.num == n then e else x) = pnums tab := by
  refine pnums_map tab _ fun x => ?_
  split
  · rename_i hx; simp at hx; exact ⟨he.1.trans hx.1.symm, he.2.trans hx.2.symm⟩
  · exact ⟨rfl, rfl⟩

private theorem pnums_filter (tab : List Entry) (p : Bool) (n : Int) :
    pnums (tab.filter fun x => !(x.peer == p && x.num == n)) = (pnums tab).filter fun m => !(p && m == n) := by
  simp only [pnums, List.filter_map, List.filter_filter]
  refine congrArg _ (List.filter_congr fun x _ => ?_)
  cases x.peer <;> cases p <;> simp

private theorem open_noop (r : Remote) (n : Int) (h1 : n < r.opened) : (r.open n).1 = r := by
  unfold Remote.open
  split
  · rfl
  · split
    · omega
    · rfl

/-- The invariant sees the table only through the peer stream numbers in it, and the peer's
counters only through `opened` and `closed`. -/
theorem cinv_congr {c c' : CS} (h : CInv c) (hr : RInv c'.rem) (hl : LInv c'.loc)
    (hp : pnums c'.tab = pnums c.tab) (ho : c'.rem.opened = c.rem.opened)
    (hc : c'.rem.closed = c.rem.closed) : CInv c' :=
  (cinv_iff c').2 ⟨hr, hl, by rw [hp, ho, hc]; exact ((cinv_iff c).1 h).2.2⟩

theorem cinv_step (c : CS) (op : Op) (h : CInv c) : CInv (c.step op) := by
  have ⟨hr, hl, hnums⟩ := (cinv_iff c).1 h
  cases op with
  | peerFrame n =>
    simp only [CS.step, CS.peerFrame]
    cases hf : find c.tab true n with
    | some e =>
      simp only
      split
      · exact h
      · have hno := open_noop c.rem n (hnums.lt n (mem_pnums_of_find hf)).2
        exact cinv_congr h (by simp only [hno]; exact hr) hl (pnums_replace c.tab ⟨rfl, rfl⟩) (by simp only [hno])
          (by simp only [hno])
    | none =>
      simp only
      split
      · exact h
      · split
        · exact h
        · rename_i hge hok
          obtain ⟨f1, _, f3, _⟩ := open_fields c.rem n
          have hop := f3 (by simpa using hok) (by omega)
          -- the table gains `opened … n`: `n - opened` placeholders and the stream, `n - opened + 1` numbers to the invariant
          have := hnums.extend hr.opened_nonneg ((n - c.rem.opened).toNat + 1)
          refine (cinv_iff _).2 ⟨remote_inv_step c.rem (.open n) hr, hl, ?_⟩
          rw [List.append_assoc, pnums_append, pnums_block _ _ _ _ (by omega), hop, f1]
          rwa [show c.rem.opened + (((n - c.rem.opened).toNat + 1 : Nat) : Int) = n + 1 by omega] at this
  | localFrame n =>
    simp only [CS.step, CS.localFrame]
    split
    · exact h
    · exact cinv_congr h hr (local_inv_step c.loc (.wasOpened n) hl) rfl rfl rfl
  | newLocal =>
    simp only [CS.step, CS.newLocal]
    have hl' := local_inv_step c.loc .open hl
    simp only [Local.step] at hl'
    split
    · exact cinv_congr h hr hl' (by simp [pnums]) rfl rfl
    · exact cinv_congr h hr hl' rfl rfl rfl
  | peerMax v => exact cinv_congr h hr (local_inv_step c.loc (.setMax v) hl) rfl rfl rfl
  | sendMax =>
    have e1 : c.rem.appendFrame.1.opened = c.rem.opened ∧ c.rem.appendFrame.1.closed = c.rem.closed := by
      unfold Remote.appendFrame; split <;> simp
    exact cinv_congr h (remote_inv_step c.rem .appendFrame hr) hl rfl e1.1 e1.2
  | finish p n d =>
    simp only [CS.step, CS.finish]
    cases hf : find c.tab p n with
    | none => exact h
    | some e =>
      simp only
      split
      · exact h
      · obtain ⟨he, hp, hn⟩ := find_some hf
        split
        · cases p with
          | false => exact cinv_congr h hr hl ((pnums_filter c.tab false n).trans (List.filter_eq_self.2 fun _ _ => rfl)) rfl rfl
          | true =>
            obtain ⟨c1, c2⟩ := close_fields c.rem
            refine (cinv_iff _).2 ⟨remote_inv_step c.rem .close hr, hl, ?_⟩
            show Nums (pnums (c.tab.filter fun x => !(x.peer == true && x.num == n))) c.rem.close.opened c.rem.close.closed
            rw [pnums_filter, c1, c2]
            exact hnums.remove (mem_pnums_of_find hf)
        · exact cinv_congr h hr hl (pnums_replace c.tab (by unfold markDone; split <;> exact ⟨hp, hn⟩)) rfl rfl

theorem cinv_run (ops : List Op) (c : CS) (h : CInv c) : CInv (c.run ops) :=
  Lemmas.foldl_inv CS.step CInv cinv_step ops c h

theorem cs_maxOpen_run (ops : List Op) : ∀ (c : CS), (c.run ops).rem.maxOpen = c.rem.maxOpen := by
  refine fun c => Lemmas.foldl_rel CS.step (fun a b => b.rem.maxOpen = a.rem.maxOpen) (fun _ => rfl)
    (fun _ _ _ f g => g.trans f) (fun c op => ?_) ops c
  rcases step_rem c op with h | ⟨rop, h⟩
  · rw [h]
  · rw [h]
    exact remote_maxOpen_step c.rem rop

/-- C21 on the stream table: after any history the peer-initiated streams in it (implicitly opened ones
included) number at most the configured Max{Bidi,Uni}RemoteStreams. -/
theorem peer_open_count_le_limit (uni : Bool) (cfg : Int) (ops : List Op) :
    (((CS.init uni (maxRemoteStreams cfg)).run ops).peerOpen.length : Int) ≤ maxRemoteStreams cfg := by
  have hi := cinv_run ops _ (cinv_init uni _ (maxRemoteStreams_range cfg).1)
  have hm : ((CS.init uni (maxRemoteStreams cfg)).run ops).rem.maxOpen = maxRemoteStreams cfg := by
    rw [cs_maxOpen_run]; rfl
  have := hi.count
  have h1 := hi.rinv.opened_le_max
  have h2 := hi.rinv.max_le
  unfold pcount at this
  unfold CS.peerOpen
  omega

end Table

section Wire
open NetVerif.Model.StreamWire

abbrev WEv := NetVerif.Model.StreamWire.Ev

/-- MAX_STREAMS values the Conn sent, in order. -/
def maxVals (tr : List WEv) : List Int := tr.filterMap fun | .maxStreams v => some v | _ => none
/-- MAX_STREAMS values the peer sent, in order. -/
def grantVals (tr : List WEv) : List Int := tr.filterMap fun | .peerMax v => some v | _ => none
/-- The limit the peer was last told: the last MAX_STREAMS sent, else the transport parameter. -/
def advAt (a0 : Int) (pre : List WEv) : Int := (maxVals pre).getLast?.getD a0
/-- The largest limit the peer ever granted (stale/reordered MAX_STREAMS are ignored). -/
def grantAt (g0 : Int) (pre : List WEv) : Int := (grantVals pre).foldl max g0
def lcountAt (pre : List WEv) : Int := (pre.filter fun | .localOpen (some _) => true | _ => false).length
/-- Completely closed PEER-initiated streams (locally initiated ones do not count). -/
def ccountAt (pre : List WEv) : Int := (pre.filter fun | .closed => true | _ => false).length

/-- The clauses of C21 for one observed event after the prefix `pre` (one stream type). -/
def GoodAt (st0 : St) (pre : List WEv) : WEv → Prop
  | .peerOpen n err => (err = true ↔ n ≥ advAt st0.adv pre)   -- STREAM_LIMIT_ERROR iff beyond the advertised limit
  | .accepted n => n < advAt st0.adv pre
  | .maxStreams v => advAt st0.adv pre ≤ v ∧                   -- never decreases
      v - (st0.ccount + ccountAt pre) ≤ st0.cfg                -- peer never holds more than configured
  | .localOpen (some n) => n = st0.lcount + lcountAt pre ∧ n < grantAt st0.grant pre
  | .localOpen none => st0.lcount + lcountAt pre ≥ grantAt st0.grant pre   -- blocks only without quota
  | _ => True

private theorem wafter_spec (pre : List WEv) : ∀ (st : St),
    (after st pre).adv = advAt st.adv pre ∧ (after st pre).grant = grantAt st.grant pre ∧
    (after st pre).lcount = st.lcount + lcountAt pre ∧ (after st pre).ccount = st.ccount + ccountAt pre ∧
    (after st pre).cfg = st.cfg := by
  induction pre with
  | nil => intro st; simp [after, advAt, grantAt, lcountAt, ccountAt, maxVals, grantVals]
  | cons e rest ih =>
    intro st
    obtain ⟨a, b, c, d, f⟩ := ih (next st e)
    simp only [after, List.foldl_cons] at a b c d f ⊢
    rw [a, b, c, d, f]
    cases e with
    | maxStreams v =>
      refine ⟨?_, rfl, rfl, rfl, rfl⟩
      show (maxVals rest).getLast?.getD v = (v :: maxVals rest).getLast?.getD st.adv
      rw [List.getLast?_cons, Option.getD_some]
    | localOpen res =>
      cases res with
      | none => exact ⟨rfl, rfl, rfl, rfl, rfl⟩
      | some n =>
        refine ⟨rfl, rfl, ?_, rfl, rfl⟩
        simp [next, lcountAt]; omega
    | closed =>
      refine ⟨rfl, rfl, rfl, ?_, rfl⟩
      simp [next, ccountAt]; omega
    | _ => exact ⟨rfl, rfl, rfl, rfl, rfl⟩

/-- C21, soundness of the wire monitor of the V-tie. -/
theorem wire_monitor_sound (st0 : St) (tr : List WEv) (h : Model.StreamWire.run st0 tr = true) :
    ∀ pre e post, tr = pre ++ e :: post → GoodAt st0 pre e := by
  intro pre e post htr
  subst htr
  have hc : check (after st0 pre) e = true := Lemmas.run_check (fun _ _ _ => rfl) pre st0 e post h
  obtain ⟨a, b, c, d, f⟩ := wafter_spec pre st0
  cases e with
  | peerOpen n err =>
    simp only [check, a] at hc
    simp only [GoodAt]
    have := eq_of_beq hc
    rw [this]; simp
  | accepted n => simp only [check, a, decide_eq_true_eq] at hc; exact hc
  | maxStreams v =>
    simp only [check, a, d, f, Bool.and_eq_true, decide_eq_true_eq] at hc
    exact ⟨hc.1, by omega⟩
  | localOpen res =>
    cases res with
    | none => simp only [check, b, c, decide_eq_true_eq] at hc; exact hc
    | some n => simp only [check, b, c, Bool.and_eq_true, decide_eq_true_eq] at hc; exact hc
  | peerMax v => trivial
  | closed => trivial
  | localClosed => trivial

theorem grantAt_spec (g0 : Int) (pre : List WEv) :
    g0 ≤ grantAt g0 pre ∧ (∀ v ∈ grantVals pre, v ≤ grantAt g0 pre) ∧
    (grantAt g0 pre = g0 ∨ grantAt g0 pre ∈ grantVals pre) := by
  unfold grantAt
  generalize grantVals pre = l
  induction l generalizing g0 with
  | nil => simp
  | cons x xs ih =>
    obtain ⟨a, b, c⟩ := ih (max g0 x)
    simp only [List.foldl_cons, List.mem_cons]
    refine ⟨by omega, ?_, ?_⟩
    · rintro v (rfl | hv)
      · omega
      · exact b v hv
    · rcases c with c | c
      · by_cases hx : g0 ≤ x
        · right; left; rw [c]; omega
        · left; rw [c]; omega
      · exact Or.inr (Or.inr c)

theorem wire_maxStreams_monotone (tr : List WEv) : ∀ (st0 : St), Model.StreamWire.run st0 tr = true →
    (maxVals tr).Pairwise (· ≤ ·) ∧ ∀ v ∈ maxVals tr, st0.adv ≤ v := by
  induction tr with
  | nil => intro st0 _; simp [maxVals]
  | cons e rest ih =>
    intro st0 h
    simp only [Model.StreamWire.run, Bool.and_eq_true] at h
    obtain ⟨h1, h2⟩ := h
    obtain ⟨i1, i2⟩ := ih (next st0 e) h2
    cases e with
    | maxStreams v =>
      simp only [check, Bool.and_eq_true, decide_eq_true_eq] at h1
      simp only [maxVals, List.filterMap_cons] at i1 i2 ⊢
      refine ⟨List.pairwise_cons.2 ⟨fun w hw => by simpa [next] using i2 w hw, i1⟩, ?_⟩
      intro w hw
      rcases List.mem_cons.1 hw with rfl | hw
      · exact h1.1
      · have := i2 w hw; simp only [next] at this; omega
    | localOpen res => cases res <;> exact ⟨i1, i2⟩
    | _ => exact ⟨i1, i2⟩

end Wire

theorem gen_consts :
    Gen.C21.implicitStreamLimit = implicitStreamLimit ∧ Gen.C21.maxStreamsLimit = maxStreamsLimit ∧
    Gen.C21.maxBidiRemoteStreamsDefault = 100 ∧ Gen.C21.maxUniRemoteStreamsDefault = 100 ∧
    Gen.C21.maxBidiRemoteStreamsLimit = maxStreamsLimit ∧ Gen.C21.maxUniRemoteStreamsLimit = maxStreamsLimit := by
  decide

theorem gen_configDefault_eq (v d l : Int) : Gen.C21.configDefault v d l = some (configDefault v d l) := by
  unfold Gen.C21.configDefault configDefault
  repeat' split
  all_goals rfl

theorem gen_remoteInit_eq (a b c maxOpen : Int) :
    Gen.C21.remoteInit a b c maxOpen =
      some ((Remote.init maxOpen).max, (Remote.init maxOpen).opened, (Remote.init maxOpen).maxOpen) := by
  simp [Gen.C21.remoteInit, Remote.init, implicitStreamLimit]

/-- T-tie: the `maybeUpdateMax` translated from stream_limits.go is the model's, field for field. -/
theorem gen_maybeUpdateMax_eq (r : Remote) :
    Gen.C21.maybeUpdateMax r.max r.opened r.closed r.maxOpen (if r.sendUnsent then 1 else 0) =
      some (r.maybeUpdateMax.max, r.maybeUpdateMax.opened, r.maybeUpdateMax.closed, r.maybeUpdateMax.maxOpen,
            if r.maybeUpdateMax.sendUnsent then 1 else 0) := by
  unfold Gen.C21.maybeUpdateMax Remote.maybeUpdateMax Remote.shouldUpdate Remote.newMax implicitStreamLimit
  simp only [decide_eq_true_eq]
  split <;> simp

theorem gen_gateCond_eq (opened max : Int) : Gen.C21.gateCond opened max = some (gateCond opened max) := rfl

theorem gen_localSetMax_eq (l : Local) (m : Int) : Gen.C21.localSetMax l.max m = some (l.setMax m).max := by
  simp [Gen.C21.localSetMax, Local.setMax, Local.unlock]

theorem gen_localConnHasClosed_eq (l : Local) : Gen.C21.localConnHasClosed l.opened = some l.connHasClosed.opened := by
  simp [Gen.C21.localConnHasClosed, Local.connHasClosed, Local.unlock]

theorem gen_localWasOpened_eq (l : Local) (n : Int) : Gen.C21.localWasOpened l.opened n = some (l.wasOpened n).2 := by
  simp [Gen.C21.localWasOpened, Local.wasOpened]

example : (Local.init.run [.setMax 2, .open, .open]).open.2 = OpenRes.blocked := by decide
example : (Local.init.run [.setMax 2, .open]).open.2 = OpenRes.ok 1 := by decide
example : LReachable (Local.init.run [.setMax 2, .open]) := ⟨_, rfl⟩
example : ((Remote.init (maxRemoteStreams 10)).open 10).2 = false := by decide
example : ((Remote.init (maxRemoteStreams 10)).open 9).2 = true := by decide
example : ((Remote.init (maxRemoteStreams 10)).run [.open 9, .close, .close, .close]).max = 13 := by decide
example : Remote.frames (Remote.init (maxRemoteStreams 10)) [.open 9, .close, .appendFrame, .close, .appendFrame] = [11, 12] := by
  decide

end NetVerif.Proofs.C21
