import NetVerif.Model.Bpf
import NetVerif.Model.BpfVM
import NetVerif.Proofs.Lemmas.BpfVM
import NetVerif.Gen.C48
/-!
C49 — the BPF VM computes classic BPF semantics on every packet: `runTyped` (= `VM.Run`) on a program that
`newVM` (= NewVM's acceptance) takes agrees with `runRaw`, a reference classic-BPF interpreter, on the assembled
program; for all programs and all packets, no size bounds.

Without a restriction on the ALU operators the statement is false of the code (`full_false`): NewVM and
Assemble do not validate `ALUOp`, Run treats an unknown operator as a no-op, the assembled opcode is
something else (known finding `aluop-unknown`). The field-type hypotheses `i.WF` of `Statement` and
`holds_partial` are those of the property text; no proof needs them.
-/
namespace NetVerif.Proofs.C49
open NetVerif NetVerif.Model.Bpf NetVerif.Model.BpfVM NetVerif.Proofs.Lemmas.BpfVM

/-- The constants the VM dispatches on are the regenerated constants of constants.go. -/
theorem gen_vm_constants_eq :
    Gen.C48.RegA = regA ∧ Gen.C48.RegX = regX ∧ Gen.C48.ExtLen = extLen ∧
    Gen.C48.ALUOpAdd = aluOpAdd ∧ Gen.C48.ALUOpSub = aluOpSub ∧ Gen.C48.ALUOpMul = aluOpMul ∧
    Gen.C48.ALUOpDiv = aluOpDiv ∧ Gen.C48.ALUOpOr = aluOpOr ∧ Gen.C48.ALUOpAnd = aluOpAnd ∧
    Gen.C48.ALUOpShiftLeft = aluOpShiftLeft ∧ Gen.C48.ALUOpShiftRight = aluOpShiftRight ∧
    Gen.C48.ALUOpMod = aluOpMod ∧ Gen.C48.ALUOpXor = aluOpXor ∧
    Gen.C48.JumpEqual = jumpEqual ∧ Gen.C48.JumpNotEqual = jumpNotEqual ∧
    Gen.C48.JumpGreaterThan = jumpGreaterThan ∧ Gen.C48.JumpLessThan = jumpLessThan ∧
    Gen.C48.JumpGreaterOrEqual = jumpGreaterOrEqual ∧ Gen.C48.JumpLessOrEqual = jumpLessOrEqual ∧
    Gen.C48.JumpBitsSet = jumpBitsSet ∧ Gen.C48.JumpBitsNotSet = jumpBitsNotSet := by
  decide

/-- The termination clause of C49 (jumps go forward), for every program, accepted or not. -/
theorem fuel_sufficient (p : List Instr) (rp : List Raw) (pkt : List Nat) :
    runTyped p pkt ≠ .outOfFuel ∧ runRaw rp pkt ≠ .outOfFuel :=
  ⟨runFuel_fuel stepTyped p pkt p.length 0 State.init (by omega),
   runFuel_fuel stepRaw rp pkt rp.length 0 State.init (by omega)⟩

/-- The "never panics" clause of C49: no Go panic, no "unknown Instruction" error, no running off the end. -/
theorem run_terminates_safely (p : List Instr) (pkt : List Nat) (hvm : newVM p = true)
    (himpl : ∀ i ∈ p, implemented i = true) :
    (∃ v, runTyped p pkt = .ret v) ∨ runTyped p pkt = .halt := by
  exact run_safe p pkt hvm himpl p.length 0 State.init
    (List.length_pos_iff.mpr (newVM_parts p hvm).1) (by omega)

theorem step_refines (i : Instr) (r : Raw) (c : Nat) (s : State) (pkt : List Nat)
    (himpl : implemented i = true) (hk : aluKnown i = true)
    (hc : checkInstr c i = true) (ha : asm i = some r) : stepTyped i s pkt = stepRaw r s pkt :=
  (Lemmas.Bpf.asm_iff.1 ha).step c s pkt himpl hk hc

/-- The equivalence clause of C49 where the code satisfies it: `hk` (the ten exported ALU operators) is what
`full_false` shows cannot be dropped. -/
theorem run_eq_ref_partial (p : List Instr) (pkt : List Nat) (hvm : newVM p = true)
    (himpl : ∀ i ∈ p, implemented i = true) (hk : ∀ i ∈ p, aluKnown i = true) :
    ∃ rp, asmProg p = some rp ∧ runTyped p pkt = runRaw rp pkt := by
  obtain ⟨_, hchk, _, rp, hasm⟩ := newVM_parts p hvm
  obtain ⟨hlen, hget⟩ := Lemmas.Bpf.asmProg_get p rp hasm
  refine ⟨rp, hasm, ?_⟩
  unfold runTyped runRaw
  rw [hlen]
  apply runFuel_congr stepTyped stepRaw p rp pkt hlen
  intro pc i hi
  obtain ⟨r, hr, hrp⟩ := hget pc i hi
  have hmem : i ∈ p := List.mem_of_getElem? hi
  exact ⟨r, hrp, fun s => step_refines i r _ s pkt (himpl i hmem) (hk i hmem) (checkAll_get p hchk pc i hi) hr⟩

/-- The reference machine on the assembled program also returns a verdict or halts (a load past the packet,
division by `X = 0`): it meets no opcode it does not know and does not run off the end. -/
theorem ref_valid_partial (p : List Instr) (pkt : List Nat) (hvm : newVM p = true)
    (himpl : ∀ i ∈ p, implemented i = true) (hk : ∀ i ∈ p, aluKnown i = true) :
    ∃ rp, asmProg p = some rp ∧ ((∃ v, runRaw rp pkt = .ret v) ∨ runRaw rp pkt = .halt) := by
  obtain ⟨rp, h1, h2⟩ := run_eq_ref_partial p pkt hvm himpl hk
  exact ⟨rp, h1, h2 ▸ run_terminates_safely p pkt hvm himpl⟩

/-- C49 as stated: every accepted program without NegateA (and without pass-through RawInstructions). -/
def Statement : Prop :=
  ∀ (p : List Instr) (pkt : List Nat), newVM p = true → (∀ i ∈ p, i.WF ∧ implemented i = true) →
    ((∃ v, runTyped p pkt = .ret v) ∨ runTyped p pkt = .halt) ∧
    ∃ rp, asmProg p = some rp ∧ runTyped p pkt = runRaw rp pkt

/-- Witness: `[LoadConstant A 1, LoadConstant X 2, ALUOpConstant{Op: 8, Val: 5}, RetA]` is accepted; Run
returns 1 (unknown operator = no-op); the program assembles to `ld #1; ldx #2; add x; ret a`, which
returns 3. -/
theorem witness_aluop :
    newVM [.loadConstant 0 1, .loadConstant 1 2, .aluOpConstant 8 5, .retA] = true ∧
    runTyped [.loadConstant 0 1, .loadConstant 1 2, .aluOpConstant 8 5, .retA] [] = .ret 1 ∧
    asmProg [.loadConstant 0 1, .loadConstant 1 2, .aluOpConstant 8 5, .retA] =
      some [⟨0x00, 0, 0, 1⟩, ⟨0x01, 0, 0, 2⟩, ⟨0x0c, 0, 0, 5⟩, ⟨0x16, 0, 0, 0⟩] ∧
    runRaw [⟨0x00, 0, 0, 1⟩, ⟨0x01, 0, 0, 2⟩, ⟨0x0c, 0, 0, 5⟩, ⟨0x16, 0, 0, 0⟩] [] = .ret 3 := by
  decide

theorem full_false : ¬ Statement := by
  intro h
  obtain ⟨_, rp, h1, h2⟩ := h [.loadConstant 0 1, .loadConstant 1 2, .aluOpConstant 8 5, .retA] []
    (by decide) (by decide)
  obtain ⟨_, w2, w3, w4⟩ := witness_aluop
  rw [w3] at h1
  cases h1
  rw [w2, w4] at h2
  exact absurd h2 (by decide)

/-- C49 with the excluded region as a decidable predicate (`aluKnown`). -/
theorem holds_partial (p : List Instr) (pkt : List Nat) (hvm : newVM p = true)
    (himpl : ∀ i ∈ p, i.WF ∧ implemented i = true) (hk : ∀ i ∈ p, aluKnown i = true) :
    ((∃ v, runTyped p pkt = .ret v) ∨ runTyped p pkt = .halt) ∧
    ∃ rp, asmProg p = some rp ∧ runTyped p pkt = runRaw rp pkt :=
  ⟨run_terminates_safely p pkt hvm (fun i hi => (himpl i hi).2),
   run_eq_ref_partial p pkt hvm (fun i hi => (himpl i hi).2) hk⟩

/-! `VM.run` is defined as `(v, runTyped v.filter pkt)`: that `Run` keeps nothing between calls is a decision
of the model, tied to the Go code by the D-tie (several `Run` calls on one VM per case). The theorems below
say what that definition means for a history of calls. -/

theorem run_preserves_vm (v : VM) (pkt : List Nat) : (v.run pkt).1 = v := rfl

theorem runSeq_eq_map (v : VM) (pkts : List (List Nat)) : v.runSeq pkts = pkts.map (runTyped v.filter) := by
  induction pkts generalizing v with
  | nil => rfl
  | cons pkt rest ih => simp [VM.runSeq, VM.run, ih]

theorem run_independent_of_history (v : VM) (history : List (List Nat)) (pkt : List Nat) :
    (v.runSeq (history ++ [pkt])).getLast? = some (runTyped v.filter pkt) := by
  simp [runSeq_eq_map]

/-- `regScratch` is a local of `VM.Run`, zero at every call. `.ret 0` is also what an untouched A gives, so
this alone does not tell a zero `M[n]` from a load that did nothing; the `example` below does. -/
theorem fresh_scratch_zero (dst : Nat) (n : Int) (pkt : List Nat) (h0 : 0 ≤ n) (h1 : n < 16)
    (hd : dst = regA) : runTyped [.loadScratch dst n, .retA] pkt = .ret 0 := by
  subst hd
  simp [runTyped, runFuel, stepTyped, State.init, h0, h1]

/-- Scratch memory does not leak between runs: `if pkt[0] == 1 { M[5] = 1500 }; return M[5]` run on
`[0,0xaa]`, `[1,0xaa]`, `[0,0xaa]` returns 0, 1500, 0. -/
example : VM.runSeq ⟨[.loadAbsolute 0 1, .jumpIf jumpNotEqual 1 2 0, .loadConstant 0 1500, .storeScratch 0 5,
    .loadScratch 0 5, .retA]⟩ [[0, 0xaa], [1, 0xaa], [0, 0xaa]] = [.ret 0, .ret 1500, .ret 0] := by decide

/-- An accepted program (IPv4/TCP-port style filter) with every kind of implemented instruction except
`LoadConstant` and `Jump`, run on a packet: `VM.Run` returns the verdict 65535, and so does the reference
machine by `run_eq_ref_partial`. -/
example :
    let p : List Instr := [.loadAbsolute 0 1, .aluOpConstant aluOpAnd 0xf0, .jumpIf jumpNotEqual 0x40 11 0,
      .loadMemShift 0, .loadIndirect 2 2, .jumpIf jumpEqual 80 0 8, .storeScratch 0 3, .loadExtension 1,
      .tax, .loadScratch 0 3, .aluOpX aluOpAdd, .jumpIfX jumpGreaterThan 1 0, .txa, .aluOpConstant aluOpShiftLeft 33,
      .retConstant 0xffff, .retA]
    newVM p = true ∧ p.all (fun i => implemented i && aluKnown i && decide i.WF) = true ∧
    runTyped p [0x45, 0, 0, 0, 0, 0, 0, 0, 0, 0, 0, 0, 0, 0, 0, 0, 0, 0, 0, 0, 0, 0, 0, 80] = .ret 65535 := by
  decide

end NetVerif.Proofs.C49
