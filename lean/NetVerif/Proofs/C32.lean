import NetVerif.Model.QuicStream
import NetVerif.Model.QuicMonitor
import NetVerif.Gen.C20
import NetVerif.Proofs.Lemmas.QuicMonitor
import NetVerif.Proofs.C20
/-! C32: QUIC stream resets carry consistent final sizes. On the stream model of C19 / C20: after `resetInternal` no
STREAM frame is emitted and RESET_STREAM carries `outmaxsent`, which the send path keeps at or above the end of
every STREAM record emitted (`C20.appendOutFrames_post`); `checkStreamBounds` answers FINAL_SIZE_ERROR exactly for
the three contradictions; after a reset `Read` errors and never reports EOF (the error on the slow path: bytes
still parked in the lock-free buffer are handed out first). -/
namespace NetVerif.Proofs.C32
open NetVerif.Model NetVerif.Model.QuicStream

/-! T-tie: the generated file is shared with C20 (`Gen/C20.lean`). -/
theorem gen_checkStreamBounds_eq (inwin insize inEnd e : Int) (fin : Bool) :
    Gen.C20.checkStreamBounds inwin insize inEnd e fin = some (checkStreamBounds inwin insize inEnd e fin) :=
  C20.gen_checkStreamBounds_eq inwin insize inEnd e fin

theorem gen_errFinalSize : Gen.C20.errFinalSize = errFinalSize := by decide

/-- C32: FINAL_SIZE_ERROR exactly for the three contradictions (within the stream window):
data past a known final size, a changed final size, a final size below data already received. -/
theorem checkStreamBounds_final_iff (inwin insize inEnd e : Int) (fin : Bool) (hw : e ≤ inwin) :
    checkStreamBounds inwin insize inEnd e fin = errFinalSize ↔
      ((insize ≠ -1 ∧ e > insize) ∨ (fin = true ∧ insize ≠ -1 ∧ e ≠ insize) ∨ (fin = true ∧ e < inEnd)) := by
  rw [Lemmas.QuicRecv.checkStreamBounds_eq, if_neg (Int.not_lt.2 hw)]
  split
  · rename_i h; exact ⟨fun _ => h, fun _ => rfl⟩
  · rename_i h; exact ⟨fun h' => absurd h' (by decide), fun h' => absurd h' h⟩

theorem checkStreamBounds_window_first (inwin insize inEnd e : Int) (fin : Bool) (hw : e > inwin) :
    checkStreamBounds inwin insize inEnd e fin = errFlowControl := by
  rw [Lemmas.QuicRecv.checkStreamBounds_eq, if_pos hw]

theorem checkStreamBounds_codes (inwin insize inEnd e : Int) (fin : Bool) :
    checkStreamBounds inwin insize inEnd e fin = 0 ∨ checkStreamBounds inwin insize inEnd e fin = errFlowControl ∨
      checkStreamBounds inwin insize inEnd e fin = errFinalSize := by
  rw [Lemmas.QuicRecv.checkStreamBounds_eq]
  split
  · exact Or.inr (Or.inl rfl)
  · split
    · exact Or.inr (Or.inr rfl)
    · exact Or.inl rfl

theorem handleReset_records (c : Conn) (s : Stream) (code final : Int)
    (h0 : (handleReset c s code final).2.2 = 0) (hr : s.inresetcode = -1) :
    (handleReset c s code final).2.1.inresetcode = code ∧ (handleReset c s code final).2.1.insize = final ∧
      checkStreamBounds s.inwin s.insize s.inp.stop final true = 0 := by
  obtain ⟨h1, h2, _⟩ := C20.handleReset_accepted c s code final h0 hr
  rw [h2]; exact ⟨rfl, rfl, h1⟩

/-- C32: after a reset was recorded `Read` never reports EOF; once the lock-free buffer is drained (slow path) it
fails with the reset error. -/
theorem read_after_reset (c : Conn) (s : Stream) (n : Nat) (hr : s.inresetcode ≠ -1) (hw : s.writeOnly = false) :
    (s.inbuf.length ≤ s.inbufoff → (read c s n).2.2 = .errReset) ∧
    (∀ b, (read c s n).2.2 ≠ .data b true) ∧ (read c s n).2.2 ≠ .eof := by
  by_cases hf : s.inbuf.length > s.inbufoff
  · rw [Lemmas.QuicRecv.read_eq_fast hw hf]
    exact ⟨fun hle => absurd hf (Nat.not_lt.2 hle), fun b hb => (by cases hb), ReadRes.noConfusion⟩
  · rw [Lemmas.QuicRecv.read_closed hw hf (Or.inr hr), if_pos hr]
    exact ⟨fun _ => rfl, fun b => ReadRes.noConfusion, ReadRes.noConfusion⟩

/-- Repaired code (`discardInbufLocked`): an accepted first RESET_STREAM empties `inbuf`, so a later `Read` fails
with the reset error at once and cannot hand out bytes through a buffer the pipe has released. -/
theorem handleReset_clears_inbuf (c : Conn) (s : Stream) (code final : Int)
    (h0 : (handleReset c s code final).2.2 = 0) (hr : s.inresetcode = -1) (hcode : code ≠ -1)
    (hw : s.writeOnly = false) (c' : Conn) (n : Nat) :
    (handleReset c s code final).2.1.inbuf = [] ∧ (handleReset c s code final).2.1.inbufoff = 0 ∧
      (QuicStream.read c' (handleReset c s code final).2.1 n).2.2 = .errReset := by
  rw [(C20.handleReset_accepted c s code final h0 hr).2.1]
  refine ⟨rfl, rfl, (read_after_reset c' _ n ?_ ?_).1 ?_⟩
  · exact hcode
  · exact hw
  · exact Nat.le_refl 0

/-- C32: `resetInternal` (Reset or STOP_SENDING) leaves `outmaxsent`, the final size RESET_STREAM will carry,
untouched. -/
theorem resetInternal_spec (s : Stream) (code : Int) (u : Bool) (hro : s.readOnly = false) :
    (resetInternal s code u).outreset.isSet = true ∧ (resetInternal s code u).outmaxsent = s.outmaxsent ∧
      (s.outreset.isSet = false → (resetInternal s code u).outunsent = []) :=
  have h := Lemmas.QuicSendPath.resetInternal_fields s code u
  ⟨(h.2.2.2 hro).1, h.1, (h.2.2.2 hro).2⟩

/-- C32: once the stream is reset, `appendOutFramesLocked` emits no STREAM frame; the only frame it can add is
RESET_STREAM, whose final size is `outmaxsent`. -/
theorem appendOutFrames_after_reset (c : Conn) (s : Stream) (w : Writer) (pn : Int) (pto : Bool)
    (hr : s.outreset.isSet = true) :
    let r := appendOutFrames c s w pn pto
    (r.2.2.1.frames = w.frames ∨ r.2.2.1.frames = w.frames ++ [.resetStream s.id s.outresetcode s.outmaxsent]) ∧
      r.2.1.outmaxsent = s.outmaxsent ∧ r.1 = c ∧ r.2.1.outreset.isSet = true := by
  unfold appendOutFrames
  rw [if_pos hr]
  by_cases h1 : s.outreset.shouldSendPTO pto = true
  case neg => rw [if_neg h1]; exact ⟨Or.inl rfl, rfl, rfl, hr⟩
  rw [if_pos h1]
  unfold Writer.resetStream
  by_cases h2 : w.avail < 1 + szv s.id + szv s.outresetcode + szv s.outmaxsent
  · rw [if_pos h2]; exact ⟨Or.inl rfl, rfl, rfl, hr⟩
  · rw [if_neg h2]
    -- the frame is written: `outreset` becomes `.sent pn`, and `frameOpensStream` touches `outopened` alone
    obtain ⟨_, hms, _, _, _, _, hrs⟩ := (Lemmas.QuicSendPath.same_opens (s := { s with outreset := .sent pn })
      ⟨rfl, rfl, Int.le_refl _⟩ pn).fields
    exact ⟨Or.inr rfl, hms, rfl, by rw [hrs]; rfl⟩

/-- So no later call re-enters the STREAM loop. -/
theorem reset_sticky (s : Stream) (pn st en : Int) (fin acked : Bool) (r : Rec) (hr : s.outreset.isSet = true) :
    (ackOrLossData s pn st en fin acked).outreset.isSet = true ∧ (ackOrLoss s pn r acked).outreset.isSet = true ∧
    (ackOrLossData s pn st en fin acked).outmaxsent = s.outmaxsent ∧ (ackOrLoss s pn r acked).outmaxsent = s.outmaxsent := by
  obtain ⟨_, hms, _, _, _, _, hrs⟩ := (Lemmas.QuicSendPath.ackOrLossData_reset s pn st en fin acked hr).fields
  refine ⟨by rw [hrs]; exact hr, ?_, hms, by cases r <;> rfl⟩
  cases r with
  | reset _ =>
    -- the fate of a RESET_STREAM frame moves `outreset` between set states only
    show (s.outreset.ackOrLoss pn acked).isSet = true
    unfold SV.ackOrLoss
    split
    · rfl
    · split
      · rfl
      · exact hr
  | _ => exact hr

open NetVerif.Model.QuicMonitor in
/-- C32 on the wire. `highSent`: the monitor's running maximum of the ends of the sender's STREAM frames of that
stream over the events before; that it bounds each of them is not proved. -/
theorem monitor_sound (tr : List Ev) (h : accepts 32 tr = true) :
    (∀ pre suf s id final, tr = pre ++ .txReset s id final :: suf →
        final = highSent pre s id ∧ ∀ f ∈ txResetFinals pre s id, f = final) ∧
    (∀ pre suf s id off len fin, tr = pre ++ .txStream s id off len fin :: suf → hasTxReset pre s id = false) ∧
    (∀ pre suf s id, tr = pre ++ .eof s id :: suf → hasRxReset pre s id = false) := by
  have hall := (NetVerif.Proofs.Lemmas.QuicMonitor.accepts_iff 32 tr).1 h
  refine ⟨?_, ?_, ?_⟩
  · exact fun pre suf s id final heq => by simpa [okEv] using hall pre _ suf heq
  · intro pre suf s id off len fin heq
    have : (0 ≤ off ∧ 0 ≤ len) ∧ hasTxReset pre s id = false := by simpa [okEv] using hall pre _ suf heq
    exact this.2
  · exact fun pre suf s id heq => by simpa [okEv] using hall pre _ suf heq

end NetVerif.Proofs.C32
