import NetVerif.Proofs.C14
import NetVerif.Proofs.C06
/-!
C14 — the message round trip through the 9-byte framing of `Model/H2Frame.lean`.

`encodeMessage σ m` = header block (abstract lawful codec) ∘ `splitHeaderBlock` ∘ DATA chunking ∘
`Framer.WriteHeaders/WriteContinuation/WriteData`; `decodeMessage` = `Framer.ReadFrame` until the
bytes are exhausted ∘ the receive state machine. The per-frame facts are C06's theorems
(`headers_roundtrip`, `continuation_roundtrip`, `data_roundtrip`).
-/
namespace NetVerif.Proofs.C14
open NetVerif NetVerif.Model.H2Frame NetVerif.Model.H2Msg NetVerif.Proofs.H2MsgLemmas
open NetVerif.Proofs.H2FrameLemmas NetVerif.Proofs.C06

/-- `checkFrameOrder` on stream frames (stream id ≠ 0): the `lastHeaderStream` the Framer must have
to accept the frame — 0 between header blocks, the stream id inside one … -/
def needs : SFrame → Nat
  | .continuation sid _ _ => sid
  | _ => 0

/-- … and the one it has afterwards. -/
def leaves : SFrame → Nat
  | .data _ _ _ => 0
  | f => if f.endHeaders then 0 else f.sid

/-- where the Framer ends up if it accepts the whole sequence. -/
def ordered : Nat → List SFrame → Option Nat
  | last, [] => some last
  | last, f :: fs => if needs f = last then ordered (leaves f) fs else none

theorem ordered_append {fs gs : List SFrame} {a b c : Nat} (h1 : ordered a fs = some b)
    (h2 : ordered b gs = some c) : ordered a (fs ++ gs) = some c := by
  fun_induction ordered a fs with
  | case1 => cases h1; exact h2
  | case2 f fs ih => rw [List.cons_append, ordered, if_pos rfl]; exact ih h1
  | case3 => cases h1

/-- stream ids the Framer accepts (`validStreamID`): non-zero, 31 bits. -/
def ValidSid (sid : Nat) : Prop := sid ≠ 0 ∧ sid < 2147483648

private theorem frameBytes_exists (t fl sid : Nat) (payload : List Nat) (h : payload.length < 16777216) :
    ∃ bs, frameBytes t fl sid payload = .ok bs ∧ bs.length = payload.length + 9 :=
  ⟨_, if_neg (Nat.not_le.mpr h), rfl⟩

private theorem validSid_bool {sid : Nat} (h : ValidSid sid) : validStreamID sid = true := by
  obtain ⟨h0, h1⟩ := h
  simp [validStreamID, h0, h1]

private theorem flags_cont (eh : Bool) : hasFlag (b2n eh flagEndHeaders) flagEndHeaders = eh := by
  cases eh <;> decide

private theorem flags_data (es : Bool) :
    hasFlag (b2n es flagEndStream + b2n false flagPadded) flagEndStream = es := by
  cases es <;> decide

/-- 16777216 = 2^24: the length field of the frame header has 24 bits (`frameBytes` answers
`ErrFrameTooLarge` beyond). -/
theorem sframe_readsBack (f : SFrame) (hs : ValidSid f.sid) (hl : f.len < 16777216) :
    ∃ b F, f.bytes = .ok b ∧ b.length = f.len + 9 ∧ ReadsBack b (needs f) (leaves f) F ∧
      ofFrame F = some f := by
  have hv := validSid_bool hs
  cases f with
  | headers sid es eh frag =>
    obtain ⟨b, hb, hlen⟩ := frameBytes_exists frameHeaders (headersFlags es eh 0 {}) sid frag hl
    have hw : writeHeaders sid frag es eh 0 {} = .ok b := by
      simp [writeHeaders, show validStreamID sid = true from hv, PriorityParam.isZero, ← hb, headersFlags]
    exact ⟨b, _, hw, hlen, headers_roundtrip sid frag es eh 0 {} b hw,
      by simp [ofFrame, (hasFlag_headersFlags es eh 0 {}).2.1, (hasFlag_headersFlags es eh 0 {}).2.2.1]⟩
  | continuation sid eh frag =>
    obtain ⟨b, hb, hlen⟩ := frameBytes_exists frameContinuation (b2n eh flagEndHeaders) sid frag hl
    have hw : writeContinuation sid eh frag = .ok b := by
      simp [writeContinuation, show validStreamID sid = true from hv, ← hb]
    exact ⟨b, _, hw, hlen, continuation_roundtrip sid eh frag b hw, by simp [ofFrame, flags_cont eh]⟩
  | data sid es p =>
    obtain ⟨b, hb, hlen⟩ := frameBytes_exists frameData (b2n es flagEndStream) sid p hl
    have hw : writeData sid es p none = .ok b := by
      simp [writeData, show validStreamID sid = true from hv, ← hb]
    exact ⟨b, _, hw, hlen, data_roundtrip sid es p none b hw, by simp [ofFrame, flags_data es]⟩

theorem readAll_framesBytes {fs : List SFrame} {last last' : Nat}
    (hv : ∀ f ∈ fs, ValidSid f.sid ∧ f.len < 16777216) (ho : ordered last fs = some last') :
    ∃ bs, framesBytes fs = .ok bs ∧ fs.length ≤ bs.length ∧
      ∀ (fr : Framer) (fuel : Nat), fr.lastHeaderStream = last → (∀ f ∈ fs, f.len ≤ fr.maxReadSize) →
        fs.length ≤ fuel → readAll fuel fr bs = some fs := by
  fun_induction ordered last fs with
  | case1 last =>
    refine ⟨[], rfl, Nat.le_refl _, fun fr fuel _ _ _ => ?_⟩
    cases fuel <;> rfl
  | case2 f fs ih =>
    obtain ⟨hvs, hvl⟩ := hv f (List.mem_cons_self ..)
    obtain ⟨b, F, hb, hblen, hF, hof⟩ := sframe_readsBack f hvs hvl
    obtain ⟨bs, hbs, hbl, hread⟩ := ih (fun g hg => hv g (List.mem_cons_of_mem _ hg)) ho
    refine ⟨b ++ bs, by rw [framesBytes, hb, hbs], by rw [List.length_append, List.length_cons]; omega, ?_⟩
    intro fr fuel hfr hmax hfuel
    cases fuel with
    | zero => cases hfuel
    | succ n =>
      have hne : (b ++ bs).isEmpty = false := by
        cases b with
        | nil => cases hblen
        | cons _ _ => rfl
      have h1 := hF fr bs hfr (by have := hmax f (List.mem_cons_self ..); omega)
      simp only [readAll, hne, Bool.false_eq_true, ↓reduceIte, h1, hof]
      rw [hread { fr with lastHeaderStream := leaves f } n rfl
        (fun g hg => hmax g (List.mem_cons_of_mem _ hg)) (Nat.le_of_succ_le_succ hfuel)]
  | case3 => cases ho

/-- frames on stream `sid`, payload ≤ `lim`, leaving the Framer between header blocks. -/
def Good (sid lim : Nat) (fs : List SFrame) : Prop :=
  (∀ f ∈ fs, f.sid = sid ∧ f.len ≤ lim) ∧ ordered 0 fs = some 0

theorem good_nil (sid lim : Nat) : Good sid lim [] := ⟨fun _ h => (nomatch h), rfl⟩

theorem good_append {sid lim : Nat} {fs gs : List SFrame} (h1 : Good sid lim fs) (h2 : Good sid lim gs) :
    Good sid lim (fs ++ gs) :=
  ⟨List.forall_mem_append.mpr ⟨h1.1, h2.1⟩, ordered_append h1.2 h2.2⟩

private theorem ordered_cont (sid : Nat) (frs : List Bytes) (hne : frs ≠ []) :
    ordered sid (contFrames sid frs) = some 0 := by
  fun_induction contFrames sid frs with
  | case1 => exact absurd rfl hne
  | case2 => simp [ordered, needs, leaves, SFrame.endHeaders]
  | case3 _ _ _ ih => simp [ordered, needs, leaves, SFrame.endHeaders, SFrame.sid, ih]

theorem good_headerBlock (sid : Nat) (es : Bool) (max : Nat) (hmax : 0 < max) (lim : Nat)
    (hlim : max ≤ lim) (hb : Bytes) : Good sid lim (writeHeaderBlock sid es max hb) := by
  unfold writeHeaderBlock
  refine ⟨fun f hf => ?_, ?_⟩
  · obtain ⟨h1, h2, h3, _⟩ := mem_headerFrames hf
    exact ⟨h1, h3 ▸ Nat.le_trans (fragments_bounded max hmax hb _ h2).2 hlim⟩
  · cases splitBlock max hb with
    | nil => rfl
    | cons a rest =>
      cases rest with
      | nil => rfl
      | cons b rest' =>
        have := ordered_cont sid (b :: rest') (List.cons_ne_nil _ _)
        simp [headerFrames, ordered, needs, leaves, SFrame.endHeaders, SFrame.sid, this]

theorem good_dataFrames (sid lim : Nat) (e : Bool) (chs : List Bytes) (h : ∀ c ∈ chs, c.length ≤ lim) :
    Good sid lim (dataFrames sid e chs) := by
  fun_induction dataFrames sid e chs with
  | case1 => exact good_nil sid lim
  | case2 c => exact ⟨List.forall_mem_singleton.mpr ⟨rfl, h c (List.mem_singleton_self c)⟩, rfl⟩
  | case3 c _ _ ih =>
    have ih := ih fun x hx => h x (List.mem_cons_of_mem _ hx)
    exact ⟨List.forall_mem_cons.mpr ⟨⟨rfl, h c (List.mem_cons_self ..)⟩, ih.1⟩, ih.2⟩

theorem good_encodeFrames (C : Codec) (s : C.S) (p : Plan) (hh : 0 < p.maxHdr)
    (hd : 0 < p.maxData) (lim : Nat) (hlh : p.maxHdr ≤ lim) (hld : p.maxData ≤ lim) (m : Msg) :
    Good p.sid lim (encodeFrames C s p m).1 := by
  have hchunks : ∀ c ∈ chunks p.maxData p.cuts m.body, c.length ≤ lim := fun c hc =>
    Nat.le_trans (data_chunks_bounded p.maxData hd p.cuts m.body c hc) hld
  have gH := fun es hb => good_headerBlock p.sid es p.maxHdr hh lim hlh hb
  have gD := fun e => good_dataFrames p.sid lim e _ hchunks
  have gE : Good p.sid lim [SFrame.data p.sid true []] :=
    ⟨List.forall_mem_singleton.mpr ⟨rfl, Nat.zero_le _⟩, rfl⟩
  have ite := @Lemmas.ite_ind _ (fun X : List SFrame × C.S => Good p.sid lim X.1)
  unfold encodeFrames
  dsimp only
  exact ite
    (fun _ => ite (fun _ => gH _ _) fun _ =>
      ite (fun _ => good_append (good_append (gH _ _) (gD _)) gE) fun _ => good_append (gH _ _) (gD _))
    fun _ => good_append (good_append (gH _ _) (gD _)) (gH _ _)

/-- `decodeMessage (encodeMessage σ m) = m` for all settings σ, C14 at the byte level. The fragment and
DATA limits are within the receiver's `MaxReadFrameSize`, itself ≤ 2^24-1. -/
theorem decodeMessage_encodeMessage (C : Codec) (sync : C.S → C.D → Prop) (hC : Lawful C sync)
    (s : C.S) (d : C.D) (hsy : sync s d) (p : Plan) (hsid : ValidSid p.sid)
    (hh : 0 < p.maxHdr) (hd : 0 < p.maxData) (maxRead : Nat) (hmr : maxRead ≤ 16777215)
    (hlh : p.maxHdr ≤ maxRead) (hld : p.maxData ≤ maxRead) (m : Msg) (hm : m.headers ≠ []) :
    ∃ bs d', (encodeMessage C s p m).1 = .ok bs ∧
      decodeMessage C.dec d maxRead p.sid bs = some (m, d') ∧ sync (encodeMessage C s p m).2 d' := by
  obtain ⟨d', hdec, hs'⟩ := decode_encode C sync hC s d hsy p hh hd m hm
  have hg := good_encodeFrames C s p hh hd maxRead hlh hld m
  have hvalid : ∀ f ∈ (encodeFrames C s p m).1, ValidSid f.sid ∧ f.len < 16777216 := fun f hf =>
    ⟨(hg.1 f hf).1 ▸ hsid, Nat.lt_succ_of_le (Nat.le_trans (hg.1 f hf).2 hmr)⟩
  obtain ⟨bs, hbs, hfuel, hread⟩ := readAll_framesBytes hvalid hg.2
  refine ⟨bs, d', hbs, ?_, hs'⟩
  unfold decodeMessage
  have hmrs : setMaxReadFrameSize maxRead = maxRead := if_neg (Nat.not_lt.mpr hmr)
  rw [hread { maxReadSize := setMaxReadFrameSize maxRead } bs.length rfl
    (fun f hf => by rw [hmrs]; exact (hg.1 f hf).2) hfuel]
  exact hdec

/-- non-vacuity: the concrete lawful codec, a message with CONTINUATION, cuts and trailers,
through the bytes. -/
example : ∃ bs, (encodeMessage simpleCodec () { sid := 3, maxHdr := 4, maxData := 3, cuts := [1, 5] }
      { headers := [⟨[58, 109], [71]⟩, ⟨[120], [1, 2, 3]⟩], body := [9, 8, 7, 6, 5], trailers := [⟨[116], [0]⟩] }).1 = .ok bs ∧
    decodeMessage simpleCodec.dec () 16384 3 bs =
      some ({ headers := [⟨[58, 109], [71]⟩, ⟨[120], [1, 2, 3]⟩], body := [9, 8, 7, 6, 5], trailers := [⟨[116], [0]⟩] }, ()) := by
  obtain ⟨bs, _, h1, h2, _⟩ := decodeMessage_encodeMessage simpleCodec (fun _ _ => True) simpleCodec_lawful () () trivial
    { sid := 3, maxHdr := 4, maxData := 3, cuts := [1, 5] } ⟨by decide, by decide⟩ (by decide) (by decide) 16384
    (by decide) (by decide) (by decide)
    { headers := [⟨[58, 109], [71]⟩, ⟨[120], [1, 2, 3]⟩], body := [9, 8, 7, 6, 5], trailers := [⟨[116], [0]⟩] }
    (List.cons_ne_nil _ _)
  exact ⟨bs, h1, h2⟩

end NetVerif.Proofs.C14
