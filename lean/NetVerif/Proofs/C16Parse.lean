import NetVerif.Proofs.Lemmas.H2Frame
/-!
C16 — totality of the inbound frame decoder: over arbitrary header fields and arbitrary payload
bytes the checked model of `http2/frame.go`'s parsers never performs an out-of-range slice or
index (`none`), for every type, flag combination, stream id and length; the byte stream is cut
into frames deterministically, each `ReadFrame` consuming exactly `9 + Length` bytes or reporting
short input.
-/
namespace NetVerif.Proofs.C16Parse
open NetVerif.Model.H2Frame (FrameHeader Frame RErr hasFlag flagPadded flagPriority flagAck
  errCodeProtocol errCodeFrameSize errCodeFlowControl frameHeaderLen)
open NetVerif.Model.H2FrameParse

theorem slice_eq_some {p : List Nat} {lo hi : Int} (h0 : 0 ≤ lo) (h1 : lo ≤ hi) (h2 : hi ≤ p.length) :
    slice p lo hi = some ((p.drop lo.toNat).take (hi.toNat - lo.toNat)) := by
  unfold slice
  simp [h0, h1, h2]

theorem slice_eq_none_iff {p : List Nat} {lo hi : Int} :
    slice p lo hi = none ↔ ¬ (0 ≤ lo ∧ lo ≤ hi ∧ hi ≤ p.length) := by
  unfold slice
  split <;> simp_all

theorem slice_length {p s : List Nat} {lo hi : Int} (h : slice p lo hi = some s) :
    (s.length : Int) = hi - lo := by
  unfold slice at h
  split at h
  · rename_i hc
    cases h
    simp only [List.length_take, List.length_drop]
    omega
  · cases h

theorem sliceTo_eq {p : List Nat} {n : Int} (h0 : 0 ≤ n) (h : n ≤ p.length) :
    sliceTo p n = some (p.take n.toNat) := by
  rw [sliceTo, slice_eq_some (Int.le_refl 0) h0 h]
  simp

theorem sliceFrom_eq {p : List Nat} {n : Int} (h0 : 0 ≤ n) (h : n ≤ p.length) :
    sliceFrom p n = some (p.drop n.toNat) := by
  rw [sliceFrom, slice_eq_some h0 h (Int.le_refl _), List.take_of_length_le]
  simp

theorem idx_eq_some {p : List Nat} {i : Int} (h0 : 0 ≤ i) (h1 : i < p.length) :
    idx p i = some (p.getD i.toNat 0) := by
  unfold idx
  simp [h0, h1]

theorem idx_eq_none_iff {p : List Nat} {i : Int} : idx p i = none ↔ ¬ (0 ≤ i ∧ i < p.length) := by
  unfold idx
  split <;> simp_all

theorem u32_isSome {b : List Nat} (h : 4 ≤ b.length) : ∃ v, u32 b = some v := by
  simp (disch := omega) [u32, idx_eq_some]

theorem u16_isSome {b : List Nat} (h : 2 ≤ b.length) : ∃ v, u16 b = some v := by
  simp (disch := omega) [u16, idx_eq_some]

theorem readByte_nil : readByte [] = some (.error .unexpectedEOF) := by
  simp [readByte]

theorem readByte_cons (b : Nat) (rest : List Nat) : readByte (b :: rest) = some (.ok (rest, b)) := by
  simp [readByte, sliceFrom_eq (p := b :: rest) (n := 1) (by omega) (by simp; omega), idx]

theorem readByte_spec (p : List Nat) :
    (p.length = 0 ∧ readByte p = some (.error .unexpectedEOF)) ∨
    (∃ rest b, readByte p = some (.ok (rest, b)) ∧ rest.length + 1 = p.length) := by
  cases p with
  | nil => exact .inl ⟨rfl, readByte_nil⟩
  | cons b rest => exact .inr ⟨rest, b, readByte_cons b rest, rfl⟩

theorem u32_4 (a b c d : Nat) : u32 [a, b, c, d] = some (NetVerif.Model.H2Frame.rd32 a b c d) := by
  simp [u32, idx]

theorem sliceTo_4 (a b c d : Nat) (rest : List Nat) : sliceTo (a :: b :: c :: d :: rest) 4 = some [a, b, c, d] := by
  simp [sliceTo_eq (p := a :: b :: c :: d :: rest) (n := 4) (by omega) (by simp; omega)]

theorem readUint32_cons (a b c d : Nat) (rest : List Nat) :
    readUint32 (a :: b :: c :: d :: rest) = some (.ok (rest, NetVerif.Model.H2Frame.rd32 a b c d)) := by
  simp [readUint32, sliceFrom_eq (p := a :: b :: c :: d :: rest) (n := 4) (by omega) (by simp; omega), sliceTo_4,
    u32_4]

theorem readUint32_short (p : List Nat) (h : p.length < 4) : readUint32 p = some (.error .unexpectedEOF) := by
  simp [readUint32, h]

theorem readUint32_spec (p : List Nat) :
    (p.length < 4 ∧ readUint32 p = some (.error .unexpectedEOF)) ∨
    (∃ rest v, readUint32 p = some (.ok (rest, v)) ∧ rest.length + 4 = p.length) := by
  match p with
  | a :: b :: c :: d :: rest => exact .inr ⟨rest, _, readUint32_cons a b c d rest, rfl⟩
  | [] | [_] | [_, _] | [_, _, _] => exact .inl ⟨by simp, readUint32_short _ (by simp)⟩

/-- `p[:len(p)-n]` is in range exactly when `n ≤ len(p)` — the guard both pad checks establish -/
theorem sliceTo_sub (p : List Nat) (n : Nat) (h : n ≤ p.length) :
    sliceTo p ((p.length : Int) - (n : Int)) = some (p.take (p.length - n)) := by
  rw [sliceTo, slice_eq_some (Int.le_refl 0) (by omega) (by omega)]
  simp only [Int.toNat_zero, List.drop_zero, Nat.sub_zero]
  congr 2
  omega

theorem sliceTo_sub_isSome {p : List Nat} {n : Nat} (h : (n : Int) ≤ p.length) :
    ∃ s, sliceTo p ((p.length : Int) - (n : Int)) = some s :=
  ⟨_, sliceTo_sub p n (Int.ofNat_le.mp h)⟩

/-- … and it PANICS when the guard is missing and `n > len(p)` (the seeded change c16a). -/
theorem sliceTo_sub_panics {p : List Nat} {n : Nat} (h : (n : Int) > p.length) :
    sliceTo p ((p.length : Int) - (n : Int)) = none := by
  unfold sliceTo
  rw [slice_eq_none_iff]
  omega

theorem dataTail_eq (fh : FrameHeader) (q : List Nat) (n : Nat) :
    dataTail fh q n =
      some (if n > q.length then .error (.conn errCodeProtocol) else .ok (.data fh (q.take (q.length - n)))) := by
  unfold dataTail
  by_cases h : n > q.length
  · have : (n : Int) > (q.length : Int) := by omega
    simp [h, this]
  · have : ¬ (n : Int) > (q.length : Int) := by omega
    simp [h, this, sliceTo_sub q n (by omega)]

theorem headersFin_eq (fh : FrameHeader) (q : List Nat) (n : Nat) (prio : NetVerif.Model.H2Frame.PriorityParam) :
    headersFin fh q n prio =
      some (if q.length < n then .error (.stream fh.streamID errCodeProtocol)
            else .ok (.headers fh prio (q.take (q.length - n)))) := by
  unfold headersFin
  by_cases h : q.length < n
  · have : (q.length : Int) - (n : Int) < 0 := by omega
    simp [h, this]
  · have : ¬ (q.length : Int) - (n : Int) < 0 := by omega
    simp [h, this, sliceTo_sub q n (by omega)]

end NetVerif.Proofs.C16Parse

/-! Each checked parser returns `some` of exactly what the pattern-matching parser of `Model/H2Frame`
returns (`ck_parse*`, `ck_parseFrame`). That no parser panics, and how the checked parsers classify
errors by payload length, is read off the pattern-matching side through these equalities. They are in
C07's namespace, being what its first clause ("never panics") is stated by; they stand in this file
because C16's specifications below rest on them as well. -/
namespace NetVerif.Proofs.C07
open NetVerif NetVerif.Model.H2Frame NetVerif.Proofs.C16Parse
open NetVerif.Model

theorem ck_parseData (fh : FrameHeader) (p : List Nat) : H2FrameParse.parseData fh p = some (parseData fh p) := by
  unfold H2FrameParse.parseData parseData
  by_cases h0 : fh.streamID = 0
  · simp [h0]
  by_cases hp : hasFlag fh.flags flagPadded = true
  · cases p with
    | nil => simp [h0, hp, readByte_nil]
    | cons b rest => simp [h0, hp, readByte_cons, dataTail_eq]
  · simp [h0, hp, dataTail_eq]

theorem ck_headersPrio (fh : FrameHeader) (p : List Nat) (n : Nat) :
    H2FrameParse.headersPrio fh p n =
      some (match (if hasFlag fh.flags flagPriority then readPrio p else .ok (p, {})) with
        | .error e => .error e
        | .ok (p2, prio) =>
          if p2.length < n then .error (.stream fh.streamID errCodeProtocol)
          else .ok (.headers fh prio (p2.take (p2.length - n)))) := by
  unfold H2FrameParse.headersPrio
  by_cases hp : hasFlag fh.flags flagPriority = true
  · simp only [hp, ↓reduceIte]
    rcases p with _ | ⟨a, _ | ⟨b, _ | ⟨c, _ | ⟨d, rest⟩⟩⟩⟩
    · simp [readUint32_short, readPrio]
    · simp [readUint32_short, readPrio]
    · simp [readUint32_short, readPrio]
    · simp [readUint32_short, readPrio]
    · cases rest with
      | nil => simp [readUint32_cons, readByte_nil, readPrio]
      | cons w rest' => simp [readUint32_cons, readByte_cons, readPrio, headersFin_eq]
  · simp [hp, headersFin_eq]

theorem ck_parseHeaders (fh : FrameHeader) (p : List Nat) : H2FrameParse.parseHeaders fh p = some (parseHeaders fh p) := by
  unfold H2FrameParse.parseHeaders parseHeaders
  by_cases h0 : fh.streamID = 0
  · simp [h0]
  by_cases hp : hasFlag fh.flags flagPadded = true
  · cases p with
    | nil => simp [h0, hp, readByte_nil]
    | cons b rest =>
      simp only [h0, hp, ↓reduceIte, readByte_cons, ck_headersPrio]
      rfl
  · simp only [h0, hp, ↓reduceIte, ck_headersPrio, Bool.false_eq_true]
    rfl

theorem ck_parsePriority (fh : FrameHeader) (p : List Nat) : H2FrameParse.parsePriority fh p = some (parsePriority fh p) := by
  unfold H2FrameParse.parsePriority parsePriority
  by_cases h0 : fh.streamID = 0
  · simp [h0]
  rcases p with _ | ⟨a, _ | ⟨b, _ | ⟨c, _ | ⟨d, _ | ⟨w, _ | ⟨x, rest⟩⟩⟩⟩⟩⟩
  all_goals simp [h0, sliceTo_4, u32_4, H2FrameParse.idx]

theorem ck_parseRSTStream (fh : FrameHeader) (p : List Nat) : H2FrameParse.parseRSTStream fh p = some (parseRSTStream fh p) := by
  unfold H2FrameParse.parseRSTStream parseRSTStream
  rcases p with _ | ⟨a, _ | ⟨b, _ | ⟨c, _ | ⟨d, _ | ⟨x, rest⟩⟩⟩⟩⟩
  all_goals by_cases h0 : fh.streamID = 0
  all_goals simp [h0, sliceTo_4, u32_4]

theorem ck_parsePing (fh : FrameHeader) (p : List Nat) : H2FrameParse.parsePing fh p = some (parsePing fh p) := by
  unfold H2FrameParse.parsePing parsePing
  by_cases h8 : p.length = 8 <;> by_cases h0 : fh.streamID = 0 <;> simp [h8, h0]

theorem ck_parseContinuation (fh : FrameHeader) (p : List Nat) :
    H2FrameParse.parseContinuation fh p = some (parseContinuation fh p) := by
  unfold H2FrameParse.parseContinuation parseContinuation
  split <;> rfl

theorem ck_parseGoAway (fh : FrameHeader) (p : List Nat) : H2FrameParse.parseGoAway fh p = some (parseGoAway fh p) := by
  unfold H2FrameParse.parseGoAway parseGoAway
  by_cases h0 : fh.streamID = 0
  case neg => simp [h0]
  match p with
  | [] | [_] | [_, _] | [_, _, _] | [_, _, _, _] | [_, _, _, _, _] | [_, _, _, _, _, _]
  | [_, _, _, _, _, _, _] => simp [h0]
  | a :: b :: c :: d :: e :: f :: g :: h :: rest =>
    have h1 : H2FrameParse.slice (a :: b :: c :: d :: e :: f :: g :: h :: rest) 4 8 = some [e, f, g, h] := by
      simp [H2FrameParse.slice]
      omega
    have h2 : H2FrameParse.sliceFrom (a :: b :: c :: d :: e :: f :: g :: h :: rest) 8 = some rest := by
      simp [sliceFrom_eq (p := a :: b :: c :: d :: e :: f :: g :: h :: rest) (n := 8) (by omega) (by simp; omega)]
    simp [h0, sliceTo_4, u32_4, h1, h2]

theorem ck_pushRest (fh : FrameHeader) (p : List Nat) (n : Nat) :
    H2FrameParse.pushRest fh p n =
      some (match p with
        | a :: b :: c :: d :: p2 =>
          if n > p2.length then .error (.conn errCodeProtocol)
          else .ok (.pushPromise fh (rd32 a b c d % 2147483648) (p2.take (p2.length - n)))
        | _ => .error .unexpectedEOF) := by
  unfold H2FrameParse.pushRest
  match p with
  | a :: b :: c :: d :: p2 =>
    by_cases h : n > p2.length
    · have : (n : Int) > (p2.length : Int) := by omega
      simp [readUint32_cons, h, this]
    · have : ¬ (n : Int) > (p2.length : Int) := by omega
      simp [readUint32_cons, h, this, sliceTo_sub p2 n (by omega)]
  | [] | [_] | [_, _] | [_, _, _] => simp [readUint32_short]

theorem ck_parsePushPromise (fh : FrameHeader) (p : List Nat) :
    H2FrameParse.parsePushPromise fh p = some (parsePushPromise fh p) := by
  unfold H2FrameParse.parsePushPromise parsePushPromise
  by_cases h0 : fh.streamID = 0
  · simp [h0]
  by_cases hp : hasFlag fh.flags flagPadded = true
  · cases p with
    | nil => simp [h0, hp, readByte_nil]
    | cons b rest =>
      simp only [h0, hp, ↓reduceIte, readByte_cons, ck_pushRest]
      rfl
  · simp only [h0, hp, ↓reduceIte, ck_pushRest, Bool.false_eq_true]
    rfl

/- In the next two the value tested is `v % 2^31`. `simp` with `Option.bind_some` does not come back from
these goals, so the `do` block is taken apart by `rw`. -/
theorem ck_parseWindowUpdate (fh : FrameHeader) (p : List Nat) :
    H2FrameParse.parseWindowUpdate fh p = some (parseWindowUpdate fh p) := by
  unfold H2FrameParse.parseWindowUpdate parseWindowUpdate
  match p with
  | [a, b, c, d] =>
    rw [if_neg (by simp), sliceTo_4, Option.bind_eq_bind, Option.bind_some, u32_4, Option.bind_eq_bind,
      Option.bind_some]
    dsimp only
    rw [apply_ite some, apply_ite some]
    rfl
  | [] | [_] | [_, _] | [_, _, _] | _ :: _ :: _ :: _ :: _ :: _ => simp

theorem ck_parsePriorityUpdate (fh : FrameHeader) (p : List Nat) :
    H2FrameParse.parsePriorityUpdate fh p = some (parsePriorityUpdate fh p) := by
  unfold H2FrameParse.parsePriorityUpdate parsePriorityUpdate
  by_cases h0 : (fh.streamID != 0) = true
  · rw [if_pos h0, if_pos h0]
  rw [if_neg h0, if_neg h0]
  match p with
  | a :: b :: c :: d :: rest =>
    have h4 : H2FrameParse.sliceFrom (a :: b :: c :: d :: rest) 4 = some rest := by
      simp [sliceFrom_eq (p := a :: b :: c :: d :: rest) (n := 4) (by omega) (by simp; omega)]
    rw [if_neg (by simp), sliceTo_4, Option.bind_eq_bind, Option.bind_some, u32_4, Option.bind_eq_bind,
      Option.bind_some]
    dsimp only
    rw [h4, apply_ite some]
    rfl
  | [] | [_] | [_, _] | [_, _, _] => simp

theorem slice_append (q p : List Nat) (lo hi : Int) (h : 0 ≤ lo) :
    H2FrameParse.slice (q ++ p) (q.length + lo) (q.length + hi) = H2FrameParse.slice p lo hi := by
  unfold H2FrameParse.slice
  have e1 : ((q.length : Int) + lo).toNat = q.length + lo.toNat := by omega
  have e2 : ((q.length : Int) + hi).toNat - (q.length + lo.toNat) = hi.toNat - lo.toNat := by omega
  rw [e1, e2, List.drop_append, List.length_append, List.drop_eq_nil_of_le (Nat.le_add_right ..),
    Nat.add_sub_cancel_left, List.nil_append]
  congr 1
  rw [eq_iff_iff]
  omega

theorem settingAt_succ (i0 i1 a b c d : Nat) (rest : List Nat) (i : Nat) :
    H2FrameParse.settingAt (i0 :: i1 :: a :: b :: c :: d :: rest) (i + 1) = H2FrameParse.settingAt rest i := by
  have h := slice_append [i0, i1, a, b, c, d] rest
  simp only [List.length_cons, List.length_nil, List.cons_append, List.nil_append] at h
  unfold H2FrameParse.settingAt
  rw [show ((i + 1 : Nat) : Int) * 6 = ((0 + 1 + 1 + 1 + 1 + 1 + 1 : Nat) : Int) + (i : Int) * 6 by omega,
    Int.add_assoc, Int.add_assoc, h _ _ (by omega), h _ _ (by omega)]

theorem settingsFrom_succ (i0 i1 a b c d : Nat) (rest : List Nat) (i n : Nat) :
    H2FrameParse.settingsFrom (i0 :: i1 :: a :: b :: c :: d :: rest) (i + 1) n =
      H2FrameParse.settingsFrom rest i n := by
  induction n generalizing i with
  | zero => rfl
  | succ n ih => rw [H2FrameParse.settingsFrom, H2FrameParse.settingsFrom, settingAt_succ, ih]

theorem settingAt_zero (i0 i1 a b c d : Nat) (rest : List Nat) :
    H2FrameParse.settingAt (i0 :: i1 :: a :: b :: c :: d :: rest) 0 = some (i0 * 256 + i1, rd32 a b c d) := by
  have h6 : (6 : Int) ≤ (i0 :: i1 :: a :: b :: c :: d :: rest).length := by simp only [List.length_cons]; omega
  simp [H2FrameParse.settingAt, slice_eq_some (lo := 0) (hi := 2) (by omega) (by omega) (Int.le_trans (by omega) h6),
    slice_eq_some (lo := 2) (hi := 6) (by omega) (by omega) h6, H2FrameParse.u16, H2FrameParse.idx, u32_4]

theorem settingsFrom_eq : ∀ p : List Nat, H2FrameParse.settingsFrom p 0 (p.length / 6) = some (settingsOf p)
  | i0 :: i1 :: a :: b :: c :: d :: rest => by
    rw [show (i0 :: i1 :: a :: b :: c :: d :: rest).length / 6 = rest.length / 6 + 1 by
        simp only [List.length_cons]; omega,
      H2FrameParse.settingsFrom, settingAt_zero, settingsFrom_succ, settingsFrom_eq rest]
    rfl
  | [] | [_] | [_, _] | [_, _, _] | [_, _, _, _] | [_, _, _, _, _] => by simp [H2FrameParse.settingsFrom, settingsOf]

theorem ck_parseSettings (fh : FrameHeader) (p : List Nat) :
    H2FrameParse.parseSettings fh p = some (parseSettings fh p) := by
  unfold H2FrameParse.parseSettings parseSettings
  rw [settingsFrom_eq, Option.bind_eq_bind, Option.bind_some]
  split
  · rfl
  split
  · rfl
  split
  · rfl
  generalize settingsValue _ _ = o
  cases o with
  | none => rfl
  | some v => exact (apply_ite some ..).symm

/-- the full statement: the C06/C07 parser model is the checked twin with panics impossible. -/
def CheckedEqModelStatement : Prop :=
  ∀ (fh : FrameHeader) (p : List Nat), H2FrameParse.parseFrame fh p = some (parseFrame fh p)

theorem ck_parseFrame : CheckedEqModelStatement := fun fh p =>
  H2FrameLemmas.parseFrame_rel (R := fun a b => a = some b) fh p
    (fun _ => ck_parseData fh p) (fun _ => ck_parseHeaders fh p) (fun _ => ck_parsePriority fh p)
    (fun _ => ck_parseRSTStream fh p) (fun _ => ck_parseSettings fh p) (fun _ => ck_parsePushPromise fh p)
    (fun _ => ck_parsePing fh p) (fun _ => ck_parseGoAway fh p) (fun _ => ck_parseWindowUpdate fh p)
    (fun _ => ck_parseContinuation fh p) (fun _ => ck_parsePriorityUpdate fh p) (fun _ => rfl)

end NetVerif.Proofs.C07

namespace NetVerif.Proofs.C16Parse
open NetVerif.Model.H2Frame (FrameHeader Frame RErr hasFlag flagPadded flagPriority flagAck
  errCodeProtocol errCodeFrameSize errCodeFlowControl frameHeaderLen)
open NetVerif.Model.H2FrameParse

theorem parseData_total (fh : FrameHeader) (p : List Nat) : parseData fh p ≠ none := by
  simp [C07.ck_parseData]

theorem parseHeaders_total (fh : FrameHeader) (p : List Nat) : parseHeaders fh p ≠ none := by
  simp [C07.ck_parseHeaders]

theorem parsePriority_total (fh : FrameHeader) (p : List Nat) : parsePriority fh p ≠ none := by
  simp [C07.ck_parsePriority]

theorem parseRSTStream_total (fh : FrameHeader) (p : List Nat) : parseRSTStream fh p ≠ none := by
  simp [C07.ck_parseRSTStream]

theorem parseSettings_total (fh : FrameHeader) (p : List Nat) : parseSettings fh p ≠ none := by
  simp [C07.ck_parseSettings]

theorem parsePushPromise_total (fh : FrameHeader) (p : List Nat) : parsePushPromise fh p ≠ none := by
  simp [C07.ck_parsePushPromise]

theorem parsePing_total (fh : FrameHeader) (p : List Nat) : parsePing fh p ≠ none := by
  simp [C07.ck_parsePing]

theorem parseGoAway_total (fh : FrameHeader) (p : List Nat) : parseGoAway fh p ≠ none := by
  simp [C07.ck_parseGoAway]

theorem parseWindowUpdate_total (fh : FrameHeader) (p : List Nat) : parseWindowUpdate fh p ≠ none := by
  simp [C07.ck_parseWindowUpdate]

theorem parseContinuation_total (fh : FrameHeader) (p : List Nat) : parseContinuation fh p ≠ none := by
  simp [C07.ck_parseContinuation]

theorem parsePriorityUpdate_total (fh : FrameHeader) (p : List Nat) : parsePriorityUpdate fh p ≠ none := by
  simp [C07.ck_parsePriorityUpdate]

/-- C16, frame decoder: for every header and every payload — even one whose length differs from the
header's — no parser performs an out-of-range slice or index. -/
theorem parseFrame_never_panics (fh : FrameHeader) (p : List Nat) : parseFrame fh p ≠ none := by
  rw [C07.ck_parseFrame fh p]
  nofun

theorem ping_spec (fh : FrameHeader) (p : List Nat) :
    (parsePing fh p = some (.error (.conn errCodeFrameSize)) ↔ p.length ≠ 8) ∧
    (parsePing fh p = some (.error (.conn errCodeProtocol)) ↔ p.length = 8 ∧ fh.streamID ≠ 0) ∧
    (parsePing fh p = some (.ok (.ping fh p)) ↔ p.length = 8 ∧ fh.streamID = 0) := by
  unfold parsePing
  by_cases h8 : p.length = 8 <;> by_cases hs : fh.streamID = 0 <;>
    simp [h8, hs, errCodeFrameSize, errCodeProtocol]

theorem continuation_spec (fh : FrameHeader) (p : List Nat) :
    (parseContinuation fh p = some (.error (.conn errCodeProtocol)) ↔ fh.streamID = 0) ∧
    (parseContinuation fh p = some (.ok (.continuation fh p)) ↔ fh.streamID ≠ 0) := by
  unfold parseContinuation
  by_cases hs : fh.streamID = 0 <;> simp [hs]

theorem rstStream_spec (fh : FrameHeader) (p : List Nat) :
    (parseRSTStream fh p = some (.error (.conn errCodeFrameSize)) ↔ p.length ≠ 4) ∧
    (parseRSTStream fh p = some (.error (.conn errCodeProtocol)) ↔ p.length = 4 ∧ fh.streamID = 0) ∧
    ((∃ c, parseRSTStream fh p = some (.ok (.rstStream fh c))) ↔ p.length = 4 ∧ fh.streamID ≠ 0) := by
  rw [C07.ck_parseRSTStream]
  unfold NetVerif.Model.H2Frame.parseRSTStream
  rcases p with _ | ⟨a, _ | ⟨b, _ | ⟨c, _ | ⟨d, _ | ⟨x, rest⟩⟩⟩⟩⟩
  all_goals by_cases hs : fh.streamID = 0 <;> simp [hs, errCodeFrameSize, errCodeProtocol]

theorem priority_spec (fh : FrameHeader) (p : List Nat) :
    (parsePriority fh p = some (.error (.conn errCodeProtocol)) ↔ fh.streamID = 0) ∧
    (parsePriority fh p = some (.error (.conn errCodeFrameSize)) ↔ fh.streamID ≠ 0 ∧ p.length ≠ 5) ∧
    ((∃ pp, parsePriority fh p = some (.ok (.priority fh pp))) ↔ fh.streamID ≠ 0 ∧ p.length = 5) := by
  rw [C07.ck_parsePriority]
  unfold NetVerif.Model.H2Frame.parsePriority
  rcases p with _ | ⟨a, _ | ⟨b, _ | ⟨c, _ | ⟨d, _ | ⟨w, _ | ⟨x, rest⟩⟩⟩⟩⟩⟩
  all_goals by_cases hs : fh.streamID = 0 <;> simp [hs, errCodeFrameSize, errCodeProtocol]

theorem goAway_spec (fh : FrameHeader) (p : List Nat) :
    (parseGoAway fh p = some (.error (.conn errCodeProtocol)) ↔ fh.streamID ≠ 0) ∧
    (parseGoAway fh p = some (.error (.conn errCodeFrameSize)) ↔ fh.streamID = 0 ∧ p.length < 8) ∧
    ((∃ l c d, parseGoAway fh p = some (.ok (.goAway fh l c d))) ↔ fh.streamID = 0 ∧ 8 ≤ p.length) := by
  rw [C07.ck_parseGoAway]
  unfold NetVerif.Model.H2Frame.parseGoAway
  by_cases hs : fh.streamID = 0
  case neg => simp [hs, errCodeFrameSize, errCodeProtocol]
  match p with
  | [] | [_] | [_, _] | [_, _, _] | [_, _, _, _] | [_, _, _, _, _] | [_, _, _, _, _, _]
  | [_, _, _, _, _, _, _] => simp [hs, errCodeFrameSize, errCodeProtocol]
  | a :: b :: c :: d :: e :: f :: g :: h :: rest => simp [hs, errCodeFrameSize, errCodeProtocol]

/-- `q` is what is left once the pad byte and the priority bytes are consumed, `n` the pad length. -/
theorem headersFin_spec (fh : FrameHeader) (q : List Nat) (n : Nat) (pr : NetVerif.Model.H2Frame.PriorityParam) :
    (headersFin fh q n pr = some (.error (.stream fh.streamID errCodeProtocol)) ↔ q.length < n) ∧
    (n ≤ q.length → headersFin fh q n pr = some (.ok (.headers fh pr (q.take (q.length - n))))) := by
  rw [headersFin_eq]
  by_cases h : q.length < n <;> simp [h]

theorem dataTail_spec (fh : FrameHeader) (q : List Nat) (n : Nat) :
    (dataTail fh q n = some (.error (.conn errCodeProtocol)) ↔ q.length < n) ∧
    (n ≤ q.length → dataTail fh q n = some (.ok (.data fh (q.take (q.length - n))))) := by
  rw [dataTail_eq]
  by_cases h : q.length < n <;> simp [h]

/-- `parseSettingsFrame` tests an ACK with a payload first (the last clause), then the stream id, then
`len % 6`; FRAME_SIZE_ERROR has two causes, so its clauses are implications. -/
theorem settings_error_spec (fh : FrameHeader) (p : List Nat) :
    (parseSettings fh p = some (.error (.conn errCodeProtocol)) ↔
      ¬ (hasFlag fh.flags flagAck = true ∧ fh.length > 0) ∧ fh.streamID ≠ 0) ∧
    (¬ (hasFlag fh.flags flagAck = true ∧ fh.length > 0) → fh.streamID = 0 → p.length % 6 ≠ 0 →
      parseSettings fh p = some (.error (.conn errCodeFrameSize))) ∧
    (hasFlag fh.flags flagAck = true ∧ fh.length > 0 →
      parseSettings fh p = some (.error (.conn errCodeFrameSize))) := by
  rw [C07.ck_parseSettings]
  unfold NetVerif.Model.H2Frame.parseSettings
  by_cases ha : hasFlag fh.flags flagAck = true ∧ fh.length > 0
  · simp [ha.1, ha.2, errCodeFrameSize, errCodeProtocol]
  have ha' : (hasFlag fh.flags flagAck && decide (fh.length > 0)) = false := by simpa using ha
  by_cases hs : fh.streamID = 0
  · by_cases h6 : p.length % 6 = 0
    · simp only [ha, ha', hs, h6]
      simp
      split
      · split <;> simp [errCodeFlowControl, errCodeProtocol]
      · simp
    · simp [ha, ha', hs, h6, errCodeFrameSize, errCodeProtocol]
  · simp [ha, ha', hs]

theorem readFrameHeader_isSome {hb : List Nat} (h : hb.length = 9) : ∃ fh, readFrameHeader hb = some fh := by
  have hs := slice_eq_some (p := hb) (lo := 5) (hi := 9) (by omega) (by omega) (by omega)
  obtain ⟨v, hv⟩ := u32_isSome (b := (hb.drop 5).take 4) (by simp; omega)
  simp (disch := omega) [readFrameHeader, idx_eq_some, hs, hv]

theorem frame_stream_consumption (maxRead : Nat) (bs : List Nat) :
    cutFrame maxRead bs ≠ .panic ∧
    (∀ fh payload rest, cutFrame maxRead bs = .frame fh payload rest →
      payload.length = fh.length ∧ fh.length ≤ maxRead ∧
      bs = bs.take 9 ++ payload ++ rest ∧ bs.length = 9 + fh.length + rest.length) ∧
    (cutFrame maxRead bs = .eof ↔ bs = []) := by
  unfold cutFrame
  by_cases h0 : bs.length = 0
  · obtain rfl := List.length_eq_zero_iff.mp h0
    simp
  have hne : bs ≠ [] := fun h => h0 (by simp [h])
  by_cases h9 : bs.length < frameHeaderLen
  · simp [h0, h9, hne]
  have h9' : 9 ≤ bs.length := Nat.le_of_not_lt h9
  obtain ⟨fh, hfh⟩ := readFrameHeader_isSome (hb := bs.take 9) (by simp; omega)
  simp only [h0, h9, if_false, sliceTo_eq (p := bs) (n := 9) (by omega) (by omega),
    sliceFrom_eq (p := bs) (n := 9) (by omega) (by omega), Int.reduceToNat, hfh, List.length_drop]
  by_cases hbig : fh.length > maxRead
  · simp [hbig, hne]
  by_cases hshort : bs.length - 9 < fh.length
  · simp [hbig, hshort, hne]
  have hlen : (fh.length : Int) ≤ (bs.drop 9).length := by simp only [List.length_drop]; omega
  simp only [hbig, hshort, if_false, sliceTo_eq (Int.natCast_nonneg _) hlen,
    sliceFrom_eq (Int.natCast_nonneg _) hlen, Int.toNat_natCast]
  refine ⟨nofun, ?_, by simp [hne]⟩
  intro fh' payload rest heq
  injection heq with q1 q2 q3
  subst q1 q2 q3
  simp only [List.length_drop, List.length_take]
  refine ⟨by omega, by omega, ?_, by omega⟩
  rw [List.append_assoc, List.take_append_drop, List.take_append_drop]

/-- With fuel above `len(bs)` `readFrames` never stops for lack of fuel, so the byte stream is cut into
frames deterministically, and no item is a panic. -/
theorem readFrames_fuel (maxRead : Nat) : ∀ (fuel : Nat) (bs : List Nat), bs.length < fuel →
    (readFrames maxRead fuel bs).2 = false ∧ Item.panic ∉ (readFrames maxRead fuel bs).1 ∧
    (∀ fh r, Item.frame fh r ∈ (readFrames maxRead fuel bs).1 → r ≠ none) := by
  intro fuel
  induction fuel with
  | zero => intro bs h; omega
  | succ n ih =>
    intro bs h
    unfold readFrames
    have hnp := (frame_stream_consumption maxRead bs).1
    cases hc : cutFrame maxRead bs with
    | panic => exact absurd hc hnp
    | eof => simp
    | short => simp
    | tooLarge fh r => simp
    | frame fh payload rest =>
      have hl := (frame_stream_consumption maxRead bs).2.1 fh payload rest hc
      obtain ⟨i1, i2, i3⟩ := ih rest (by omega)
      simp only
      refine ⟨i1, ?_, ?_⟩
      · intro hm
        cases hm with
        | tail _ hm' => exact i2 hm'
      · intro fh' r hm
        cases hm with
        | head => exact parseFrame_never_panics fh payload
        | tail _ hm' => exact i3 fh' r hm'

/-- `readFrames_fuel` at the fuel `len(bs) + 1`, without its third clause: `Item.panic` is a panic while
cutting a frame off the stream; one inside a parser would be an item `.frame fh none`, which that clause
and `parseFrame_never_panics` exclude. -/
theorem readFrames_total (maxRead : Nat) (bs : List Nat) :
    (readFrames maxRead (bs.length + 1) bs).2 = false ∧
    Item.panic ∉ (readFrames maxRead (bs.length + 1) bs).1 :=
  ⟨(readFrames_fuel maxRead _ bs (by omega)).1, (readFrames_fuel maxRead _ bs (by omega)).2.1⟩

example : parseFrame ⟨8, 1, 0x2c, 1⟩ [4, 0, 0, 0, 0, 15, 0x82, 0x84] = some (.error (.stream 1 1)) := by rfl
example : parseFrame ⟨1, 0, 0x8, 1⟩ [5] = some (.error (.conn 1)) := by rfl
example : parseFrame ⟨0, 0, 0x8, 1⟩ [] = some (.error .unexpectedEOF) := by rfl
example : (cutFrame 16384 [0, 0, 1, 6, 0, 0, 0, 0, 0, 7, 9, 9]) = .frame ⟨1, 6, 0, 0⟩ [7] [9, 9] := by rfl

end NetVerif.Proofs.C16Parse
