import NetVerif.Proofs.Lemmas.Flow
import NetVerif.Proofs.Lemmas.FlowMonitor
/-!
C11: HTTP/2 endpoints enforce their advertised receive windows.
Part A (mechanism, `http2/flow.go`): `inflow.take` / `takeInflows` accept a frame of `n`
flow-controlled bytes iff `n` fits in the advertised window(s) — exact at the boundary — and
a refused frame leaves every window untouched.
Part B (monitor): on every trace accepted by `Model.FlowMonitor`, a DATA frame beyond an
advertised window is answered with FLOW_CONTROL_ERROR (a server resets the stream; a Transport
fails the connection: GOAWAY or the application's ConnectionError) and changes nothing (no byte
of it is accepted for delivery); FLOW_CONTROL_ERROR never appears for DATA within the windows;
the application never receives more bytes than were accepted.
-/
namespace NetVerif.Proofs.C11
open NetVerif.Model.Flow NetVerif.Proofs.Flow NetVerif.Model.FlowMonitor NetVerif.Proofs.FlowMon

theorem take_accepts_iff (f : Inflow) (n : Int) :
    ((f.take n).1 = true ↔ n ≤ f.avail) ∧
    ((f.take n).1 = true → (f.take n).2 = { f with avail := f.avail - n }) ∧
    ((f.take n).1 = false → (f.take n).2 = f) := take_spec f n

theorem take_boundary (f : Inflow) :
    (f.take f.avail).1 = true ∧ (f.take (f.avail + 1)).1 = false := by
  unfold Inflow.take
  constructor
  · simp
  · have : f.avail + 1 > f.avail := by omega
    simp [this]

theorem takeInflows_accepts_iff (f1 f2 : Inflow) (n : Int) :
    ((takeInflows f1 f2 n).1 = true ↔ (n ≤ f1.avail ∧ n ≤ f2.avail)) ∧
    ((takeInflows f1 f2 n).1 = true →
        (takeInflows f1 f2 n).2 = ({ f1 with avail := f1.avail - n }, { f2 with avail := f2.avail - n })) ∧
    ((takeInflows f1 f2 n).1 = false → (takeInflows f1 f2 n).2 = (f1, f2)) := by
  unfold takeInflows
  by_cases h : n > f1.avail ∨ n > f2.avail <;> simp [h] <;> omega

/-- The window that `take` enforces is the window the peer was told about: a refund only
becomes usable by the peer once `add` has returned it as a WINDOW_UPDATE increment
(`avail` moves by exactly the increment; buffered credit is not enforceable room). -/
theorem enforced_window_is_advertised (f f' : Inflow) (n r : Int) (h : f.add n = some (r, f')) :
    f'.avail = f.avail + r ∧ (r = 0 → ∀ k, (f'.take k).1 = (f.take k).1) := by
  have s := add_spec f f' n r h
  refine ⟨s.2.2.2.1, ?_⟩
  intro hr k
  have : f'.avail = f.avail := by have := s.2.2.2.1; omega
  unfold Inflow.take
  rw [this]
  by_cases hk : k > f.avail <;> simp [hk]

/-- Which DATA frames the monitor classifies as beyond the advertised window: the frame is a
DATA frame on a known stream and its flow-controlled length exceeds the connection window,
or — when it is delivered to an open stream — the stream window the endpoint ENFORCES,
`win - short` (`short = 0` except for the known finding `pre-ack-small-stream-window`, see
`PreAckStatement`). The error is expected on the stream for a server, on the connection
(stream 0) for a Transport. -/
theorem excess_iff (m : Mon) (sid : Nat) (len pad : Int) (es : Bool) (t : Nat) :
    (dataAct m sid len pad es).expectFC = some t ↔
      t = fcTarget m sid ∧ ¬ (len < 0 ∨ pad < -1) ∧ ∃ st, findStream m.streams sid = some st ∧
        (if ConnOnly st len (flowLen len pad) then flowLen len pad > m.conn
         else flowLen len pad ≠ 0 ∧ (flowLen len pad > m.conn ∨ flowLen len pad > st.win - st.short)) := by
  by_cases hv : len < 0 ∨ pad < -1
  · simp [dataAct, hv]
  cases hf : findStream m.streams sid with
  | none => simp [dataAct, hv, hf]
  | some st =>
    simp only [hv, not_false_eq_true, true_and, Option.some.injEq, exists_eq_left']
    rw [dataAct_eq m sid len pad es st hv hf]
    by_cases hc : ConnOnly st len (flowLen len pad)
    · rw [if_pos hc, if_pos hc]
      exact connOnly_fc m sid _ t
    · rw [if_neg hc, if_neg hc]
      by_cases h0 : flowLen len pad = 0
      · rw [if_pos h0]
        exact ⟨fun h => (nomatch h), fun h => absurd h0 h.2.1⟩
      · rw [if_neg h0]
        by_cases hx : flowLen len pad > m.conn ∨ flowLen len pad > st.win - st.short
        · rw [if_pos hx]
          exact ⟨fun h => ⟨(Option.some.inj h).symm, h0, hx⟩, fun h => congrArg some h.1.symm⟩
        · rw [if_neg hx]
          exact ⟨fun h => by simp [acceptAct] at h, fun h => absurd h.2.2 hx⟩

theorem refused_changes_nothing (m : Mon) (sid : Nat) (len pad : Int) (es : Bool) (t : Nat)
    (h : (dataAct m sid len pad es).expectFC = some t) : (dataAct m sid len pad es).m = m := by
  obtain ⟨_, hv, st, hf, hx⟩ := (excess_iff m sid len pad es t).mp h
  rw [dataAct_eq m sid len pad es st hv hf]
  by_cases hc : ConnOnly st len (flowLen len pad)
  · rw [if_pos hc] at hx ⊢
    unfold connOnlyAct
    rw [if_pos hx]
  · rw [if_neg hc] at hx ⊢
    rw [if_neg hx.1, if_pos hx.2]

theorem lineStep_live (m : Mon) (act : Act) (obs : List Obs) (hs : m.started = true) (hd : m.dead = false)
    (hr : ∀ c s, act ≠ .reset c s ∧ act ≠ .treset c s ∧ act ≠ .ereset c s) :
    lineStep m ⟨act, obs⟩ = liveLine m (effAct act obs) obs := by
  unfold lineStep
  cases act with
  | reset c s => exact absurd rfl (hr c s).1
  | treset c s => exact absurd rfl (hr c s).2.1
  | ereset c s => exact absurd rfl (hr c s).2.2
  | _ => simp [hs, hd]

/-- C11, excess ⇒ FLOW_CONTROL_ERROR: RST_STREAM on that stream (server, `t ≠ 0`), or GOAWAY or the application-visible
ConnectionError (Transport, `t = 0`). -/
theorem excess_is_refused (m m' : Mon) (sid : Nat) (len pad : Int) (es : Bool) (obs : List Obs) (t : Nat)
    (hs : m.started = true) (hd : m.dead = false)
    (h : lineStep m ⟨.data sid len pad es, obs⟩ = .ok m')
    (hx : (dataAct m sid len pad es).expectFC = some t) :
    hasFC t obs = true ∧
    (t ≠ 0 → Obs.rst t errFlowControl ∈ obs) ∧
    (t = 0 → Obs.goaway errFlowControl ∈ obs ∨ Obs.connerr errFlowControl ∈ obs) := by
  rw [lineStep_live m _ obs hs hd (by intro c s; simp)] at h
  have hm := refused_changes_nothing m sid len pad es t hx
  unfold liveLine at h
  simp only [effAct, actStep, hx, hm, hd] at h
  have hc : hasFC t obs = true := by
    by_cases hc : hasFC t obs = true
    · exact hc
    · simp [hc] at h
  refine ⟨hc, fun ht => ?_, fun ht => ?_⟩
  · simpa [hasFC, ht] using hc
  · subst ht
    simpa [hasFC] using hc

theorem finishLine_dead (act : Act) (m m' : Mon) (h : finishLine act m = .ok m') : m'.dead = m.dead := by
  unfold finishLine at h
  split at h
  · by_cases hr : (m.dead || residueOK m) = true
    · simp only [hr, if_true] at h; cases h; rfl
    · simp only [hr] at h
      by_cases hneg : m.configured - m.conn < 0 <;> simp [hneg] at h
  · cases h; rfl

/-- C11, within the window ⇒ never FLOW_CONTROL_ERROR, on an accepted line that leaves the connection alive. Lines on
which the connection dies are covered observation by observation: `Proofs.FlowMon.obsStep_fc`. -/
theorem fc_only_on_excess (m m' : Mon) (act : Act) (obs : List Obs) (sid : Nat)
    (hs : m.started = true) (hd : m.dead = false) (hr : ∀ c s, act ≠ .reset c s ∧ act ≠ .treset c s ∧ act ≠ .ereset c s)
    (h : lineStep m ⟨act, obs⟩ = .ok m') (hd' : m'.dead = false) :
    (Obs.rst sid errFlowControl ∈ obs → (actStep m (effAct act obs)).expectFC = some sid) ∧
    ((actStep m (effAct act obs)).expectFC ≠ some 0 →
        Obs.goaway errFlowControl ∉ obs ∧ Obs.connerr errFlowControl ∉ obs) := by
  rw [lineStep_live m act obs hs hd hr] at h
  unfold liveLine at h
  simp only at h
  by_cases hda : (actStep m (effAct act obs)).m.dead = true
  · simp only [hda, if_true] at h
    cases h
    rw [hd'] at hda
    cases hda
  · simp only [hda] at h
    cases he : (actStep m (effAct act obs)).expectFC with
    | some s0 =>
      simp only [he] at h
      by_cases hc : hasFC s0 obs = true
      · simp only [hc, Bool.not_true] at h
        exact ⟨fun hmem => obsFold_fc _ _ _ _ h hd' sid hmem,
               fun hne => obsFold_no_conn_fc _ _ _ _ h hd' hne⟩
      · simp [hc] at h
    | none =>
      simp only [he] at h
      cases hf : obsFold none (actStep m (effAct act obs)).m obs with
      | error e => simp only [hf] at h; cases h
      | ok m1 =>
        simp only [hf] at h
        have hd1 : m1.dead = false := by rw [← finishLine_dead _ m1 m' h]; exact hd'
        refine ⟨fun hmem => ?_, fun _ => obsFold_no_conn_fc _ _ _ _ hf hd1 (by simp)⟩
        have := obsFold_fc _ _ _ _ hf hd1 sid hmem
        cases this

/-- C11, no excess byte is delivered: `bodyBytes` counts the payload bytes that were within the advertised windows
(refused frames add nothing: `refused_changes_nothing`). -/
theorem delivered_le_accepted (pre suf : List Line) (m : Mon) (h : run Mon.init (pre ++ suf) = .ok m) :
    ∃ mp, run Mon.init pre = .ok mp ∧ ∀ s ∈ mp.streams, s.delivered ≤ s.bodyBytes := by
  obtain ⟨mp, h1, _⟩ := run_append pre suf Mon.init m h
  have i := run_inv pre Mon.init mp minv_init h1
  exact ⟨mp, h1, fun s hs => (i.streams s hs).2.1⟩

/-! Non-vacuity: the boundary trace of corpus/C11 (exactly the window is accepted,
one byte more is refused with FLOW_CONTROL_ERROR), and a trace the monitor rejects. -/

def boundaryTrace : List Line :=
  [⟨.reset 70000 30000, [.set 30000, .wu 0 4465, .other]⟩,
   ⟨.hdr 1 (-1) false, []⟩,
   ⟨.data 1 30000 (-1) false, []⟩,
   ⟨.data 1 1 (-1) false, [.rst 1 3, .wu 0 30000]⟩]

example : ∃ m, run Mon.init boundaryTrace = .ok m ∧ m.dead = false := ⟨_, rfl, rfl⟩

/-- accepting the excess byte silently is rejected -/
example : run Mon.init (boundaryTrace.take 3 ++ [⟨.data 1 1 (-1) false, []⟩]) = .error "excess-data-not-refused" := rfl

/-- a FLOW_CONTROL_ERROR for a frame within the window is rejected -/
example : run Mon.init (boundaryTrace.take 2 ++ [⟨.data 1 30000 (-1) false, [.rst 1 3]⟩]) =
    .error "flow-control-error-within-window" := rfl

/-- Transport: exactly the stream window is accepted; one more byte is a connection error. -/
def transportBoundary : List Line :=
  [⟨.treset 100000 20000, [.set 20000, .wu 0 100000, .other]⟩,
   ⟨.req 3 0, []⟩,
   ⟨.rhdr 3 false, []⟩,
   ⟨.data 3 16384 (-1) false, []⟩,
   ⟨.data 3 3616 (-1) false, []⟩]

example : ∃ m, run Mon.init transportBoundary = .ok m ∧ m.dead = false := ⟨_, rfl, rfl⟩
example : ∃ m, run Mon.init (transportBoundary ++ [⟨.data 3 1 (-1) false, [.connerr 3, .closed]⟩]) = .ok m ∧ m.dead = true :=
  ⟨_, rfl, rfl⟩
example : run Mon.init (transportBoundary ++ [⟨.data 3 1 (-1) false, [.closed]⟩]) = .error "excess-data-not-refused" := rfl
example : run Mon.init (transportBoundary.take 4 ++ [⟨.data 3 3616 (-1) false, [.connerr 3, .closed]⟩]) =
    .error "flow-control-error-within-window" := rfl

/-! Stream window before the SETTINGS ACK: known finding `pre-ack-small-stream-window`. -/

/-- The statement of C11 for stream windows: a DATA frame that is delivered to an open stream
and fits the connection window and the stream window ADVERTISED to the peer (`win`: the
protocol default 65535 until the peer has acknowledged a smaller SETTINGS_INITIAL_WINDOW_SIZE)
is never refused. -/
def PreAckStatement : Prop :=
  ∀ (m : Mon) (sid : Nat) (len pad : Int) (es : Bool) (st : StreamSt),
    findStream m.streams sid = some st → ¬ ConnOnly st len (flowLen len pad) → ¬ (len < 0 ∨ pad < -1) →
    flowLen len pad ≤ m.conn → flowLen len pad ≤ st.win →
    (dataAct m sid len pad es).expectFC = none

/-- Server configured with a 1000-byte stream window; the client opens stream 1 before it has
acknowledged the server's SETTINGS (corpus/C11/preack.rigs.ops, recorded from the real server). -/
def preAckTrace : List Line :=
  [⟨.ereset 65535 1000, [.set 1000, .other]⟩,
   ⟨.hdr 1 (-1) false, []⟩]

-- The monitor accepts the trace (`run Mon.init preAckTrace = .ok mPreAck` by `rfl`); the second branch is never taken.
def mPreAck : Mon :=
  match run Mon.init preAckTrace with
  | .ok m => m
  | .error _ => Mon.init

/-- 2000 bytes on stream 1 are within the advertised 65535 but the
server (as modelled, and as it is) refuses them with FLOW_CONTROL_ERROR. -/
theorem pre_ack_statement_false : ¬ PreAckStatement := by
  intro h
  have hf : findStream mPreAck.streams 1 = some ⟨1, .open_, 65535, -1, 0, 0, false, false, false, 64535⟩ := rfl
  have := h mPreAck 1 2000 (-1) true _ hf (by decide) (by decide) (by decide) (by decide)
  have e : (dataAct mPreAck 1 2000 (-1) true).expectFC = some 1 := rfl
  rw [e] at this
  cases this

/-- Outside the excluded region (`short = 0`: the peer has acknowledged
the SETTINGS, or the configured window is at least 65535) the statement holds: a delivered frame
within the connection window and the advertised stream window is never refused. The hypotheses are those of
`PreAckStatement` plus `hs`; of them `hv` is not needed. -/
theorem pre_ack_holds_partial (m : Mon) (sid : Nat) (len pad : Int) (es : Bool) (st : StreamSt)
    (hf : findStream m.streams sid = some st) (hc : ¬ ConnOnly st len (flowLen len pad))
    (hv : ¬ (len < 0 ∨ pad < -1)) (h1 : flowLen len pad ≤ m.conn) (h2 : flowLen len pad ≤ st.win)
    (hs : st.short = 0) : (dataAct m sid len pad es).expectFC = none := by
  cases he : (dataAct m sid len pad es).expectFC with
  | none => rfl
  | some t =>
    have := (excess_iff m sid len pad es t).mp he
    obtain ⟨_, _, st', hf', hx⟩ := this
    rw [hf] at hf'
    cases hf'
    rw [if_neg hc, hs] at hx
    omega

theorem ack_clears_short (m : Mon) (h : m.acked = false) :
    ∀ s ∈ (actStep m .ack).m.streams, s.short = 0 := by
  simp only [actStep, h]
  intro s hs
  simp only [Bool.false_eq_true, if_false, List.mem_map] at hs
  obtain ⟨a, _, e⟩ := hs
  subst e
  rfl

/-! Literal wire reading for the Transport: known finding `transport-goaway-not-flushed`. -/

/-- The literal reading: whenever a Transport line with DATA beyond an advertised window is
accepted, GOAWAY(FLOW_CONTROL_ERROR) is on the wire. `excess_is_refused` proves the weaker
"GOAWAY on the wire or ConnectionError(FLOW_CONTROL_ERROR) at the application". -/
def WireStatement : Prop :=
  ∀ (m m' : Mon) (sid : Nat) (len pad : Int) (es : Bool) (obs : List Obs),
    m.started = true → m.dead = false →
    lineStep m ⟨.data sid len pad es, obs⟩ = .ok m' →
    (dataAct m sid len pad es).expectFC = some 0 → Obs.goaway errFlowControl ∈ obs

/-- Monitor state after `transportBoundary` (stream 3 has exactly 0 bytes of window left); the monitor accepts the trace
(`run Mon.init transportBoundary = .ok mBoundary` by `rfl`), so the second branch is never taken. -/
def mBoundary : Mon :=
  match run Mon.init transportBoundary with
  | .ok m => m
  | .error _ => Mon.init

/-- The trace recorded from the real Transport (corpus/C11/tboundary.rigs.ops
case 0: the connection error reaches the application, the connection is closed, no GOAWAY is
flushed) is accepted and contains no GOAWAY. -/
theorem wire_statement_false : ¬ WireStatement := by
  intro h
  have hl : ∃ m', lineStep mBoundary ⟨.data 3 1 (-1) false, [.connerr 3, .closed]⟩ = .ok m' := ⟨_, rfl⟩
  obtain ⟨m', hm'⟩ := hl
  have := h mBoundary m' 3 1 (-1) false [.connerr 3, .closed] rfl rfl hm' rfl
  simp at this

end NetVerif.Proofs.C11
