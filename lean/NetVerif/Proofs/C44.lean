import NetVerif.Model.FS
import NetVerif.Proofs.Lemmas.FS
/-!
C44 — the WebDAV memory filesystem behaves like the native hierarchical filesystem.

Two models over the same state (tree of names + open handles): `FS.Mem.step` (memFS / memFile as
written) and `FS.Os.step` (what `webdav.Dir` shows on Linux).  `divClass` names, per state and
operation, the reason why the two may differ (`Class`).  Outside these classes the two models return the same
result and reach the same state, for every history (`holds_partial`).  Each divergence class has a negation
witness (`diverge_*`), so the unrestricted statement is false (`full_false`).  The root / own-subtree clause holds
in full, on both filesystems.
-/
namespace NetVerif.Proofs.C44
open NetVerif.Model.FS NetVerif.Proofs.Lemmas.FS

inductive Class where
  -- the first four are divergence classes, left as they are in /repo (known findings, DESIGN.md §15)
  | dirWrite              -- OpenFile(dir, O_WRONLY|O_RDWR): memFS ok, native EISDIR (the package's own PROPPATCH opens collections O_RDWR)
  | dirCreateTrunc        -- OpenFile(dir, O_CREATE|O_TRUNC, read-only): memFS ok, native EISDIR
  | rdonlyTrunc           -- OpenFile(file, O_RDONLY|O_TRUNC): native truncates, memFS does not (unspecified by POSIX)
  | readdirSnapshot       -- first Readdir after the directory changed: memFS lists it as of OpenFile (documented design, copyFiles relies on it), native as of now
  | allowedRenameOverExisting -- the exception the contract grants
  | unspecifiedSeekDir    -- filesystem dependent, not compared
  | unspecifiedOffsetLimit -- offsets beyond the native filesystem's maximum (memFS: up to what a slice can hold)
  deriving DecidableEq, Repr

def divClass (s : State) : Op → Option Class
  | .open p f =>
    match get s.tree p with
    | some .dir =>
      if f.wr then some .dirWrite
      else if f.create || f.trunc then some .dirCreateTrunc else none
    | some (.file _) => if !f.wr && f.trunc then some .rdonlyTrunc else none
    | none => none
  | .seek h off whence =>
    match s.handles[h]? with
    | none => none
    | some hd =>
      if hd.isDir then some .unspecifiedSeekDir
      else match seekPos (fileData s hd).length hd.pos off whence with
        | some np => if np > osMaxOffset then some .unspecifiedOffsetLimit else none
        | none => none
  | .write h data =>
    match s.handles[h]? with
    | none => none
    | some hd =>
      if (if hd.app then (fileData s hd).length else hd.pos) + data.length > osMaxOffset
      then some .unspecifiedOffsetLimit else none
  | .readdir h _ =>
    match s.handles[h]? with
    | none => none
    | some hd =>
      if hd.isDir && !hd.listed && decide (liveKids s hd ≠ some hd.kids) then some .readdirSnapshot else none
  | .rename _ b => if (get s.tree b).isSome then some .allowedRenameOverExisting else none
  | _ => none

theorem get_nil (t : Tree) : get t [] = some .dir := by simp [NetVerif.Model.FS.get]

theorem mkdir_agree (t : Tree) (p : Path) : okOf (Mem.mkdir t p) = okOf (Os.mkdir t p) := by
  unfold Mem.mkdir Os.mkdir
  cases hw : Mem.walk t p with
  | error e => cases e <;> rfl
  | ok u =>
    by_cases hp : p = []
    · subst hp; simp [get_nil, okOf]
    · simp [hp]

theorem stat_agree (t : Tree) (p : Path) : okOf (Mem.stat t p) = okOf (Os.stat t p) := by
  unfold Mem.stat Os.stat
  cases hw : Mem.walk t p with
  | error e => cases e <;> rfl
  | ok u => rfl

theorem removeAll_agree (t : Tree) (p : Path) :
    okOf (Mem.removeAll t p) = okOf (Os.removeAll t p) := by
  unfold Mem.removeAll Os.removeAll
  cases hw : Mem.walk t p with
  | error e =>
    by_cases hp : p = []
    · subst hp; simp [Mem.walk, Mem.walkFrom] at hw
    · cases e <;> simp [hp, okOf]
  | ok u =>
    by_cases hp : p = [] <;> simp [hp, okOf]

theorem openFile_agree (t : Tree) (p : Path) (f : Mem.Flags)
    (h2 : get t p = some .dir → f.wr = false ∧ f.create = false ∧ f.trunc = false)
    (h3 : ∀ d, get t p = some (.file d) → (!f.wr && f.trunc) = false) :
    okOf (Mem.openFile t p f) = okOf (Os.openFile t p f) := by
  unfold Mem.openFile Os.openFile
  cases hw : Mem.walk t p with
  | error e => rfl
  | ok u =>
    simp only
    by_cases hp : p = []
    · subst hp
      have := h2 (get_nil t)
      simp [get_nil, this, okOf]
    · simp only [hp, if_false]
      cases hg : get t p with
      | none => simp [okOf]
      | some e =>
        cases e with
        | dir =>
          have := h2 hg
          simp [this, okOf]
        | file d =>
          -- under `h3` memFS truncates exactly when the native filesystem does
          have hwt : (f.wr && f.trunc) = f.trunc := by
            have := h3 d hg
            revert this
            cases f.wr <;> cases f.trunc <;> decide
          simp only [hwt, Option.isSome_some, Bool.and_true]

theorem rename_agree (t : Tree) (a b : Path) (hb : get t b = none) :
    okOf (Mem.rename t a b) = okOf (Os.rename t a b) := by
  have hbne : b ≠ [] := by
    intro h; subst h; simp [get_nil] at hb
  unfold Mem.rename Os.rename
  simp only [hbne, or_false]
  by_cases ha : a = []
  · subst ha
    have : ([] : Path) ≠ b := fun h => hbne h.symm
    simp [under_nil, okOf, this]
  · simp only [ha, if_false]
    by_cases hab : a = b
    · subst hab
      simp only [ne_eq, not_true_eq_false, false_and, if_false]
      cases hwa : Mem.walk t a with
      | error e => rfl
      | ok u => simp [hb, okOf]
    · cases hu : under a b with
      | true =>
        simp only [ne_eq, hab, not_false_eq_true, true_and, if_true]
        cases hwa : Mem.walk t a with
        | error e => rfl
        | ok u =>
          cases hga : get t a with
          | none => rfl
          | some ea =>
            cases hwb : Mem.walk t b with
            | error e => rfl
            | ok u' => simp [hb, okOf]
      | false =>
        simp only [ne_eq, hab, not_false_eq_true, true_and, Bool.false_eq_true, if_false]
        cases hwa : Mem.walk t a with
        | error e => rfl
        | ok u =>
          simp only
          cases hwb : Mem.walk t b with
          | error e =>
            simp only
            cases hga : get t a <;> rfl
          | ok u' =>
            simp only
            cases hga : get t a with
            | none => rfl
            | some ea =>
              cases ea <;> simp [hb, okOf]

theorem agree_step (s : State) (op : Op) (h : divClass s op = none) : Mem.step s op = Os.step s op := by
  cases op with
  | mkdir p => simp only [Mem.step, Os.step, mkdir_agree]
  | stat p => simp only [Mem.step, Os.step, stat_agree]
  | fstat h' => rfl
  | write k data =>
    simp only [divClass] at h
    simp only [Mem.step, Os.step]
    cases hk : s.handles[k]? with
    | none => rfl
    | some hd =>
      simp only [hk] at h ⊢
      have hlim : ¬ ((if hd.app then (fileData s hd).length else hd.pos) + data.length > osMaxOffset) := by
        intro hx; simp [hx] at h
      -- `osMaxOffset` (2^44) is below `memMaxAlloc` (2^48): memFS does not refuse the Write either
      have hlim2 : ¬ ((if hd.app then (fileData s hd).length else hd.pos) + data.length > memMaxAlloc) := by
        unfold osMaxOffset at hlim; unfold memMaxAlloc; omega
      simp [hlim, hlim2]
  | read k n => rfl
  | readdir k count =>
    simp only [divClass] at h
    simp only [Mem.step, Os.step]
    cases hk : s.handles[k]? with
    | none => rfl
    | some hd =>
      simp only [hk] at h ⊢
      cases hdir : hd.isDir with
      | false => simp
      | true =>
        simp only [hdir, Bool.not_true, Bool.false_eq_true, if_false, Bool.true_and] at h ⊢
        cases hl : hd.listed with
        | true => simp
        | false =>
          have : liveKids s hd = some hd.kids := by simpa [hl] using h
          simp [this]
  | removeAll p => simp only [Mem.step, Os.step, removeAll_agree]
  | «open» p f =>
    simp only [divClass] at h
    have h2 : get s.tree p = some .dir → f.wr = false ∧ f.create = false ∧ f.trunc = false := by
      intro hg; simp only [hg] at h
      split at h
      · cases h
      · split at h
        · cases h
        · rename_i hw hct
          exact ⟨by simpa using hw, by simpa using hct⟩
    have h3 : ∀ d, get s.tree p = some (.file d) → (!f.wr && f.trunc) = false := by
      intro d hg; simpa [hg] using h
    simp only [Mem.step, Os.step, openFile_agree s.tree p f h2 h3]
  | seek k off wh =>
    simp only [divClass] at h
    simp only [Mem.step, Os.step]
    cases hk : s.handles[k]? with
    | none => rfl
    | some hd =>
      simp only [hk] at h ⊢
      have hdir : hd.isDir = false := by
        cases hx : hd.isDir with
        | false => rfl
        | true => simp [hx] at h
      simp only [hdir, Bool.false_eq_true, if_false] at h ⊢
      cases hsp : seekPos (fileData s hd).length hd.pos off wh with
      | none => rfl
      | some np =>
        simp only [hsp] at h ⊢
        have : ¬ np > osMaxOffset := by intro hx; simp [hx] at h
        simp [this]
  | rename a b =>
    simp only [divClass] at h
    have hb : get s.tree b = none := by
      cases hg : get s.tree b with
      | none => rfl
      | some e => simp [hg] at h
    simp only [Mem.step, Os.step, rename_agree s.tree a b hb]

def cleanRun : State → List Op → Bool
  | _, [] => true
  | s, op :: ops => (divClass s op).isNone && cleanRun (Mem.step s op).1 ops

/-- Only the three exceptions the contract/POSIX leave open (rename over an existing entry, Seek on a
directory, offsets beyond the native maximum) are avoided; the divergence classes are not. -/
def exceptionFree : State → List Op → Bool
  | _, [] => true
  | s, op :: ops =>
    (divClass s op != some .allowedRenameOverExisting && divClass s op != some .unspecifiedSeekDir &&
      divClass s op != some .unspecifiedOffsetLimit) &&
    exceptionFree (Mem.step s op).1 ops

/-- The agreement clause of C44: on every history that stays outside the classes both filesystems give the
same results and end in the same state (names, kinds, contents, handles). -/
theorem agree_run (s : State) (ops : List Op) (h : cleanRun s ops = true) :
    runWith Mem.step s ops = runWith Os.step s ops := by
  induction ops generalizing s with
  | nil => rfl
  | cons op ops ih =>
    simp only [cleanRun, Bool.and_eq_true, Option.isNone_iff_eq_none] at h
    have h1 := agree_step s op h.1
    simp only [runWith]
    rw [← h1, ih _ h.2]

/-- C44 at full strength: apart from the exceptions, every history agrees. -/
def FullStatement : Prop :=
  ∀ ops : List Op, exceptionFree {} ops = true → runWith Mem.step {} ops = runWith Os.step {} ops

theorem holds_partial (ops : List Op) (h : cleanRun {} ops = true) :
    runWith Mem.step {} ops = runWith Os.step {} ops := agree_run {} ops h

def nA : Path := [[97]]
def nB : Path := [[98]]
def fl (acc : Nat) (append create excl sync trunc : Bool) : Mem.Flags := ⟨acc, append, create, excl, sync, trunc⟩
def rw_ : Mem.Flags := fl 2 false false false false false
def rwCreate : Mem.Flags := fl 2 false true false false false
def ro : Mem.Flags := fl 0 false false false false false

def after (ops : List Op) : State := (runWith Mem.step {} ops).1

abbrev Diverges (ops : List Op) (op : Op) (c : Class) : Prop :=
  cleanRun {} ops = true ∧ divClass (after ops) op = some c ∧ Mem.step (after ops) op ≠ Os.step (after ops) op

theorem diverge_dirWrite : Diverges [.mkdir nA] (.open nA rw_) .dirWrite := by decide +kernel
theorem diverge_dirCreateTrunc : Diverges [.mkdir nA] (.open nA (fl 0 false true false false false)) .dirCreateTrunc := by
  decide +kernel
theorem diverge_rdonlyTrunc :
    Diverges [.open nA rwCreate, .write 0 [1, 2]] (.open nA (fl 0 false false false false true)) .rdonlyTrunc := by
  decide +kernel

/-- The open-time snapshot: a directory opened before `Mkdir /b` still lists only `/a` on memFS. -/
theorem diverge_readdirSnapshot :
    Diverges [.mkdir nA, .open [] ro, .mkdir nB] (.readdir 0 0) .readdirSnapshot := by decide +kernel

/-- The contract's exception is a real difference too (file over directory), but an allowed one. -/
theorem allowed_exception_differs :
    divClass (after [.mkdir nA, .open nB rwCreate]) (.rename nB nA) = some .allowedRenameOverExisting ∧
    Mem.step (after [.mkdir nA, .open nB rwCreate]) (.rename nB nA) ≠
      Os.step (after [.mkdir nA, .open nB rwCreate]) (.rename nB nA) := by decide +kernel

theorem full_false : ¬ FullStatement := by
  intro h
  have := h [.mkdir nA, .open nA rw_] (by decide)
  revert this
  decide +kernel

/-! Regression inputs (`corpus/C44/`): steps on which `memFS` differed from the native filesystem until a `fix:`
commit of /repo (DESIGN.md §15); the two agree on them. -/

abbrev Agrees (ops : List Op) (op : Op) : Prop :=
  cleanRun {} ops = true ∧ divClass (after ops) op = none ∧ Mem.step (after ops) op = Os.step (after ops) op

/-- `O_APPEND`, `O_SYNC`: accepted. -/
example : Agrees [] (.open nA (fl 2 true true false false false)) := by decide +kernel
example : Agrees [] (.open nA (fl 1 false true false true false)) := by decide +kernel
/-- Appending writes go to the end whatever the offset. -/
example : (runWith Mem.step {} [.open nA rwCreate, .write 0 [1, 2], .open nA (fl 1 true false false false false),
    .write 1 [3], .seek 0 0 0, .read 0 9]).2 =
    [.opened 0 false, .wrote 2, .opened 1 false, .wrote 1, .pos 0, .data [1, 2, 3]] := by decide +kernel
/-- Write through an `O_RDONLY` handle: refused, file unchanged. -/
example : Agrees [.open nA rwCreate, .write 0 [1, 2], .open nA ro] (.write 1 [9]) := by decide +kernel
example : Mem.step (after [.open nA rwCreate, .write 0 [1, 2], .open nA ro]) (.write 1 [9]) =
    (after [.open nA rwCreate, .write 0 [1, 2], .open nA ro], .err) := by decide +kernel
/-- Zero-length Write past the end: nothing happens. -/
example : Agrees [.open nA rwCreate, .seek 0 5 0] (.write 0 []) := by decide +kernel
/-- Read through an `O_WRONLY` handle: refused. -/
example : Agrees [.open nA rwCreate, .write 0 [1], .open nA (fl 1 false false false false false)] (.read 1 1) := by
  decide +kernel
/-- Zero-length Read: `(0, nil)`. -/
example : Agrees [.open nA rwCreate] (.read 0 0) := by decide +kernel
/-- Readdir(0) after a partial Readdir: the remaining entries. -/
example : Agrees [.mkdir nA, .mkdir nB, .open [] ro, .readdir 0 1] (.readdir 0 0) := by decide +kernel
/-- Rename(x, x) of a missing name, of the root: errors. -/
example : Agrees [] (.rename nA nA) := by decide +kernel
example : Mem.step {} (.rename [] []) = ({}, .err) ∧ Os.step {} (.rename [] []) = ({}, .err) := by decide +kernel
example : Mem.step {} (.rename nA nA) = ({}, .err) := by decide +kernel
/-- RemoveAll below a missing directory: nil. -/
example : Agrees [] (.removeAll [[97], [98]]) := by decide +kernel

/-- A Write beyond the end leaves zeros in between, whatever was in the file before a truncation.  Both
`Mem.step` and `Os.step` write through `Mem.writeAt`. -/
theorem writeAt_hole (data p : List Nat) (pos : Nat) (h : data.length ≤ pos) :
    (Mem.writeAt data pos p).1 = data ++ List.replicate (pos - data.length) 0 ++ p := by
  unfold Mem.writeAt
  have : ¬ pos < data.length := by omega
  simp [this]

theorem writeAt_after_trunc (p : List Nat) (pos : Nat) :
    (Mem.writeAt [] pos p).1 = List.replicate pos 0 ++ p := by
  simpa using writeAt_hole [] p pos (by simp)

/-- Write, truncate through a second handle, seek inside the old length, write: the hole is zeros. -/
example : (runWith Mem.step {} [.open nA rwCreate, .write 0 [88, 88, 88, 88, 88], .open nA (fl 2 false false false false true),
    .seek 1 4 0, .write 1 [97], .seek 0 0 0, .read 0 40]).2.getLast? = some (.data [0, 0, 0, 0, 97]) := by decide +kernel

/-- A Write that would need a hole no slice can hold (offset 2^62) fails ("file too large"); `make` does not panic. -/
example : (runWith Mem.step {} [.open nA rwCreate, .seek 0 4611686018427387904 0, .write 0 [120], .fstat 0]).2 =
    [.opened 0 false, .pos 4611686018427387904, .err, .info false 0 none] := by decide +kernel

/-- `Stat` names the entry by the last component of the cleaned path (`/` for the root): the driver
cleans `/a/b/..` to `[a]`, so the name is `a`, never `..`. -/
theorem stat_name (s : State) (p : Path) (isDir : Bool) (size : Nat) (name : Option Name)
    (h : (Mem.step s (.stat p)).2 = .info isDir size name) : name = some (p.getLast?.getD [47]) := by
  simp only [Mem.step] at h
  cases hs : okOf (Mem.stat s.tree p) with
  | none => simp [hs, statRes] at h
  | some e => cases e <;> simp [hs, statRes] at h <;> exact h.2.2.symm

theorem walkFrom_dir (t : Tree) : ∀ (rest done : Path), Mem.walkFrom t done rest = .ok () →
    ∀ k, 0 < k → k < rest.length → get t (done ++ rest.take k) = some .dir
  | [], _, _, k, _, hk => by simp at hk
  | [_], _, _, k, h0, hk => by simp at hk; omega
  | c :: c' :: cs, done, h, k, h0, hk => by
    unfold Mem.walkFrom at h
    split at h
    · cases h
    · cases h
    · rename_i hg
      match k, h0 with
      | 1, _ => simpa using hg
      | k' + 2, _ =>
        have := walkFrom_dir t (c' :: cs) (done ++ [c]) h (k' + 1) (by omega)
          (by simp only [List.length_cons] at hk ⊢; omega)
        simpa [List.append_assoc] using this

theorem walk_prefix_dir {t : Tree} {a b : Path} (hw : Mem.walk t b = .ok ()) (hu : under a b = true)
    (hne : a ≠ b) (ha : a ≠ []) : get t a = some .dir := by
  rw [under_iff] at hu
  obtain ⟨r, rfl⟩ := hu
  have hr : r ≠ [] := by intro h; subst h; simp at hne
  have := walkFrom_dir t (a ++ r) [] hw a.length
    (by cases a with | nil => exact absurd rfl ha | cons _ _ => simp)
    (by cases r with | nil => exact absurd rfl hr | cons _ _ => simp)
  simpa using this

theorem mem_rename_into_own_subtree_fails (t : Tree) (a b : Path) (hne : a ≠ b) (hu : under a b = true) :
    okOf (Mem.rename t a b) = none := by
  unfold Mem.rename; simp [hne, hu, okOf]

theorem os_rename_into_own_subtree_fails (t : Tree) (a b : Path) (hne : a ≠ b) (hu : under a b = true) :
    okOf (Os.rename t a b) = none := by
  unfold Os.rename
  by_cases hr : a = [] ∨ b = []
  · simp [hr, okOf]
  · simp only [hr, if_false]
    have ha : a ≠ [] := fun h => hr (Or.inl h)
    cases hwa : Mem.walk t a with
    | error e => rfl
    | ok u =>
      simp only
      cases hga : get t a with
      | none => rfl
      | some ea =>
        simp only
        cases hwb : Mem.walk t b with
        | error e => rfl
        | ok u' =>
          have hdir := walk_prefix_dir (t := t) (by cases u'; exact hwb) hu hne ha
          rw [hga] at hdir
          cases hdir
          simp only
          cases hgb : get t b with
          | none => simp [hu, okOf]
          | some eb => cases eb <;> simp [okOf]

theorem step_rename_into_own_subtree_fails (s : State) (a b : Path) (hne : a ≠ b) (hu : under a b = true) :
    Mem.step s (.rename a b) = (s, .err) ∧ Os.step s (.rename a b) = (s, .err) := by
  simp [Mem.step, Os.step, mem_rename_into_own_subtree_fails _ a b hne hu,
    os_rename_into_own_subtree_fails _ a b hne hu]

theorem removeAll_root_fails (s : State) :
    Mem.step s (.removeAll []) = (s, .err) ∧ Os.step s (.removeAll []) = (s, .err) := by
  simp [Mem.step, Os.step, Mem.removeAll, Os.removeAll, Mem.walk, Mem.walkFrom, okOf]

theorem rename_root_fails (s : State) (a b : Path) (hr : a = [] ∨ b = []) :
    Mem.step s (.rename a b) = (s, .err) := by
  have : okOf (Mem.rename s.tree a b) = none := by
    unfold Mem.rename
    rcases hr with ha | hb
    · subst ha
      by_cases hb : ([] : Path) = b
      · subst hb; simp [Mem.walk, Mem.walkFrom, okOf]
      · simp [hb, under_nil, okOf]
    · subst hb
      by_cases ha : a = []
      · subst ha; simp [Mem.walk, Mem.walkFrom, okOf]
      · have hu : under a [] = false := by
          cases a with
          | nil => exact absurd rfl ha
          | cons x xs => simp [under]
        simp only [hu, Bool.false_eq_true, and_false, if_false]
        cases hwa : Mem.walk s.tree a with
        | error e => rfl
        | ok u => simp [ha, Mem.walk, Mem.walkFrom, okOf]
  simp [Mem.step, this]

theorem os_rename_root_fails (s : State) (a b : Path) (hr : a = [] ∨ b = []) :
    Os.step s (.rename a b) = (s, .err) := by
  simp [Os.step, Os.rename, hr, okOf]

/-! Non-vacuity of `cleanRun`: a clean history with real work in it. -/

example : cleanRun {} [.mkdir nA, .open (nA ++ nB) rwCreate, .write 0 [1, 2, 3], .seek 0 1 0, .read 0 5,
    .rename nA nB, .write 0 [7], .stat (nB ++ nB), .open nB ro, .readdir 1 0, .removeAll nB, .fstat 0] = true := by
  decide +kernel

example : (runWith Mem.step {} [.mkdir nA, .open (nA ++ nB) rwCreate, .write 0 [1, 2, 3], .seek 0 1 0,
    .read 0 5, .rename nA nB, .write 0 [7], .stat (nB ++ nB)]).2 =
    [.ok, .opened 0 false, .wrote 3, .pos 1, .data [2, 3], .ok, .wrote 1, .info false 4 (some [98])] := by decide +kernel

end NetVerif.Proofs.C44
