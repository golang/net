import NetVerif.Proofs.C60Ext
/-! C60 — `ParseMessage(Marshal(m))` for every message kind the codec represents (ICMPv4, and ICMPv6 without
pseudo-header): one theorem over `Body`, `msg_roundtrip`; the statements per kind are its instances. Not covered:
the extended echo request body, the ICMPv6 checksum with pseudo-header. -/
namespace NetVerif.Proofs.C60
open NetVerif NetVerif.Model.Icmp

/-- Datagram and extensions of an RFC 4884 body that survive the wire: no extensions and a datagram that does not
read as if it had some, or faithful extensions admitted for the type behind a datagram whose padded length fits
the length octet. -/
def MultipartOK (proto typ : Nat) (data : List Nat) (exts : List Ext) : Prop :=
  (exts = [] ∧ legacyAmbiguous data = false) ∨
  (exts ≠ [] ∧ (∀ e ∈ exts, ObjOK proto e) ∧ validExtensions proto typ exts = true ∧ lengthAttrFits proto data)

/-- RFC 4884 padding cannot be told from data: with extensions the datagram comes back zero-padded. -/
def rcvData (proto : Nat) (data : List Nat) (exts : List Ext) : List Nat :=
  if exts = [] then data else padded proto data

/-- Bodies whose every field survives the wire when sent as (`proto`, `typ`): the type selects the parser of
this kind of body and every field fits its width. -/
def BodyOK (proto typ : Nat) : Body → Prop
  | .echo id seq _ => parserKind proto typ = .echo ∧ (0 ≤ id ∧ id < 65536) ∧ (0 ≤ seq ∧ seq < 65536)
  | .extEchoReply id seq state _ _ _ =>
    parserKind proto typ = .xrep ∧ (0 ≤ id ∧ id < 65536) ∧ (0 ≤ seq ∧ seq < 256) ∧ (0 ≤ state ∧ state < 8)
  | .packetTooBig mtu _ => parserKind proto typ = .ptb ∧ (0 ≤ mtu ∧ mtu < 4294967296)
  | .raw _ => parserKind proto typ = .raw
  | .dstUnreach data exts => parserKind proto typ = .du ∧ MultipartOK proto typ data exts
  | .timeExceeded data exts => parserKind proto typ = .te ∧ MultipartOK proto typ data exts
  | .paramProb ptr data exts =>
    parserKind proto typ = .pp ∧
      if proto = protocolICMP then (0 ≤ ptr ∧ ptr < 256) ∧ MultipartOK proto typ data exts
      else (0 ≤ ptr ∧ ptr < 4294967296) ∧ exts = []
  -- nothing is proved of the extended echo request; a message without body parses to an empty raw body or not at all
  | .extEchoReq .. => False
  | .noBody => False

/-- What `ParseMessage` returns for a body that `Marshal` sent. -/
def rcvBody (proto : Nat) : Body → Body
  | .dstUnreach data exts => .dstUnreach (rcvData proto data exts) exts
  | .timeExceeded data exts => .timeExceeded (rcvData proto data exts) exts
  | .paramProb ptr data exts => .paramProb ptr (rcvData proto data exts) exts
  | b => b

theorem multipartLens_ne (proto : Nat) (w : Bool) (data : List Nat) (exts : List Ext) :
    (multipartLens proto w data exts).1 ≠ 0 := by
  unfold multipartLens
  simp only
  omega

/-- Under ICMPv4 the first octet is free (parameter problem keeps its pointer there), hence any `b0`. -/
theorem multipart_roundtrip {proto typ : Nat} {k : PK} (hk : parserKind proto typ = k) (hx : k ≠ .xreq)
    (hp : proto = protocolICMP ∨ proto = protocolIPv6ICMP)
    {data : List Nat} {exts : List Ext} (h : MultipartOK proto typ data exts) :
    lengthAttrOK proto data exts = true ∧
    ∃ a0 a1 rest, marshalMultipart proto true data exts = a0 :: a1 :: 0 :: 0 :: rest ∧
      ∀ b0, (proto ≠ protocolICMP → b0 = a0) →
        parseMultipart proto typ (b0 :: a1 :: 0 :: 0 :: rest) = (rcvData proto data exts, exts) := by
  rcases h with ⟨rfl, hamb⟩ | ⟨hne, hok, _, hfit⟩
  · refine ⟨rfl, 0, 0, data, marshalMultipart_noext proto true data, fun b0 hb => ?_⟩
    exact parseMultipart_noext proto typ (kind_not_xreq hk hx) b0 0 0 0
      (by by_cases h : proto = protocolICMP <;> simp [h, hb]) data hamb
  · refine ⟨(lengthAttrOK_iff proto hp data exts (extLen_pos proto exts hne hok)).2 hfit, _, _, _,
      marshalMultipart_ext proto hp data exts hne hok, fun b0 hb => ?_⟩
    rw [rcvData, if_neg hne]
    exact parseMultipart_ext proto typ hp (kind_not_xreq hk hx) data exts hne hok _ _ 0 0
      (lengthAttr_decodes proto hp data hfit _ fun h => (hb h).trans (if_neg h))

theorem MultipartOK.valid {proto typ : Nat} {data : List Nat} {exts : List Ext} (h : MultipartOK proto typ data exts)
    (h0 : validExtensions proto typ [] = true) : validExtensions proto typ exts = true := by
  rcases h with ⟨rfl, _⟩ | ⟨_, _, hv, _⟩
  · exact h0
  · exact hv

/-- The guard of `Message.Marshal` (a body that is nil or of length 0 is not marshalled) never changes the
bytes: such a body marshals to nothing. -/
theorem bodyBytes_mkMsg (proto typ : Nat) (code : Int) (body : Body) :
    bodyBytes (mkMsg proto typ code body) = body.marshal proto := by
  cases body with
  | raw data => cases data <;> rfl
  | noBody => rfl
  | _ => simp [bodyBytes, mkMsg, Body.len, multipartLens_ne]

theorem body_roundtrip {proto typ : Nat} {body : Body} (h : BodyOK proto typ body) :
    ∃ mb, body.marshal proto = some mb ∧ parseBody proto typ mb = some (rcvBody proto body) := by
  cases body with
  | extEchoReq | noBody => exact h.elim
  | echo id seq data =>
    obtain ⟨hk, hid, hseq⟩ := h
    obtain ⟨i1, i2, hi, ei⟩ := be16_bytes id hid
    obtain ⟨s1, s2, hs, es⟩ := be16_bytes seq hseq
    refine ⟨_, rfl, ?_⟩
    unfold parseBody
    rw [hk, hi, hs, ← ei, ← es]
    rfl
  | extEchoReply id seq state active v4 v6 =>
    obtain ⟨hk, hid, hseq, hst⟩ := h
    obtain ⟨i1, i2, hi, e_id⟩ := be16_bytes id hid
    obtain ⟨n, rfl⟩ := Int.eq_ofNat_of_zero_le hst.1
    have hn : n % 8 = n := by omega
    obtain ⟨f1, f2, f3, f4⟩ := xrep_flags n (by omega) active v4 v6
    refine ⟨[i1, i2, u8 seq, n * 32 + (if active then 4 else 0) + (if v4 then 2 else 0) + (if v6 then 1 else 0)], ?_, ?_⟩
    · show some (be16 id ++ [u8 seq, n % 8 * 32 + (if active then 4 else 0) + (if v4 then 2 else 0) + (if v6 then 1 else 0)]) = _
      rw [hi, hn]
      rfl
    · unfold parseBody
      rw [hk]
      simp only [List.length_cons, List.length_nil, rd16, List.getD_cons_zero, List.getD_cons_succ, f1, f2, f3, f4,
        e_id, u8_id seq hseq.1 hseq.2]
      rfl
  | packetTooBig mtu data =>
    obtain ⟨hk, hm⟩ := h
    refine ⟨_, rfl, ?_⟩
    unfold parseBody
    rw [hk]
    exact congrArg (fun a => some (Body.packetTooBig a data)) (be32_rd32 mtu hm.1 hm.2 _)
  | raw data =>
    refine ⟨_, rfl, ?_⟩
    unfold parseBody
    rw [show parserKind proto typ = .raw from h]
    rfl
  | dstUnreach data exts | timeExceeded data exts =>
    -- one script for both: no step names the constructor
    obtain ⟨hk, hm⟩ := h
    obtain ⟨hp, hty⟩ := kind_proto_typ (kind_cases hk)
    obtain ⟨hla, a0, a1, rest, hb, hpm⟩ := multipart_roundtrip hk (by decide) hp hm
    have hv := hm.valid (by rcases kind_cases hk with ⟨rfl, rfl⟩ | ⟨rfl, rfl⟩ <;> rfl)
    refine ⟨marshalMultipart proto true data exts, by simp [Body.marshal, hty, hv, hla], ?_⟩
    unfold parseBody
    rw [hk, hb, hpm a0 fun _ => rfl]
    rfl
  | paramProb ptr data exts =>
    obtain ⟨hk, h⟩ := h
    rcases kind_cases hk with ⟨rfl, rfl⟩ | ⟨rfl, rfl⟩
    · obtain ⟨hptr, hm⟩ : (0 ≤ ptr ∧ ptr < 256) ∧ MultipartOK protocolICMP v4ParamProb data exts := h
      obtain ⟨hla, a0, a1, rest, hb, hpm⟩ := multipart_roundtrip hk (by decide) (Or.inl rfl) hm
      refine ⟨(marshalMultipart protocolICMP true data exts).set 0 (u8 ptr),
        by simp [Body.marshal, hm.valid rfl, hla], ?_⟩
      unfold parseBody
      rw [hk, hb, List.set_cons_zero, hpm _ fun h => absurd rfl h]
      exact congrArg (fun x => some (Body.paramProb x _ _)) (u8_id ptr hptr.1 hptr.2)
    · obtain ⟨hptr, rfl⟩ : (0 ≤ ptr ∧ ptr < 4294967296) ∧ exts = [] := h
      have hne : ¬ (protocolIPv6ICMP = protocolICMP) := by decide
      refine ⟨be32 ptr ++ data, by simp [Body.marshal, multipartLens, hne, pp6_bytes], ?_⟩
      unfold parseBody
      rw [hk]
      exact congrArg (fun a => some (Body.paramProb a data [])) (be32_rd32 ptr hptr.1 hptr.2 _)

/-- C60, round-trip clause: `ParseMessage(Marshal(m))` is `m` with the body as received (`rcvBody`) and some checksum. -/
theorem msg_roundtrip {proto typ : Nat} {code : Int} {body : Body}
    (hp : proto = protocolICMP ∨ proto = protocolIPv6ICMP) (ht : typ < 256) (hc : 0 ≤ code ∧ code < 256)
    (h : BodyOK proto typ body) :
    ∃ wire, (mkMsg proto typ code body).marshal none = some wire ∧
      (parseMessage proto wire).map (fun m => (m.proto, m.typ, m.code, m.body)) =
        some (proto, typ, code, rcvBody proto body) := by
  obtain ⟨mb, hb, hpb⟩ := body_roundtrip h
  replace hb := (bodyBytes_mkMsg proto typ code body).trans hb
  have hm : ∃ c0 c1, (mkMsg proto typ code body).marshal none = some ([typ % 256, u8 code, c0, c1] ++ mb) := by
    rcases hp with h | h
    · exact ⟨_, _, marshal_v4 _ h _ hb⟩
    · exact ⟨0, 0, marshal_v6_nopsh _ h _ hb⟩
  obtain ⟨c0, c1, hm⟩ := hm
  rw [Nat.mod_eq_of_lt ht] at hm
  refine ⟨_, hm, ?_⟩
  rw [List.cons_append, List.cons_append, List.cons_append, List.cons_append, List.nil_append,
    parseMessage_hdr _ _ _ _ _ _ hp, hpb]
  simp [u8_id code hc.1 hc.2]

theorem echo_roundtrip (proto typ : Nat) (hp : proto = protocolICMP ∨ proto = protocolIPv6ICMP)
    (ht : typ < 256) (hk : parserKind proto typ = .echo) (code id seq : Int) (data : List Nat)
    (hc : 0 ≤ code ∧ code < 256) (hid : 0 ≤ id ∧ id < 65536) (hseq : 0 ≤ seq ∧ seq < 65536) :
    RoundTrips proto typ code (.echo id seq data) none :=
  msg_roundtrip hp ht hc ⟨hk, hid, hseq⟩

theorem extEchoReply_roundtrip (proto typ : Nat) (hp : proto = protocolICMP ∨ proto = protocolIPv6ICMP)
    (ht : typ < 256) (hk : parserKind proto typ = .xrep) (code id seq state : Int) (active v4 v6 : Bool)
    (hc : 0 ≤ code ∧ code < 256) (hid : 0 ≤ id ∧ id < 65536) (hseq : 0 ≤ seq ∧ seq < 256)
    (hst : 0 ≤ state ∧ state < 8) :
    RoundTrips proto typ code (.extEchoReply id seq state active v4 v6) none :=
  msg_roundtrip hp ht hc ⟨hk, hid, hseq, hst⟩

theorem packetTooBig_roundtrip (typ : Nat) (ht : typ < 256) (hk : parserKind protocolIPv6ICMP typ = .ptb)
    (code mtu : Int) (data : List Nat) (hc : 0 ≤ code ∧ code < 256) (hm : 0 ≤ mtu ∧ mtu < 4294967296) :
    RoundTrips protocolIPv6ICMP typ code (.packetTooBig mtu data) none :=
  msg_roundtrip (Or.inr rfl) ht hc ⟨hk, hm⟩

/-- No RFC 4884 structure under ICMPv6: the extensions must be empty (`paramprob_v6_exts_rejected`). -/
theorem paramProb_v6_roundtrip (typ : Nat) (ht : typ < 256) (hk : parserKind protocolIPv6ICMP typ = .pp)
    (code ptr : Int) (data : List Nat) (hc : 0 ≤ code ∧ code < 256) (hm : 0 ≤ ptr ∧ ptr < 4294967296) :
    RoundTrips protocolIPv6ICMP typ code (.paramProb ptr data []) none :=
  msg_roundtrip (Or.inr rfl) ht hc ⟨hk, hm, rfl⟩

theorem raw_roundtrip (proto typ : Nat) (hp : proto = protocolICMP ∨ proto = protocolIPv6ICMP)
    (ht : typ < 256) (hk : parserKind proto typ = .raw) (code : Int) (data : List Nat)
    (hc : 0 ≤ code ∧ code < 256) :
    RoundTrips proto typ code (.raw data) none :=
  msg_roundtrip hp ht hc hk

theorem dstUnreach_noext_roundtrip (proto typ : Nat) (ht : typ < 256) (hk : parserKind proto typ = .du)
    (code : Int) (hc : 0 ≤ code ∧ code < 256) (data : List Nat) (hamb : legacyAmbiguous data = false) :
    RoundTrips proto typ code (.dstUnreach data []) none :=
  msg_roundtrip (kind_proto_typ (kind_cases hk)).1 ht hc ⟨hk, Or.inl ⟨rfl, hamb⟩⟩

theorem timeExceeded_noext_roundtrip (proto typ : Nat) (ht : typ < 256) (hk : parserKind proto typ = .te)
    (code : Int) (hc : 0 ≤ code ∧ code < 256) (data : List Nat) (hamb : legacyAmbiguous data = false) :
    RoundTrips proto typ code (.timeExceeded data []) none :=
  msg_roundtrip (kind_proto_typ (kind_cases hk)).1 ht hc ⟨hk, Or.inl ⟨rfl, hamb⟩⟩

theorem paramProb_v4_noext_roundtrip (typ : Nat) (ht : typ < 256) (hk : parserKind protocolICMP typ = .pp)
    (code ptr : Int) (hc : 0 ≤ code ∧ code < 256) (hptr : 0 ≤ ptr ∧ ptr < 256)
    (data : List Nat) (hamb : legacyAmbiguous data = false) :
    RoundTrips protocolICMP typ code (.paramProb ptr data []) none :=
  msg_roundtrip (Or.inl rfl) ht hc ⟨hk, hptr, Or.inl ⟨rfl, hamb⟩⟩

/-- Body of `ParseMessage(Marshal(m))`. -/
def roundBody (m : Msg) : Option Body :=
  (m.marshal none).bind fun w => (parseMessage m.proto w).map (·.body)

theorem roundBody_of_roundTrips (proto typ : Nat) (code : Int) (body : Body)
    (h : RoundTrips proto typ code body none) : roundBody (mkMsg proto typ code body) = some body := by
  obtain ⟨wire, hm, hp⟩ := h
  unfold roundBody
  rw [hm]
  simp only [Option.bind_some, mkMsg]
  cases hpm : parseMessage proto wire with
  | none => simp [hpm] at hp
  | some m =>
    simp [hpm] at hp ⊢
    exact hp.2.2.2

/-- A 140-byte original datagram whose octets 128… are `20 00 00 00 | 00 08 09 09 01 02 03 04`. -/
def legacyData : List Nat := zeros 128 ++ [32, 0, 0, 0, 0, 8, 9, 9, 1, 2, 3, 4]

/-- Known finding `rfc4884-legacy-128-heuristic` (DESIGN.md §15): a destination-unreachable message without extensions
whose datagram looks like an extension structure at octet 128 parses back with a 128-byte datagram and a phantom object. -/
theorem legacy128_witness :
    legacyAmbiguous legacyData = true ∧
    roundBody (mkMsg protocolICMP v4DstUnreach 0 (.dstUnreach legacyData [])) =
      some (.dstUnreach (zeros 128) [.raw [0, 8, 9, 9, 1, 2, 3, 4]]) := by
  decide +kernel

/-- The no-extension round trip as the property states it (all datagrams). -/
def NoExtStatement : Prop :=
  ∀ (data : List Nat), RoundTrips protocolICMP v4DstUnreach 0 (.dstUnreach data []) none

theorem noext_full_false : ¬ NoExtStatement := by
  intro h
  have h1 := roundBody_of_roundTrips _ _ _ _ (h legacyData)
  rw [legacy128_witness.2] at h1
  exact absurd h1 (by decide +kernel)

theorem noext_holds_partial (data : List Nat) (h : legacyAmbiguous data = false) :
    RoundTrips protocolICMP v4DstUnreach 0 (.dstUnreach data []) none :=
  dstUnreach_noext_roundtrip _ _ (by decide) (by decide) 0 (by omega) data h

theorem dstUnreach_ext_roundtrip (proto typ : Nat) (ht : typ < 256) (hk : parserKind proto typ = .du)
    (code : Int) (hc : 0 ≤ code ∧ code < 256) (data : List Nat) (exts : List Ext) (hne : exts ≠ [])
    (hok : ∀ e ∈ exts, ObjOK proto e) (hval : validExtensions proto typ exts = true) (hfit : lengthAttrFits proto data) :
    ∃ wire, (mkMsg proto typ code (.dstUnreach data exts)).marshal none = some wire ∧
      (parseMessage proto wire).map (fun m => (m.proto, m.typ, m.code, m.body)) =
        some (proto, typ, code, .dstUnreach (padded proto data) exts) := by
  simpa only [rcvBody, rcvData, if_neg hne] using msg_roundtrip (body := .dstUnreach data exts)
    (kind_proto_typ (kind_cases hk)).1 ht hc ⟨hk, Or.inr ⟨hne, hok, hval, hfit⟩⟩

theorem timeExceeded_ext_roundtrip (proto typ : Nat) (ht : typ < 256) (hk : parserKind proto typ = .te)
    (code : Int) (hc : 0 ≤ code ∧ code < 256) (data : List Nat) (exts : List Ext) (hne : exts ≠ [])
    (hok : ∀ e ∈ exts, ObjOK proto e) (hval : validExtensions proto typ exts = true) (hfit : lengthAttrFits proto data) :
    ∃ wire, (mkMsg proto typ code (.timeExceeded data exts)).marshal none = some wire ∧
      (parseMessage proto wire).map (fun m => (m.proto, m.typ, m.code, m.body)) =
        some (proto, typ, code, .timeExceeded (padded proto data) exts) := by
  simpa only [rcvBody, rcvData, if_neg hne] using msg_roundtrip (body := .timeExceeded data exts)
    (kind_proto_typ (kind_cases hk)).1 ht hc ⟨hk, Or.inr ⟨hne, hok, hval, hfit⟩⟩

theorem paramProb_v4_ext_roundtrip (typ : Nat) (ht : typ < 256) (hk : parserKind protocolICMP typ = .pp)
    (code ptr : Int) (hc : 0 ≤ code ∧ code < 256) (hptr : 0 ≤ ptr ∧ ptr < 256) (data : List Nat) (exts : List Ext)
    (hne : exts ≠ []) (hok : ∀ e ∈ exts, ObjOK protocolICMP e)
    (hval : validExtensions protocolICMP v4ParamProb exts = true) (hfit : lengthAttrFits protocolICMP data) :
    ∃ wire, (mkMsg protocolICMP typ code (.paramProb ptr data exts)).marshal none = some wire ∧
      (parseMessage protocolICMP wire).map (fun m => (m.proto, m.typ, m.code, m.body)) =
        some (protocolICMP, typ, code, .paramProb ptr (padded protocolICMP data) exts) := by
  obtain ⟨_, rfl⟩ | ⟨h, _⟩ := kind_cases hk
  · simpa only [rcvBody, rcvData, if_neg hne] using msg_roundtrip (body := .paramProb ptr data exts)
      (Or.inl rfl) ht hc ⟨hk, hptr, Or.inr ⟨hne, hok, hval, hfit⟩⟩
  · exact absurd h (by decide)

/-- Corollary for MPLS label stacks, the extension RFC 4950 defines for these messages. -/
theorem dstUnreach_mpls_roundtrip (proto typ : Nat) (ht : typ < 256) (hk : parserKind proto typ = .du)
    (code : Int) (hc : 0 ≤ code ∧ code < 256) (data : List Nat) (stacks : List (List MplsLabel))
    (hne : stacks ≠ []) (hwf : ∀ ls ∈ stacks, (∀ l ∈ ls, LabelWF l) ∧ ls.length ≤ 16000)
    (hfit : lengthAttrFits proto data) :
    ∃ wire, (mkMsg proto typ code (.dstUnreach data (stacks.map (fun ls => Ext.mpls 1 1 ls)))).marshal none = some wire ∧
      (parseMessage proto wire).map (fun m => (m.proto, m.typ, m.code, m.body)) =
        some (proto, typ, code, .dstUnreach (padded proto data) (stacks.map (fun ls => Ext.mpls 1 1 ls))) := by
  apply dstUnreach_ext_roundtrip proto typ ht hk code hc data _ (by
      cases stacks with
      | nil => exact absurd rfl hne
      | cons a r => simp) ?_ ?_ hfit
  · intro e he
    simp only [List.mem_map] at he
    obtain ⟨ls, hls, rfl⟩ := he
    exact objOK_mpls proto ls (hwf ls hls).1 (hwf ls hls).2
  · -- destination unreachable admits MPLS objects under both protocols
    have hall : (stacks.map (fun ls => Ext.mpls 1 1 ls)).all
        (fun e => match e with | .mpls .. => true | .info .. => true | .raw .. => true | _ => false) = true :=
      List.all_eq_true.2 fun e he => by
        obtain ⟨ls, _, rfl⟩ := List.mem_map.1 he
        rfl
    rcases kind_cases hk with ⟨rfl, rfl⟩ | ⟨rfl, rfl⟩
    · rw [validExtensions, if_pos (by decide)]
      exact hall
    · rw [validExtensions, if_pos (by decide)]
      exact hall

end NetVerif.Proofs.C60
