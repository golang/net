import NetVerif.Model.QuicStream
import NetVerif.Model.QuicMonitor
import NetVerif.Gen.C20
import NetVerif.Proofs.Lemmas.QuicMonitor
import NetVerif.Proofs.Lemmas.QuicRecv
import NetVerif.Proofs.Lemmas.QuicSendPath
import NetVerif.Proofs.Lemmas.IfCases
import NetVerif.Proofs.Lemmas.Fold
/-! C20: QUIC never sends stream data beyond the peer's flow-control limits; advertised limits never decrease; a peer
exceeding them gets FLOW_CONTROL_ERROR. T-tie (`gen_*`): the straight-line integer functions regenerated from
conn_flow.go / stream.go equal the model. Send side: `CInv` (`used ≤ max`, `used = Σ outmaxsent`, per stream `SOK`)
over all histories of `Op`. MAX_DATA: `appendMaxData`, `sendMaxDataUpdate` and `bytesRead…Loop n` with `0 ≤ n` each
keep `sentLimit ≤ newLimit ∧ 0 ≤ credit` and do not lower the value on the wire; these are single steps: no theorem is
over histories, and none says that `Read`, `closeRead`, `handleReset` pass `0 ≤ n`. MAX_STREAM_DATA: the value
written, monotone by the monitor only. -/
namespace NetVerif.Proofs.C20
open NetVerif.Model NetVerif.Model.QuicStream
open NetVerif.Model.Rangeset (RS Rg)

theorem gen_consts :
    Gen.C20.errFlowControl = errFlowControl ∧ Gen.C20.errFinalSize = errFinalSize ∧
    Gen.C20.autoFlushSize = autoFlushSize ∧ Gen.C20.pipebufSize = chunk ∧
    Gen.C20.sentValUnsetState = SV.unset.code ∧ Gen.C20.sentValUnsentState = SV.unsent.code ∧
    Gen.C20.sentValSentState = (SV.sent 0).code ∧ Gen.C20.sentValReceivedState = SV.received.code := by
  decide

theorem gen_setMaxData_eq (mx v : Int) : Gen.C20.setMaxData mx v = some (setMaxData mx v) := by
  unfold Gen.C20.setMaxData setMaxData
  by_cases h : mx ≥ v
  · simp [h, Int.max_def]; omega
  · simp [h, Int.max_def]; omega

theorem gen_avail_eq (mx used : Int) : Gen.C20.avail mx used = some (avail mx used) := rfl
theorem gen_consume_eq (used n : Int) : Gen.C20.consume used n = some (consume used n) := rfl
theorem gen_shouldUpdateFlowControl_eq (w a : Int) :
    Gen.C20.shouldUpdateFlowControl w a = some (shouldUpdateFlowControl w a) := rfl

theorem gen_checkStreamBounds_eq (inwin insize inEnd e : Int) (fin : Bool) :
    Gen.C20.checkStreamBounds inwin insize inEnd e fin = some (checkStreamBounds inwin insize inEnd e fin) := by
  simp only [Gen.C20.checkStreamBounds, checkStreamBounds, errFlowControl, errFinalSize, and_assoc, apply_ite some]

theorem gen_bytesReceived_eq (used lim n : Int) :
    Gen.C20.bytesReceived used lim n =
      some ((bytesReceived used lim n).1, (bytesReceived used lim n).2, lim) := by
  unfold Gen.C20.bytesReceived bytesReceived errFlowControl
  by_cases h : used + n > lim
  · simp only [if_pos h]
  · simp only [if_neg h]

theorem checkStreamBounds_flow_iff (inwin insize inEnd e : Int) (fin : Bool) :
    checkStreamBounds inwin insize inEnd e fin = errFlowControl ↔ e > inwin := by
  rw [Lemmas.QuicRecv.checkStreamBounds_eq]
  by_cases h : e > inwin
  · rw [if_pos h]; exact ⟨fun _ => h, fun _ => rfl⟩
  · rw [if_neg h]; split <;> exact ⟨fun h' => absurd h' (by decide), fun h' => absurd h' h⟩

theorem bytesReceived_flow_iff (used lim n : Int) :
    (bytesReceived used lim n).1 = errFlowControl ↔ used + n > lim := by
  unfold bytesReceived
  by_cases h : used + n > lim
  · rw [if_pos h]; exact ⟨fun _ => h, fun _ => rfl⟩
  · rw [if_neg h]; exact ⟨fun h' => absurd (show (0 : Int) = 3 from h') (by decide), fun h' => absurd h' h⟩

theorem bytesReceived_ok_bound (used lim n : Int) (h : (bytesReceived used lim n).1 = 0) :
    (bytesReceived used lim n).2 ≤ lim := by
  unfold bytesReceived errFlowControl at *
  by_cases hc : used + n > lim
  · simp [hc] at h
  · simp [hc]; omega

/-- C20, receive side: FLOW_CONTROL_ERROR iff the frame ends beyond the stream window, or its new bytes
`e - in.end` (open stream, no final size yet) overshoot `sentLimit`, the last MAX_DATA sent. -/
theorem handleData_flow_error_iff (c : Conn) (s : Stream) (off : Int) (b : List Nat) (fin : Bool) :
    (handleData c s off b fin).2.2 = errFlowControl ↔
      (off + b.length > s.inwin ∨
        (checkStreamBounds s.inwin s.insize s.inp.stop (off + b.length) fin = 0 ∧
          ¬ (s.inclosed.isSet = true ∨ s.inresetcode ≠ -1) ∧ s.insize = -1 ∧ off + b.length > s.inp.stop ∧
          c.usedLimit + (off + b.length - s.inp.stop) > c.sentLimit)) := by
  unfold handleData
  simp only []
  by_cases h1 : checkStreamBounds s.inwin s.insize s.inp.stop (off + b.length) fin = 0
  · have hnf : ¬ (off + (b.length : Int) > s.inwin) := by
      intro h; have := (checkStreamBounds_flow_iff s.inwin s.insize s.inp.stop _ fin).2 h
      rw [h1] at this; exact absurd this (by decide)
    simp only [h1, ne_eq, not_true_eq_false, if_false]
    by_cases h2 : (s.inclosed.isSet = true ∨ s.inresetcode ≠ -1)
    · simp [h2, errFlowControl, hnf]
    · simp only [h2, if_false]
      by_cases h3 : s.insize = -1 ∧ off + (b.length : Int) > s.inp.stop
      · simp only [h3, and_self, if_true]
        by_cases h4 : c.usedLimit + (off + (b.length : Int) - s.inp.stop) > c.sentLimit
        · have : (bytesReceived c.usedLimit c.sentLimit (off + b.length - s.inp.stop)).1 = errFlowControl :=
            (bytesReceived_flow_iff _ _ _).2 h4
          simp [this, errFlowControl, h4, hnf]
        · have h5 : (bytesReceived c.usedLimit c.sentLimit (off + b.length - s.inp.stop)).1 = 0 := by
            unfold bytesReceived; simp [h4]
          simp only [h5, not_true_eq_false, if_false]
          constructor
          · intro h; exact absurd h (by decide)
          · rintro (h | h)
            · exact absurd h hnf
            · exact absurd h.2.2.2.2 h4
      · simp only [h3, if_false, not_true_eq_false]
        constructor
        · intro h; exact absurd h (by decide)
        · rintro (h | h)
          · exact absurd h hnf
          · exact absurd ⟨h.2.2.1, h.2.2.2.1⟩ h3
  · simp only [h1, ne_eq, not_false_eq_true, if_true]
    constructor
    · intro h; left; exact (checkStreamBounds_flow_iff _ _ _ _ _).1 h
    · rintro (h | h)
      · exact (checkStreamBounds_flow_iff _ _ _ _ _).2 h
      · exact absurd h.1 (by simp)

/-- C20, advertised MAX_DATA, one step. The model puts `newLimit + credit` into the frame and assigns it to
`sentLimit`; the statement is about the `Conn` fields only, not about the `Writer`. -/
theorem appendMaxData_monotone (c : Conn) (w : Writer) (pn : Int) (pto : Bool)
    (h1 : c.sentLimit ≤ c.newLimit) (h2 : 0 ≤ c.credit) :
    let r := appendMaxData c w pn pto
    c.sentLimit ≤ r.1.sentLimit ∧ r.1.sentLimit ≤ r.1.newLimit ∧ c.newLimit ≤ r.1.newLimit ∧ 0 ≤ r.1.credit := by
  unfold appendMaxData
  by_cases hs : c.inSent.shouldSendPTO pto = true
  · rw [if_pos hs]
    simp only []
    split
    · show c.sentLimit ≤ c.sentLimit ∧ c.sentLimit ≤ c.newLimit + c.credit ∧ c.newLimit ≤ c.newLimit + c.credit ∧
        (0 : Int) ≤ 0
      omega
    · show c.sentLimit ≤ c.newLimit + c.credit ∧ c.newLimit + c.credit ≤ c.newLimit + c.credit ∧
        c.newLimit ≤ c.newLimit + c.credit ∧ (0 : Int) ≤ 0
      omega
  · rw [if_neg hs]; exact ⟨Int.le_refl _, h1, Int.le_refl _, h2⟩

theorem sendMaxDataUpdate_monotone (c : Conn) (h1 : c.sentLimit ≤ c.newLimit) (h2 : 0 ≤ c.credit) :
    c.sentLimit ≤ c.sendMaxDataUpdate.newLimit ∧ c.sendMaxDataUpdate.sentLimit = c.sentLimit ∧
      0 ≤ c.sendMaxDataUpdate.credit := by
  unfold Conn.sendMaxDataUpdate; simp; omega

/-- crediting `n` read bytes: they wait in `credit`, or everything pending moves into `newLimit` -/
def Credited (c : Conn) (n : Int) (t : Conn) : Prop :=
  t.sentLimit = c.sentLimit ∧ ((t.newLimit = c.newLimit ∧ t.credit = c.credit + n) ∨
    (t.newLimit = c.newLimit + (c.credit + n) ∧ t.credit = 0))

theorem bytesReadOnLoop_credited (c : Conn) (n : Int) : Credited c n (c.bytesReadOnLoop n) :=
  Lemmas.ite_ind (Credited c n) (fun _ => ⟨rfl, Or.inr ⟨rfl, rfl⟩⟩) (fun _ => ⟨rfl, Or.inl ⟨rfl, rfl⟩⟩)

theorem bytesReadOffLoop_credited (c : Conn) (n : Int) : Credited c n (c.bytesReadOffLoop n) := by
  unfold Conn.bytesReadOffLoop
  by_cases hn : n = 0
  · rw [if_pos hn]; exact ⟨rfl, Or.inl ⟨rfl, by omega⟩⟩
  · rw [if_neg hn]; exact bytesReadOnLoop_credited c n

theorem bytesRead_monotone (c : Conn) (n : Int) (h1 : c.sentLimit ≤ c.newLimit) (h2 : 0 ≤ c.credit) (hn : 0 ≤ n) :
    (c.bytesReadOffLoop n).sentLimit = c.sentLimit ∧ c.newLimit ≤ (c.bytesReadOffLoop n).newLimit ∧
      0 ≤ (c.bytesReadOffLoop n).credit ∧
    (c.bytesReadOnLoop n).sentLimit = c.sentLimit ∧ c.newLimit ≤ (c.bytesReadOnLoop n).newLimit ∧
      0 ≤ (c.bytesReadOnLoop n).credit := by
  have a := bytesReadOffLoop_credited c n
  have b := bytesReadOnLoop_credited c n
  unfold Credited at a b
  omega

/-- MAX_STREAM_DATA: only the branch that writes the frame (with the value `in.start + inmaxbuf`) assigns `inwin`, to
that value; the STOP_SENDING part before it touches `inclosed` alone. Nothing here is about the `Writer`. -/
theorem appendInFrames_inwin (s : Stream) (w : Writer) (pn : Int) (pto : Bool) :
    let r := appendInFrames s w pn pto
    r.1.inwin = s.inwin ∨ r.1.inwin = s.inp.start + s.inmaxbuf := by
  unfold appendInFrames
  by_cases h : s.inclosed.shouldSendPTO pto = true
  · rw [if_pos h]
    cases w.stopSending s.id 0 with
    | none => exact Or.inl rfl
    | some w' =>
      dsimp only
      -- MAX_STREAM_DATA due? then: did the frame fit?
      split
      · split
        · exact Or.inl rfl
        · exact Or.inr rfl
      · exact Or.inl rfl
  · rw [if_neg h]
    dsimp only
    split
    · split
      · exact Or.inl rfl
      · exact Or.inr rfl
    · exact Or.inl rfl

theorem setMaxData_max (mx v : Int) : setMaxData mx v ≥ mx ∧ setMaxData mx v ≥ v ∧
    (setMaxData mx v = mx ∨ setMaxData mx v = v) := by
  unfold setMaxData; split <;> omega

theorem handleMaxStreamData_outwin (s : Stream) (v : Int) :
    (handleMaxStreamData s v).outwin = (if v ≤ s.outwin then s.outwin else v) ∧
    (handleMaxStreamData s v).outmaxsent = s.outmaxsent := by
  refine ⟨?_, (Lemmas.QuicSendPath.handleMaxStreamData_inv s v).ms⟩
  unfold handleMaxStreamData
  by_cases hv : v ≤ s.outwin
  · rw [if_pos hv, if_pos hv]
  · rw [if_neg hv, if_neg hv, apply_ite Stream.outwin]
    exact ite_self v

/-- bytes of a stream already handed back to connection-level flow control: what the application
consumed plus what `Read` parked in the fast-path buffer. -/
def returned (s : Stream) : Int := s.inp.start + s.inbuf.length

/-- what the peer has been or will be granted: the next MAX_DATA value plus pending credit -/
def granted (c : Conn) : Int := c.newLimit + c.credit

theorem granted_bytesRead (c : Conn) (n : Int) :
    granted (c.bytesReadOffLoop n) = granted c + n ∧ granted (c.bytesReadOnLoop n) = granted c + n := by
  have a := bytesReadOffLoop_credited c n
  have b := bytesReadOnLoop_credited c n
  unfold Credited at a b
  unfold granted
  omega

/-- Repaired code (`discardInbufLocked`): `CloseRead` credits every buffered byte exactly once; the bytes parked in
`inbuf` were credited by `Read` and are not credited again. `handleReset_credit` is the same for an accepted
first RESET_STREAM, up to the final size. -/
theorem closeRead_credit (c : Conn) (s : Stream) (hw : s.writeOnly = false) :
    granted (closeRead c s).1 - granted c = returned (closeRead c s).2 - returned s ∧
      returned (closeRead c s).2 = s.inp.stop := by
  unfold closeRead
  simp only [hw, Bool.false_eq_true, if_false]
  constructor
  · rw [(granted_bytesRead _ _).1]
    unfold returned Pipe.discardBefore
    simp; omega
  · unfold returned Pipe.discardBefore
    simp

theorem handleReset_accepted (c : Conn) (s : Stream) (code final : Int)
    (h0 : (handleReset c s code final).2.2 = 0) (hr : s.inresetcode = -1) :
    checkStreamBounds s.inwin s.insize s.inp.stop final true = 0 ∧
    (handleReset c s code final).2.1 = { s with inbuf := [], inbufoff := 0, inresetcode := code, insize := final,
                                                 inp := Pipe.discardBefore s.inp s.inp.stop } ∧
    ∃ u, (handleReset c s code final).1 =
      Conn.bytesReadOnLoop { c with usedLimit := u } (final - s.inp.start - (s.inbuf.length : Int)) := by
  unfold handleReset at h0 ⊢
  by_cases h1 : checkStreamBounds s.inwin s.insize s.inp.stop final true = 0
  · simp only [h1, hr, ne_eq, not_true_eq_false, if_false] at h0 ⊢
    by_cases h2 : s.insize = -1
    · simp only [if_pos h2] at h0 ⊢
      by_cases h3 : (bytesReceived c.usedLimit c.sentLimit (final - s.inp.stop)).1 = 0
      · simp only [h3, not_true_eq_false, if_false]
        exact ⟨trivial, trivial, _, rfl⟩
      · simp only [h3, not_false_eq_true, if_true] at h0
    · simp only [if_neg h2, not_true_eq_false, if_false]
      exact ⟨trivial, trivial, c.usedLimit, rfl⟩
  · simp only [h1, ne_eq, not_false_eq_true, if_true] at h0

theorem handleReset_credit (c : Conn) (s : Stream) (code final : Int)
    (h0 : (handleReset c s code final).2.2 = 0) (hr : s.inresetcode = -1) :
    granted (handleReset c s code final).1 - granted c = final - returned s := by
  obtain ⟨_, _, u, hc⟩ := handleReset_accepted c s code final h0 hr
  rw [hc, (granted_bytesRead _ _).2]
  show c.newLimit + c.credit + (final - s.inp.start - s.inbuf.length) - (c.newLimit + c.credit) =
    final - (s.inp.start + s.inbuf.length)
  omega

/-- `hoff`: the frame is a retransmission or starts at the next new byte. -/
theorem clampSize_within (off size ms av : Int) (hs : 0 ≤ size) (hav : 0 ≤ av) (hoff : off ≤ ms) :
    0 ≤ clampSize off size ms av ∧ clampSize off size ms av ≤ size ∧ off + clampSize off size ms av ≤ ms + av :=
  Lemmas.QuicSendPath.clamp_within hs hav hoff

/-- C20: retransmissions (frames ending at or below `outmaxsent`) are not clamped and consume nothing. -/
theorem retransmission_free (off size ms av oused : Int) (h : off + size ≤ ms) :
    clampSize off size ms av = size ∧ charge oused ms (off + size) = (oused, ms) := by
  unfold clampSize charge
  have : ¬ (off + size > ms) := by omega
  simp [this]

theorem charge_spec (oused omax ms e : Int) (hinv : oused ≤ omax) (he : e ≤ ms + avail omax oused) :
    (charge oused ms e).1 ≤ omax ∧ (charge oused ms e).1 - oused = (charge oused ms e).2 - ms ∧
      (charge oused ms e).2 = (if e > ms then e else ms) ∧ ms ≤ (charge oused ms e).2 :=
  Lemmas.QuicSendPath.charge_facts oused omax ms e hinv he

theorem streamFrameFit_le (a id off size : Int) (fin : Bool) (n : Int) (wf : Bool)
    (h : streamFrameFit a id off size fin = some (n, wf)) (hs : 0 ≤ size) : 0 ≤ n ∧ n ≤ size :=
  Lemmas.QuicSendPath.fit_le h hs

/-- C20, one iteration of the STREAM loop at connection level; `n` is what `appendStreamFrame` actually placed. -/
theorem send_iteration_conn (oused omax ms off size n : Int) (hinv : oused ≤ omax) (hs : 0 ≤ size)
    (hoff : off ≤ ms) (hn0 : 0 ≤ n) (hn : n ≤ clampSize off size ms (avail omax oused)) :
    (charge oused ms (off + n)).1 ≤ omax ∧
      (charge oused ms (off + n)).1 - oused = (charge oused ms (off + n)).2 - ms := by
  have hav : 0 ≤ avail omax oused := by unfold avail; omega
  have hc := clampSize_within off size ms (avail omax oused) hs hav hoff
  have := charge_spec oused omax ms (off + n) hinv (by omega)
  exact ⟨this.1, this.2.1⟩

section SendPath
open NetVerif.Proofs.Lemmas.QuicSendPath NetVerif.Proofs.Lemmas.RangesetBounds

/-- per-stream invariant: within the peer's stream limit, and (unless reset: `resetInternal` drops `outunsent` and
the pipe) the byte bookkeeping `SInv` -/
def SOK (s : Stream) : Prop := s.outmaxsent ≤ s.outwin ∧ (s.outreset.isSet = true ∨ SInv s)

theorem sok_of_keeps {s t : Stream} (hs : SOK s) (hk : Keeps s t) : SOK t ∧ t.outmaxsent = s.outmaxsent := by
  refine ⟨⟨by rw [hk.ms]; exact Int.le_trans hs.1 hk.win, ?_⟩, hk.ms⟩
  rcases hs.2 with h | h
  · left; rw [hk.rs]; exact h
  · right; exact hk.inv h

theorem fresh_SOK (s : Stream) (h0 : s.outmaxsent = 0) (h1 : s.outflushed = 0) (h2 : s.outunsent = [])
    (h3 : s.outacked = []) (h4 : s.out = Pipe.empty) (hw : 0 ≤ s.outwin) : SOK s := by
  have hl : lim s = 0 := by unfold lim QuicStream.imin; rw [h1]; omega
  refine ⟨by omega, Or.inr ((SInv_iff s).2 ?_)⟩
  rw [hl, h0, h1, h2, h3, h4]
  exact ⟨⟨Int.le_refl _, allRP_nil _ _, ⟨0, trivial⟩, fun x _ _ => by omega, allRP_nil _ _⟩, by decide, by decide⟩

/-- the postcondition of `appendOutFramesLocked` as a predicate on the result tuple -/
def OutPost (c : Conn) (s : Stream) (w : Writer) (r : Conn × Stream × Writer × Bool) : Prop :=
  r.1.omax = c.omax ∧ r.1.oused ≤ r.1.omax ∧ SOK r.2.1 ∧
    r.1.oused - c.oused = r.2.1.outmaxsent - s.outmaxsent ∧ s.outmaxsent ≤ r.2.1.outmaxsent ∧
    ∀ x ∈ r.2.2.1.recs, x ∈ w.recs ∨ (∀ i a e f, x ≠ Rec.stream i a e f) ∨
      ∃ a e f, x = Rec.stream s.id a e f ∧ a ≤ e ∧ e ≤ r.2.1.outmaxsent ∧ e ≤ r.2.1.outwin

theorem recs_put (w : Writer) (cost : Int) (f : Frame) (r : Rec) (hr : ∀ i a e f, r ≠ Rec.stream i a e f) :
    ∀ x ∈ (w.put cost f r).recs, x ∈ w.recs ∨ ∀ i a e f, x ≠ Rec.stream i a e f := fun x hx =>
  (List.mem_append.1 hx).imp id fun hx => by rw [List.mem_singleton.1 hx]; exact hr

theorem appendOutFrames_post (c : Conn) (s : Stream) (w : Writer) (pn : Int) (pto : Bool)
    (hc : c.oused ≤ c.omax) (hs : SOK s) :
    let r := appendOutFrames c s w pn pto
    r.1.omax = c.omax ∧ r.1.oused ≤ r.1.omax ∧ SOK r.2.1 ∧
      r.1.oused - c.oused = r.2.1.outmaxsent - s.outmaxsent ∧ s.outmaxsent ≤ r.2.1.outmaxsent ∧
      ∀ x ∈ r.2.2.1.recs, x ∈ w.recs ∨ (∀ i a e f, x ≠ Rec.stream i a e f) ∨
        ∃ a e f, x = Rec.stream s.id a e f ∧ a ≤ e ∧ e ≤ r.2.1.outmaxsent ∧ e ≤ r.2.1.outwin := by
  show OutPost c s w (appendOutFrames c s w pn pto)
  have hsub : c.oused - c.oused = s.outmaxsent - s.outmaxsent := by omega
  have same : ∀ b, OutPost c s w (c, s, w, b) := fun _ => ⟨rfl, hc, hs, hsub, Int.le_refl _, fun _ hx => Or.inl hx⟩
  unfold appendOutFrames
  refine Lemmas.ite_ind (OutPost c s w) (fun _ => Lemmas.ite_ind _ (fun _ => ?_) (fun _ => same _)) (fun hreset => ?_)
  · unfold Writer.resetStream
    by_cases h2 : w.avail < 1 + szv s.id + szv s.outresetcode + szv s.outmaxsent
    · rw [if_pos h2]; exact same _
    · rw [if_neg h2]
      obtain ⟨_, hms, _, hwin, _, _, hrs⟩ :=
        (same_opens (s := { s with outreset := .sent pn }) ⟨rfl, rfl, Int.le_refl _⟩ pn).fields
      exact ⟨rfl, hc, ⟨by rw [hms, hwin]; exact hs.1, Or.inl (by rw [hrs]; rfl)⟩, by rw [hms]; exact hsub,
        by rw [hms]; exact Int.le_refl _,
        fun x hx => (recs_put w _ _ _ (fun _ _ _ _ => Rec.noConfusion) x hx).imp id Or.inl⟩
  · -- `+ 3`: the model's fuel is one round per unsent range plus slack; `outLoop_post` holds for any fuel
    have loop : ∀ {s1 : Stream} {w1 : Writer}, SameSend s s1 →
        (∀ x ∈ w1.recs, x ∈ w.recs ∨ ∀ i a e f, x ≠ Rec.stream i a e f) →
        OutPost c s w (outLoop (s1.outunsent.length + 3) c s1 w1 pn pto) := by
      intro s1 w1 hsame hw1
      obtain ⟨hid, hms, _⟩ := hsame.fields
      have hp := outLoop_post (s1.outunsent.length + 3) c s1 w1 pn pto hc
        ((keeps_same hsame).inv (hs.2.resolve_left hreset))
      have hle := Int.le_trans hp.inv.bound (imin_le_right _ _)
      refine ⟨hp.omax, hp.used, ⟨hle, Or.inr hp.inv⟩, by rw [← hms]; exact hp.charged,
        by rw [← hms]; exact hp.mono, fun x hx => ?_⟩
      rcases hp.recs x hx with h | ⟨a, e, f, h1, h2, h3⟩
      · exact (hw1 x h).imp id Or.inl
      · exact Or.inr (Or.inr ⟨a, e, f, by rw [h1, hid], h2, h3, Int.le_trans h3 hle⟩)
    simp only []
    by_cases hb : s.outblocked.shouldSendPTO pto = true
    · rw [if_pos hb]
      unfold Writer.dataBlocked
      by_cases h2 : w.avail < 1 + szv s.id + szv s.outwin
      · rw [if_pos h2]; exact same _
      · rw [if_neg h2]
        exact loop (same_opens (s := s) (t := { s with outblocked := .sent pn }) ⟨rfl, rfl, Int.le_refl _⟩ pn)
          (recs_put w _ _ _ (fun _ _ _ _ => Rec.noConfusion))
    · rw [if_neg hb]
      exact loop ⟨rfl, rfl, Int.le_refl _⟩ (fun _ hx => Or.inl hx)

/-- state of the send-side histories: the connection (for its counters `omax`, `oused`) and its streams -/
structure CS where
  c : Conn
  ss : List Stream

/-- the send-side alphabet of the sm rig (streams addressed by position) -/
inductive Op where
  | write (i : Nat) (b : List Nat)
  | flush (i : Nat)
  | closeWrite (i : Nat)
  | reset (i : Nat) (code : Int) (user : Bool)          -- Stream.Reset / STOP_SENDING
  | maxData (v : Int)                                    -- peer MAX_DATA, any value (stale, duplicate, ...)
  | maxStreamData (i : Nat) (v : Int)                    -- peer MAX_STREAM_DATA, any value
  | send (i : Nat) (avail pn : Int) (pto : Bool)         -- appendOutFramesLocked into a packet with `avail` bytes left
  | fate (i : Nat) (pn st en : Int) (fin acked : Bool)   -- ack / loss of a STREAM frame record

def upd (cs : CS) (i : Nat) (f : Stream → Stream) : CS :=
  match cs.ss[i]? with
  | some s => { cs with ss := cs.ss.set i (f s) }
  | none => cs

def step (cs : CS) : Op → CS
  | .write i b => upd cs i fun s => (write s b).1
  | .flush i => upd cs i fun s => (flush s).1
  | .closeWrite i => upd cs i closeWrite
  | .reset i code u => upd cs i fun s => resetInternal s code u
  | .maxData v => { cs with c := { cs.c with omax := setMaxData cs.c.omax v } }
  | .maxStreamData i v => upd cs i fun s => handleMaxStreamData s v
  | .send i av pn pto =>
    match cs.ss[i]? with
    | some s =>
      let r := appendOutFrames cs.c s { avail := av } pn pto
      { c := r.1, ss := cs.ss.set i r.2.1 }
    | none => cs
  | .fate i pn st en fin acked =>
    -- only frames that were really sent have a fate: `st ≤ en ≤ outmaxsent` (see `appendOutFrames_post`:
    -- every record emitted satisfies it, and `outmaxsent` never decreases)
    upd cs i fun s => if st ≤ en ∧ en ≤ s.outmaxsent then ackOrLossData s pn st en fin acked else s

def sumSent (l : List Stream) : Int := (l.map (·.outmaxsent)).sum

def CInv (cs : CS) : Prop :=
  cs.c.oused ≤ cs.c.omax ∧ cs.c.oused = sumSent cs.ss ∧ ∀ s ∈ cs.ss, SOK s

theorem sumSent_set (l : List Stream) : ∀ (i : Nat) (s t : Stream), l[i]? = some s →
    sumSent (l.set i t) = sumSent l - s.outmaxsent + t.outmaxsent := by
  induction l with
  | nil => intro i s t h; simp at h
  | cons a rest ih =>
    intro i s t h
    cases i with
    | zero =>
      simp at h; subst h
      simp [sumSent]; omega
    | succ k =>
      simp at h
      have := ih k s t h
      simp [sumSent] at this ⊢
      omega

theorem set_inv {cs : CS} {i : Nat} {s : Stream} (t : Stream) (c' : Conn) (h : CInv cs) (hi : cs.ss[i]? = some s)
    (hc : c'.oused ≤ c'.omax) (ht : SOK t) (hd : c'.oused - cs.c.oused = t.outmaxsent - s.outmaxsent) :
    CInv ⟨c', cs.ss.set i t⟩ := by
  refine ⟨hc, ?_, fun u hu => ?_⟩
  · show c'.oused = sumSent (cs.ss.set i t)
    rw [sumSent_set cs.ss i s t hi]; have := h.2.1; omega
  · rcases List.mem_or_eq_of_mem_set hu with hu | hu
    · exact h.2.2 u hu
    · rw [hu]; exact ht

theorem upd_inv (cs : CS) (i : Nat) (f : Stream → Stream) (h : CInv cs)
    (hf : ∀ s, SOK s → SOK (f s) ∧ (f s).outmaxsent = s.outmaxsent) : CInv (upd cs i f) := by
  unfold upd
  cases hi : cs.ss[i]? with
  | none => exact h
  | some s =>
    have hfs := hf s (h.2.2 s (List.mem_of_getElem? hi))
    exact set_inv (f s) cs.c h hi h.1 hfs.1 (by rw [hfs.2]; omega)

theorem step_inv (cs : CS) (op : Op) (h : CInv cs) : CInv (step cs op) := by
  cases op with
  | write i b => exact upd_inv cs i _ h fun s hs => sok_of_keeps hs (write_keeps s b)
  | flush i => exact upd_inv cs i _ h fun s hs => sok_of_keeps hs (flush_keeps s)
  | closeWrite i => exact upd_inv cs i _ h fun s hs => sok_of_keeps hs (closeWrite_keeps s)
  | reset i code u =>
    refine upd_inv cs i _ h fun s hs => ?_
    have hr := resetInternal_frm s code u
    refine ⟨⟨by rw [hr.1, hr.2.1]; exact hs.1, ?_⟩, hr.1⟩
    rcases hr.2.2 with h1 | h1
    · exact Or.inl h1
    · rw [h1]; exact hs.2
  | maxData v =>
    refine ⟨?_, h.2.1, h.2.2⟩
    show cs.c.oused ≤ setMaxData cs.c.omax v
    have := (setMaxData_max cs.c.omax v).1; have := h.1; omega
  | maxStreamData i v =>
    exact upd_inv cs i _ h fun s hs => sok_of_keeps hs (handleMaxStreamData_inv s v)
  | send i av pn pto =>
    simp only [step]
    split
    · rename_i s hi
      have hp := appendOutFrames_post cs.c s { avail := av } pn pto h.1 (h.2.2 s (List.mem_of_getElem? hi))
      exact set_inv _ _ h hi hp.2.1 hp.2.2.1 hp.2.2.2.1
    · exact h
  | fate i pn st en fin acked =>
    refine upd_inv cs i _ h fun s hs => ?_
    by_cases hg : st ≤ en ∧ en ≤ s.outmaxsent
    · simp only [hg, and_self, if_true]
      exact sok_of_keeps hs (ackOrLossData_inv s pn st en fin acked hg.1 hg.2)
    · rw [if_neg hg]; exact ⟨hs, rfl⟩

/-- C20, send side, all histories: any sequence of writes, flushes, closes, resets, MAX_DATA / MAX_STREAM_DATA
updates in any order (stale and duplicate ones included), packet builds of any capacity (PTO probes included) and
acks / losses of frames that were sent, on any number of streams. -/
theorem send_path_holds (ops : List Op) : ∀ cs : CS, CInv cs → CInv (ops.foldl step cs) :=
  Lemmas.foldl_inv step CInv step_inv ops

theorem send_path_limits (ops : List Op) (cs : CS) (h : CInv cs) :
    sumSent (ops.foldl step cs).ss ≤ (ops.foldl step cs).c.omax ∧
    ∀ s ∈ (ops.foldl step cs).ss, s.outmaxsent ≤ s.outwin := by
  have := send_path_holds ops cs h
  exact ⟨by rw [← this.2.1]; exact this.1, fun s hs => (this.2.2 s hs).1⟩

theorem send_path_frames (ops : List Op) (cs : CS) (h : CInv cs) (i : Nat) (s : Stream)
    (hi : (ops.foldl step cs).ss[i]? = some s) (av pn : Int) (pto : Bool) :
    let r := appendOutFrames (ops.foldl step cs).c s { avail := av } pn pto
    ∀ id a e f, Rec.stream id a e f ∈ r.2.2.1.recs → a ≤ e ∧ e ≤ r.2.1.outwin ∧ r.1.oused ≤ r.1.omax := by
  have hinv := send_path_holds ops cs h
  have hs : s ∈ (ops.foldl step cs).ss := List.mem_of_getElem? hi
  have hp := appendOutFrames_post (ops.foldl step cs).c s { avail := av } pn pto hinv.1 (hinv.2.2 s hs)
  intro r id a e f hm
  rcases hp.2.2.2.2.2 _ hm with h1 | h1 | ⟨a', e', f', h1, h2, h3, h4⟩
  · simp at h1
  · exact absurd rfl (h1 id a e f)
  · simp only [Rec.stream.injEq] at h1
    obtain ⟨_, rfl, rfl, _⟩ := h1
    exact ⟨h2, h4, hp.2.1⟩

/-- non-vacuity: a connection with two fresh streams satisfies the invariant -/
example : CInv ⟨{ maxConnRead := 100, sentLimit := 100, newLimit := 100, omax := 50 },
    [{ id := 0, readOnly := false, writeOnly := false, inwin := 10, inmaxbuf := 10, outwin := 20, outmaxbuf := 30 },
     { id := 4, readOnly := false, writeOnly := false, inwin := 10, inmaxbuf := 10, outwin := 5, outmaxbuf := 30 }]⟩ := by
  refine ⟨by decide, by decide, ?_⟩
  intro s hs
  simp at hs
  rcases hs with rfl | rfl <;> exact fresh_SOK _ rfl rfl rfl rfl rfl (by decide)

end SendPath

open NetVerif.Model.QuicMonitor in
/-- C20 on the wire, in terms of the monitor's running maxima over the events before (`streamLimit`, `connLimit`,
`highSent`, `advConn`, `advStream` of `Model/QuicMonitor.lean`). That such a maximum bounds every earlier value is
proved for `advConn` alone (`advConn_ge_earlier`). -/
theorem monitor_sound (tr : List Ev) (h : accepts 20 tr = true) :
    (∀ pre suf s id off len fin, tr = pre ++ .txStream s id off len fin :: suf →
        off + len ≤ streamLimit pre s id ∧
        totalSent (pre ++ [.txStream s id off len fin]) s ≤ connLimit pre s) ∧
    (∀ pre suf s v, tr = pre ++ .txMaxData s v :: suf → v ≥ advConn pre s) ∧
    (∀ pre suf s id v, tr = pre ++ .txMaxSD s id v :: suf → v ≥ advStream pre s id) := by
  have hall := (NetVerif.Proofs.Lemmas.QuicMonitor.accepts_iff 20 tr).1 h
  refine ⟨?_, ?_, ?_⟩
  · intro pre suf s id off len fin heq
    have : (0 ≤ off ∧ 0 ≤ len) ∧ off + len ≤ streamLimit pre s id ∧
        totalSent (pre ++ [.txStream s id off len fin]) s ≤ connLimit pre s := by
      simpa [okEv] using hall pre _ suf heq
    exact this.2
  · exact fun pre suf s v heq => by simpa [okEv] using hall pre _ suf heq
  · exact fun pre suf s id v heq => by simpa [okEv] using hall pre _ suf heq

def advStep (s : Nat) (m : Int) (e : QuicMonitor.Ev) : Int :=
  match e with
  | .init s' c _ => if s' = s then QuicMonitor.imax m c else m
  | .txMaxData s' v => if s' = s then QuicMonitor.imax m v else m
  | _ => m

theorem advStep_ge (s : Nat) (m : Int) (e : QuicMonitor.Ev) : advStep s m e ≥ m := by
  unfold advStep
  cases e
  case init s' c _ =>
    show (if s' = s then QuicMonitor.imax m c else m) ≥ m
    split
    · exact NetVerif.Proofs.Lemmas.QuicMonitor.imax_ge_left _ _
    · exact Int.le_refl m
  case txMaxData s' v =>
    show (if s' = s then QuicMonitor.imax m v else m) ≥ m
    split
    · exact NetVerif.Proofs.Lemmas.QuicMonitor.imax_ge_left _ _
    · exact Int.le_refl m
  all_goals exact Int.le_refl m

/-- So `v ≥ advConn` in `monitor_sound` means "never decreases". -/
theorem advConn_ge_earlier (pre : List QuicMonitor.Ev) (s : Nat) (v : Int) (hm : QuicMonitor.Ev.txMaxData s v ∈ pre) :
    v ≤ QuicMonitor.advConn pre s :=
  NetVerif.Proofs.Lemmas.QuicMonitor.foldl_ge_of_mem (advStep s) (advStep_ge s)
    (fun m => by unfold advStep; simp only [if_true]; exact NetVerif.Proofs.Lemmas.QuicMonitor.imax_ge_right _ _) hm 0

/-- non-vacuity: a small accepted trace with a window update and a second frame using it. -/
example : QuicMonitor.accepts 20
    [.init 0 100 50, .init 1 100 50, .txStream 0 2 0 50 false, .rxMaxSD 0 2 80, .txMaxSD 1 2 80,
     .txStream 0 2 50 30 true, .txMaxData 1 150] = true := by decide
/-- … and sending one byte beyond the limit is rejected. -/
example : QuicMonitor.accepts 20
    [.init 0 100 50, .init 1 100 50, .txStream 0 2 0 51 false] = false := by decide
example : QuicMonitor.accepts 20
    [.init 0 100 50, .init 1 100 50, .txMaxData 1 99] = false := by decide

end NetVerif.Proofs.C20
