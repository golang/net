import NetVerif.Proofs.Lemmas.H2Msg
import NetVerif.Proofs.Lemmas.IfCases
/-!
C14 — an HTTP/2 message is delivered faithfully end to end. This file: the message ⇄ frames model
of `Model/H2Msg.lean` (fragmentation, DATA chunking, the receive state machine as monitor, and
`decodeFrames ∘ encodeFrames = id` for every plan and lawful header codec). The request direction
(`C14.holds`) is in `Proofs/C14Find.lean`, the byte level in `Proofs/C14Wire.lean`, the normalisations
in `Proofs/C14Norm.lean`, the tie to the Go source text in `Proofs/C14Tie.lean`.
-/
namespace NetVerif.Proofs.C14
open NetVerif NetVerif.Model.H2Frame NetVerif.Model.H2Msg NetVerif.Proofs.H2MsgLemmas

theorem fragments_concat (max : Nat) (hmax : 0 < max) (hb : Bytes) :
    (splitBlock max hb).flatten = hb :=
  splitLoop_flatten max hmax _ hb (Nat.le_refl _)

theorem fragments_bounded (max : Nat) (hmax : 0 < max) (hb : Bytes) :
    ∀ f ∈ splitBlock max hb, 0 < f.length ∧ f.length ≤ max :=
  splitLoop_bounds max hmax _ hb

theorem fragments_nonempty (max : Nat) (hb : Bytes) (h : hb ≠ []) : splitBlock max hb ≠ [] := by
  cases hb with
  | nil => exact absurd rfl h
  | cons b bs => simp [splitBlock, splitLoop]

/-- an empty block yields no frame at all, as in Go. -/
theorem fragments_empty (max : Nat) : splitBlock max [] = [] := rfl

/-- The frames of one header block (`writeHeaders` / `splitHeaderBlock` + `writeHeaderBlock`). -/
theorem headerBlock_frames (sid : Nat) (es : Bool) (max : Nat) (hmax : 0 < max) (hb : Bytes) (hne : hb ≠ []) :
    ((writeHeaderBlock sid es max hb).map SFrame.frag).flatten = hb ∧
    (∀ f ∈ writeHeaderBlock sid es max hb, 0 < f.len ∧ f.len ≤ max) ∧
    (writeHeaderBlock sid es max hb).map SFrame.endHeaders =
      List.replicate ((writeHeaderBlock sid es max hb).length - 1) false ++ [true] ∧
    (∃ eh frag rest, writeHeaderBlock sid es max hb = .headers sid es eh frag :: rest ∧
      ∀ g ∈ rest, g.isContinuation = true ∧ g.endStream = false) := by
  unfold writeHeaderBlock
  have hbd := fragments_bounded max hmax hb
  cases hsp : splitBlock max hb with
  | nil => exact absurd hsp (fragments_nonempty max hb hne)
  | cons a rest =>
    rw [hsp] at hbd
    refine ⟨by rw [headerFrames_frag, ← hsp, fragments_concat max hmax], ?_, ?_,
      rest.isEmpty, a, contFrames sid rest, rfl, ?_⟩
    · intro f hf
      obtain ⟨_, hm, hl, _⟩ := mem_headerFrames hf
      rw [hl]
      exact hbd _ hm
    · cases rest with
      | nil => rfl
      | cons b rest' =>
        rw [headerFrames, List.map_cons, List.length_cons,
          contFrames_endHeaders sid _ (List.cons_ne_nil _ _), contFrames_length]
        rfl
    · intro g hg
      obtain ⟨_, _, rfl, _⟩ := mem_contFrames hg
      exact ⟨rfl, rfl⟩

theorem data_chunks_concat (sid : Nat) (e : Bool) (max : Nat) (hmax : 0 < max) (cuts : List Nat) (body : Bytes) :
    ((dataFrames sid e (chunks max cuts body)).map SFrame.dataBytes).flatten = body := by
  rw [dataFrames_data, chunks_flatten max hmax]

theorem data_chunks_bounded (max : Nat) (hmax : 0 < max) (cuts : List Nat) (body : Bytes) :
    ∀ c ∈ chunks max cuts body, c.length ≤ max := by
  fun_induction chunks max cuts body with
  | case1 b => exact fun c hc => (splitLoop_bounds max hmax _ b c hc).2
  | case2 c cs b _ ih =>
    refine List.forall_mem_cons.mpr ⟨?_, ih⟩
    rw [List.length_take]; omega
  | case3 => exact List.forall_mem_nil _

/-- header blocks carry no DATA, so this needs nothing of the header codec. -/
theorem encodeFrames_data (C : Codec) (s : C.S) (p : Plan) (hd : 0 < p.maxData) (m : Msg) :
    (((encodeFrames C s p m).1).map SFrame.dataBytes).flatten = m.body := by
  have hH : ∀ es hb, ((writeHeaderBlock p.sid es p.maxHdr hb).map SFrame.dataBytes).flatten = [] :=
    fun es hb => List.flatten_eq_nil_iff.mpr fun l hl => by
      obtain ⟨f, hf, rfl⟩ := List.mem_map.mp hl
      exact (mem_headerFrames hf).2.2.2
  have hD := fun e => (congrArg List.flatten (dataFrames_data p.sid e _)).trans
    (chunks_flatten p.maxData hd p.cuts m.body)
  have ite := @Lemmas.ite_ind _
    (fun X : List SFrame × C.S => ((X.1).map SFrame.dataBytes).flatten = m.body)
  unfold encodeFrames
  dsimp only
  refine ite (fun _ => ite (fun h1 => ?_) fun _ => ite (fun _ => ?_) fun _ => ?_) fun _ => ?_
  · rw [hH, ← hD true, List.isEmpty_iff.mp ((Bool.and_eq_true _ _).mp h1).1]
    rfl
  · rw [List.map_append, List.map_append, List.flatten_append, List.flatten_append, hH, hD]
    exact List.append_nil _
  · rw [List.map_append, List.flatten_append, hH, hD]
    rfl
  · rw [List.map_append, List.map_append, List.flatten_append, List.flatten_append, hH, hH, hD]
    exact List.append_nil _

/-- What the theorems assume about the header codec, which stays abstract here (the HPACK models
of C01–C05 are not instantiated; `simpleCodec_lawful` shows the assumption satisfiable). `nonempty`:
an empty block is written as no frame at all (`fragments_empty`), and then there is no HEADERS frame to
open the message or to carry END_STREAM. -/
structure Lawful (C : Codec) (sync : C.S → C.D → Prop) : Prop where
  roundtrip : ∀ s d fs, sync s d →
    ∃ d', C.dec d (C.enc s fs).1 = some (fs, d') ∧ sync (C.enc s fs).2 d'
  nonempty : ∀ s fs, fs ≠ [] → (C.enc s fs).1 ≠ []

/-- an END_STREAM frame has been processed. -/
def ended : Phase → Bool
  | .done => true
  | .hdrBlock es _ => es
  | .trlBlock _ => true
  | _ => false

@[simp] theorem ended_ite (es : Bool) : ended (if es = true then Phase.done else Phase.body) = es := by
  cases es <;> rfl

def esCount (fs : List SFrame) : Nat := (fs.filter SFrame.endStream).length

/-- exactly one frame has END_STREAM, and only CONTINUATIONs follow it. -/
def EndsOnce (fs : List SFrame) : Prop :=
  ∃ pre f post, fs = pre ++ f :: post ∧ f.endStream = true ∧ (∀ g ∈ pre, g.endStream = false) ∧
    ∀ g ∈ post, g.isContinuation = true ∧ g.endStream = false

theorem EndsOnce.count_one {fs : List SFrame} (h : EndsOnce fs) : esCount fs = 1 := by
  obtain ⟨pre, f, post, rfl, hf, hpre, hpost⟩ := h
  unfold esCount
  rw [List.filter_append, List.filter_cons_of_pos hf,
    List.filter_eq_nil_iff.mpr fun g hg => Bool.eq_false_iff.mp (hpre g hg),
    List.filter_eq_nil_iff.mpr fun g hg => Bool.eq_false_iff.mp (hpost g hg).2]
  rfl

section
variable {D : Type} {dec : D → Bytes → Option (List Field × D)} {d d' : D} {st st' : StreamSt}

theorem finishHdr_some {es : Bool} {blk : Bytes} (h : finishHdr dec d st es blk = some (d', st')) :
    ended st'.phase = es ∧ st'.body = st.body := by
  unfold finishHdr at h
  split at h
  · cases h; exact ⟨ended_ite es, rfl⟩
  · cases h

theorem finishTrl_some {blk : Bytes} (h : finishTrl dec d st blk = some (d', st')) :
    ended st'.phase = true ∧ st'.body = st.body := by
  unfold finishTrl at h
  split at h
  · cases h; exact ⟨rfl, rfl⟩
  · cases h

/-- a frame of a header block: END_HEADERS completes the block (`fin`), otherwise the fragment is
accumulated in phase `ph`. -/
theorem block_step {fin : Option (D × StreamSt)} {eh e : Bool} {ph : Phase}
    (hfin : fin = some (d', st') → ended st'.phase = e ∧ st'.body = st.body) (hph : ended ph = e)
    (h : (if eh then fin else some (d, { st with phase := ph })) = some (d', st')) :
    ended st'.phase = e ∧ st'.body = st.body := by
  cases eh
  · cases h
    exact ⟨hph, rfl⟩
  · exact hfin h

theorem step_inv {f : SFrame} (h : step dec d st f = some (d', st')) :
    ended st'.phase = (ended st.phase || f.endStream) ∧
    (ended st.phase = true → f.endStream = false ∧ f.isContinuation = true) ∧
    st'.body = st.body ++ f.dataBytes := by
  unfold step at h
  by_cases hs : f.sid ≠ st.sid
  · rw [if_pos hs] at h; cases h
  rw [if_neg hs] at h
  split at h
  · rename_i heq
    obtain ⟨h1, h2⟩ := block_step finishHdr_some rfl h
    rw [heq]
    exact ⟨h1, Bool.noConfusion, h2.trans (List.append_nil _).symm⟩
  · rename_i heq
    obtain ⟨h1, h2⟩ := block_step finishHdr_some rfl h
    rw [heq]
    exact ⟨h1.trans (Bool.or_false _).symm, fun _ => ⟨rfl, rfl⟩, h2.trans (List.append_nil _).symm⟩
  · rename_i heq
    rw [heq]
    cases h
    exact ⟨ended_ite _, Bool.noConfusion, by simp [StreamSt.body, SFrame.dataBytes]⟩
  · rename_i es _ _ heq
    rw [heq]
    cases es
    · cases h
    · obtain ⟨h1, h2⟩ := block_step finishTrl_some rfl h
      exact ⟨h1, Bool.noConfusion, h2.trans (List.append_nil _).symm⟩
  · rename_i heq
    obtain ⟨h1, h2⟩ := block_step finishTrl_some rfl h
    rw [heq]
    exact ⟨h1, fun _ => ⟨rfl, rfl⟩, h2.trans (List.append_nil _).symm⟩
  · cases h

theorem run_inv {fs : List SFrame} (h : run dec d st fs = some (d', st')) :
    st'.body = st.body ++ (fs.map SFrame.dataBytes).flatten ∧
    (ended st.phase = true → ∀ g ∈ fs, g.isContinuation = true ∧ g.endStream = false) ∧
    (ended st.phase = false → ended st'.phase = true → EndsOnce fs) := by
  fun_induction run dec d st fs with
  | case1 d st =>
    cases h
    exact ⟨(List.append_nil _).symm, fun _ _ hg => (nomatch hg), fun h0 h1 => (nomatch h0.symm.trans h1)⟩
  | case2 d st f fs d1 st1 hs ih =>
    obtain ⟨he, hc, hb⟩ := step_inv hs
    obtain ⟨ib, it, io⟩ := ih h
    refine ⟨by rw [ib, hb, List.map_cons, List.flatten_cons, List.append_assoc],
      fun hen => List.forall_mem_cons.mpr ⟨(hc hen).symm, it (by rw [he, hen]; rfl)⟩, fun h0 h1 => ?_⟩
    rw [h0, Bool.false_or] at he
    cases hfe : f.endStream
    · obtain ⟨pre, f', post, rfl, hf', hpre, hpost⟩ := io (he.trans hfe) h1
      exact ⟨f :: pre, f', post, rfl, hf', List.forall_mem_cons.mpr ⟨hfe, hpre⟩, hpost⟩
    · exact ⟨[], f, fs, rfl, hfe, List.forall_mem_nil _, it (he.trans hfe)⟩
  | case3 => cases h

end

/-- Monitor soundness: a frame sequence the receive state machine accepts as message `m` delivers as
body the in-order concatenation of the DATA payloads and has exactly one END_STREAM frame, followed
only by the CONTINUATION frames completing its own header block (trailers / headers-only message). -/
theorem accepted_sound {D : Type} (dec : D → Bytes → Option (List Field × D)) (d d' : D) (sid : Nat)
    (fs : List SFrame) (m : Msg) (h : decodeFrames dec d sid fs = some (m, d')) :
    m.body = (fs.map SFrame.dataBytes).flatten ∧
    esCount fs = 1 ∧
    ∃ pre f post, fs = pre ++ f :: post ∧ f.endStream = true ∧ (∀ g ∈ pre, g.endStream = false) ∧
      ∀ g ∈ post, g.isContinuation = true ∧ g.endStream = false := by
  unfold decodeFrames at h
  split at h
  · rename_i d1 st hr
    split at h
    · rename_i hdone
      cases h
      obtain ⟨hb, _, ho⟩ := run_inv hr
      have hs : EndsOnce fs := ho rfl (by rw [hdone]; rfl)
      exact ⟨hb, hs.count_one, hs⟩
    · cases h
  · cases h

private theorem body_of_chunks (chs : List Bytes) : (chs.reverse ++ []).reverse.flatten = chs.flatten := by simp

section
variable {D : Type} {dec : D → Bytes → Option (List Field × D)} {d d1 : D} {sid max : Nat}
  {hb : Bytes} {fs : List Field}

theorem run_headerBlock (es : Bool) (hmax : 0 < max) (hne : hb ≠ []) (hdec : dec d hb = some (fs, d1)) :
    run dec d { sid := sid } (writeHeaderBlock sid es max hb) =
      some (d1, { sid := sid, headers := fs, hdrEnd := es, phase := if es then .done else .body }) := by
  unfold writeHeaderBlock
  rw [run_headerFrames (block_hdr dec d sid es) (fragments_nonempty max hb hne) rfl rfl,
    fragments_concat max hmax]
  unfold finishHdr
  rw [hdec]

theorem run_trailerBlock {st : StreamSt} (hmax : 0 < max) (hne : hb ≠ [])
    (hdec : dec d hb = some (fs, d1)) (hs : st.sid = sid) (hp : st.phase = .body) :
    run dec d st (writeHeaderBlock sid true max hb) =
      some (d1, { st with trailers := fs, phase := .done }) := by
  unfold writeHeaderBlock
  rw [run_headerFrames (block_trl dec d sid) (fragments_nonempty max hb hne) hs hp,
    fragments_concat max hmax]
  unfold finishTrl
  rw [hdec]

theorem decodeFrames_of_run {frames : List SFrame} {st : StreamSt} {m : Msg}
    (h : run dec d { sid := sid } frames = some (d1, st)) (hp : st.phase = .done) (hm : st.msg = m) :
    decodeFrames dec d sid frames = some (m, d1) := by
  unfold decodeFrames
  rw [h]
  dsimp only
  rw [if_pos hp, hm]

theorem decode_hdr_data {H : List SFrame}
    (hH : run dec d { sid := sid } H = some (d1, { sid := sid, headers := fs, phase := .body }))
    {chs : List Bytes} (hne : chs ≠ []) :
    decodeFrames dec d sid (H ++ dataFrames sid true chs) = some (⟨fs, chs.flatten, []⟩, d1) := by
  refine decodeFrames_of_run
    ((run_append_of hH _).trans (run_dataFrames sid true chs d1 _ rfl rfl)) ?_
    (congrArg (Msg.mk fs · []) (body_of_chunks chs))
  cases chs with
  | nil => exact absurd rfl hne
  | cons _ _ => rfl

end

/-- `decodeFrames (encodeFrames σ m) = m` for all settings/schedules σ: every plan `p` (stream id,
header fragment limit > 0, DATA limit > 0, arbitrary cut sequence, both END_STREAM placements) and
every lawful header codec in sync. The header list is non-empty: there is always `:status` / `:method`. -/
theorem decode_encode (C : Codec) (sync : C.S → C.D → Prop) (hC : Lawful C sync) (s : C.S) (d : C.D)
    (hs : sync s d) (p : Plan) (hh : 0 < p.maxHdr) (hd : 0 < p.maxData) (m : Msg) (hm : m.headers ≠ []) :
    ∃ d', decodeFrames C.dec d p.sid (encodeFrames C s p m).1 = some (m, d') ∧
      sync (encodeFrames C s p m).2 d' := by
  obtain ⟨d1, hdec1, hs1⟩ := hC.roundtrip s d m.headers hs
  have hH := fun es => run_headerBlock (sid := p.sid) es hh (hC.nonempty s m.headers hm) hdec1
  have hbody := chunks_flatten p.maxData hd p.cuts m.body
  obtain ⟨hdrs, body, trls⟩ := m
  have ite := @Lemmas.ite_ind _ (fun X : List SFrame × C.S =>
    ∃ d', decodeFrames C.dec d p.sid X.1 = some (⟨hdrs, body, trls⟩, d') ∧ sync X.2 d')
  unfold encodeFrames
  dsimp only at hH hbody ⊢
  refine ite (fun ht => ?_) fun ht => ?_
  · cases List.isEmpty_iff.mp ht
    refine ite (fun h1 => ?_) fun _ => ite (fun _ => ?_) fun h2 => ?_
    · -- END_STREAM on HEADERS: there is no chunk, so the body is empty
      refine ⟨d1, decodeFrames_of_run (hH true) rfl ?_, hs1⟩
      rw [← hbody, List.isEmpty_iff.mp ((Bool.and_eq_true _ _).mp h1).1]
      rfl
    · -- END_STREAM on an empty DATA frame of its own
      dsimp only
      rw [List.append_assoc, dataFrames_snoc]
      refine ⟨d1, (decode_hdr_data (hH false)
        (List.append_ne_nil_of_right_ne_nil _ (List.cons_ne_nil _ _))).trans ?_, hs1⟩
      rw [List.flatten_append, hbody]
      simp
    · -- END_STREAM on the last DATA frame
      refine ⟨d1, (decode_hdr_data (hH false) fun h => h2 ?_).trans (by rw [hbody]), hs1⟩
      rw [h]; rfl
  · -- trailers
    obtain ⟨d2, hdec2, hs2⟩ := hC.roundtrip (C.enc s hdrs).2 d1 trls hs1
    have hne2 := hC.nonempty (C.enc s hdrs).2 trls fun h => ht (by rw [h]; rfl)
    have hrun := (run_append_of ((run_append_of (hH false) _).trans
      (run_dataFrames p.sid false (chunks p.maxData p.cuts body) d1 _ rfl rfl)) _).trans
        (run_trailerBlock hh hne2 hdec2 rfl rfl)
    exact ⟨d2, decodeFrames_of_run hrun rfl
      (congrArg (Msg.mk hdrs · trls) ((body_of_chunks _).trans hbody)), hs2⟩

/-- C14's END_STREAM clause on the sender's side: headers-only, with body (either placement), with trailers. -/
theorem encode_endStream_once (C : Codec) (sync : C.S → C.D → Prop) (hC : Lawful C sync) (s : C.S) (d : C.D)
    (hs : sync s d) (p : Plan) (hh : 0 < p.maxHdr) (hd : 0 < p.maxData) (m : Msg) (hm : m.headers ≠ []) :
    esCount (encodeFrames C s p m).1 = 1 ∧
    ∃ pre f post, (encodeFrames C s p m).1 = pre ++ f :: post ∧ f.endStream = true ∧
      (∀ g ∈ pre, g.endStream = false) ∧ ∀ g ∈ post, g.isContinuation = true ∧ g.endStream = false := by
  obtain ⟨d', hdec, _⟩ := decode_encode C sync hC s d hs p hh hd m hm
  exact (accepted_sound C.dec d d' p.sid _ m hdec).2

theorem encode_body (C : Codec) (sync : C.S → C.D → Prop) (hC : Lawful C sync) (s : C.S) (d : C.D)
    (hs : sync s d) (p : Plan) (hh : 0 < p.maxHdr) (hd : 0 < p.maxData) (m : Msg) (hm : m.headers ≠ []) :
    (((encodeFrames C s p m).1).map SFrame.dataBytes).flatten = m.body :=
  encodeFrames_data C s p hd m

/-- each field as name length, value length, name, value (the lengths are single list elements: `Bytes`
are unbounded naturals in the model, so no length needs a second one). -/
def encFields : List Field → Bytes
  | [] => []
  | f :: fs => f.name.length :: f.value.length :: (f.name ++ (f.value ++ encFields fs))

/-- the fuel bounds the number of fields; `simpleCodec` gives the length of the input. -/
def decFields : Nat → Bytes → Option (List Field)
  | _, [] => some []
  | 0, _ :: _ => none
  | _ + 1, [_] => none
  | n + 1, a :: b :: rest =>
    if rest.length < a + b then none
    else (decFields n (rest.drop (a + b))).map (fun fs => ⟨rest.take a, (rest.drop a).take b⟩ :: fs)

theorem decFields_encFields (fs : List Field) (fuel : Nat) (h : fs.length ≤ fuel) :
    decFields fuel (encFields fs) = some fs := by
  fun_induction encFields fs generalizing fuel with
  | case1 => cases fuel <;> rfl
  | case2 f fs ih =>
    cases fuel with
    | zero => cases h
    | succ fuel =>
      obtain ⟨n, v⟩ := f
      have h1 : ¬ (n.length + (v.length + (encFields fs).length) < n.length + v.length) := by omega
      have h2 : (n ++ (v ++ encFields fs)).drop (n.length + v.length) = encFields fs := by
        rw [← List.append_assoc, List.drop_left' (by simp)]
      simp [decFields, h1, h2, ih fuel (Nat.le_of_succ_le_succ h)]

theorem encFields_length_ge (fs : List Field) : fs.length ≤ (encFields fs).length := by
  fun_induction encFields fs with
  | case1 => exact Nat.le_refl _
  | case2 f fs ih =>
    rw [List.length_cons, List.length_cons, List.length_cons, List.length_append, List.length_append]
    omega

def simpleCodec : Codec where
  S := Unit
  D := Unit
  enc := fun _ fs => (encFields fs, ())
  dec := fun _ bs => (decFields bs.length bs).map (fun fs => (fs, ()))

theorem simpleCodec_lawful : Lawful simpleCodec (fun _ _ => True) where
  roundtrip := by
    intro s d fs _
    refine ⟨(), ?_, trivial⟩
    simp [simpleCodec, decFields_encFields fs _ (encFields_length_ge fs)]
  nonempty := by
    intro s fs h
    cases fs with
    | nil => exact absurd rfl h
    | cons f fs => simp [simpleCodec, encFields]

/-- the round trip instantiated: a message with CONTINUATION-forcing fragment size 2, cuts and
trailers, through the concrete codec. -/
example : decodeFrames simpleCodec.dec () 3
    (encodeFrames simpleCodec () { sid := 3, maxHdr := 2, maxData := 3, cuts := [1, 0, 5], sepEnd := true }
      { headers := [⟨[58, 109], [71]⟩, ⟨[120], [1, 2, 3]⟩], body := [9, 8, 7, 6, 5, 4], trailers := [⟨[116], [0]⟩] }).1
    = some ({ headers := [⟨[58, 109], [71]⟩, ⟨[120], [1, 2, 3]⟩], body := [9, 8, 7, 6, 5, 4], trailers := [⟨[116], [0]⟩] }, ()) := by
  rfl

example : splitBlock 3 [1, 2, 3, 4, 5, 6, 7] = [[1, 2, 3], [4, 5, 6], [7]] := rfl
example : chunks 4 [2, 0, 9] [1, 2, 3, 4, 5, 6, 7, 8, 9, 10, 11] = [[1, 2], [], [3, 4, 5, 6], [7, 8, 9, 10], [11]] := rfl
example : writeHeaderBlock 5 true 2 [9, 8, 7] =
    [.headers 5 true false [9, 8], .continuation 5 true [7]] := rfl

end NetVerif.Proofs.C14
