import NetVerif.Proofs.Lemmas.FlowHistory
import NetVerif.Proofs.Lemmas.FlowMonitor
/-!
C10: HTTP/2 inbound flow-control credit is never leaked.
Part A (mechanism, `http2/flow.go`): over every history of `inflow.take` / `inflow.add` from `init n0` nothing is lost or
invented, the peer's view of the window is exactly `avail`, and the only credit ever withheld is the `inflowMinRefresh`
batching residue. Part B (monitor `Model.FlowMonitor`): the literal statement ("back to its configured size" at quiescence)
is false of the code, by design (`full_false`); `holds_partial` is what an accepted `quiesce` line does establish.
-/
namespace NetVerif.Proofs.C10
open NetVerif.Model.Flow NetVerif.Proofs.Flow

/-- C10, conservation; the second identity is the peer's view of the window, the third the withheld credit. -/
theorem inflow_conservation (n0 : Int) (h0 : 0 ≤ n0) (h1 : n0 ≤ maxWindow) (ops : List Op) (s : Ledger)
    (h : (Ledger.start n0).run ops = some s) :
    s.f.avail + s.f.unsent + s.taken = n0 + s.added ∧
    n0 - s.taken + s.sent = s.f.avail ∧
    s.added - s.sent = s.f.unsent := by
  obtain ⟨_, view, held, _⟩ := inv_run n0 ops _ s (inv_start n0 h0 h1) h
  -- conservation is the sum of the two identities the invariant keeps
  exact ⟨by omega, view, held⟩

/-- C10: no WINDOW_UPDATE lifts the advertised window (`peak` is its running maximum) above 2^31-1. -/
theorem window_never_exceeds_max (n0 : Int) (h0 : 0 ≤ n0) (h1 : n0 ≤ maxWindow) (ops : List Op) (s : Ledger)
    (h : (Ledger.start n0).run ops = some s) :
    s.peak ≤ maxWindow ∧ s.f.avail ≤ s.peak ∧ 0 ≤ s.f.avail ∧ 0 ≤ s.f.unsent ∧ s.f.avail + s.f.unsent ≤ maxWindow := by
  have i := inv_run n0 ops _ s (inv_start n0 h0 h1) h
  have w := i.wf
  unfold Inflow.WF at w
  exact ⟨i.peak.2, i.peak.1, w.1, w.2.1, w.2.2⟩

/-- `none` is the panic of `inflow.add`. -/
theorem add_panics_iff (f : Inflow) (n : Int) :
    f.add n = none ↔ n < 0 ∨ f.avail + f.unsent + n > maxWindow := by
  unfold Inflow.add
  by_cases h1 : n < 0
  · simp [h1]
  · by_cases h2 : f.unsent + n + f.avail > maxWindow
    · simp [h1, h2]; omega
    · rw [if_neg h1, if_neg h2]
      split <;> exact ⟨fun h => (nomatch h), fun h => by omega⟩

theorem add_exact (f f' : Inflow) (n r : Int) (h : f.add n = some (r, f')) :
    0 ≤ n ∧
    f'.avail + f'.unsent = f.avail + f.unsent + n ∧
    f'.avail + f'.unsent ≤ maxWindow ∧
    f'.avail = f.avail + r ∧
    ((r = 0 ∧ f'.unsent = f.unsent + n ∧ f'.unsent < inflowMinRefresh ∧ f'.unsent < f'.avail) ∨
     (r = f.unsent + n ∧ f'.unsent = 0 ∧ ¬ (r < inflowMinRefresh ∧ r < f.avail))) := add_spec f f' n r h

theorem residue_after_add (f f' : Inflow) (n r : Int) (h : f.add n = some (r, f')) :
    f'.unsent = 0 ∨ (f'.unsent < inflowMinRefresh ∧ f'.unsent < f'.avail) := add_residue f f' n r h

/-- Quiescence at the level of the mechanism (`hq`), in a history that never hands back more than it received (`hc`). -/
theorem quiescent_residue (n0 : Int) (h0 : 0 < n0) (h1 : n0 ≤ maxWindow) (ops : List Op) (s : Ledger)
    (hc : NoOverRefund (Ledger.start n0) ops)
    (h : (Ledger.start n0).run ops = some s) (hq : s.added = s.taken) :
    s.f.avail = n0 - s.f.unsent ∧
    (s.f.unsent = 0 ∨ (s.f.unsent < inflowMinRefresh ∧ s.f.unsent < s.f.avail)) := by
  obtain ⟨_, view, held, _⟩ := inv_run n0 ops _ s (inv_start n0 (by omega) h1) h
  have q0 : QInv (Ledger.start n0) := by
    refine ⟨by simp [Ledger.start], fun _ => Or.inl ?_⟩
    simp [Ledger.start, Inflow.new, Inflow.init]
  have q := qinv_run ops _ s q0 hc h
  exact ⟨by omega, q.2 hq⟩

example : (Ledger.start 65535).run [.take 100, .add 100] = some ⟨⟨65435, 100⟩, 100, 100, 0, 65535⟩ := by decide
example : (Ledger.start 65535).run [.take 65535, .add 65535] = some ⟨⟨65535, 0⟩, 65535, 65535, 65535, 65535⟩ := by decide
example : (Ledger.start 2147483647).run [.add 1] = none := by decide
example : NoOverRefund (Ledger.start 65535) [.take 100, .add 100] := by
  simp [NoOverRefund, Ledger.step, Ledger.start, Inflow.new, Inflow.init, Inflow.take, Inflow.add, maxWindow, inflowMinRefresh]

open NetVerif.Model.FlowMonitor NetVerif.Proofs.FlowMon

theorem monitor_wu_checked (fc : Option Nat) (m m' : Mon) (n : Int) (h : obsStep fc m (.wu 0 n) = .ok m') :
    m'.conn = m.conn + n ∧ m'.conn ≤ maxWindow ∧ m'.sumWU = m.sumWU + n ∧ m'.conn ≤ m'.configured := by
  simp only [obsStep, if_true] at h
  obtain ⟨h1, h⟩ := Lemmas.ok_of_ite_error h
  obtain ⟨h2, e⟩ := Lemmas.ok_of_ite_error h
  cases e
  exact ⟨rfl, show m.conn + n ≤ maxWindow by omega, rfl, show m.conn + n ≤ m.configured by omega⟩

/-- C10 part B, at every line boundary of an accepted trace; the last conjunct is the peer's view of the connection window. -/
theorem monitor_windows_bounded (pre suf : List Line) (m : Mon) (h : run Mon.init (pre ++ suf) = .ok m) :
    ∃ mp, run Mon.init pre = .ok mp ∧ mp.conn ≤ maxWindow ∧ (∀ s ∈ mp.streams, s.win ≤ maxWindow) ∧
      mp.conn = initialWindowSize + mp.sumWU - mp.sumData := by
  obtain ⟨mp, h1, _⟩ := run_append pre suf Mon.init m h
  have i := run_inv pre Mon.init mp minv_init h1
  exact ⟨mp, h1, i.conn_le, fun s hs => (i.streams s hs).1, i.ghost⟩

/-- Credit withheld at a quiescent point, from the peer's side. -/
def Residue (m : Mon) : Int := m.configured - m.conn

/-- What an accepted `quiesce` line on a live connection establishes of the peer's view `65535 + Σ WINDOW_UPDATE − Σ DATA`;
the last conjunct restates the first for `residue = 0`.
This is one `liveLine` step from any state with `MInv`; every state an accepted trace reaches from
`Mon.init` has it (`run_inv`), and `lineStep` is `liveLine` once a connection exists (`C11.lineStep_live`).
A history that refunds bytes twice is rejected, see `overRefund_rejected`. -/
theorem holds_partial (m m' : Mon) (obs : List Obs) (hm : MInv m)
    (h : liveLine m .quiesce obs = .ok m') (hd : m'.dead = false) :
    initialWindowSize + m'.sumWU - m'.sumData = m'.configured - Residue m' ∧
    0 ≤ Residue m' ∧
    (Residue m' = 0 ∨ (Residue m' < inflowMinRefresh ∧ Residue m' < m'.conn)) ∧
    (Residue m' = 0 → initialWindowSize + m'.sumWU - m'.sumData = m'.configured) := by
  have hi := liveLine_inv m m' .quiesce obs hm h
  have hg := hi.ghost
  unfold liveLine at h
  simp only [actStep] at h
  by_cases hdead : m.dead = true
  · simp only [hdead, if_true] at h
    cases h
    rw [hd] at hdead
    cases hdead
  · simp only [hdead] at h
    cases hf : obsFold none m obs with
    | error e => simp only [hf] at h; cases h
    | ok m1 =>
      simp only [hf, finishLine] at h
      by_cases hr : (m1.dead || residueOK m1) = true
      · simp only [hr, if_true] at h
        cases h
        dsimp only at hd hg ⊢
        unfold Residue
        dsimp only
        rw [hd] at hr
        simp only [Bool.false_or, residueOK, Bool.and_eq_true, Bool.or_eq_true, decide_eq_true_eq] at hr
        omega
      · simp only [hr] at h
        by_cases hneg : m1.configured - m1.conn < 0 <;> simp [hneg] at h

/-- The literal statement: on every accepted trace, at `quiesce` on a live connection the
peer's view of the connection window is back to the configured size. -/
def FullStatement : Prop :=
  ∀ (tr : List Line) (m : Mon), run Mon.init (tr ++ [⟨.quiesce, []⟩]) = .ok m → m.dead = false →
    initialWindowSize + m.sumWU - m.sumData = m.configured

/-- Witness (by design): one 100-byte body read to EOF — no WINDOW_UPDATE is owed
(corpus/C10/witness.rigs.ops case 0 is this trace recorded from the real server). -/
def witnessResidue : List Line :=
  [⟨.reset 1048576 1048576, [.set 1048576, .wu 0 983041, .other]⟩,
   ⟨.hdr 1 (-1) false, []⟩,
   ⟨.data 1 100 (-1) true, []⟩,
   ⟨.read 1, [.rd 1 100]⟩,
   ⟨.read 1, [.rd 1 0, .other]⟩,
   ⟨.hexit 1, [.other]⟩]

theorem witnessResidue_accepted :
    ∃ m, run Mon.init (witnessResidue ++ [⟨.quiesce, []⟩]) = .ok m ∧ m.dead = false ∧
      initialWindowSize + m.sumWU - m.sumData = m.configured - 100 :=
  ⟨_, rfl, rfl, by decide⟩

/-- The literal statement is false of the code as it is (batching residue). -/
theorem full_false : ¬ FullStatement := by
  intro h
  obtain ⟨m, h1, h2, h4⟩ := witnessResidue_accepted
  have := h witnessResidue m h1 h2
  omega

/-! Regression: the repaired `closeStream` double refund (corpus/C10 case 1).
48000 buffered bytes, the peer resets the stream. The unpatched server refunded 48000 at
`closeStream`, let the handler read the 48000 bytes and refunded them again. -/

/-- The trace the unpatched server produced: rejected at the second WINDOW_UPDATE. -/
def overRefundOld : List Line :=
  [⟨.reset 1048576 1048576, [.set 1048576, .wu 0 983041, .other]⟩,
   ⟨.hdr 1 (-1) false, []⟩,
   ⟨.data 1 16000 (-1) false, []⟩,
   ⟨.data 1 16000 (-1) false, []⟩,
   ⟨.data 1 16000 (-1) false, []⟩,
   ⟨.crst 1, [.wu 0 48000]⟩,
   ⟨.read 1, [.rd 1 48000, .wu 0 48000]⟩]

theorem overRefund_rejected : run Mon.init overRefundOld = .error "conn-window-above-configured" := rfl

/-- The trace of the repaired server for the same script: the read after the reset returns
nothing, and at quiescence the peer's view is exactly the configured size. -/
example : ∃ m, run Mon.init (overRefundOld.take 6 ++
      [⟨.read 1, [.rd 1 0, .other]⟩, ⟨.hexit 1, []⟩, ⟨.quiesce, []⟩]) = .ok m ∧ m.dead = false ∧
      initialWindowSize + m.sumWU - m.sumData = m.configured :=
  ⟨_, rfl, rfl, by decide⟩

/-! Graceful shutdown: DATA on streams opened after the GOAWAY is discarded, and every byte of
it — payload, padding and the pad-length byte — is charged to and must come back on the
connection window (corpus/C10/witness.rigs.ops case 4; seeded change c10b refunded `len(f.Data())`). -/

/-- DATA on a closed stream that fits the connection window is charged its full flow-controlled
length (`flowLen` = payload + padding + 1) on the connection window only. A stream opened after the
graceful GOAWAY is such a stream: `actStep` registers it as `.closed`. -/
theorem discarded_after_goaway_charged (m : Mon) (sid : Nat) (len pad : Int) (es : Bool) (st : StreamSt)
    (hv : ¬ (len < 0 ∨ pad < -1)) (hf : findStream m.streams sid = some st) (hs : st.status = .closed)
    (hfit : ¬ flowLen len pad > m.conn) :
    (dataAct m sid len pad es).m.conn = m.conn - flowLen len pad ∧
    (dataAct m sid len pad es).m.sumData = m.sumData + flowLen len pad ∧
    (dataAct m sid len pad es).expectFC = none := by
  have co : C11.ConnOnly st len (flowLen len pad) := Or.inl (by rw [hs]; exact SStatus.noConfusion)
  rw [C11.dataAct_eq m sid len pad es st hv hf, if_pos co, connOnlyAct, if_neg hfit]
  exact ⟨rfl, rfl, rfl⟩

def goAwayPrefix : List Line :=
  [⟨.reset 1048576 1048576, [.set 1048576, .wu 0 983041, .other]⟩,
   ⟨.hdr 1 (-1) false, []⟩,
   ⟨.shutdown 3, [.goaway 0]⟩,
   ⟨.hdr 5 (-1) false, []⟩]

/-- 17 padded frames of 100+155+1 bytes, all refunded: accepted, view back to configured. -/
example : ∃ m, run Mon.init (goAwayPrefix ++ List.replicate 16 ⟨.data 5 100 155 false, []⟩ ++
      [⟨.data 5 100 155 false, [.wu 0 4352]⟩, ⟨.quiesce, [.other]⟩]) = .ok m ∧ m.dead = false ∧
      initialWindowSize + m.sumWU - m.sumData = m.configured :=
  ⟨_, rfl, rfl, by decide⟩

/-- only the payload refunded (42·100 of 42·256 bytes): rejected as a leak. -/
example : run Mon.init (goAwayPrefix ++ List.replicate 17 ⟨.data 5 100 155 false, []⟩ ++
      List.replicate 24 ⟨.data 5 100 155 false, []⟩ ++
      [⟨.data 5 100 155 false, [.wu 0 4200]⟩, ⟨.quiesce, [.other]⟩]) = .error "credit-leak" := rfl

end NetVerif.Proofs.C10
