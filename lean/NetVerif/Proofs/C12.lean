import NetVerif.Proofs.Lemmas.WriteSchedRefine
import NetVerif.Proofs.Lemmas.WriteSched7540Reach
/-!
# C12 — HTTP/2 write schedulers deliver every queued frame exactly once, in order

Every contract-respecting history of the round-robin, RFC 9218 and random schedulers is a run of the FIFO
specification of `WriteSchedSpec` (`run_refines`, `holds_rr_p9218_rand`), whose `Pop` steps are, by construction
(`PopSpec`): control frames first in FIFO order; otherwise the head of one stream's FIFO, whole, or split by
`Consume` with the remainder staying at the head; "nothing" only if no queued frame is sendable.  (The
specification also lets any `Pop` be answered `.reject`, the random scheduler's answer to a reported choice that is
not a legal one: see `Holds`.)
`specRun_ledger` then gives conservation, order, exactly-once, no zero request, no panic.
For the RFC 7540 scheduler: `holds_p7540_partial` without the "nothing only if nothing is sendable" clause,
`holds_of_preservation` (`Statement` for all four schedulers) with it, from the two hypotheses `CloseKeepsReach`
and `AdjustKeepsReach`, which are stated and not proved.
-/
namespace NetVerif.Proofs.C12
open NetVerif.Model.WriteSched NetVerif.Proofs.WriteSchedLemmas NetVerif.Proofs.WriteSchedSpec
  NetVerif.Proofs.WriteSchedRefine NetVerif.Proofs.WriteSched7540

def absS : Sched → Abs
  | .rr s => absRR s
  | .p9 s => absP9 s
  | .rnd s => absRand s

def InvS (opn : Nat → Bool) : Sched → Prop
  | .rr s => RRInv s opn
  | .p9 s => P9Inv s opn
  | .rnd s => RandInv s

theorem step_refines {s : Sched} {opn : Nat → Bool} {op : Op} (e : Env)
    (hi : InvS opn s) (hwf : AbsWF (absS s) opn) (hok : OpOK opn op) :
    StepSpec True e (absS s) op (s.step e op).2.2 (s.step e op).1 (absS (s.step e op).2.1) ∧
      InvS (opnOp opn op) (s.step e op).2.1 := by
  cases s with
  | rr s =>
    obtain ⟨e', s', r, h1, h2, h3⟩ := rr_step e hi hwf hok
    rw [h1]; exact ⟨h2, h3⟩
  | p9 s =>
    obtain ⟨e', s', r, h1, h2, h3⟩ := p9_step e hi hwf hok
    rw [h1]; exact ⟨h2, h3⟩
  | rnd s =>
    obtain ⟨e', s', r, h1, h2, h3⟩ := rand_step e hi
    rw [h1]; exact ⟨h2, h3⟩

theorem run_sim (ops : List Op) : ∀ (s : Sched) (opn : Nat → Bool) (e : Env) (L : Ledger),
    InvS opn s → AbsWF (absS s) opn → Contract opn ops →
    ∃ L' opn', SpecRun True e (absS s) L ops (s.run e ops).2.2 (s.run e ops).1 (absS (s.run e ops).2.1) L' ∧
      InvS opn' (s.run e ops).2.1 ∧ AbsWF (absS (s.run e ops).2.1) opn' := by
  induction ops with
  | nil => intro s opn e L hi hwf _; exact ⟨L, opn, .nil, hi, hwf⟩
  | cons op ops ih =>
    intro s opn e L hi hwf hc
    obtain ⟨hstep, hi'⟩ := step_refines e hi hwf hc.1
    obtain ⟨L', opn', hrun, h⟩ := ih _ _ _ (L.step (absS s) op (s.step e op).2.2) hi' (step_wf hwf hc.1 hstep) hc.2
    exact ⟨L', opn', .cons hstep hrun, h⟩

theorem run_refines (ops : List Op) : ∀ (s : Sched) (opn : Nat → Bool) (e : Env) (L : Ledger),
    InvS opn s → AbsWF (absS s) opn → LedgerOK (absS s) L → Contract opn ops →
    ∃ L', SpecRun True e (absS s) L ops (s.run e ops).2.2 (s.run e ops).1 (absS (s.run e ops).2.1) L' ∧
      LedgerOK (absS (s.run e ops).2.1) L' ∧
      (∀ r ∈ (s.run e ops).2.2, r ≠ .frame .empty ∧ r ≠ .panic) := fun s opn e L hi hwf hl hc =>
  let ⟨L', _, h, _⟩ := run_sim ops s opn e L hi hwf hc
  ⟨L', h, specRun_ledger hwf hl hc h⟩

inductive Kind where
  | rr | p9218 | rand
  deriving DecidableEq, Repr

def Kind.init : Kind → Sched
  | .rr => .rr {}
  | .p9218 => .p9 {}
  | .rand => .rnd {}

theorem init_inv (k : Kind) : InvS (fun _ => false) k.init ∧ absS k.init = Abs.empty := by
  cases k
  · exact ⟨⟨by simp, by simp⟩, rfl⟩
  · exact ⟨⟨by simp, by simp, by simp⟩, rfl⟩
  · exact ⟨by intro id _; rfl, rfl⟩

/-- What C12 demands of a scheduler run `ops ↦ rs` ending in abstract state `a'`: it is a run of the
specification from the empty state (so: control first, per-stream FIFO order, DATA split only by
`Consume`, and if `strict` "nothing" only when nothing is sendable), every pushed token is accounted for
(per stream, in push order: what left the queue, written by `Pop` or discarded by `CloseStream`, followed by what
is still queued; `LedgerOK`.  The ledger also records the discarded part, `dropped`, which no theorem reads), no
`Pop` returns the zero request, and no call panics.  A `Pop` answered `.reject` is a step of the specification
whatever the scheduler (`StepSpec.reject`): that only the random scheduler refuses is not part of `Holds`. -/
def Holds (strict : Prop) (e : Env) (ops : List Op) (rs : List Res) (e' : Env) (a' : Abs) : Prop :=
  ∃ L', SpecRun strict e Abs.empty Ledger.empty ops rs e' a' L' ∧ LedgerOK a' L' ∧
    (∀ r ∈ rs, r ≠ .frame .empty ∧ r ≠ .panic)

theorem holds_of_run {strict : Prop} {e e' : Env} {ops : List Op} {rs : List Res} {a' : Abs} {L' : Ledger}
    (hc : Contract (fun _ => false) ops) (h : SpecRun strict e Abs.empty Ledger.empty ops rs e' a' L') :
    Holds strict e ops rs e' a' :=
  ⟨L', h, specRun_ledger absWF_empty ledgerOK_empty hc h⟩

/-- **C12 for the round-robin, RFC 9218 and random schedulers**, all histories, all windows. -/
theorem holds_rr_p9218_rand (k : Kind) (e : Env) (ops : List Op) (hc : Contract (fun _ => false) ops) :
    Holds True e ops (k.init.run e ops).2.2 (k.init.run e ops).1 (absS (k.init.run e ops).2.1) := by
  obtain ⟨hi, ha⟩ := init_inv k
  obtain ⟨L', _, h, _⟩ := run_sim ops k.init _ e Ledger.empty hi (ha ▸ absWF_empty) hc
  exact holds_of_run hc (ha ▸ h)

/-- Control frames come out before stream frames, in the order pushed. -/
theorem pop_control_first {strict : Prop} {e e' : Env} {a a' : Abs} {r : Res} {f : Frame} {rest : List Frame}
    (h : PopSpec strict e a r e' a') (hc : a.ctl = f :: rest) : r = .frame f ∧ a'.ctl = rest ∧ a'.q = a.q ∧ e' = e := by
  cases h with
  | ctl h1 => rw [hc] at h1; cases h1; exact ⟨rfl, rfl, rfl, rfl⟩
  | whole h1 => rw [hc] at h1; cases h1
  | split h1 => rw [hc] at h1; cases h1
  | none h1 => rw [hc] at h1; cases h1

/-- A popped stream frame is the head of its stream's FIFO or a `Consume` prefix of it; all other FIFOs
are untouched. -/
theorem pop_stream_head {strict : Prop} {e e' : Env} {a a' : Abs} {g : Frame} (h : PopSpec strict e a (.frame g) e' a') (hc : a.ctl = []) :
    ∃ id f rest, a.q id = f :: rest ∧ (∀ x, x ≠ id → a'.q x = a.q x) ∧
      ((g = f ∧ a'.q id = rest) ∨ (∃ r, a'.q id = r :: rest ∧ toks g ++ toks r = toks f)) := by
  cases h with
  | ctl h1 => rw [hc] at h1; cases h1
  | whole h0 hq hn hcons =>
    rename_i id rest n
    exact ⟨id, g, rest, hq, fun x hx => by simp [upd, hx], Or.inl ⟨rfl, by simp [upd]⟩⟩
  | split h0 hq hn hcons =>
    rename_i id f r rest n
    exact ⟨id, f, rest, hq, fun x hx => by simp [upd, hx], Or.inr ⟨r, by simp [upd], (consume_split_toks hcons).1⟩⟩

/-- `Pop` reports a frame whenever some queued frame is sendable: "nothing" implies that the control
queue is empty and the head of every stream FIFO is a non-empty DATA frame with no allowance. -/
theorem pop_none_nothing_sendable {e e' : Env} {a a' : Abs} (h : PopSpec True e a .none e' a') :
    a.ctl = [] ∧ a' = a ∧ e' = e ∧ ∀ id f rest, a.q id = f :: rest →
      ∃ sid tag off len fin last, f = .data sid tag off len fin last ∧ 0 < len ∧ e.allowed sid maxInt32 ≤ 0 := by
  cases h with
  | none hc hall =>
    refine ⟨hc, rfl, rfl, ?_⟩
    intro id f rest hq
    obtain ⟨e1, h1⟩ := hall trivial id f rest hq
    exact (consume_none h1).2

/-- A DATA piece that `Consume` splits off respects the stream window, the connection window and the maximum
frame size, and the windows are charged exactly its length.  (For a DATA frame written whole the bound is the
`len ≤ allowed` alternative of `consume_cases`.) -/
theorem consume_respects_windows (e : Env) (n : Int) (f : Frame) (e' : Env) (c r : Frame)
    (h : f.consume e n = (e', .split c r)) :
    ∃ sid, f.streamID = sid ∧ (c.dataSize : Int) ≤ e.win sid ∧ (c.dataSize : Int) ≤ e.connWin ∧
      (c.dataSize : Int) ≤ e.maxFrame ∧ (c.dataSize : Int) ≤ n ∧ e' = e.take sid c.dataSize := by
  have hc := consume_cases e n f
  rw [h] at hc
  obtain ⟨⟨⟩, _⟩ | ⟨sid, tag, off, len, fin, last, rfl, _, ⟨_, ⟨⟩⟩ | ⟨_, _, ⟨⟩⟩ | ⟨a, ha, ha0, hal, ⟨⟩⟩⟩ := hc
  unfold Env.allowed Env.avail at ha
  simp only [Frame.dataSize]
  exact ⟨sid, rfl, by omega, by omega, by omega, by omega, rfl⟩

/-! Non-vacuity: a concrete contract-respecting history with a split, a close that drops frames,
control-first and a blocked window (values computed by the model). -/

def exEnv : Env := { maxFrame := 4, connWin := 6, win := fun _ => 100 }

def exOps : List Op :=
  [.openS 1 0 6, .openS 3 0 6, .push (.data 1 10 0 7 true true), .push (.hdr 3 11), .push (.ctl 12),
   .pop none, .pop none, .pop none, .pop none, .pop none, .closeS 1, .pop none]

example : Contract (fun _ => false) exOps := by simp [exOps, Contract, OpOK, opnOp, pushOK, upd]

example : (Kind.rr.init.run exEnv exOps).2.2 =
    [.ok, .ok, .ok, .ok, .ok, .frame (.ctl 12), .frame (.data 1 10 0 4 false false), .frame (.hdr 3 11),
     .frame (.data 1 10 4 2 false false), .none, .ok, .none] := by decide

example : (Kind.p9218.init.run exEnv exOps).2.2 =
    [.ok, .ok, .ok, .ok, .ok, .frame (.ctl 12), .frame (.data 1 10 0 4 false false),
     .frame (.data 1 10 4 2 false false), .frame (.hdr 3 11), .none, .ok, .none] := by decide

/-- Stream identifiers are never reused (RFC 9113 §5.1.1): `OpenStream` is only called with ids that were
never opened before.  (`priorityWriteSchedulerRFC7540.OpenStream` panics on a retained closed node.) -/
def freshOK (ever : Nat → Bool) : Op → Prop
  | .openS id _ _ => ever id = false
  | _ => True

def everOp (ever : Nat → Bool) : Op → Nat → Bool
  | .openS id _ _ => upd ever id true
  | _ => ever

def Fresh (ever : Nat → Bool) : List Op → Prop
  | [] => True
  | op :: ops => freshOK ever op ∧ Fresh (everOp ever op) ops

theorem p7_step_win (e : Env) (s : P7540) (id : Nat) (d : Int) :
    s.step e (.win id d) = (envOp e (.win id d), s, .ok) := by
  simp only [P7540.step, envOp]; split <;> rfl

theorem p7_step {s : P7540} {opn ever : Nat → Bool} {op : Op} (e : Env) (hc : CoreInv s opn ever) (hli : ListInv s)
    (hwf : AbsWF (absP7 s) opn) (hok : OpOK opn op) (hfr : freshOK ever op) :
    StepSpec False e (absP7 s) op (s.step e op).2.2 (s.step e op).1 (absP7 (s.step e op).2.1) ∧
      CoreInv (s.step e op).2.1 (opnOp opn op) (everOp ever op) ∧ ListInv (s.step e op).2.1 := by
  cases op with
  | win id d => rw [p7_step_win]; exact ⟨.other (by simp), hc, hli⟩
  | maxframe n => exact ⟨.other (by simp), hc, hli⟩
  | openS id p c =>
    obtain ⟨s', h1, h2, h3, h4⟩ := p7_open (pusher := p) hc hli hok.1 hok.2.1 hfr
    simp only [P7540.step, h1]
    exact ⟨.other' (by simp) rfl h2, h3, h4⟩
  | closeS id =>
    obtain ⟨s', h1, h2, h3, h4⟩ := p7_close hc hli hok
    simp only [P7540.step, h1]
    exact ⟨.other' (by simp) rfl h2, h3, h4⟩
  | adjust id d x w c =>
    obtain ⟨s', h1, h2, h3, h4⟩ := p7_adjust (dep := d) (w := w) (excl := x) hc hli hok.1
    simp only [P7540.step, h1]
    exact ⟨.other' (by simp) rfl h2, h3, h4⟩
  | push f =>
    obtain ⟨s', h1, h2, h3, h4⟩ := p7_push hc hli hok
    simp only [P7540.step, h1]
    exact ⟨.other' (by simp) rfl h2, h3, h4⟩
  | pop hint =>
    obtain ⟨e', s', r, h1, h2, h3, h4⟩ := p7_pop e hc hli hwf
    simp only [P7540.step, h1]
    exact ⟨.pop h2, h3, h4⟩

/-- every mapped node is reachable from the root before each call of the history -/
def ReachAlong (e : Env) (s : P7540) : List Op → Prop
  | [] => True
  | op :: ops => ReachInv s ∧ ReachAlong (s.step e op).1 (s.step e op).2.1 ops

/-- With `strict`, i.e. with the specification's "nothing is returned only if nothing is sendable" clause, every
mapped node has to be attached to the root before each call (`p7_pop_none_sendable`). -/
theorem p7_run_spec (strict : Prop) (ops : List Op) : ∀ (s : P7540) (opn ever : Nat → Bool) (e : Env) (L : Ledger),
    CoreInv s opn ever → ListInv s → AbsWF (absP7 s) opn → Contract opn ops → Fresh ever ops →
    (strict → ReachAlong e s ops) →
    ∃ L', SpecRun strict e (absP7 s) L ops (s.run e ops).2.2 (s.run e ops).1 (absP7 (s.run e ops).2.1) L' := by
  induction ops with
  | nil => intro s opn ever e L _ _ _ _ _ _; exact ⟨L, .nil⟩
  | cons op ops ih =>
    intro s opn ever e L hc hli hwf hct hfr hra
    obtain ⟨hstep0, hc', hli'⟩ := p7_step e hc hli hwf hct.1 hfr.1
    have hstep := hstep0.mono (q := strict) fun hs hrn => by
      obtain ⟨hint, rfl⟩ := StepSpec.pop_of_none (hrn ▸ hstep0)
      exact p7_pop_none_sendable hc (hra hs).1 (Prod.ext rfl (Prod.ext rfl hrn))
    obtain ⟨L', hrun⟩ := ih _ _ _ _ (L.step (absP7 s) op (s.step e op).2.2) hc' hli' (step_wf hwf hct.1 hstep)
      hct.2 hfr.2 fun hs => (hra hs).2
    exact ⟨L', .cons hstep hrun⟩

theorem p7_run_refines (ops : List Op) : ∀ (s : P7540) (opn ever : Nat → Bool) (e : Env) (L : Ledger),
    CoreInv s opn ever → ListInv s → AbsWF (absP7 s) opn → LedgerOK (absP7 s) L → Contract opn ops → Fresh ever ops →
    ∃ L', SpecRun False e (absP7 s) L ops (s.run e ops).2.2 (s.run e ops).1 (absP7 (s.run e ops).2.1) L' ∧
      LedgerOK (absP7 (s.run e ops).2.1) L' ∧
      (∀ r ∈ (s.run e ops).2.2, r ≠ .frame .empty ∧ r ≠ .panic) :=
  fun s opn ever e L hc hli hwf hl hct hfr =>
    let ⟨L', h⟩ := p7_run_spec False ops s opn ever e L hc hli hwf hct hfr False.elim
    ⟨L', h, specRun_ledger hwf hl hct h⟩

theorem p7_init_inv (mc mi : Nat) (th : Bool) :
    CoreInv (P7540.init mc mi th) (fun _ => false) (fun _ => false) ∧ ListInv (P7540.init mc mi th) ∧
      absP7 (P7540.init mc mi th) = Abs.empty := by
  -- the map holds the root only, and every node of the store is the empty node
  have hlk : ∀ {id n}, (P7540.init mc mi th).lookup id = some n → id = 0 ∧ n = 0 := by
    intro id n h
    simp only [P7540.lookup, P7540.init, List.lookup] at h
    split at h
    · cases h; rename_i h0; exact ⟨by simpa using h0, rfl⟩
    · cases h
  have hnode : ∀ i, (P7540.init mc mi th).node i = {} := by
    intro i
    cases i with
    | zero => rfl
    | succ k => simp [P7540.node, P7540.init]
  refine ⟨{ root := rfl, rootlen := Nat.one_pos, rootid := by rw [hnode], rootst := by rw [hnode],
            map := fun id n h => ?map, opn := fun id => ⟨nofun, fun h => ?opn⟩, emp := fun n _ hq => ?emp,
            ever := fun id n h0 h1 _ => absurd (hlk h1).1 h0, lim := ?lim }, ?list, Abs.ext' ?ctl fun id => ?q⟩
  case map => obtain ⟨rfl, rfl⟩ := hlk h; exact ⟨Nat.one_pos, by rw [hnode]⟩
  case opn => obtain ⟨h0, n, h1, _⟩ := h; exact absurd (hlk h1).1 h0
  case emp => rw [hnode] at hq; exact absurd rfl hq
  case lim => simp only [P7540.init]; split <;> decide
  case list => exact ⟨by simp [P7540.init], by simp [P7540.init], by simp [P7540.init], by simp [P7540.init]⟩
  case ctl => simp [absP7, hnode, Abs.empty, empty_toList]
  case q =>
    simp only [absP7, Abs.empty]
    split
    · rfl
    · rename_i h0
      cases hl : (P7540.init mc mi th).lookup id with
      | none => rfl
      | some n => exact absurd (hlk hl).1 h0

theorem holds_p7540 (strict : Prop) (mc mi : Nat) (th : Bool) (e : Env) (ops : List Op)
    (hc : Contract (fun _ => false) ops) (hf : Fresh (fun _ => false) ops)
    (hr : strict → ReachAlong e (P7540.init mc mi th) ops) :
    Holds strict e ops ((P7540.init mc mi th).run e ops).2.2 ((P7540.init mc mi th).run e ops).1
      (absP7 ((P7540.init mc mi th).run e ops).2.1) := by
  obtain ⟨h1, h2, h3⟩ := p7_init_inv mc mi th
  obtain ⟨L', h⟩ := p7_run_spec strict ops _ _ _ e Ledger.empty h1 h2 (h3 ▸ absWF_empty) hc hf hr
  exact holds_of_run hc (h3 ▸ h)

/-- **C12 for the RFC 7540 scheduler** (all configurations, all histories that respect the contract and
never reuse a stream id): run of the FIFO specification, ledger balanced, no zero request, no panic.
`_partial`: the specification is used without its "nothing is returned only if nothing is sendable" clause. -/
theorem holds_p7540_partial (mc mi : Nat) (th : Bool) (e : Env) (ops : List Op)
    (hc : Contract (fun _ => false) ops) (hf : Fresh (fun _ => false) ops) :
    Holds False e ops ((P7540.init mc mi th).run e ops).2.2 ((P7540.init mc mi th).run e ops).1
      (absP7 ((P7540.init mc mi th).run e ops).2.1) :=
  holds_p7540 False mc mi th e ops hc hf False.elim

/-! The missing clause, along runs that keep every mapped node attached to the root (`ReachAlong`); the Go harness
checks that condition white-box after every call (`checkTree`). -/

theorem StepSpec.strengthen {e e' : Env} {a a' : Abs} {op : Op} {r : Res} (h : StepSpec False e a op r e' a')
    (hn : r = .none → ∀ id f rest, a.q id = f :: rest → ∃ e1, f.consume e maxInt32 = (e1, .none)) :
    StepSpec True e a op r e' a' :=
  h.mono fun _ => hn

theorem p7_run_refines_strict (ops : List Op) : ∀ (s : P7540) (opn ever : Nat → Bool) (e : Env) (L : Ledger),
    CoreInv s opn ever → ListInv s → AbsWF (absP7 s) opn → LedgerOK (absP7 s) L → Contract opn ops → Fresh ever ops →
    ReachAlong e s ops →
    ∃ L', SpecRun True e (absP7 s) L ops (s.run e ops).2.2 (s.run e ops).1 (absP7 (s.run e ops).2.1) L' ∧
      LedgerOK (absP7 (s.run e ops).2.1) L' ∧
      (∀ r ∈ (s.run e ops).2.2, r ≠ .frame .empty ∧ r ≠ .panic) :=
  fun s opn ever e L hc hli hwf hl hct hfr hra =>
    let ⟨L', h⟩ := p7_run_spec True ops s opn ever e L hc hli hwf hct hfr fun _ => hra
    ⟨L', h, specRun_ledger hwf hl hct h⟩

theorem holds_p7540_of_reach (mc mi : Nat) (th : Bool) (e : Env) (ops : List Op)
    (hc : Contract (fun _ => false) ops) (hf : Fresh (fun _ => false) ops)
    (hr : ReachAlong e (P7540.init mc mi th) ops) :
    Holds True e ops ((P7540.init mc mi th).run e ops).2.2 ((P7540.init mc mi th).run e ops).1
      (absP7 ((P7540.init mc mi th).run e ops).2.1) :=
  holds_p7540 True mc mi th e ops hc hf fun _ => hr

/-- States of the RFC 7540 scheduler reachable by contract-respecting calls (ids never reused), together
with the set of open streams and of ids ever opened. -/
inductive Reach7 (mc mi : Nat) (th : Bool) : Env → P7540 → (Nat → Bool) → (Nat → Bool) → Prop
  | init (e : Env) : Reach7 mc mi th e (P7540.init mc mi th) (fun _ => false) (fun _ => false)
  | step {e s opn ever} (op : Op) : Reach7 mc mi th e s opn ever → OpOK opn op → freshOK ever op →
      Reach7 mc mi th (s.step e op).1 (s.step e op).2.1 (opnOp opn op) (everOp ever op)
  | env {e s opn ever} (e' : Env) : Reach7 mc mi th e s opn ever → Reach7 mc mi th e' s opn ever

/-- STATED, not proved: on reachable states `CloseStream` (which may evict the oldest closed node with
`removeNode`, moving its children to its parent) keeps every mapped node attached to the root. -/
def CloseKeepsReach : Prop :=
  ∀ (mc mi : Nat) (th : Bool) (e : Env) (s : P7540) (opn ever : Nat → Bool) (id : Nat),
    Reach7 mc mi th e s opn ever → ReachInv s → opn id = true → ReachInv (s.closeStream id).1

/-- STATED, not proved: on reachable states `AdjustStream` (idle-node creation with eviction, the "new parent
is a descendant" move, exclusive re-parenting, the final `setParent`) keeps every mapped node attached. -/
def AdjustKeepsReach : Prop :=
  ∀ (mc mi : Nat) (th : Bool) (e : Env) (s : P7540) (opn ever : Nat → Bool) (id dep w : Nat) (excl : Bool),
    Reach7 mc mi th e s opn ever → ReachInv s → id ≠ 0 → ReachInv (s.adjustStream id dep excl w).1

theorem reach7_inv {mc mi : Nat} {th : Bool} {e : Env} {s : P7540} {opn ever : Nat → Bool}
    (h : Reach7 mc mi th e s opn ever) : CoreInv s opn ever ∧ ListInv s ∧ AbsWF (absP7 s) opn := by
  induction h with
  | init e =>
    obtain ⟨h1, h2, h3⟩ := p7_init_inv mc mi th
    exact ⟨h1, h2, by rw [h3]; exact absWF_empty⟩
  | @step e s opn ever op _ hok hf ih =>
    obtain ⟨hc, hli, hwf⟩ := ih
    obtain ⟨hstep, hc', hli'⟩ := p7_step e hc hli hwf hok hf
    exact ⟨hc', hli', step_wf hwf hok hstep⟩
  | env e' _ ih => exact ih

theorem p7_reachInv_step (hC : CloseKeepsReach) (hA : AdjustKeepsReach) {mc mi : Nat} {th : Bool} {e : Env}
    {s : P7540} {opn ever : Nat → Bool} (hr7 : Reach7 mc mi th e s opn ever) (hr : ReachInv s) (op : Op)
    (hok : OpOK opn op) : ReachInv (s.step e op).2.1 := by
  obtain ⟨hc, _, _⟩ := reach7_inv hr7
  cases op with
  | win id d => rw [p7_step_win]; exact hr
  | maxframe n => exact hr
  | openS id p c => exact reachInv_open (pusher := p) hc hr
  | closeS id => exact hC mc mi th e s opn ever id hr7 hr hok
  | adjust id d x w c => exact hA mc mi th e s opn ever id d w x hr7 hr hok.1
  | push f => exact reachInv_push f hr
  | pop hint => exact reachInv_pop e hr

theorem reachInv_init (mc mi : Nat) (th : Bool) : ReachInv (P7540.init mc mi th) := by
  intro id n h
  have : n < 1 := ((p7_init_inv mc mi th).1.map id n h).1
  rw [Nat.lt_one_iff.1 this]; exact ReachD.self

theorem p7_reachInv_run (hC : CloseKeepsReach) (hA : AdjustKeepsReach) {mc mi : Nat} {th : Bool} (ops : List Op) :
    ∀ (e : Env) (s : P7540) (opn ever : Nat → Bool), Reach7 mc mi th e s opn ever → ReachInv s →
      Contract opn ops → Fresh ever ops → ReachAlong e s ops := by
  induction ops with
  | nil => intro e s opn ever _ _ _ _; trivial
  | cons op ops ih =>
    intro e s opn ever hr7 hr hc hf
    exact ⟨hr, ih _ _ _ _ (Reach7.step op hr7 hc.1 hf.1) (p7_reachInv_step hC hA hr7 hr op hc.1) hc.2 hf.2⟩

theorem p7_pop_none_complete {s s' : P7540} {opn ever : Nat → Bool} {e e' : Env} (hc : CoreInv s opn ever)
    (hr : ReachInv s) (hp : s.pop e = (e', s', .none)) :
    ∀ id f rest, (absP7 s).q id = f :: rest → ∃ e1, f.consume e maxInt32 = (e1, .none) :=
  p7_pop_none_sendable hc hr hp

theorem holds_p7540_of_preservation (hC : CloseKeepsReach) (hA : AdjustKeepsReach) (mc mi : Nat) (th : Bool)
    (e : Env) (ops : List Op) (hc : Contract (fun _ => false) ops) (hf : Fresh (fun _ => false) ops) :
    Holds True e ops ((P7540.init mc mi th).run e ops).2.2 ((P7540.init mc mi th).run e ops).1
      (absP7 ((P7540.init mc mi th).run e ops).2.1) :=
  holds_p7540_of_reach mc mi th e ops hc hf
    (p7_reachInv_run hC hA ops e _ _ _ (Reach7.init e) (reachInv_init mc mi th) hc hf)

inductive Kind4 where
  | base (k : Kind)
  | p7540 (maxClosed maxIdle : Nat) (throttle : Bool)

def runK (k : Kind4) (e : Env) (ops : List Op) : Env × List Res :=
  match k with
  | .base k => ((k.init.run e ops).1, (k.init.run e ops).2.2)
  | .p7540 mc mi th => (((P7540.init mc mi th).run e ops).1, ((P7540.init mc mi th).run e ops).2.2)

/-- **C12, full statement**: for every scheduler and every contract-respecting history (stream ids never
reused) the observable run is a run of the FIFO specification — including "`Pop` returns nothing only if
nothing is sendable" — that conserves every pushed token, never yields the zero request, never panics. -/
def Statement : Prop :=
  ∀ (k : Kind4) (e : Env) (ops : List Op), Contract (fun _ => false) ops → Fresh (fun _ => false) ops →
    ∃ a', Holds True e ops (runK k e ops).2 (runK k e ops).1 a'

def strictFor : Kind4 → Prop
  | .base _ => True
  | .p7540 .. => False

/-- What is proved of `Statement` outright: all of it for round-robin, RFC 9218 and random (even without the
freshness assumption); for RFC 7540 all of it except the "nothing sendable" clause. -/
theorem holds_partial (k : Kind4) (e : Env) (ops : List Op)
    (hc : Contract (fun _ => false) ops) (hf : Fresh (fun _ => false) ops) :
    ∃ a', Holds (strictFor k) e ops (runK k e ops).2 (runK k e ops).1 a' := by
  cases k with
  | base k => exact ⟨_, holds_rr_p9218_rand k e ops hc⟩
  | p7540 mc mi th => exact ⟨_, holds_p7540_partial mc mi th e ops hc hf⟩

/-- **C12 for all four schedulers**, from the two hypotheses; round-robin, RFC 9218 and random need neither them
nor `Fresh`. -/
theorem holds_of_preservation (hC : CloseKeepsReach) (hA : AdjustKeepsReach) : Statement := by
  intro k e ops hc hf
  cases k with
  | base k => exact ⟨_, holds_rr_p9218_rand k e ops hc⟩
  | p7540 mc mi th => exact ⟨_, holds_p7540_of_preservation hC hA mc mi th e ops hc hf⟩

def witnessEnv : Env := { maxFrame := 16384, connWin := 65535, win := fun _ => 65535 }

/-- Regression input (`corpus/C12/stale.ops`): push 2 DATA frames, close the stream, pop.  Were `CloseStream` to
leave the closed node's queue populated, the pops would yield zero requests. -/
def witnessStale : List Op :=
  [.openS 1 0 6, .push (.data 1 1 0 3 false true), .push (.data 1 2 0 3 true true), .closeS 1, .pop none, .pop none, .pop none]

example : Contract (fun _ => false) witnessStale ∧ Fresh (fun _ => false) witnessStale := by
  simp [witnessStale, Contract, OpOK, opnOp, pushOK, upd, Fresh, freshOK]

example : (runK (.p7540 10 10 false) witnessEnv witnessStale).2 = [.ok, .ok, .ok, .ok, .none, .none, .none] := by decide

/-- Regression input (`corpus/C12/stale.ops`): PRIORITY for idle stream 1, open it, queue a frame, PRIORITY for two
more idle streams with `MaxIdleNodesInTree = 2`, pop, push DATA.  Were the opened node to stay on the idle list, it
would be evicted: the frame would be lost and `Push` would panic. -/
def witnessIdleEvict : List Op :=
  [.adjust 1 0 false 15 6, .openS 1 0 6, .push (.hdr 1 1), .adjust 3 0 false 15 6, .adjust 5 0 false 15 6,
   .pop none, .push (.data 1 2 0 3 true true)]

example : Contract (fun _ => false) witnessIdleEvict ∧ Fresh (fun _ => false) witnessIdleEvict := by
  simp [witnessIdleEvict, Contract, OpOK, opnOp, pushOK, upd, Fresh, freshOK, everOp]

example : (runK (.p7540 10 2 false) witnessEnv witnessIdleEvict).2 =
    [.ok, .ok, .ok, .ok, .ok, .frame (.hdr 1 1), .ok] := by decide

/-- `ReachAlong` is satisfiable: open a stream, queue a frame, pop twice. -/
example : ReachAlong witnessEnv (P7540.init 10 10 false) [.openS 1 0 6, .push (.hdr 1 1), .pop none, .pop none] := by
  have key : ∀ s : P7540, s.nodes = [(1, 1), (0, 0)] → 1 ∈ (s.node 0).kids → 0 < s.store.length → ReachInv s := by
    intro s hn hk hl id n h
    simp only [P7540.lookup, hn, List.lookup] at h
    split at h
    · cases h; exact ReachD.mono (ReachD.step (d := 0) hk ReachD.self) (by omega)
    · split at h
      · cases h; exact ReachD.self
      · cases h
  exact ⟨reachInv_init 10 10 false, key _ (by decide) (by decide) (by decide), key _ (by decide) (by decide) (by decide),
    key _ (by decide) (by decide) (by decide), trivial⟩

end NetVerif.Proofs.C12
