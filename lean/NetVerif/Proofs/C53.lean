import NetVerif.Model.PerHost
import NetVerif.Proofs.Lemmas.Fold
/-!
C53 — proxy.PerHost routes each host by its documented bypass rules.

A configuration HISTORY is any sequence of `AddFromString` strings and direct
`AddNetwork/AddIP/AddZone/AddHost` calls.  The spec reads it as the list of effective rules
(`adds`); a dialed host BYPASSES iff SOME rule matches it.  The model keeps four ordered lists and
`dialerForRequest` walks them.  Theorem: the two agree, for all histories, hosts, and all
behaviours of the unmodelled parsers.  `adds` takes the rule of a string value from the model's own
`pieceAdd`, so the agreement is about the lists and the walk; what a value means is said by the
`piece_*` lemmas, one for each branch of `pieceAdd` on a non-empty value.
-/
namespace NetVerif.Proofs.C53
open NetVerif.Model.NetIP NetVerif.Model.PerHost

inductive Cfg where
  | fromString (s : List Nat)
  | call (a : Add)

/-- The rules a history adds, in order (spec side: a flat list). -/
def adds (O : Oracles) : List Cfg → List Add
  | [] => []
  | .fromString s :: t => (splitComma s).filterMap (pieceAdd O) ++ adds O t
  | .call a :: t => a :: adds O t

def run (O : Oracles) (p : State) : List Cfg → State
  | [] => p
  | .fromString s :: t => run O (addFromString O p s) t
  | .call a :: t => run O (p.add a) t

/-- `h` is a strict subdomain of `name`: `h = pre ++ "." ++ name`. -/
def IsSubdomainOf (h name : List Nat) : Prop := ∃ pre, h = pre ++ 46 :: name

/-- The name a zone argument denotes: one trailing "." and one leading "." removed. -/
def zoneName (z : List Nat) : List Nat :=
  let t := toLower (trimSuffixDot z)
  if hasPrefix t [46] then t.drop 1 else t

/-- A dialed name as it is compared: a rooted name `example.com.` is the name `example.com`. -/
def canonName (host : List Nat) : List Nat := toLower (trimSuffixDot host)

/-- "rule `a` matches the dialed host" — the documented rule; names (dialed and configured) are
compared without the trailing dot of a fully qualified spelling. -/
def AddMatches (a : Add) (host : List Nat) (ip : Option (List Nat)) : Prop :=
  match a with
  | .network n ones bits => ∃ x, ip = some x ∧ contains n ones bits x = true
  | .ip b => ∃ x, ip = some x ∧ ipEqual b x = true
  | .zone z => ip = none ∧ (canonName host = zoneName z ∨ IsSubdomainOf (canonName host) (zoneName z))
  | .host h => ip = none ∧ canonName host = canonName h

theorem normZone_eq (z : List Nat) : normZone z = 46 :: zoneName z := by
  unfold normZone zoneName
  simp only
  generalize toLower (trimSuffixDot z) = t
  by_cases h : hasPrefix t [46] = true
  · match t, h with
    | a :: t', h =>
      simp [hasPrefix, List.isPrefixOf] at h
      simp [hasPrefix, List.isPrefixOf, h]
  · simp [h]

private theorem zone_match_iff (z host : List Nat) :
    (hasSuffix host (normZone z) || host == (normZone z).drop 1) = true ↔
      (host = zoneName z ∨ IsSubdomainOf host (zoneName z)) := by
  rw [normZone_eq, or_comm]
  simp only [hasSuffix, Bool.or_eq_true, List.isSuffixOf_iff_suffix, List.IsSuffix, beq_iff_eq,
    List.drop_succ_cons, List.drop_zero, IsSubdomainOf, eq_comm (a := host)]

/-- `dialerForRequest` tries two rule lists in turn. -/
private theorem either_list : ∀ a b : Bool,
    (if a = true then true else if b = true then true else false) = true ↔ a = true ∨ b = true := by
  decide

private theorem dial_none (p : State) (host : List Nat) :
    dialerForRequest p host none = true ↔
      (∃ z, z ∈ p.zones ∧ (hasSuffix (canonName host) z || canonName host == z.drop 1) = true) ∨
      (∃ h, h ∈ p.hosts ∧ (h == canonName host) = true) := by
  rw [← List.any_eq_true, ← List.any_eq_true, ← either_list]
  rfl

private theorem dial_some (p : State) (host x : List Nat) :
    dialerForRequest p host (some x) = true ↔
      (∃ n, n ∈ p.networks ∧ contains n.1 n.2.1 n.2.2 x = true) ∨ (∃ b, b ∈ p.ips ∧ ipEqual b x = true) := by
  rw [← List.any_eq_true, ← List.any_eq_true, ← either_list]
  rfl

private theorem exists_mem_concat {α : Type} (l : List α) (a : α) (P : α → Prop) :
    (∃ x, x ∈ l ++ [a] ∧ P x) ↔ (∃ x, x ∈ l ∧ P x) ∨ P a := by
  simp only [List.mem_append, List.mem_singleton, or_and_right, exists_or, exists_eq_left]

theorem dial_add (p : State) (a : Add) (host : List Nat) (ip : Option (List Nat)) :
    dialerForRequest (p.add a) host ip = true ↔
      dialerForRequest p host ip = true ∨ AddMatches a host ip := by
  cases ip with
  | none =>
    rw [dial_none, dial_none]
    cases a with
    | network _ _ _ | ip _ => simp only [State.add, AddMatches, reduceCtorEq, false_and, exists_false, or_false]
    | zone z =>
      simp only [State.add, AddMatches, exists_mem_concat, zone_match_iff, true_and]
      exact or_right_comm
    | host h =>
      simp only [State.add, AddMatches, exists_mem_concat, true_and, beq_iff_eq]
      rw [or_assoc, eq_comm]
      rfl
  | some x =>
    rw [dial_some, dial_some]
    cases a with
    | network n ones bits =>
      simp only [State.add, AddMatches, exists_mem_concat, Option.some.injEq, exists_eq_left']
      exact or_right_comm
    | ip b =>
      simp only [State.add, AddMatches, exists_mem_concat, Option.some.injEq, exists_eq_left']
      exact or_assoc.symm
    | zone _ | host _ => simp only [State.add, AddMatches, reduceCtorEq, false_and, or_false]

private theorem dial_foldl (as : List Add) (p : State) (host : List Nat) (ip : Option (List Nat)) :
    dialerForRequest (as.foldl State.add p) host ip = true ↔
      dialerForRequest p host ip = true ∨ ∃ a ∈ as, AddMatches a host ip := by
  induction as generalizing p with
  | nil => simp
  | cons a t ih =>
    rw [List.foldl_cons, ih, dial_add, or_assoc]
    simp only [List.mem_cons, exists_eq_or_imp]

private theorem addFromString_eq (O : Oracles) (p : State) (s : List Nat) :
    addFromString O p s = ((splitComma s).filterMap (pieceAdd O)).foldl State.add p := by
  unfold addFromString
  generalize splitComma s = ps
  induction ps generalizing p with
  | nil => rfl
  | cons x t ih =>
    simp only [List.foldl_cons, List.filterMap_cons]
    cases h : pieceAdd O x <;> simp [ih]

theorem run_eq (O : Oracles) (p : State) (ops : List Cfg) :
    run O p ops = (adds O ops).foldl State.add p := by
  induction ops generalizing p with
  | nil => rfl
  | cons c t ih =>
    cases c with
    | fromString s => simp [run, adds, ih, addFromString_eq, List.foldl_append]
    | call a => simp [run, adds, ih]

/-- C53: for every configuration history, every dialed host (name or IP literal) and every behaviour `O` of
`net.ParseCIDR`/`netip.ParseAddr`, the bypass dialer is chosen exactly when some added rule matches the host. -/
theorem bypass_iff (O : Oracles) (ops : List Cfg) (host : List Nat) (ip : Option (List Nat)) :
    dialerForRequest (run O {} ops) host ip = true ↔ ∃ a ∈ adds O ops, AddMatches a host ip := by
  rw [run_eq, dial_foldl]
  simp [dialerForRequest]
  cases ip <;> simp

theorem default_iff (O : Oracles) (ops : List Cfg) (host : List Nat) (ip : Option (List Nat)) :
    dialerForRequest (run O {} ops) host ip = false ↔ ¬ ∃ a ∈ adds O ops, AddMatches a host ip := by
  rw [← bypass_iff]; simp

/-- Every stored zone starts with "." — so Go's `zone[1:]` in `dialerForRequest` cannot panic. -/
theorem zones_dotted (O : Oracles) (ops : List Cfg) :
    ∀ z ∈ (run O {} ops).zones, z.head? = some 46 := by
  rw [run_eq]
  refine Lemmas.foldl_inv State.add (fun p => ∀ z ∈ p.zones, z.head? = some 46) (fun p a hp => ?_) _ _
    (by simp)
  cases a with
  | zone z =>
    exact fun x hx => (List.mem_append.1 hx).elim (hp x) fun h => by
      rw [List.mem_singleton.1 h, normZone_eq]; rfl
  | _ => exact hp

theorem piece_cidr (O : Oracles) (v : List Nat) (h0 : trimSpace v ≠ [])
    (hs : (trimSpace v).contains slash = true) :
    pieceAdd O v = (O.parseCIDR (trimSpace v)).map (fun n => Add.network n.1 n.2.1 n.2.2) := by
  unfold pieceAdd
  simp only [h0, if_false, hs, if_true]
  cases O.parseCIDR (trimSpace v) <;> simp

theorem piece_ip (O : Oracles) (v ip : List Nat) (h0 : trimSpace v ≠ [])
    (hs : (trimSpace v).contains slash = false) (hip : O.parseAddr (trimSpace v) = some ip) :
    pieceAdd O v = some (.ip ip) := by
  unfold pieceAdd
  simp only [h0, if_false, hs, Bool.false_eq_true, hip]

/-- `*.zone` : a zone (the name and all its subdomains, see `AddMatches`). -/
theorem piece_zone (O : Oracles) (v d : List Nat) (hv : trimSpace v = 42 :: 46 :: d)
    (hs : (trimSpace v).contains slash = false) (hip : O.parseAddr (trimSpace v) = none) :
    pieceAdd O v = some (.zone (46 :: d)) := by
  unfold pieceAdd
  simp only [hs, Bool.false_eq_true, if_false, hip]
  simp [hv, hasPrefix, starDot, List.isPrefixOf]

/-- Anything else: a host name, matched by equality only. -/
theorem piece_host (O : Oracles) (v : List Nat) (h0 : trimSpace v ≠ [])
    (hs : (trimSpace v).contains slash = false) (hip : O.parseAddr (trimSpace v) = none)
    (hz : hasPrefix (trimSpace v) starDot = false) :
    pieceAdd O v = some (.host (trimSpace v)) := by
  unfold pieceAdd
  simp only [h0, if_false, hs, Bool.false_eq_true, hip, hz]

private def noOracles : Oracles := { parseCIDR := fun _ => none, parseAddr := fun _ => none }
private def exCom : List Nat := [101, 120, 46, 99, 111, 109]        -- "ex.com"
private def aExCom : List Nat := [97, 46, 101, 120, 46, 99, 111, 109] -- "a.ex.com"
private def aexCom : List Nat := [97, 101, 120, 46, 99, 111, 109]   -- "aex.com"

/-- "*.ex.com, a.ex.com." : zone ex.com and host a.ex.com. -/
private def cfg1 : List Cfg := [.fromString ([42, 46] ++ exCom ++ [44, 32] ++ aExCom ++ [46])]
example : dialerForRequest (run noOracles {} cfg1) exCom none = true := by decide +kernel
example : dialerForRequest (run noOracles {} cfg1) aExCom none = true := by decide +kernel
example : dialerForRequest (run noOracles {} cfg1) aexCom none = false := by decide +kernel
example : dialerForRequest (run noOracles {} [.fromString exCom]) aExCom none = false := by decide +kernel
/-- Rooted spellings (regression for the repaired defect `trailing-dot-never-matches`): "ex.com." and
"a.ex.com." dialed against the same rules, and "ex.com." dialed against the rule "ex.com.". -/
example : dialerForRequest (run noOracles {} cfg1) (exCom ++ [46]) none = true := by decide +kernel
example : dialerForRequest (run noOracles {} cfg1) (aExCom ++ [46]) none = true := by decide +kernel
example : dialerForRequest (run noOracles {} [.fromString (exCom ++ [46])]) (exCom ++ [46]) none = true := by decide +kernel
example : dialerForRequest (run noOracles {} cfg1) (aexCom ++ [46]) none = false := by decide +kernel
/-- Letter case (regression for the repaired defect `perhost-case-sensitive`): "EX.com" dialed against
"*.ex.com", and a rule written "EX.COM" against the dialed "ex.com". -/
example : dialerForRequest (run noOracles {} cfg1) ([69, 88] ++ exCom.drop 2) none = true := by decide +kernel
example : dialerForRequest (run noOracles {} [.fromString [69, 88, 46, 67, 79, 77]]) exCom none = true := by decide +kernel
example : dialerForRequest (run noOracles {} [.call (.network [10, 0, 0, 0] 8 32)]) [] (some [10, 9, 8, 7]) = true := by decide +kernel
example : dialerForRequest (run noOracles {} [.call (.network [10, 0, 0, 0] 8 32)]) [] (some [11, 9, 8, 7]) = false := by decide +kernel
example : dialerForRequest (run noOracles {} [.call (.ip [1, 2, 3, 4])]) []
    (some [0, 0, 0, 0, 0, 0, 0, 0, 0, 0, 255, 255, 1, 2, 3, 4]) = true := by decide +kernel

end NetVerif.Proofs.C53
