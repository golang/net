import NetVerif.Model.SendWin
import NetVerif.Proofs.Lemmas.SendWinFlow
import NetVerif.Proofs.Lemmas.SendWin
import NetVerif.Proofs.Lemmas.SendWinRefine
import NetVerif.Proofs.Lemmas.SendWinGen
/-!
C08: the HTTP/2 server never sends DATA beyond the client's flow-control windows, and pending data is sent when a window
reopens. The property is `TraceOK` on the wire trace (`Ledger.Sat` on `data` and on `sopen`); the monitor decides it, and the
mechanism model `Send` stays below the monitor in either role, so C09 (the client) reuses everything here with `Role.client`.
`Lemmas/SendWinGen` (the T-tie to the regenerated Go) is imported so that it is audited with this module; nothing here uses it.
-/
namespace NetVerif.Proofs.C08
open NetVerif.Model.SendWin NetVerif.Model.Flow NetVerif.Proofs.SendWin NetVerif.Proofs.SendWinFlow

/-- C08 (i), with `monitor_complete`: the monitor run on a recorded wire trace accepts it iff it satisfies `TraceOK`. -/
theorem monitor_sound (tr : List Ev) (m : Mon) (h : Mon.init.run tr = .ok m) : TraceOK Ledger.init tr :=
  (run_exact tr rel_init).1 ⟨m, h⟩

theorem monitor_complete (tr : List Ev) (h : TraceOK Ledger.init tr) : ∃ m, Mon.init.run tr = .ok m :=
  (run_exact tr rel_init).2 h

def ledgerAfter (L : Ledger) : List Ev → Ledger
  | [] => L
  | e :: t => ledgerAfter (L.step e) t

theorem traceOK_at (L : Ledger) (pre : List Ev) (e : Ev) (post : List Ev) (h : TraceOK L (pre ++ e :: post)) :
    (ledgerAfter L pre).Sat e := by
  induction pre generalizing L with
  | nil => exact h.1
  | cons x t ih => exact ih (L.step x) h.2

/-- The statement of C08/C09 at an arbitrary position of an accepted trace: when the endpoint writes a DATA
frame of `len > 0` bytes on stream `sid`, the stream is open and, with `c`/`s` the credit granted to and the
payload already sent on that stream, `s + len ≤ c`; the same holds for the connection totals; and the frame
is no larger than the peer's current SETTINGS_MAX_FRAME_SIZE. -/
theorem data_within_credit (pre post : List Ev) (sid len : Nat) (fin : Bool) (m : Mon)
    (h : Mon.init.run (pre ++ .data sid len fin :: post) = .ok m) :
    let L := ledgerAfter Ledger.init pre
    (len : Int) ≤ L.maxFrame ∧
    ∃ c s, tget L.credit sid = some c ∧ tget L.sent sid = some s ∧
      (0 < len → s + len ≤ c ∧ L.connSent + len ≤ L.connCredit) :=
  traceOK_at Ledger.init pre _ post (monitor_sound _ m h)

/-- The simulation relation itself, exported: `Inv` bounds `conn` and every stream counter by the monitor's windows. -/
theorem counters_below_peer_view (r : Role) (acts : List Act) :
    ∃ m, Mon.init.run (Send.init.run r acts).2 = .ok m ∧ Inv (Send.init.run r acts).1 m :=
  run_sim r acts inv_init

theorem mechanism_accepted (r : Role) (acts : List Act) :
    ∃ m, Mon.init.run (Send.init.run r acts).2 = .ok m :=
  let ⟨m, e, _⟩ := counters_below_peer_view r acts
  ⟨m, e⟩

/-- C08 (ii): for every history of peer frames (windows driven negative by SETTINGS, overflowing or zero WINDOW_UPDATEs,
invalid SETTINGS included), application writes and scheduler choices, the trace of the mechanism satisfies the property. -/
theorem mechanism_refines (r : Role) (acts : List Act) : TraceOK Ledger.init (Send.init.run r acts).2 :=
  let ⟨m, e⟩ := mechanism_accepted r acts
  monitor_sound _ m e

theorem consume_none_iff (s : Send) (sid len : Nat) (limit a : Int) (h7 : IsInt32 s.conn) (ha : IsInt32 a)
    (ea : tget s.wins sid = some a) :
    s.consume sid len limit = none ↔
      0 < len ∧ (min (min (s.flow a).available limit) s.maxFrame ≤ 0) := by
  rw [consume_eq sid len limit a _ h7 ha ea rfl]
  split
  · exact ⟨fun h => (nomatch h), fun h => by omega⟩
  split
  · exact ⟨fun _ => ⟨by omega, by assumption⟩, fun _ => rfl⟩
  split
  · exact ⟨fun h => (nomatch h), fun h => absurd h.2 (by assumption)⟩
  · exact ⟨fun h => (nomatch h), fun h => absurd h.2 (by assumption)⟩

/-- C08 (iii), progress on the model, with `consume_none_iff`: a queued non-empty DATA frame on a stream whose
`available()` (min of the stream and connection counters) is positive always yields a non-empty piece. -/
theorem consume_progress (s : Send) (sid len : Nat) (limit a : Int) (h7 : IsInt32 s.conn) (ha : IsInt32 a)
    (ea : tget s.wins sid = some a) (hlen : 0 < len) (hav : 0 < (s.flow a).available) (hlim : 0 < limit)
    (hmf : 0 < s.maxFrame) :
    ∃ n s', s.consume sid len limit = some (n, s') ∧ 0 < n ∧
      (n : Int) = min (len : Int) (min (min (s.flow a).available limit) s.maxFrame) ∧
      s'.conn = s.conn - n ∧ tget s'.wins sid = some (a - n) := by
  generalize hk : min (min (s.flow a).available limit) s.maxFrame = k
  have hpos : 0 < k := by omega
  have e : ((k.toNat : Nat) : Int) = k := Int.toNat_of_nonneg (by omega)
  rw [consume_eq sid len limit a k h7 ha ea hk.symm, if_neg (by omega), if_neg (by omega)]
  by_cases hgt : (len : Int) > k
  · rw [if_pos hgt]
    refine ⟨_, _, rfl, by omega, by omega, ?_, ?_⟩
    · show s.conn - k = s.conn - (k.toNat : Nat)
      rw [e]
    · show tget (tset s.wins sid (a - k)) sid = some (a - (k.toNat : Nat))
      rw [e, tget_tset, if_pos rfl, ea]
      rfl
  · rw [if_neg hgt]
    refine ⟨_, _, rfl, hlen, by omega, rfl, ?_⟩
    show tget (tset s.wins sid (a - len)) sid = some (a - len)
    rw [tget_tset, if_pos rfl, ea]
    rfl

open NetVerif.Model.WriteSched in
/-- size of the piece a `Consume` result hands to the writer -/
def pieceSize : NetVerif.Model.WriteSched.CR → Option Nat
  | .none => none
  | .whole f => some f.dataSize
  | .split c _ => some c.dataSize

open NetVerif.Model.WriteSched in
/-- `Send.consume` (built from `Flow.Outflow`, int32 wrap-around included) and the scheduler model's
`Frame.consume` (C12, unbounded arithmetic on `Env`) agree on open streams with int32 counters: same decision,
same piece size, same windows afterwards. So C12's scheduler theorems speak about this mechanism. -/
theorem consume_matches_writesched (s : Send) (sid tag off len : Nat) (fin last : Bool) (limit a : Int)
    (h7 : IsInt32 s.conn) (ha : IsInt32 a) (ea : tget s.wins sid = some a) :
    (s.consume sid len limit).map (·.1) = pieceSize ((Frame.data sid tag off len fin last).consume s.toEnv limit).2 ∧
    ∀ n s', s.consume sid len limit = some (n, s') →
      s'.toEnv.connWin = ((Frame.data sid tag off len fin last).consume s.toEnv limit).1.connWin ∧
      s'.toEnv.maxFrame = ((Frame.data sid tag off len fin last).consume s.toEnv limit).1.maxFrame ∧
      ∀ j, s'.toEnv.win j = ((Frame.data sid tag off len fin last).consume s.toEnv limit).1.win j := by
  have hav : s.toEnv.avail sid = (s.flow a).available := by
    simp only [Env.avail, Send.toEnv, ea, Option.getD_some, avail_eq]
  generalize hk : min (min (s.flow a).available limit) s.maxFrame = k
  have hallowed : s.toEnv.allowed sid limit = k := by rw [Env.allowed, hav]; exact hk
  -- `Env.take` and `flow.take` written back into the state leave the same windows
  have htake : ∀ (x : Int) (s' : Send), s' = { s with conn := s.conn - x, wins := tset s.wins sid (a - x) } →
      s'.toEnv.connWin = (s.toEnv.take sid x).connWin ∧ s'.toEnv.maxFrame = (s.toEnv.take sid x).maxFrame ∧
      ∀ j, s'.toEnv.win j = (s.toEnv.take sid x).win j := by
    intro x s' hs'
    subst hs'
    refine ⟨rfl, rfl, fun j => ?_⟩
    simp only [Env.take, Send.toEnv, tget_tset]
    by_cases hj : j = sid
    · subst hj; simp [ea]
    · have : ¬ sid = j := fun h => hj h.symm
      simp [hj, this]
  rw [consume_eq sid len limit a k h7 ha ea hk.symm]
  unfold Frame.consume
  simp only [hallowed]
  by_cases hl : len = 0
  · subst hl
    rw [if_pos rfl, if_pos rfl]
    refine ⟨rfl, fun n s' h => ?_⟩
    cases h
    exact ⟨rfl, rfl, fun _ => rfl⟩
  rw [if_neg hl, if_neg hl]
  by_cases hz : k ≤ 0
  · rw [if_pos hz, if_pos hz]
    exact ⟨rfl, fun n s' h => nomatch h⟩
  rw [if_neg hz, if_neg hz]
  by_cases hgt : (len : Int) > k
  · rw [if_pos hgt, if_pos hgt]
    exact ⟨rfl, fun n s' h => htake k s' (Prod.mk.inj (Option.some.inj h)).2.symm⟩
  · rw [if_neg hgt, if_neg hgt]
    exact ⟨rfl, fun n s' h => htake len s' (Prod.mk.inj (Option.some.inj h)).2.symm⟩

/-- (iii) for the client's `awaitFlowControl`; `none` is "keeps waiting". -/
theorem await_progress (s : Send) (sid maxBytes : Nat) (a : Int) (h7 : IsInt32 s.conn) (ha : IsInt32 a)
    (ea : tget s.wins sid = some a) (hmb : 0 < maxBytes) (hmf : 0 < s.maxFrame) :
    (0 < (s.flow a).available →
      ∃ n s', s.await sid maxBytes = some (n, s') ∧ 0 < n ∧
        (n : Int) = min (min (s.flow a).available (maxBytes : Int)) s.maxFrame ∧
        s'.conn = s.conn - n ∧ tget s'.wins sid = some (a - n)) ∧
    ((s.flow a).available ≤ 0 → s.await sid maxBytes = none) := by
  rw [await_eq_consume s sid maxBytes hmb hmf]
  refine ⟨fun hav => ?_, fun hav => (consume_none_iff s sid maxBytes maxBytes a h7 ha ea).2 ⟨hmb, by omega⟩⟩
  obtain ⟨n, s', e, hn, hmin, hc, hw⟩ := consume_progress s sid maxBytes maxBytes a h7 ha ea hmb hav (by omega) hmf
  exact ⟨n, s', e, hn, by omega, hc, hw⟩

/-! Non-vacuity: a history in which SETTINGS drives a stream window negative.
Initial window 100; 300 bytes queued → 100 sent. SETTINGS_INITIAL_WINDOW_SIZE := 10 makes the window −90:
nothing is sent, WINDOW_UPDATE(89) still leaves −1, WINDOW_UPDATE(2) reopens it by one byte; a later
WINDOW_UPDATE that would lift the window above 2^31-1 resets the stream instead. -/

def exActs : List Act :=
  [.settings none (some 100), .sopen 1, .send 1 300 false 2147483647, .settings none (some 10),
   .send 1 200 false 2147483647, .wu 1 89, .send 1 200 false 2147483647, .wu 1 2, .send 1 200 false 2147483647,
   .wu 1 5, .wu 1 2147483647, .send 1 199 true 2147483647]

example : (Send.init.run .server exActs).2 =
    [.settings none (some 100), .sopen 1, .data 1 100 false, .settings none (some 10), .wu 1 89, .wu 1 2,
     .data 1 1 false, .wu 1 5, .wu 1 2147483647, .sclose 1] := by decide

example : ((Send.init.run .server (exActs.take 4)).1.wins, (Send.init.run .server (exActs.take 4)).1.conn) =
    ([(1, -90)], 65435) := by decide

example : ∃ m, Mon.init.run (Send.init.run .client exActs).2 = .ok m := mechanism_accepted .client exActs

end NetVerif.Proofs.C08
