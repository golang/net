import NetVerif.Proofs.C01
import NetVerif.Proofs.C03
/-!
C01, continued — the round trip does not depend on how a block's bytes are cut into
`Decoder.Write` calls (HEADERS / CONTINUATION fragments): C03's split independence
(`Proofs.C03.write_split`) carries the one-Write-per-field result of `Proofs.C01.block_sim` to every
partition of the same bytes.
-/
namespace NetVerif.Proofs.C01
open NetVerif.Model.Hpack NetVerif.Model.HpackEnc
open NetVerif.Proofs.Lemmas.HpackEnc
open NetVerif.Proofs.Lemmas.Hpack
open NetVerif.Model
open NetVerif

def BlockAnyChunkingStatement : Prop :=
  ∀ (A : Nat) (s : Sys) (b : Block) (cs : List Bytes), A ≤ uint32Max → Between A s →
    (∀ f ∈ b.fields, FieldOK f) → (∀ v, SizeOp.setLimit v ∈ b.pre → v ≤ A) →
    cs.flatten = (s.enc.encodeBlock b).2.flatten →
      (runWrites s.dec cs).2 = (b.fields, none) ∧
      (runWrites s.dec cs).1 = (runWrites s.dec (s.enc.encodeBlock b).2).1

theorem block_any_chunking : BlockAnyChunkingStatement := by
  intro A s b cs hA hb hf hl hflat
  have hres : (runWrites s.dec (s.enc.encodeBlock b).2).2 = (b.fields, none) := (block_sim A hA s b hb hf hl).1
  have h1 : runWrites s.dec cs = runWrites s.dec (s.enc.encodeBlock b).2 := by
    rw [Proofs.C03.write_split s.dec cs hb.save, Proofs.C03.write_split s.dec (s.enc.encodeBlock b).2 hb.save, hflat]
  rw [h1]
  exact ⟨hres, rfl⟩

end NetVerif.Proofs.C01
