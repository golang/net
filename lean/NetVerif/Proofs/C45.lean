import NetVerif.Model.DavPath
import NetVerif.Proofs.Lemmas.Fold
import NetVerif.Proofs.Lemmas.Split
/-!
C45 — WebDAV `Dir` keeps every request path inside its root.

Everything is stated on the model of `slashClean` / `Dir.resolve` / `Dir.RemoveAll` / `Dir.Rename`
in `Model/DavPath.lean` (tied to webdav/file.go by the differential run of `./check C45`).
-/
namespace NetVerif.Proofs.C45
open NetVerif.Model.DavPath Lemmas.Split

/-- An ordinary path component: not empty, not ".", not "..", and without a slash. -/
def Normal (c : Bytes) : Prop := c ≠ [] ∧ c ≠ [46] ∧ c ≠ [46, 46] ∧ 47 ∉ c

/-- The cleaned component list of the Dir root (`filepath.Clean(string(d))`). -/
def rootComps (d : Bytes) : List Bytes := cleanComps (isRooted (dirOf d)) (splitSlash (dirOf d))

/-- `"/" ++ c` for every component, concatenated. -/
def below (cs : List Bytes) : Bytes := cs.flatMap (fun c => 47 :: c)

private theorem splitSlash_eq (s : Bytes) : splitSlash s = splitOn 47 s := by
  induction s with
  | nil => rfl
  | cons b r ih => rw [splitSlash, splitOn, ih]; cases splitOn 47 r <;> rfl

private theorem joinSlash_eq (cs : List Bytes) : joinSlash cs = joinOn 47 cs := by
  induction cs with
  | nil => rfl
  | cons c cs ih => cases cs with
    | nil => rfl
    | cons _ _ => exact congrArg (c ++ 47 :: ·) ih

private theorem foldl_normal (r : Bool) (cs stk : List Bytes) (h : ∀ c ∈ cs, Normal c) :
    cs.foldl (cleanStep r) stk = cs.reverse ++ stk := by
  induction cs generalizing stk with
  | nil => simp
  | cons c rest ih =>
    have hc := h c (by simp)
    simp only [List.foldl_cons]
    rw [ih _ (fun x hx => h x (by simp [hx]))]
    simp [cleanStep, hc.1, hc.2.1, hc.2.2.1]

private theorem cleanStep_normal (stk : List Bytes) (c : Bytes) (hs : ∀ x ∈ stk, Normal x)
    (hc : 47 ∉ c) : ∀ x ∈ cleanStep true stk c, Normal x := by
  unfold cleanStep
  by_cases h1 : c = []
  · rwa [if_pos h1]
  by_cases h2 : c = [46]
  · rwa [if_neg h1, if_pos h2]
  rw [if_neg h1, if_neg h2]
  by_cases h3 : c = [46, 46]
  · rw [if_pos h3]
    cases stk with
    | nil => exact hs
    | cons t rest =>
      -- the top of the stack is ordinary, so ".." pops it
      show ∀ x ∈ (if t = [46, 46] then c :: t :: rest else rest), Normal x
      rw [if_neg (hs t List.mem_cons_self).2.2.1]
      exact fun x hx => hs x (List.mem_cons_of_mem _ hx)
  · rw [if_neg h3]
    exact List.forall_mem_cons.2 ⟨⟨h1, h2, h3, hc⟩, hs⟩

private theorem joinSlash_cons (c : Bytes) (cs : List Bytes) : joinSlash (c :: cs) = c ++ below cs := by
  induction cs generalizing c with
  | nil => simp [joinSlash, below]
  | cons c2 cs ih =>
    show c ++ 47 :: joinSlash (c2 :: cs) = _
    rw [ih]; simp [below]

private theorem joinSlash_append (rs cs : List Bytes) (h : rs ≠ []) :
    joinSlash (rs ++ cs) = joinSlash rs ++ below cs := by
  cases rs with
  | nil => exact absurd rfl h
  | cons r rest => simp [joinSlash_cons, below]

private theorem below_eq_nil (cs : List Bytes) (h : below cs = []) : cs = [] := by
  cases cs with
  | nil => rfl
  | cons c rest => simp [below] at h

private theorem render_append (r : Bool) (rs cs : List Bytes) (h : rs ≠ []) :
    render r (rs ++ cs) = render r rs ++ below cs := by
  simp only [render, joinSlash_append rs cs h, List.append_eq_nil_iff, h, false_and, if_false]
  split <;> rfl

theorem slashCleanComps_normal (name : Bytes) : ∀ c ∈ slashCleanComps name, Normal c := by
  unfold slashCleanComps cleanComps
  simp only [List.mem_reverse]
  -- the rooted stack only ever holds ordinary components
  exact Lemmas.foldl_inv_mem (cleanStep true) (fun stk => ∀ c ∈ stk, Normal c) _
    (fun stk c hc hs => cleanStep_normal stk c hs (splitOn_no_sep 47 name c (splitSlash_eq name ▸ hc)))
    [] nofun

theorem slashClean_eq (name : Bytes) : slashClean name = 47 :: joinSlash (slashCleanComps name) := by
  unfold slashClean
  by_cases hr : isRooted name = true
  · simp only [hr, if_true]
    have hne : name ≠ [] := by intro h; subst h; simp [isRooted] at hr
    simp [pathClean, hne, hr, render, slashCleanComps]
  · simp only [hr]
    simp [pathClean, isRooted, render, slashCleanComps, splitSlash, cleanComps, cleanStep]

theorem resolve_nul_rejected (d name : Bytes) (h : 0 ∈ name) : resolve d name = none := by
  unfold resolve
  simp [h]

theorem resolve_rejects_only_nul (d name : Bytes) (h : resolve d name = none) : 0 ∈ name := by
  unfold resolve at h
  split at h
  · rename_i hc; simpa [List.contains_iff_mem] using hc
  · simp at h

private theorem dirOf_ne_nil (d : Bytes) : dirOf d ≠ [] := by
  unfold dirOf; split <;> simp_all

private theorem isRooted_append (a b : Bytes) (h : a ≠ []) : isRooted (a ++ b) = isRooted a := by
  cases a with
  | nil => exact absurd rfl h
  | cons x r => simp [isRooted]

theorem pathClean_root (d : Bytes) :
    pathClean d = render (isRooted (dirOf d)) (rootComps d) := by
  unfold rootComps dirOf
  by_cases hd : d = []
  · subst hd
    simp [pathClean, isRooted, render, cleanComps, splitSlash, cleanStep]
  · simp [hd, pathClean]

theorem resolve_shape (d name : Bytes) (h : 0 ∉ name) :
    resolve d name =
      some (render (isRooted (dirOf d)) (rootComps d ++ slashCleanComps name)) := by
  have hn := slashCleanComps_normal name
  rw [resolve, if_neg (by simpa using h), pathClean, if_neg (by simp), isRooted_append _ _ (dirOf_ne_nil d),
    slashClean_eq, joinSlash_eq, splitSlash_eq]
  -- `dir ++ "/" ++ "/" ++ join cs` splits into the components of `dir`, an empty one, and those of `join cs`
  rw [splitOn_append, splitOn_sep, ← splitSlash_eq]
  congr 2
  unfold rootComps cleanComps
  -- the empty component in front of the name's components is skipped
  rw [List.foldl_append, List.foldl_cons, show cleanStep _ _ [] = _ from if_pos rfl]
  cases hcs : slashCleanComps name with
  | nil => simp [joinOn, splitOn, cleanStep]
  | cons c rest =>
    rw [← hcs, splitOn_joinOn 47 _ (by simp [hcs]) (fun x hx => (hn x hx).2.2.2),
      foldl_normal _ _ _ hn]
    simp

/-- The confinement clause of C45, on component lists: whatever `resolve` returns renders the components of the
cleaned root followed by ordinary ones only.  That it is then lexically inside the root as a byte string is
`resolve_below_root`, `resolve_slash_root`, `resolve_dot_root`; `resolve_eq_root_iff` says when it is the root itself. -/
theorem resolve_confined (d name p : Bytes) (h : resolve d name = some p) :
    ∃ cs : List Bytes, (∀ c ∈ cs, Normal c) ∧
      p = render (isRooted (dirOf d)) (rootComps d ++ cs) ∧
      pathClean d = render (isRooted (dirOf d)) (rootComps d) ∧
      cs = slashCleanComps name := by
  have hnul : 0 ∉ name := by
    intro h0; rw [resolve_nul_rejected d name h0] at h; simp at h
  rw [resolve_shape d name hnul] at h
  exact ⟨slashCleanComps name, slashCleanComps_normal name, by simpa using h.symm,
    pathClean_root d, rfl⟩

/-- `hroot`: every root except "/", "." and their spellings. -/
theorem resolve_below_root (d name p : Bytes) (h : resolve d name = some p)
    (hroot : rootComps d ≠ []) :
    p = pathClean d ++ below (slashCleanComps name) ∧ ∀ c ∈ slashCleanComps name, Normal c := by
  obtain ⟨cs, hn, hp, hr, rfl⟩ := resolve_confined d name p h
  exact ⟨by rw [hp, hr, render_append _ _ _ hroot], hn⟩

/-- Root "/" (any spelling). -/
theorem resolve_slash_root (d name p : Bytes) (h : resolve d name = some p)
    (hroot : rootComps d = []) (hr : isRooted (dirOf d) = true) :
    p = 47 :: joinSlash (slashCleanComps name) := by
  obtain ⟨cs, _, hp, _, rfl⟩ := resolve_confined d name p h
  simp [hp, hroot, hr, render]

/-- Root "." (including the empty Dir). -/
theorem resolve_dot_root (d name p : Bytes) (h : resolve d name = some p)
    (hroot : rootComps d = []) (hr : isRooted (dirOf d) = false) :
    p = if slashCleanComps name = [] then [46] else joinSlash (slashCleanComps name) := by
  obtain ⟨cs, _, hp, _, rfl⟩ := resolve_confined d name p h
  simp [hp, hroot, hr, render]

private theorem joinSlash_normal (cs : List Bytes) (hn : ∀ c ∈ cs, Normal c)
    (h : joinSlash cs = [] ∨ joinSlash cs = [46]) : cs = [] := by
  cases cs with
  | nil => rfl
  | cons c rest =>
    have hc := hn c List.mem_cons_self
    rw [joinSlash_cons] at h
    cases c with
    | nil => exact absurd rfl hc.1
    | cons x xs =>
      rcases h with h | h
      · cases h
      · -- `c` is not empty, so it is all of "."
        injection h with hx h
        rw [hx, (List.append_eq_nil_iff.1 h).1] at hc
        exact absurd rfl hc.2.1

private theorem render_root_eq (r : Bool) (rs cs : List Bytes) (hn : ∀ c ∈ cs, Normal c)
    (h : render r (rs ++ cs) = render r rs) : cs = [] := by
  by_cases hrs : rs = []
  · subst hrs
    cases r with
    | true => exact joinSlash_normal cs hn (Or.inl (by simpa [render, joinSlash] using h))
    | false =>
      by_cases hc : cs = []
      · exact hc
      · exact joinSlash_normal cs hn (Or.inr (by simpa [render, hc] using h))
  · rw [render_append _ _ _ hrs] at h
    exact below_eq_nil cs (List.append_right_eq_self.1 h)

theorem resolve_eq_root_iff (d name p : Bytes) (h : resolve d name = some p) :
    p = pathClean d ↔ slashCleanComps name = [] := by
  obtain ⟨cs, hn, hp, hr, rfl⟩ := resolve_confined d name p h
  constructor
  · intro he
    rw [hp, hr] at he
    exact render_root_eq _ _ _ hn he
  · intro he
    rw [hp, hr, he]; simp

/-- The RemoveAll clause of C45: refused with ErrInvalid exactly for the NUL-free names that clean to "/". -/
theorem removeAll_spec (d name : Bytes) :
    removeAll d name =
      if 0 ∈ name then .notExist
      else if slashCleanComps name = [] then .invalid
      else .os [render (isRooted (dirOf d)) (rootComps d ++ slashCleanComps name)] := by
  unfold removeAll
  by_cases h0 : 0 ∈ name
  · rw [resolve_nul_rejected d name h0, if_pos h0]
  · have hs := resolve_shape d name h0
    rw [hs, if_neg h0]
    simp only [resolve_eq_root_iff d name _ hs]

theorem removeAll_root_refused (d name : Bytes) (h0 : 0 ∉ name) (h : slashCleanComps name = []) :
    removeAll d name = .invalid := by
  rw [removeAll_spec]; simp [h0, h]

/-- The Rename clause of C45: the same, for either of the two names. -/
theorem rename_spec (d o n : Bytes) :
    rename d o n =
      if 0 ∈ o ∨ 0 ∈ n then .notExist
      else if slashCleanComps o = [] ∨ slashCleanComps n = [] then .invalid
      else .os [render (isRooted (dirOf d)) (rootComps d ++ slashCleanComps o),
                render (isRooted (dirOf d)) (rootComps d ++ slashCleanComps n)] := by
  unfold rename
  by_cases ho : 0 ∈ o
  · rw [resolve_nul_rejected d o ho, if_pos (Or.inl ho)]
  have hso := resolve_shape d o ho
  by_cases hn : 0 ∈ n
  · rw [hso, resolve_nul_rejected d n hn, if_pos (Or.inr hn)]
  have hsn := resolve_shape d n hn
  rw [hso, hsn, if_neg (not_or.2 ⟨ho, hn⟩)]
  simp only [eq_comm (a := pathClean d), resolve_eq_root_iff d o _ hso, resolve_eq_root_iff d n _ hsn]

theorem rename_root_refused (d o n : Bytes) (ho : 0 ∉ o) (hn : 0 ∉ n)
    (h : slashCleanComps o = [] ∨ slashCleanComps n = []) : rename d o n = .invalid := by
  rw [rename_spec]; simp [ho, hn, h]

private theorem rename_os (d o n : Bytes) (ps : List Bytes) (h : rename d o n = .os ps) :
    ∀ p ∈ ps, ∃ x, resolve d x = some p := by
  unfold rename at h
  split at h
  · cases h
  next q ho =>
    split at h
    · cases h
    next q' hn =>
      split at h
      · cases h
      · cases h
        exact List.forall_mem_cons.2 ⟨⟨o, ho⟩, List.forall_mem_cons.2 ⟨⟨n, hn⟩, nofun⟩⟩

/-- Every path any Dir method hands to the os package is confined (Mkdir/OpenFile/Stat may
name the root itself; RemoveAll/Rename never do). -/
theorem os_paths_confined (d name : Bytes) (ps : List Bytes)
    (h : simpleOp d name = .os ps ∨ removeAll d name = .os ps ∨ (∃ n2, rename d name n2 = .os ps)
       ∨ (∃ n1, rename d n1 name = .os ps)) :
    ∀ p ∈ ps, ∃ cs : List Bytes, (∀ c ∈ cs, Normal c) ∧
      p = render (isRooted (dirOf d)) (rootComps d ++ cs) := by
  -- every path handed over is what `resolve` returned for one of the names
  suffices hres : ∀ p ∈ ps, ∃ x, resolve d x = some p by
    intro p hp
    obtain ⟨x, hx⟩ := hres p hp
    obtain ⟨cs, hn, hq, -⟩ := resolve_confined d x p hx
    exact ⟨cs, hn, hq⟩
  rcases h with h | h | ⟨n2, h⟩ | ⟨n1, h⟩
  · unfold simpleOp at h
    split at h
    · cases h
    next q hq =>
      cases h
      exact List.forall_mem_cons.2 ⟨⟨name, hq⟩, nofun⟩
  · unfold removeAll at h
    split at h
    · cases h
    next q hq =>
      split at h
      · cases h
      · cases h
        exact List.forall_mem_cons.2 ⟨⟨name, hq⟩, nofun⟩
  · exact rename_os d name n2 ps h
  · exact rename_os d n1 name ps h

theorem dots_clean_to_root (name : Bytes)
    (h : ∀ c ∈ splitSlash name, c = [] ∨ c = [46] ∨ c = [46, 46]) : slashCleanComps name = [] := by
  unfold slashCleanComps cleanComps
  rw [Lemmas.foldl_inv_mem (cleanStep true) (· = []) _ (fun s c hc hs => ?_) [] rfl]; rfl
  subst hs
  rcases h c hc with rfl | rfl | rfl <;> simp [cleanStep]

/-- "/a/../../b//./c" under root "/srv/dav/" resolves to "/srv/dav/b/c". -/
example : resolve [47,115,114,118,47,100,97,118,47] [47,97,47,46,46,47,46,46,47,98,47,47,46,47,99]
    = some [47,115,114,118,47,100,97,118,47,98,47,99] := by decide +kernel
/-- "%2e%2e" is an ordinary component (no decoding happens here). -/
example : slashCleanComps [37,50,101,37,50,101,47,120] = [[37,50,101,37,50,101],[120]] := by decide +kernel
example : removeAll [47,114] [97,47,46,46] = .invalid := by decide +kernel
example : removeAll [47,114] [97,0] = .notExist := by decide +kernel
example : removeAll [] [46,46,47,97] = .os [[97]] := by decide +kernel
example : rename [47,114] [97] [47,46,46,47] = .invalid := by decide +kernel
example : rename [47,114] [97] [98] = .os [[47,114,47,97],[47,114,47,98]] := by decide +kernel
example : rootComps [46,46,47,114] = [[46,46],[114]] := by decide +kernel

end NetVerif.Proofs.C45
