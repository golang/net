import NetVerif.Model.Pipe
import NetVerif.Gen.C30
/-!
C30 — the QUIC stream pipe stores exactly the bytes written: the chunk chain of quic/pipe.go, read
through `byteAt`, refines `Spec` (the window and the last byte written at each offset), for every
chunk size `c > 0`.
-/
namespace NetVerif.Proofs.C30
open NetVerif.Model.Pipe

/-- T-tie: the chunk size regenerated from quic/pipe.go satisfies the hypothesis `0 < c` of the theorems. -/
theorem gen_chunk_pos : 0 < NetVerif.Gen.C30.pipebufSize := by decide

/-- The byte stored for absolute offset `x` (first chunk covering it). -/
def byteAt : List Buf → Int → Option Nat
  | [], _ => none
  | pb :: rest, x => if pb.off ≤ x ∧ x < pb.stop then pb.b[(x - pb.off).toNat]? else byteAt rest x

/-- Chunks of length `c` at contiguous offsets starting at `o`. -/
def Cont (c : Nat) (o : Int) : List Buf → Prop
  | [] => True
  | pb :: rest => pb.off = o ∧ pb.b.length = c ∧ Cont c (o + c) rest

theorem copyInto_snd (dst : List Nat) (k : Nat) (src : List Nat) :
    (copyInto dst k src).2 = min (dst.length - k) src.length := rfl

theorem copyInto_fst (dst : List Nat) (k : Nat) (src : List Nat) :
    (copyInto dst k src).1 = dst.take k ++ src.take (min (dst.length - k) src.length) ++
      dst.drop (k + min (dst.length - k) src.length) := rfl

theorem copyInto_length (dst : List Nat) (k : Nat) (src : List Nat) (hk : k ≤ dst.length) :
    (copyInto dst k src).1.length = dst.length := by
  rw [copyInto_fst]
  simp only [List.length_append, List.length_take, List.length_drop]
  omega

theorem copyInto_get (dst : List Nat) (k : Nat) (src : List Nat) (j : Nat) (hk : k ≤ dst.length) :
    (copyInto dst k src).1[j]? =
      if k ≤ j ∧ j < k + (copyInto dst k src).2 then src[j - k]? else dst[j]? := by
  rw [copyInto_fst, copyInto_snd]
  generalize hn : min (dst.length - k) src.length = n
  have e1 : min k dst.length = k := Nat.min_eq_left hk
  have e2 : min n src.length = n := by omega
  simp only [List.getElem?_append, List.length_append, List.length_take, List.getElem?_take,
    List.getElem?_drop, e1, e2]
  by_cases h2 : j < k + n
  · rw [if_pos h2]
    by_cases h1 : j < k
    · rw [if_pos h1, if_pos h1, if_neg (by omega)]
    · rw [if_neg h1, if_pos (by omega), if_pos ⟨by omega, h2⟩]
  · rw [if_neg h2, if_neg (by omega)]
    congr 1; omega

/-- One past the last offset of a chain of `l.length` chunks of length `c` that starts at `o`. -/
def cend (o : Int) (c : Nat) (l : List Buf) : Int := o + c * l.length

theorem cend_nil (o : Int) (c : Nat) : cend o c [] = o := by simp [cend]

theorem cend_cons (o : Int) (c : Nat) (pb : Buf) (l : List Buf) :
    cend o c (pb :: l) = cend (o + c) c l := by
  simp only [cend, List.length_cons]
  push_cast
  rw [Int.mul_add]
  omega

theorem cend_ge (o : Int) (c : Nat) (l : List Buf) : o ≤ cend o c l := by
  have : (0 : Int) ≤ (c : Int) * (l.length : Int) := Int.mul_nonneg (by omega) (by omega)
  simp only [cend]; omega

theorem byteAt_in (o : Int) (b : List Nat) (rest : List Buf) (x : Int)
    (h : o ≤ x ∧ x < o + (b.length : Int)) :
    byteAt (⟨o, b⟩ :: rest) x = b[(x - o).toNat]? := if_pos h

theorem byteAt_out (o : Int) (b : List Nat) (rest : List Buf) (x : Int)
    (h : ¬ (o ≤ x ∧ x < o + (b.length : Int))) :
    byteAt (⟨o, b⟩ :: rest) x = byteAt rest x := if_neg h

theorem byteAt_cons_mono (pb : Buf) (tl tl' : List Buf) (x : Int) (v : Nat)
    (htl : byteAt tl x = some v → byteAt tl' x = some v) :
    byteAt (pb :: tl) x = some v → byteAt (pb :: tl') x = some v := by
  simp only [byteAt]
  split
  · exact id
  · exact htl

/-- `copy(pb.b[k:], b)` seen at absolute offsets. -/
theorem byteAt_copyInto (po : Int) (pbb b : List Nat) (k : Nat) (tl : List Buf) (x : Int)
    (hk : k ≤ pbb.length) :
    byteAt (⟨po, (copyInto pbb k b).1⟩ :: tl) x =
      if po + k ≤ x ∧ x < po + k + (copyInto pbb k b).2 then b[(x - (po + k)).toNat]?
      else byteAt (⟨po, pbb⟩ :: tl) x := by
  have hlen := copyInto_length pbb k b hk
  have hn := copyInto_snd pbb k b
  by_cases hin : po ≤ x ∧ x < po + (pbb.length : Int)
  · rw [byteAt_in _ _ _ _ (hlen ▸ hin), byteAt_in _ _ _ _ hin, copyInto_get _ _ _ _ hk]
    by_cases hw : po + k ≤ x ∧ x < po + k + (copyInto pbb k b).2
    · rw [if_pos hw, if_pos (by omega)]; congr 1; omega
    · rw [if_neg hw, if_neg (by omega)]
  · rw [byteAt_out _ _ _ _ (hlen ▸ hin), byteAt_out _ _ _ _ hin, if_neg (by omega)]

/-- What one run of the `writeAt` loop over the contiguous chain `bufs` achieves. -/
structure WriteOK (c : Nat) (o : Int) (bufs : List Buf) (b : List Nat) (off : Int) (l : List Buf) : Prop where
  cont : Cont c o l
  nonempty : bufs ≠ [] → l ≠ []
  grows : cend o c bufs ≤ cend o c l
  reaches : off + b.length ≤ cend o c l
  written : ∀ x, off ≤ x → x < off + b.length → byteAt l x = b[(x - off).toNat]?
  kept : ∀ x v, ¬ (off ≤ x ∧ x < off + b.length) → byteAt bufs x = some v → byteAt l x = some v

theorem writeOK_nil {c : Nat} {o off : Int} {l : List Buf} (hl : Cont c o l) (ho : off ≤ o) :
    WriteOK c o l [] off l :=
  ⟨hl, id, Int.le_refl _, by have := cend_ge o c l; simp only [List.length_nil]; omega,
    fun x h1 h2 => by simp only [List.length_nil] at h2; omega, fun _ _ _ h => h⟩

theorem writeOK_skip {c : Nat} {pb : Buf} {rest l : List Buf} {b : List Nat} {off : Int}
    (hpb : pb.b.length = c) (h : pb.off + c ≤ off) (hw : WriteOK c (pb.off + c) rest b off l) :
    WriteOK c pb.off (pb :: rest) b off (pb :: l) := by
  obtain ⟨w1, _, w3, w4, w5, w6⟩ := hw
  obtain ⟨po, pbb⟩ := pb
  simp only at hpb h w1 w3 w4 ⊢
  subst hpb
  refine ⟨⟨rfl, rfl, w1⟩, fun _ => List.cons_ne_nil _ _, ?_, ?_, fun x h1 h2 => ?_, fun x v hx => ?_⟩
  · rw [cend_cons, cend_cons]; exact w3
  · rw [cend_cons]; exact w4
  · rw [byteAt_out _ _ _ _ (by omega)]; exact w5 x h1 h2
  · exact byteAt_cons_mono _ _ _ _ _ (w6 x v hx)

theorem writeOK_copy {c : Nat} {po : Int} {pbb : List Nat} {rest l : List Buf} {b : List Nat} {off : Int}
    (k : Nat) (hpb : pbb.length = c) (hoff : off = po + k) (hk : k < c)
    (hw : WriteOK c (po + c) rest (b.drop (copyInto pbb k b).2) (off + (copyInto pbb k b).2) l) :
    WriteOK c po (⟨po, pbb⟩ :: rest) b off (⟨po, (copyInto pbb k b).1⟩ :: l) := by
  obtain ⟨w1, _, w3, w4, w5, w6⟩ := hw
  subst hpb hoff
  have hlen := copyInto_length pbb k b (Nat.le_of_lt hk)
  have hat := fun tl x => byteAt_copyInto po pbb b k tl x (Nat.le_of_lt hk)
  have hn := copyInto_snd pbb k b
  generalize copyInto pbb k b = r at *
  have hn' : k + r.2 ≤ pbb.length ∧ r.2 ≤ b.length ∧ (r.2 = b.length ∨ k + r.2 = pbb.length) := by omega
  clear hn
  simp only [List.length_drop] at w4 w5 w6
  refine ⟨⟨rfl, hlen, w1⟩, fun _ => List.cons_ne_nil _ _, ?_, ?_, fun x h1 h2 => ?_, fun x v hx hv => ?_⟩
  · rw [cend_cons, cend_cons]; exact w3
  · rw [cend_cons]; omega
  · rw [hat]
    by_cases hx : x < po + k + r.2
    · rw [if_pos ⟨h1, hx⟩]
    · rw [if_neg (by omega), byteAt_out _ _ _ _ (by omega), w5 x (by omega) (by omega), List.getElem?_drop]
      congr 1; omega
  · rw [hat, if_neg (by omega)]
    exact byteAt_cons_mono _ _ _ _ _ (w6 x v (by omega)) hv

theorem writeOK_fresh {c : Nat} {o off : Int} {bufs l : List Buf} {b : List Nat}
    (h : WriteOK c o bufs b off l) : WriteOK c o [] b off l :=
  ⟨h.cont, fun h => absurd rfl h, (cend_nil o c).symm ▸ cend_ge o c l, h.reaches, h.written, fun _ _ _ h => nomatch h⟩

/-- The allocation part of the `writeAt` loop; the bound on `fuel` is met by what `writeBufs` passes. -/
theorem extend_spec (c : Nat) (hc : 0 < c) : ∀ (fuel : Nat) (o : Int) (b : List Nat) (off : Int),
    o ≤ off → (off - o).toNat + b.length + 1 ≤ fuel →
    WriteOK c o [] b off (extend c fuel o b off) ∧ extend c fuel o b off ≠ []
  | 0, _, _, _, _, h => by omega
  | fuel + 1, o, b, off, ho, hf => by
    obtain ⟨k, rfl⟩ : ∃ k : Nat, off = o + k := ⟨(off - o).toNat, by omega⟩
    have ek' : o + (k : Int) - o = k := by omega
    simp only [extend, ek', Int.toNat_natCast] at hf ⊢
    have hn := copyInto_snd (List.replicate c 0) k b
    simp only [List.length_replicate] at hn
    by_cases hkc : (k : Int) < c
    · rw [if_pos hkc]
      by_cases h2 : (copyInto (List.replicate c 0) k b).2 = b.length
      · rw [if_pos h2]
        refine ⟨writeOK_fresh (writeOK_copy (rest := []) k List.length_replicate rfl (by omega) ?_),
          List.cons_ne_nil _ _⟩
        rw [h2, List.drop_length]
        exact writeOK_nil trivial (by omega)
      · rw [if_neg h2]
        exact ⟨writeOK_fresh (writeOK_copy (rest := []) k List.length_replicate rfl (by omega)
          (extend_spec c hc fuel _ _ _ (by omega) (by simp only [List.length_drop]; omega)).1),
          List.cons_ne_nil _ _⟩
    · rw [if_neg hkc]
      have h : o + (c : Int) ≤ o + k := by omega
      exact ⟨writeOK_fresh (writeOK_skip (pb := newBuf c o) (rest := []) List.length_replicate h
        (extend_spec c hc fuel (o + c) _ _ h (by omega)).1), List.cons_ne_nil _ _⟩

theorem writeBufs_spec (c : Nat) (hc : 0 < c) : ∀ (bufs : List Buf) (o : Int) (b : List Nat) (off : Int),
    Cont c o bufs → bufs ≠ [] → o ≤ off →
    ∃ l, writeBufs c bufs b off = some l ∧ WriteOK c o bufs b off l
  | [], _, _, _, _, h, _ => absurd rfl h
  | ⟨po, pbb⟩ :: rest, o, b, off, hcont, _, ho => by
    obtain ⟨rfl, hlen, hrest⟩ := hcont
    simp only at hlen ho
    obtain ⟨k, rfl⟩ : ∃ k : Nat, off = po + k := ⟨(off - po).toNat, by omega⟩
    have ek' : po + (k : Int) - po = k := by omega
    have hk0 : ¬ ((k : Int) < 0) := by omega
    simp only [writeBufs, Buf.stop, ek', Int.toNat_natCast, hlen, hk0, if_false]
    have hn := copyInto_snd pbb k b
    rw [hlen] at hn
    by_cases hkc : (k : Int) < c
    · rw [if_pos hkc]
      by_cases h2 : (copyInto pbb k b).2 = b.length
      · rw [if_pos h2]
        refine ⟨_, rfl, writeOK_copy k hlen rfl (by omega) ?_⟩
        rw [h2, List.drop_length]
        exact writeOK_nil hrest (by omega)
      · rw [if_neg h2]
        cases rest with
        | nil =>
          exact ⟨_, rfl, writeOK_copy k hlen rfl (by omega)
            (extend_spec c hc _ _ _ _ (by omega) (by simp only [List.length_drop]; omega)).1⟩
        | cons q rest' =>
          obtain ⟨l', e, hw⟩ := writeBufs_spec c hc (q :: rest') (po + c) (b.drop (copyInto pbb k b).2)
            (po + k + (copyInto pbb k b).2) hrest (List.cons_ne_nil _ _) (by omega)
          simp only [e, Option.map_some]
          exact ⟨_, rfl, writeOK_copy k hlen rfl (by omega) hw⟩
    · rw [if_neg hkc]
      have h : po + (c : Int) ≤ po + k := by omega
      cases rest with
      | nil =>
        exact ⟨_, rfl, writeOK_skip (pb := ⟨po, pbb⟩) hlen h (extend_spec c hc _ (po + c) _ _ h (Nat.le_refl _)).1⟩
      | cons q rest' =>
        obtain ⟨l', e, hw⟩ := writeBufs_spec c hc (q :: rest') (po + c) b (po + k) hrest (List.cons_ne_nil _ _) h
        simp only [e, Option.map_some]
        exact ⟨_, rfl, writeOK_skip (pb := ⟨po, pbb⟩) hlen h hw⟩

theorem cont_last_ge (c : Nat) : ∀ (pre : List Buf) (t : Buf) (o : Int), Cont c o (pre ++ [t]) → o ≤ t.off
  | [], _, _, h => Int.le_of_eq h.1.symm
  | _ :: pre, t, o, h => by have := cont_last_ge c pre t (o + c) h.2.2; omega

theorem writeBufs_skip (c : Nat) (p0 q : Buf) (rest : List Buf) (b : List Nat) (off : Int)
    (h1 : ¬ (off - p0.off < (p0.b.length : Int))) :
    writeBufs c (p0 :: q :: rest) b off = (writeBufs c (q :: rest) b off).map (p0 :: ·) := by
  rw [writeBufs]; simp only [h1, if_false]

/-- The `if off >= p.tail.off { pb = p.tail }` shortcut gives the same result as walking from the head. -/
theorem writeBufs_tail (c : Nat) : ∀ (pre : List Buf) (t : Buf) (o : Int) (b : List Nat) (off : Int),
    Cont c o (pre ++ [t]) → t.off ≤ off →
    writeBufs c (pre ++ [t]) b off = (writeBufs c [t] b off).map (pre ++ ·)
  | [], t, _, b, off, _, _ => by simp
  | p0 :: pre, t, o, b, off, h, ht => by
    have hge := cont_last_ge c pre t (o + c) h.2.2
    have h1 : ¬ (off - p0.off < (p0.b.length : Int)) := by have := h.1; have := h.2.1; omega
    have e := writeBufs_tail c pre t (o + c) b off h.2.2 ht
    cases pre with
    | nil =>
      show writeBufs c (p0 :: t :: []) b off = _
      rw [writeBufs_skip c p0 t [] b off h1]
      cases writeBufs c [t] b off <;> rfl
    | cons p1 pre' =>
      show writeBufs c (p0 :: p1 :: (pre' ++ [t])) b off = _
      rw [writeBufs_skip c p0 p1 (pre' ++ [t]) b off h1, ← List.cons_append, e]
      cases writeBufs c [t] b off <;> rfl

theorem writeLoop_eq (c : Nat) (bufs0 : List Buf) (o0 : Int) (c0 : Cont c o0 bufs0) (n0 : bufs0 ≠ [])
    (b1 : List Nat) (off1 start stop' : Int) :
    writeLoop c start stop' bufs0 b1 off1 =
      match writeBufs c bufs0 b1 off1 with
      | none => (⟨start, stop', bufs0⟩, true)
      | some l => (⟨start, stop', l⟩, false) := by
  have hsplit := List.dropLast_concat_getLast n0
  unfold writeLoop
  rw [List.getLast?_eq_some_getLast n0]
  simp only
  split
  · rename_i ht
    have := writeBufs_tail c bufs0.dropLast _ o0 b1 off1 (hsplit.symm ▸ c0) ht
    rw [hsplit] at this
    rw [this]
    cases writeBufs c [bufs0.getLast n0] b1 off1 <;> simp only [Option.map_none, Option.map_some]
  · rfl

/-- Specification state: the window and the last byte written at each offset. -/
structure Spec where
  start : Int
  stop : Int
  data : Int → Option Nat

def Spec.empty : Spec := ⟨0, 0, fun _ => none⟩

/-- `writeAt(b, off)`: bytes before the window start are dropped, the window end grows. -/
def specWrite (s : Spec) (b : List Nat) (off : Int) : Spec :=
  if off + b.length ≤ s.start then s
  else ⟨s.start, if off + b.length > s.stop then off + b.length else s.stop,
        fun x => if s.start ≤ x ∧ off ≤ x ∧ x < off + b.length then b[(x - off).toNat]? else s.data x⟩

/-- `discardBefore(off)`: the window start moves, no stored byte changes. -/
def specDiscard (s : Spec) (off : Int) : Spec :=
  ⟨off, if s.stop > off then s.stop else off, s.data⟩

/-- Representation invariant of the chunk chain. -/
def Inv (c : Nat) (p : Pipe) : Prop :=
  p.start ≤ p.stop ∧ ∃ o, Cont c o p.bufs ∧ (p.bufs = [] → p.start = p.stop) ∧
    (p.bufs ≠ [] → o ≤ p.start ∧ p.start < o + c ∧ p.stop ≤ cend o c p.bufs)

/-- Offset of the head chunk (the window start when no chunk is allocated). -/
def headOff (p : Pipe) : Int :=
  match p.bufs with
  | [] => p.start
  | h :: _ => h.off

theorem headOff_nil (st sp : Int) : headOff ⟨st, sp, []⟩ = st := rfl

/-- The representation invariant with the chain anchored at `headOff p` (the window start when no chunk is
allocated, so that the empty chain needs no case of its own). -/
theorem inv_iff (c : Nat) (p : Pipe) : Inv c p ↔
    p.start ≤ p.stop ∧ Cont c (headOff p) p.bufs ∧ headOff p ≤ p.start ∧ p.stop ≤ cend (headOff p) c p.bufs ∧
    (p.bufs ≠ [] → p.start < headOff p + c) := by
  obtain ⟨st, sp, bufs⟩ := p
  cases bufs with
  | nil =>
    simp only [headOff, cend_nil]
    exact ⟨fun ⟨hle, _, _, h, _⟩ => ⟨hle, trivial, Int.le_refl _, Int.le_of_eq (h rfl).symm, fun h => absurd rfl h⟩,
      fun ⟨hle, _, _, h, _⟩ => ⟨hle, 0, trivial, fun _ => Int.le_antisymm hle h, fun h => absurd rfl h⟩⟩
  | cons h t =>
    have hne : h :: t ≠ [] := List.cons_ne_nil _ _
    constructor
    · rintro ⟨hle, o, hcont, _, hn⟩
      obtain rfl : h.off = o := hcont.1
      exact ⟨hle, hcont, (hn hne).1, (hn hne).2.2, fun _ => (hn hne).2.1⟩
    · rintro ⟨hle, hcont, a1, a3, a2⟩
      exact ⟨hle, h.off, hcont, fun h => absurd h hne, fun _ => ⟨a1, a2 hne, a3⟩⟩

theorem headOff_le_start (c : Nat) (p : Pipe) (hinv : Inv c p) : headOff p ≤ p.start :=
  ((inv_iff c p).1 hinv).2.2.1

/-- Refinement relation: same window, and every byte the specification knows from the head chunk
onwards (in particular everywhere inside the window) is what the chunks hold at that offset. -/
def Rel (p : Pipe) (s : Spec) : Prop :=
  p.start = s.start ∧ p.stop = s.stop ∧
  (∀ x v, headOff p ≤ x → x < s.stop → s.data x = some v → byteAt p.bufs x = some v) ∧
  (∀ x v, s.data x = some v → x < s.stop)

theorem inv_empty (c : Nat) : Inv c empty :=
  (inv_iff c empty).2 ⟨Int.le_refl _, trivial, Int.le_refl _, Int.le_refl _, fun h => absurd rfl h⟩

theorem rel_empty : Rel empty Spec.empty :=
  ⟨rfl, rfl, fun _ _ _ _ h => by simp [Spec.empty] at h, fun _ _ h => by simp [Spec.empty] at h⟩

/-- `writeAt` past its early return: trim to the window start, then the loop over the chain. -/
theorem writeAt_eq (c : Nat) (p : Pipe) (b : List Nat) (off o0 : Int) (bufs0 : List Buf)
    (hle : p.start ≤ p.stop) (hskip : ¬ (off + (b.length : Int) ≤ p.stop ∧ off + (b.length : Int) ≤ p.start))
    (hb0 : (if p.bufs.isEmpty then [newBuf c p.start] else p.bufs) = bufs0)
    (c0 : Cont c o0 bufs0) (n0 : bufs0 ≠ []) :
    ∃ b1 off1, p.start ≤ off1 ∧ off ≤ off1 ∧ (off1 = off ∨ off1 = p.start) ∧
      off1 + (b1.length : Int) = off + b.length ∧
      (∀ x, off1 ≤ x → b1[(x - off1).toNat]? = b[(x - off).toNat]?) ∧
      writeAt c p b off =
        match writeBufs c bufs0 b1 off1 with
        | none => (⟨p.start, if off + (b.length : Int) > p.stop then off + b.length else p.stop, bufs0⟩, true)
        | some l => (⟨p.start, if off + (b.length : Int) > p.stop then off + b.length else p.stop, l⟩, false) := by
  unfold writeAt
  simp only
  rw [if_neg hskip, hb0, writeLoop_eq c bufs0 o0 c0 n0]
  by_cases h : off < p.start
  · rw [if_pos h, if_pos h]
    exact ⟨_, _, Int.le_refl _, by omega, Or.inr rfl, by rw [List.length_drop]; omega,
      fun x hx => by rw [List.getElem?_drop]; congr 1; omega, rfl⟩
  · rw [if_neg h, if_neg h]
    exact ⟨_, _, by omega, Int.le_refl _, Or.inl rfl, rfl, fun _ _ => rfl, rfl⟩

/-- C30, write side. -/
theorem writeAt_refines (c : Nat) (hc : 0 < c) (p : Pipe) (s : Spec) (b : List Nat) (off : Int)
    (hinv : Inv c p) (hrel : Rel p s) :
    (writeAt c p b off).2 = false ∧ Inv c (writeAt c p b off).1 ∧
    Rel (writeAt c p b off).1 (specWrite s b off) := by
  obtain ⟨r1, r2, r3, r4⟩ := hrel
  have hle := hinv.1
  by_cases hskip : off + (b.length : Int) ≤ p.stop ∧ off + (b.length : Int) ≤ p.start
  · have e1 : writeAt c p b off = (p, false) := if_pos hskip
    have e2 : specWrite s b off = s := if_pos (by omega)
    rw [e1, e2]
    exact ⟨rfl, hinv, r1, r2, r3, r4⟩
  · have e2 : specWrite s b off = _ := if_neg (by omega : ¬ (off + (b.length : Int) ≤ s.start))
    rw [e2]
    obtain ⟨_, a0, a1, a3, a2⟩ := (inv_iff c p).1 hinv
    generalize ho : headOff p = o0 at a0 a1 a2 a3
    -- the chain with the head chunk allocated if there was none
    have h0 : ∃ bufs0, (if p.bufs.isEmpty then [newBuf c p.start] else p.bufs) = bufs0 ∧
        Cont c o0 bufs0 ∧ bufs0 ≠ [] ∧ p.start < o0 + c ∧ p.stop ≤ cend o0 c bufs0 ∧
        (∀ x v, byteAt p.bufs x = some v → byteAt bufs0 x = some v) := by
      cases hb : p.bufs with
      | nil =>
        obtain rfl : p.start = o0 := by rw [← ho, headOff, hb]
        rw [hb, cend_nil] at a3
        exact ⟨[newBuf c p.start], rfl, ⟨rfl, List.length_replicate, trivial⟩, List.cons_ne_nil _ _,
          by omega, Int.le_trans a3 (cend_ge _ c _), fun _ _ h => nomatch h⟩
      | cons h t =>
        rw [hb] at a0 a2 a3
        exact ⟨h :: t, rfl, a0, List.cons_ne_nil _ _, a2 (List.cons_ne_nil _ _), a3, fun _ _ h => h⟩
    obtain ⟨bufs0, hb0, c0, n0, a2, a3, a4⟩ := h0
    obtain ⟨b1, off1, t1, t2, t3, t4, t5, e⟩ := writeAt_eq c p b off o0 bufs0 hle hskip hb0 c0 n0
    obtain ⟨l, hl, w1, w2, w3, w4, w5, w6⟩ := writeBufs_spec c hc bufs0 o0 b1 off1 c0 n0 (by omega)
    rw [e, hl]
    have hl0 : headOff ⟨p.start, if off + (b.length : Int) > p.stop then off + b.length else p.stop, l⟩ = o0 := by
      cases l with
      | nil => exact absurd rfl (w2 n0)
      | cons h t => exact w1.1
    refine ⟨rfl, ⟨?_, o0, w1, fun h => absurd h (w2 n0), fun _ => ⟨a1, a2, ?_⟩⟩, r1, ?_, ?_, ?_⟩
    · show p.start ≤ (if off + (b.length : Int) > p.stop then off + (b.length : Int) else p.stop)
      split <;> omega
    · show (if off + (b.length : Int) > p.stop then off + (b.length : Int) else p.stop) ≤ cend o0 c l
      split <;> omega
    · show (if off + (b.length : Int) > p.stop then off + (b.length : Int) else p.stop) = _
      rw [r2]
    · intro x v hx1 hx2 hd
      rw [hl0] at hx1
      show byteAt l x = some v
      by_cases hin : s.start ≤ x ∧ off ≤ x ∧ x < off + (b.length : Int)
      · rw [w5 x (by omega) (by omega), t5 x (by omega)]; exact (if_pos hin).symm.trans hd
      · have hd' : s.data x = some v := (if_neg hin).symm.trans hd
        exact w6 x v (by omega) (a4 x v (r3 x v (ho ▸ hx1) (r4 x v hd') hd'))
    · intro x v hd
      show x < (if off + (b.length : Int) > s.stop then off + (b.length : Int) else s.stop)
      by_cases hin : s.start ≤ x ∧ off ≤ x ∧ x < off + (b.length : Int)
      · split <;> omega
      · have := r4 x v ((if_neg hin).symm.trans hd)
        split <;> omega

theorem dropBufs_pop (po : Int) (pbb : List Nat) (rest : List Buf) (off : Int)
    (h : po + (pbb.length : Int) ≤ off) : dropBufs (⟨po, pbb⟩ :: rest) off = dropBufs rest off := by
  simp [dropBufs, Buf.stop, h]

theorem dropBufs_keep (po : Int) (pbb : List Nat) (rest : List Buf) (off : Int)
    (h : ¬ (po + (pbb.length : Int) ≤ off)) : dropBufs (⟨po, pbb⟩ :: rest) off = ⟨po, pbb⟩ :: rest := by
  simp [dropBufs, Buf.stop, h]

/-- The head-popping loop of `discardBefore`, seen from the pipe it leaves (whose `headOff` is `off` when every
chunk was released): the chain still reaches as far as before and at least to `off`, and from its head onwards
no byte changes. -/
theorem dropBufs_spec (c : Nat) (off sp : Int) : ∀ (bufs : List Buf) (o : Int), Cont c o bufs → o ≤ off →
    Cont c (headOff ⟨off, sp, dropBufs bufs off⟩) (dropBufs bufs off) ∧
    o ≤ headOff ⟨off, sp, dropBufs bufs off⟩ ∧ headOff ⟨off, sp, dropBufs bufs off⟩ ≤ off ∧
    cend o c bufs ≤ cend (headOff ⟨off, sp, dropBufs bufs off⟩) c (dropBufs bufs off) ∧
    off ≤ cend (headOff ⟨off, sp, dropBufs bufs off⟩) c (dropBufs bufs off) ∧
    (dropBufs bufs off ≠ [] → off < headOff ⟨off, sp, dropBufs bufs off⟩ + c) ∧
    ∀ x, headOff ⟨off, sp, dropBufs bufs off⟩ ≤ x → byteAt (dropBufs bufs off) x = byteAt bufs x := by
  intro bufs
  induction bufs with
  | nil =>
    intro o _ ho
    simp only [dropBufs, headOff, cend_nil]
    exact ⟨trivial, ho, Int.le_refl _, ho, Int.le_refl _, fun h => absurd rfl h, fun _ _ => trivial⟩
  | cons pb rest ih =>
    intro o hcont ho
    obtain ⟨po, pbb⟩ := pb
    obtain ⟨h1, h2, h3⟩ := hcont
    simp only at h1 h2
    subst h1
    by_cases hp : po + (pbb.length : Int) ≤ off
    · rw [dropBufs_pop _ _ _ _ hp]
      obtain ⟨i1, i2, i3, i4, i5, i6, i7⟩ := ih (po + c) h3 (by omega)
      exact ⟨i1, by omega, i3, by rw [cend_cons]; exact i4, i5, i6,
        fun x hx => by rw [i7 x hx, byteAt_out _ _ _ _ (by omega)]⟩
    · rw [dropBufs_keep _ _ _ _ hp]
      have : po + (c : Int) ≤ cend po c (⟨po, pbb⟩ :: rest) := cend_cons .. ▸ cend_ge ..
      exact ⟨⟨rfl, h2, h3⟩, Int.le_refl _, ho, Int.le_refl _, by show off ≤ cend po c _; omega,
        fun _ => by show off < po + c; omega, fun _ _ => rfl⟩

/-- `discardBefore` refines `specDiscard` for every offset at or after the head chunk: also backward within
it (`head.off ≤ off < start`), where the window start moves back over bytes the head chunk still holds. -/
theorem discard_refines_any (c : Nat) (p : Pipe) (s : Spec) (off : Int)
    (hinv : Inv c p) (hrel : Rel p s) (hoff : headOff p ≤ off) :
    Inv c (discardBefore p off) ∧ Rel (discardBefore p off) (specDiscard s off) := by
  obtain ⟨hle, a0, a1, a3, _⟩ := (inv_iff c p).1 hinv
  obtain ⟨r1, r2, r3, r4⟩ := hrel
  simp only [discardBefore, specDiscard]
  rw [← r2]
  generalize hs : (if p.stop > off then p.stop else off) = stop'
  have hstop : p.stop ≤ stop' ∧ off ≤ stop' ∧ (stop' = p.stop ∨ stop' = off) := by subst hs; split <;> omega
  obtain ⟨i1, i2, i3, i4, i5, i6, i7⟩ := dropBufs_spec c off stop' p.bufs (headOff p) a0 hoff
  refine ⟨(inv_iff c _).2 ⟨hstop.2.1, i1, i3, ?_, i6⟩, rfl, rfl, fun x v hx1 _ hd => ?_,
    fun x v hd => by have := r4 x v hd; show x < stop'; omega⟩
  · show stop' ≤ cend _ c (dropBufs p.bufs off)
    omega
  · show byteAt (dropBufs p.bufs off) x = some v
    rw [i7 x hx1]
    exact r3 x v (Int.le_trans i2 hx1) (r4 x v hd) hd

/-- C30, discard side; `off ≥ start` is the contract of the callers. -/
theorem discard_refines (c : Nat) (p : Pipe) (s : Spec) (off : Int)
    (hinv : Inv c p) (hrel : Rel p s) (hoff : s.start ≤ off) :
    Inv c (discardBefore p off) ∧ Rel (discardBefore p off) (specDiscard s off) :=
  discard_refines_any c p s off hinv hrel (by have := headOff_le_start c p hinv; have := hrel.1; omega)

/-- A discard below the head chunk (`off < head.off`, or `off < start` with no chunk allocated) is outside the
contract of `discardBefore`: the window start moves back to `off` and nothing else changes, so the window
claims offsets no chunk holds, `Inv` breaks and any non-empty read at the new window start panics. -/
theorem discard_below_head (c : Nat) (hc : 0 < c) (p : Pipe) (off : Int) (hinv : Inv c p) (hoff : off < headOff p) :
    discardBefore p off = ⟨off, p.stop, p.bufs⟩ ∧ ¬ Inv c (discardBefore p off) ∧
    ∀ n, 0 < n → read (discardBefore p off) off n = none := by
  obtain ⟨st, sp, bufs⟩ := p
  have hst := headOff_le_start c _ hinv
  have hle := hinv.1
  simp only at hst hle
  have h1 : (if sp > off then sp else off) = sp := if_pos (by omega)
  cases bufs with
  | nil =>
    have hoff' : off < st := hoff
    have e : discardBefore ⟨st, sp, []⟩ off = ⟨off, sp, []⟩ := by simp only [discardBefore, h1, dropBufs]
    rw [e]
    refine ⟨rfl, fun h => ?_, fun n hn => ?_⟩
    · have a3 := ((inv_iff c _).1 h).2.2.2.1
      simp only [headOff, cend_nil] at a3; omega
    · simp [Model.Pipe.read, readBufs, hn]
  | cons h t =>
    obtain ⟨po, pbb⟩ := h
    have hoff' : off < po := hoff
    have hk : ¬ (po + (pbb.length : Int) ≤ off) := by omega
    have e : discardBefore ⟨st, sp, ⟨po, pbb⟩ :: t⟩ off = ⟨off, sp, ⟨po, pbb⟩ :: t⟩ := by
      simp only [discardBefore, h1, dropBufs_keep _ _ _ _ hk]
    rw [e]
    refine ⟨rfl, fun h => ?_, fun n hn => ?_⟩
    · have : po ≤ off := ((inv_iff c _).1 h).2.2.1
      omega
    · have h1 : ¬ (off ≥ po + (pbb.length : Int)) := by omega
      simp only [Model.Pipe.read, Int.lt_irrefl, if_false, readBufs, Buf.stop, hn, h1, hoff', if_true, gt_iff_lt]

theorem writeBufs_neg (c : Nat) (pb : Buf) (rest : List Buf) (b : List Nat) (off : Int) (h : off < pb.off) :
    writeBufs c (pb :: rest) b off = none := by
  have h1 : off - pb.off < (pb.b.length : Int) := by omega
  have h2 : off - pb.off < 0 := by omega
  cases rest <;> (rw [writeBufs]; simp only [h1, h2, if_true])

/-- Exactly when `writeAt` panics: never while the window start is at or after the head chunk (every
state within the contract); after a discard below the head chunk, exactly the writes whose first
retained byte lies before the head chunk (slice index `off - head.off < 0`). The pipe keeps its chunks
and has only `p.end` updated. -/
theorem writeAt_panics_iff (c : Nat) (hc : 0 < c) (p : Pipe) (o : Int) (b : List Nat) (off : Int)
    (_hle : p.start ≤ p.stop) (hcont : Cont c o p.bufs) :
    ((writeAt c p b off).2 = true ↔
      (¬ (off + (b.length : Int) ≤ p.stop ∧ off + (b.length : Int) ≤ p.start) ∧ p.bufs ≠ [] ∧ off < o ∧ p.start < o)) ∧
    ((writeAt c p b off).2 = true →
      (writeAt c p b off).1 = ⟨p.start, if off + (b.length : Int) > p.stop then off + (b.length : Int) else p.stop, p.bufs⟩) := by
  by_cases hskip : off + (b.length : Int) ≤ p.stop ∧ off + (b.length : Int) ≤ p.start
  · have e : writeAt c p b off = (p, false) := if_pos hskip
    rw [e]
    exact ⟨⟨fun h => Bool.noConfusion h, fun h => absurd hskip h.1⟩, fun h => Bool.noConfusion h⟩
  · cases hb : p.bufs with
    | nil =>
      have c0 : Cont c p.start [newBuf c p.start] := ⟨rfl, List.length_replicate, trivial⟩
      obtain ⟨b1, off1, t1, _, _, _, _, e⟩ :=
        writeAt_eq c p b off _ _ _hle hskip (by rw [hb]; rfl) c0 (List.cons_ne_nil _ _)
      obtain ⟨l, hl, _⟩ := writeBufs_spec c hc _ _ b1 off1 c0 (List.cons_ne_nil _ _) t1
      rw [e, hl]
      exact ⟨⟨fun h => Bool.noConfusion h, fun h => absurd rfl h.2.1⟩, fun h => Bool.noConfusion h⟩
    | cons h t =>
      rw [hb] at hcont
      obtain ⟨b1, off1, t1, t2, t3, _, _, e⟩ :=
        writeAt_eq c p b off o _ _hle hskip (by rw [hb]; rfl) hcont (List.cons_ne_nil _ _)
      rw [e]
      by_cases hneg : off1 < o
      · rw [writeBufs_neg c h t b1 off1 (hcont.1 ▸ hneg)]
        exact ⟨⟨fun _ => ⟨hskip, List.cons_ne_nil _ _, by omega, by omega⟩, fun _ => rfl⟩, fun _ => rfl⟩
      · obtain ⟨l, hl, _⟩ := writeBufs_spec c hc (h :: t) o b1 off1 hcont (List.cons_ne_nil _ _) (by omega)
        rw [hl]
        exact ⟨⟨fun h => Bool.noConfusion h, fun h => by omega⟩, fun h => Bool.noConfusion h⟩

theorem readBufs_zero (l : List Buf) (off n : Int) (h : n ≤ 0) : readBufs l off n = some [] := by
  have : ¬ (n > 0) := by omega
  cases l <;> simp [readBufs, this]

theorem slice_eq (d : List Nat) (n : Int) :
    (if (d.length : Int) > n then d.take n.toNat else d) = d.take n.toNat := by
  split
  · rfl
  · exact (List.take_of_length_le (by omega)).symm

theorem slice_spec (po : Int) (pbb : List Nat) (rest : List Buf) (k m : Nat) (hk : k ≤ pbb.length) :
    ((pbb.drop k).take m).length = min m (pbb.length - k) ∧
    ∀ i : Nat, i < min m (pbb.length - k) →
      ((pbb.drop k).take m)[i]? = byteAt (⟨po, pbb⟩ :: rest) (po + k + i) := by
  refine ⟨by rw [List.length_take, List.length_drop], fun i hi => ?_⟩
  rw [byteAt_in _ _ _ _ (by omega), List.getElem?_take, if_pos (by omega), List.getElem?_drop]
  congr 1; omega

theorem readBufs_spec (c : Nat) : ∀ (bufs : List Buf) (o off n : Int),
    Cont c o bufs → (0 < n → o ≤ off) → 0 ≤ n →
    (0 < n → cend o c bufs < off + n → readBufs bufs off n = none) ∧
    (off + n ≤ cend o c bufs → ∃ cs, readBufs bufs off n = some cs ∧ (cs.flatten.length : Int) = n ∧
      ∀ i : Nat, (i : Int) < n → cs.flatten[i]? = byteAt bufs (off + i)) := by
  intro bufs
  induction bufs with
  | nil =>
    intro o off n _ ho hn
    rw [cend_nil]
    exact ⟨fun hpos _ => by simp [readBufs, hpos],
      fun hb => ⟨[], readBufs_zero _ _ _ (by omega), by simp; omega, fun i hi => by omega⟩⟩
  | cons pb rest ih =>
    intro o off n hcont ho hn
    obtain ⟨po, pbb⟩ := pb
    obtain ⟨h1, h2, h3⟩ := hcont
    simp only at h1 h2
    subst h1 h2
    rw [cend_cons]
    by_cases hpos : n > 0
    · have ho := ho hpos
      rw [readBufs]
      simp only [Buf.stop, hpos, if_true, slice_eq]
      by_cases hge : off ≥ po + (pbb.length : Int)
      · simp only [hge, if_true]
        obtain ⟨i1, i2⟩ := ih (po + (pbb.length : Int)) off n h3 (fun _ => hge) hn
        exact ⟨fun _ => i1 hpos, fun hb => (i2 hb).imp fun cs ⟨e1, e2, e3⟩ =>
          ⟨e1, e2, fun i hi => by rw [e3 i hi, byteAt_out _ _ _ _ (by omega)]⟩⟩
      · obtain ⟨k, rfl⟩ : ∃ k : Nat, off = po + k := ⟨(off - po).toNat, by omega⟩
        obtain ⟨m, rfl⟩ : ∃ m : Nat, n = m := ⟨n.toNat, by omega⟩
        have hlt : ¬ (po + (k : Int) < po) := by omega
        have ek : po + (k : Int) - po = k := by omega
        simp only [hge, hlt, if_false, ek, Int.toNat_natCast]
        obtain ⟨hlen, hget⟩ := slice_spec po pbb rest k m (by omega)
        generalize hmn : min m (pbb.length - k) = mn at hlen hget
        have hmn' : mn ≤ m ∧ k + mn ≤ pbb.length ∧ (mn = m ∨ k + mn = pbb.length) := by omega
        clear hmn
        rw [hlen]
        -- the rest of the range starts at the next chunk, or is empty
        obtain ⟨i1, i2⟩ := ih (po + (pbb.length : Int)) (po + k + mn) (m - mn) h3 (by omega) (by omega)
        have hce := cend_ge (po + (pbb.length : Int)) pbb.length rest
        refine ⟨fun _ hb => by rw [i1 (by omega) (by omega)]; rfl, fun hb => ?_⟩
        obtain ⟨cs, e1, e2, e3⟩ := i2 (by omega)
        rw [e1]
        refine ⟨_ :: cs, rfl, ?_, fun i hi => ?_⟩
        · rw [List.flatten_cons, List.length_append, hlen]; omega
        · rw [List.flatten_cons]
          by_cases hi' : i < mn
          · rw [List.getElem?_append_left (hlen ▸ hi')]; exact hget i hi'
          · rw [List.getElem?_append_right (by omega), hlen, e3 (i - mn) (by omega), byteAt_out _ _ _ _ (by omega)]
            congr 1; omega
    · exact ⟨fun h => absurd h hpos,
        fun _ => ⟨[], readBufs_zero _ _ _ (by omega), by simp; omega, fun i hi => by omega⟩⟩

theorem readBufs_none (c : Nat) (_ : 0 < c) : ∀ (bufs : List Buf) (o off n : Int),
    Cont c o bufs → o ≤ off → 0 < n → cend o c bufs < off + n → readBufs bufs off n = none :=
  fun bufs o off n hcont ho hn => (readBufs_spec c bufs o off n hcont (fun _ => ho) (Int.le_of_lt hn)).1 hn

/-- One past the last offset for which a chunk is allocated (the window end when there is none). -/
def allocEnd (c : Nat) (p : Pipe) : Int :=
  match p.bufs with
  | [] => p.stop
  | h :: _ => cend h.off c p.bufs

theorem allocEnd_eq (c : Nat) (p : Pipe) (hinv : Inv c p) : allocEnd c p = cend (headOff p) c p.bufs := by
  obtain ⟨hle, _, a1, a3, _⟩ := (inv_iff c p).1 hinv
  obtain ⟨st, sp, bufs⟩ := p
  cases bufs with
  | nil => simp only [headOff, cend_nil] at a1 a3 ⊢; exact Int.le_antisymm a3 hle
  | cons h t => rfl

theorem stop_le_allocEnd (c : Nat) (p : Pipe) (hinv : Inv c p) : p.stop ≤ allocEnd c p :=
  allocEnd_eq c p hinv ▸ ((inv_iff c p).1 hinv).2.2.2.1

/-- C30, exactly which reads panic: one that starts before the window start, or is non-empty and runs past
the last ALLOCATED chunk, not past the window end `p.end`. So a read of `[off, off+n)` with
`p.end < off+n ≤ allocEnd` succeeds too (it returns never-written bytes of the tail chunk). -/
theorem read_panics_iff (c : Nat) (hc : 0 < c) (p : Pipe) (off n : Int) (hinv : Inv c p) :
    read p off n = none ↔ (off < p.start ∨ (0 < n ∧ allocEnd c p < off + n)) := by
  rw [allocEnd_eq c p hinv]
  obtain ⟨_, a0, a1, _, _⟩ := (inv_iff c p).1 hinv
  by_cases hs : off < p.start
  · exact ⟨fun _ => Or.inl hs, fun _ => if_pos hs⟩
  · have e : read p off n = readBufs p.bufs off n := if_neg hs
    rw [e]
    by_cases hn : 0 < n
    · by_cases hend : cend (headOff p) c p.bufs < off + n
      · rw [readBufs_none c hc _ _ off n a0 (by omega) hn hend]
        exact ⟨fun _ => Or.inr ⟨hn, hend⟩, fun _ => rfl⟩
      · obtain ⟨cs, e, _, _⟩ := (readBufs_spec c _ _ off n a0 (by omega) (by omega)).2 (by omega)
        rw [e]
        exact ⟨fun h => by simp at h, fun h => by omega⟩
    · rw [readBufs_zero _ _ _ (by omega)]
      exact ⟨fun h => by simp at h, fun h => by omega⟩

theorem read_in_window_no_panic (c : Nat) (hc : 0 < c) (p : Pipe) (off n : Int) (hinv : Inv c p)
    (h1 : p.start ≤ off) (h3 : off + n ≤ p.stop) : read p off n ≠ none := by
  intro h
  have := stop_le_allocEnd c p hinv
  rcases (read_panics_iff c hc p off n hinv).1 h with h' | h' <;> omega

/-- "Panics exactly outside the window" is false for the code: a read past `p.end` inside the tail chunk
(`p.stop < 0 + 4` says that the range `[0, 4)` read runs past `p.end`). -/
theorem read_past_end_no_panic_witness :
    ∃ (p : Pipe), Inv 4 p ∧ p.stop < 0 + 4 ∧ read p 0 4 ≠ none :=
  ⟨(writeAt 4 empty [1, 2] 0).1, (writeAt_refines 4 (by decide) empty Spec.empty [1, 2] 0 (inv_empty 4) rel_empty).2.1,
    by decide, by decide⟩

theorem read_in_window (c : Nat) (hc : 0 < c) (p : Pipe) (off n : Int) (hinv : Inv c p)
    (h1 : p.start ≤ off) (h2 : 0 ≤ n) (h3 : off + n ≤ p.stop) :
    ∃ cs, read p off n = some cs ∧ (cs.flatten.length : Int) = n ∧
      ∀ i : Nat, (i : Int) < n → cs.flatten[i]? = byteAt p.bufs (off + i) := by
  have e : read p off n = readBufs p.bufs off n := if_neg (by omega)
  obtain ⟨_, a0, a1, a2, _⟩ := (inv_iff c p).1 hinv
  rw [e]
  exact (readBufs_spec c _ _ off n a0 (by omega) h2).2 (by omega)

/-- C30, read side: inside the window `read` returns the bytes most recently written, whatever the chunking.
`Model.Pipe.copy` is `read` flattened; the statement for it is `Lemmas/QuicRecv.copy_bytes`, none here. -/
theorem read_returns_written (c : Nat) (hc : 0 < c) (p : Pipe) (s : Spec) (off n : Int)
    (hinv : Inv c p) (hrel : Rel p s) (h1 : s.start ≤ off) (h2 : 0 ≤ n) (h3 : off + n ≤ s.stop) :
    ∃ cs, read p off n = some cs ∧ (cs.flatten.length : Int) = n ∧
      ∀ (i : Nat) (v : Nat), (i : Int) < n → s.data (off + i) = some v → cs.flatten[i]? = some v := by
  obtain ⟨r1, r2, r3, r4⟩ := hrel
  obtain ⟨cs, e1, e2, e3⟩ := read_in_window c hc p off n hinv (by omega) h2 (by omega)
  exact ⟨cs, e1, e2, fun i v hi hd => by rw [e3 i hi]; exact r3 _ v (by have := headOff_le_start c p hinv; omega) (by omega) hd⟩

theorem read_before_start_panics (p : Pipe) (off n : Int) (h : off < p.start) : read p off n = none := by
  unfold Model.Pipe.read; rw [if_pos h]

theorem peek_cons (st sp po : Int) (pbb : List Nat) (t : List Buf) (k m : Nat) (hst : st = po + k)
    (hk : k ≤ pbb.length) : peek ⟨st, sp, ⟨po, pbb⟩ :: t⟩ m = some ((pbb.drop k).take (min (pbb.length - k) m)) := by
  subst hst
  have ek : po + (k : Int) - po = k := by omega
  have hk' : ¬ ((k : Int) < 0 ∨ (k : Int) > pbb.length) := by omega
  have hm : ¬ ((m : Int) < 0) := by omega
  simp only [peek, ek, Int.toNat_natCast, hk', hm, if_false, List.length_drop]

/-- What `peek` returns: at most `n` bytes, those held from the window start up to the end of the head chunk,
and at least one when `n > 0` and the window is not empty: the head chunk always reaches beyond the window
start, since `discardBefore` releases a chunk that ends exactly at the new start. -/
theorem peek_spec (c : Nat) (p : Pipe) (n : Int) (hinv : Inv c p) (hn : 0 ≤ n) :
    ∃ bs, peek p n = some bs ∧ (bs.length : Int) ≤ n ∧
      (∀ i : Nat, i < bs.length → bs[i]? = byteAt p.bufs (p.start + i)) ∧
      (0 < n → p.start < p.stop → 0 < bs.length) := by
  obtain ⟨_, a0, a1, a3, a2⟩ := (inv_iff c p).1 hinv
  obtain ⟨st, sp, bufs⟩ := p
  cases bufs with
  | nil =>
    refine ⟨[], rfl, by simpa using hn, fun i hi => by simp at hi, fun _ hw => ?_⟩
    have : sp ≤ st := cend_nil st c ▸ a3
    have : st < sp := hw
    omega
  | cons h t =>
    obtain ⟨po, pbb⟩ := h
    have hlen : pbb.length = c := a0.2.1
    have a1 : po ≤ st := a1
    have a2 : st < po + c := a2 (List.cons_ne_nil _ _)
    obtain ⟨k, rfl⟩ : ∃ k : Nat, st = po + k := ⟨(st - po).toNat, by omega⟩
    obtain ⟨m, rfl⟩ : ∃ m : Nat, n = m := ⟨n.toNat, by omega⟩
    obtain ⟨hlen, hget⟩ := slice_spec po pbb t k (min (pbb.length - k) m) (by omega)
    exact ⟨_, peek_cons _ sp po pbb t k m rfl (by omega), by rw [hlen]; omega, fun i hi => hget i (hlen ▸ hi),
      fun _ _ => by rw [hlen]; omega⟩

theorem peek_prefix (c : Nat) (p : Pipe) (n : Int) (hinv : Inv c p) (hn : 0 ≤ n) :
    ∃ bs, peek p n = some bs ∧ (bs.length : Int) ≤ n ∧
      ∀ i : Nat, i < bs.length → bs[i]? = byteAt p.bufs (p.start + i) :=
  let ⟨bs, e, h1, h2, _⟩ := peek_spec c p n hinv hn
  ⟨bs, e, h1, h2⟩

theorem peek_progress (c : Nat) (p : Pipe) (n : Int) (hinv : Inv c p) (hn : 0 < n) (hw : p.start < p.stop) :
    ∃ bs, peek p n = some bs ∧ 0 < bs.length :=
  let ⟨bs, e, _, _, h3⟩ := peek_spec c p n hinv (Int.le_of_lt hn)
  ⟨bs, e, h3 hn hw⟩

inductive Op where
  | write (b : List Nat) (off : Int)
  | discard (off : Int)

def step (c : Nat) (p : Pipe) : Op → Pipe
  | .write b off => (writeAt c p b off).1
  | .discard off => discardBefore p off

def specStep (s : Spec) : Op → Spec
  | .write b off => specWrite s b off
  | .discard off => specDiscard s off

def run (c : Nat) (ops : List Op) (p : Pipe) : Pipe := ops.foldl (step c) p
def specRun (ops : List Op) (s : Spec) : Spec := ops.foldl specStep s

/-- Contract of a history: discards only move the window start forward. Writes are unrestricted
(any offset, any length, overlapping, out of order, before the window). -/
def Valid : List Op → Spec → Prop
  | [], _ => True
  | .write b off :: ops, s => Valid ops (specWrite s b off)
  | .discard off :: ops, s => s.start ≤ off ∧ Valid ops (specDiscard s off)

def NoPanic (c : Nat) : List Op → Pipe → Prop
  | [], _ => True
  | .write b off :: ops, p => (writeAt c p b off).2 = false ∧ NoPanic c ops (writeAt c p b off).1
  | .discard off :: ops, p => NoPanic c ops (discardBefore p off)

theorem history_refines (c : Nat) (hc : 0 < c) (ops : List Op) : ∀ (p : Pipe) (s : Spec),
    Inv c p → Rel p s → Valid ops s →
    NoPanic c ops p ∧ Inv c (run c ops p) ∧ Rel (run c ops p) (specRun ops s) := by
  induction ops with
  | nil => intro p s hi hr _; exact ⟨trivial, hi, hr⟩
  | cons op ops ih =>
    intro p s hi hr hv
    cases op with
    | write b off =>
      obtain ⟨w1, w2, w3⟩ := writeAt_refines c hc p s b off hi hr
      obtain ⟨j1, j2, j3⟩ := ih (writeAt c p b off).1 (specWrite s b off) w2 w3 hv
      exact ⟨⟨w1, j1⟩, j2, j3⟩
    | discard off =>
      obtain ⟨d1, d2⟩ := discard_refines c p s off hi hr hv.1
      obtain ⟨j1, j2, j3⟩ := ih (discardBefore p off) (specDiscard s off) d1 d2 hv.2
      exact ⟨j1, j2, j3⟩

/-- C30 over all histories from the empty pipe: writes at any offsets, of any lengths, in any order and chunk
alignment, and forward discards (`Valid`). -/
theorem history_correct (c : Nat) (hc : 0 < c) (ops : List Op) (hv : Valid ops Spec.empty)
    (off n : Int) (h1 : (specRun ops Spec.empty).start ≤ off) (h2 : 0 ≤ n)
    (h3 : off + n ≤ (specRun ops Spec.empty).stop) :
    NoPanic c ops empty ∧
    (run c ops empty).start = (specRun ops Spec.empty).start ∧
    (run c ops empty).stop = (specRun ops Spec.empty).stop ∧
    ∃ cs, read (run c ops empty) off n = some cs ∧ (cs.flatten.length : Int) = n ∧
      ∀ (i : Nat) (v : Nat), (i : Int) < n → (specRun ops Spec.empty).data (off + i) = some v →
        cs.flatten[i]? = some v := by
  obtain ⟨j1, j2, j3⟩ := history_refines c hc ops empty Spec.empty (inv_empty c) rel_empty hv
  exact ⟨j1, j3.1, j3.2.1, read_returns_written c hc _ _ off n j2 j3 h1 h2 h3⟩

/-- The same at the chunk size regenerated from quic/pipe.go (T-tie instance). -/
theorem history_correct_gen (ops : List Op) (hv : Valid ops Spec.empty)
    (off n : Int) (h1 : (specRun ops Spec.empty).start ≤ off) (h2 : 0 ≤ n)
    (h3 : off + n ≤ (specRun ops Spec.empty).stop) :
    NoPanic NetVerif.Gen.C30.pipebufSize ops empty ∧
    ∃ cs, read (run NetVerif.Gen.C30.pipebufSize ops empty) off n = some cs ∧ (cs.flatten.length : Int) = n ∧
      ∀ (i : Nat) (v : Nat), (i : Int) < n → (specRun ops Spec.empty).data (off + i) = some v →
        cs.flatten[i]? = some v := by
  obtain ⟨a, _, _, d⟩ := history_correct _ gen_chunk_pos ops hv off n h1 h2 h3
  exact ⟨a, d⟩

theorem specDiscard_data (s : Spec) (off : Int) : (specDiscard s off).data = s.data := rfl

theorem specWrite_facts (s : Spec) (b : List Nat) (off : Int) :
    (specWrite s b off).start = s.start ∧ s.stop ≤ (specWrite s b off).stop ∧
    (off + b.length ≤ s.start ∨ off + b.length ≤ (specWrite s b off).stop) ∧
    ∀ x, (specWrite s b off).data x =
      if s.start ≤ x ∧ off ≤ x ∧ x < off + b.length then b[(x - off).toNat]? else s.data x := by
  unfold specWrite
  by_cases h : off + (b.length : Int) ≤ s.start
  · rw [if_pos h]
    exact ⟨rfl, Int.le_refl _, Or.inl h, fun x => by rw [if_neg (by omega)]⟩
  · rw [if_neg h]
    refine ⟨rfl, ?_, Or.inr ?_, fun _ => rfl⟩
    · show s.stop ≤ if off + (b.length : Int) > s.stop then off + (b.length : Int) else s.stop
      split <;> omega
    · show off + (b.length : Int) ≤ if off + (b.length : Int) > s.stop then off + (b.length : Int) else s.stop
      split <;> omega

theorem specWrite_data (s : Spec) (b : List Nat) (off x : Int) (h : ¬ (off + b.length ≤ s.start)) :
    (specWrite s b off).data x =
      if s.start ≤ x ∧ off ≤ x ∧ x < off + b.length then b[(x - off).toNat]? else s.data x :=
  (specWrite_facts s b off).2.2.2 x

example : (writeAt 4 empty [1,2,3,4,5,6,7,8,9] 0).1 =
    ⟨0, 9, [⟨0, [1,2,3,4]⟩, ⟨4, [5,6,7,8]⟩, ⟨8, [9,0,0,0]⟩]⟩ := by decide
example : read (discardBefore (writeAt 4 empty [1,2,3,4,5,6,7,8,9] 0).1 3) 3 6 =
    some [[4], [5,6,7,8], [9]] := by decide
example : read (writeAt 4 (writeAt 4 empty [1,2,3,4,5,6,7,8,9] 0).1 [50,60] 3).1 2 4 =
    some [[3, 50], [60, 6]] := by decide
example : Valid [.write [1,2,3] 5, .discard 6, .write [9] 2, .write [7,7] 7] Spec.empty := by
  refine ⟨by decide, trivial⟩
example : read (writeAt 4 empty [1,2] 0).1 0 4 = some [[1,2,0,0]] := by decide
example : read (writeAt 4 empty [1,2] 0).1 0 5 = none := by decide
-- head chunk exhausted exactly at a chunk boundary: the dead chunk is released and `peek` returns the next byte
example : peek (discardBefore (writeAt 4 empty [1,2,3,4,5] 0).1 4) 1 = some [5] := by decide
example : (discardBefore (writeAt 4 empty [1,2,3,4,5] 0).1 4).bufs = [⟨4, [5,0,0,0]⟩] := by decide

end NetVerif.Proofs.C30
