import NetVerif.Model.HtmlNode
import NetVerif.Gen.C41
/-!
C41 — node-link well-formedness (html/node.go). Each mutator preserves `Consistent` (the five links agree at
every node) whenever it does not panic, given for `InsertBefore` also `oldChild.Parent == n`, which the Go code
does not check; parent chains stay finite under the further unchecked precondition `c ∉ ancestors(n) ∪ {n}`,
`next` chains need only consistency. Proved on the relational form `Links`: `InsertBefore` (and `AppendChild`,
its case `oldChild = nil`) is `link` into a `Gap`, `RemoveChild` is `unlink`. `wfTree`, run by the V-tie on
every tree Parse/ParseFragment return, is sound.
-/
namespace NetVerif.Proofs.C41
open NetVerif.Model.HtmlNode

/-- Prop form of `localOK`, clause by clause: the step from the checker to `Links` (`consistent_iff`), on which
everything else is proved. -/
structure LocalP (s : Store) (x : Nat) : Prop where
  first_ok : ∀ c, s.first x = some c → s.parent c = some x ∧ s.prev c = none ∧ s.last x ≠ none
  first_none : s.first x = none → s.last x = none
  last_ok : ∀ c, s.last x = some c → s.parent c = some x ∧ s.next c = none
  next_ok : ∀ d, s.next x = some d → s.prev d = some x ∧ s.parent d = s.parent x ∧ s.parent x ≠ none
  no_next : s.next x = none → ∀ p, s.parent x = some p → s.last p = some x
  prev_ok : ∀ d, s.prev x = some d → s.next d = some x ∧ s.parent d = s.parent x ∧ s.parent x ≠ none
  no_prev : s.prev x = none → ∀ p, s.parent x = some p → s.first p = some x

theorem localOK_iff (s : Store) (x : Nat) : localOK s x = true ↔ LocalP s x := by
  unfold localOK
  constructor
  · intro h
    simp only [Bool.and_eq_true] at h
    obtain ⟨⟨⟨h1, h2⟩, h3⟩, h4⟩ := h
    constructor
    · intro c hc
      simpa [hc, and_assoc] using h1
    · intro hc
      simpa [hc] using h1
    · intro c hc
      simpa [hc] using h2
    · intro d hd
      simpa [hd, and_assoc] using h3
    · intro hn p hp
      simpa [hn, hp] using h3
    · intro d hd
      simpa [hd, and_assoc] using h4
    · intro hn p hp
      simpa [hn, hp] using h4
  · intro ⟨a1, a2, a3, a4, a5, a6, a7⟩
    simp only [Bool.and_eq_true]
    refine ⟨⟨⟨?_, ?_⟩, ?_⟩, ?_⟩
    · split
      · rename_i c hc
        have := a1 c hc
        simp [this]
      · rename_i hc
        simp [a2 hc]
    · split
      · rename_i c hc
        have := a3 c hc
        simp [this]
      · rfl
    · split
      · rename_i d hd
        have := a4 d hd
        simp [this]
      · rename_i hd
        split
        · rename_i p hp
          simp [a5 hd p hp]
        · rfl
    · split
      · rename_i d hd
        have := a6 d hd
        simp [this]
      · rename_i hd
        split
        · rename_i p hp
          simp [a7 hd p hp]
        · rfl

/-- Link consistency of a whole store: `parent`, `first/last` and `prev/next`
agree with each other at every node; detached nodes have no siblings. -/
def Consistent (s : Store) : Prop := ∀ x, localOK s x = true

/-- `Consistent` as relations between the fields (`consistent_iff`); `grind` is several times
faster on these iffs than on the per-node implications of `LocalP`. -/
structure Links (s : Store) : Prop where
  next_prev : ∀ x d, s.next x = some d ↔ s.prev d = some x
  next_parent : ∀ x d, s.next x = some d → s.parent d = s.parent x ∧ s.parent x ≠ none
  first_iff : ∀ p c, s.first p = some c ↔ s.parent c = some p ∧ s.prev c = none
  last_iff : ∀ p c, s.last p = some c ↔ s.parent c = some p ∧ s.next c = none
  first_last : ∀ x, s.first x = none ↔ s.last x = none

theorem consistent_iff (s : Store) : Consistent s ↔ Links s := by
  simp only [Consistent, localOK_iff]
  constructor
  · intro h
    constructor
    · exact fun x d => ⟨fun e => ((h x).next_ok d e).1, fun e => ((h d).prev_ok x e).1⟩
    · exact fun x d e => ((h x).next_ok d e).2
    · exact fun p c => ⟨fun e => ⟨((h p).first_ok c e).1, ((h p).first_ok c e).2.1⟩,
        fun e => (h c).no_prev e.2 p e.1⟩
    · exact fun p c => ⟨(h p).last_ok c, fun e => (h c).no_next e.2 p e.1⟩
    · refine fun x => ⟨(h x).first_none, fun e => ?_⟩
      cases hf : s.first x with
      | none => rfl
      | some c => exact absurd e ((h x).first_ok c hf).2.2
  · intro h x
    constructor
    · intro c e
      refine ⟨((h.first_iff x c).1 e).1, ((h.first_iff x c).1 e).2, fun l => ?_⟩
      rw [(h.first_last x).2 l] at e
      cases e
    · exact (h.first_last x).1
    · exact fun c => (h.last_iff x c).1
    · exact fun d e => ⟨(h.next_prev x d).1 e, h.next_parent x d e⟩
    · exact fun e p hp => (h.last_iff p x).2 ⟨hp, e⟩
    · intro d e
      have e' := (h.next_prev d x).2 e
      obtain ⟨hp, hn⟩ := h.next_parent d x e'
      exact ⟨e', hp.symm, hp ▸ hn⟩
    · exact fun e p hp => (h.first_iff p x).2 ⟨hp, e⟩

/-! The mutators as pointwise updates. Go's `if p != nil { p.F = v }` is `updAt f p v`, its
`else { n.F = v }` branch is `updNil f p n v`. -/

def updAt (f : Nat → Ptr) (p v : Ptr) : Nat → Ptr :=
  match p with | some i => upd f i v | none => f

def updNil (f : Nat → Ptr) (p : Ptr) (n : Nat) (v : Ptr) : Nat → Ptr :=
  match p with | some _ => f | none => upd f n v

theorem updAt_apply (f : Nat → Ptr) (p v : Ptr) (x : Nat) :
    updAt f p v x = if p = some x then v else f x := by
  cases p with
  | none => simp only [updAt, reduceCtorEq, if_false]
  | some i => simp only [updAt, upd, Option.some.injEq, eq_comm]

theorem updNil_apply (f : Nat → Ptr) (p v : Ptr) (n x : Nat) :
    updNil f p n v x = if p = none ∧ x = n then v else f x := by
  cases p with
  | none => simp only [updNil, upd, true_and]
  | some i => simp only [updNil, reduceCtorEq, false_and, if_false]

theorem ite_fun_apply (a : Prop) [Decidable a] (f g : Nat → Ptr) (x : Nat) :
    (if a then f else g) x = if a then f x else g x := by
  split <;> rfl

/-- The detached node `c` hooked under `n` between the adjacent siblings `p` and `o`
(nil: at that end of the child list). -/
def link (s : Store) (n c : Nat) (p o : Ptr) : Store :=
  { parent := upd s.parent c (some n), first := updNil s.first p n (some c),
    last := updNil s.last o n (some c),
    prev := upd (updAt s.prev o (some c)) c p, next := upd (updAt s.next p (some c)) c o }

/-- The child `c` of `n` taken out from between its siblings: the result of `RemoveChild`. -/
def unlink (s : Store) (n c : Nat) : Store :=
  let prev2 := updAt s.prev (s.next c) (s.prev c)
  { parent := upd s.parent c none,
    first := if s.first n = some c then upd s.first n (s.next c) else s.first,
    last := if s.last n = some c then upd s.last n (prev2 c) else s.last,
    prev := upd prev2 c none, next := upd (updAt s.next (prev2 c) (s.next c)) c none }

/-- Go's `prev` in `InsertBefore`. -/
def before (s : Store) (n : Nat) (old : Ptr) : Ptr :=
  match old with | some o => s.prev o | none => s.last n

theorem insertBefore_eq {s s' : Store} {n c : Nat} {old : Ptr} (h : insertBefore s n c old = some s') :
    (s.parent c = none ∧ s.prev c = none ∧ s.next c = none) ∧ s' = link s n c (before s n old) old := by
  unfold insertBefore at h
  split at h
  · cases h
  · rename_i hdet
    simp only [ne_eq, not_or, Decidable.not_not] at hdet
    cases h
    exact ⟨hdet, rfl⟩

theorem removeChild_eq {s s' : Store} {n c : Nat} (h : removeChild s n c = some s') :
    s.parent c = some n ∧ s' = unlink s n c := by
  unfold removeChild at h
  split at h
  · cases h
  · rename_i hpar
    cases h
    exact ⟨Decidable.not_not.1 hpar, rfl⟩

/-- `p` and `o` are adjacent children of `n`; nil stands for the end of the child list. -/
structure Gap (s : Store) (n : Nat) (p o : Ptr) : Prop where
  left : ∀ i, p = some i → s.parent i = some n ∧ s.next i = o
  right : ∀ i, o = some i → s.parent i = some n ∧ s.prev i = p
  first : p = none → s.first n = o
  last : o = none → s.last n = p

theorem link_links (s : Store) (n c : Nat) (p o : Ptr) (hc : Links s)
    (hdet : s.parent c = none ∧ s.prev c = none ∧ s.next c = none) (hg : Gap s n p o) :
    Links (link s n c p o) := by
  have l := hg.left
  have r := hg.right
  -- Each clause follows from the same clause of `s` and the gap, as no pointer of `s` names the
  -- detached `c`; `grind` is left the cases of which updated cell (`c`, `p`, `o`, `n`) a node is.
  constructor <;> simp only [link, upd, updAt_apply, updNil_apply]
  · have := hc.next_prev
    grind
  · have := hc.next_parent
    grind
  · have := hc.first_iff
    have := hg.first
    grind
  · have := hc.last_iff
    have := hg.last
    grind
  · have := hc.first_last
    have := hg.first
    have := hg.last
    have := @Option.ne_none_iff_exists' _ o
    have := @Option.ne_none_iff_exists' _ p
    grind

theorem unlink_links (s : Store) (n c : Nat) (hc : Links s) (hp : s.parent c = some n) :
    Links (unlink s n c) := by
  have np := hc.next_prev
  have pa := hc.next_parent
  -- By the clauses of `s` at `c` its neighbours are adjacent children of `n`, and `c` is first
  -- (last) iff it has no prev (next); `grind` is left the cases of which updated cell a node is.
  constructor <;> simp only [unlink, ite_fun_apply, upd, updAt_apply, ite_self]
  · grind
  · grind
  · have := hc.first_iff
    grind
  · have := hc.last_iff
    grind
  · have := hc.first_iff
    have := hc.last_iff
    have := hc.first_last
    grind

theorem gap_before (s : Store) (n : Nat) (old : Ptr) (hc : Links s)
    (hold : ∀ o, old = some o → s.parent o = some n) :
    Gap s n (before s n old) old := by
  cases old with
  | none => exact ⟨fun i => (hc.last_iff n i).1, nofun, (hc.first_last n).2, fun _ => rfl⟩
  | some o =>
    have hpo := hold o rfl
    refine ⟨fun i e => ?_, fun i e => ?_, fun e => (hc.first_iff n o).2 ⟨hpo, e⟩, nofun⟩
    · have e' := (hc.next_prev i o).2 e
      exact ⟨(hc.next_parent i o e').1 ▸ hpo, e'⟩
    · cases e
      exact ⟨hpo, rfl⟩

/-- `hold` (`oldChild` is nil or a child of `n`) is not checked by the Go code; witness
`insertBefore_needs_oldChild_parent`. -/
theorem insertBefore_consistent (s s' : Store) (n c : Nat) (old : Ptr) (hc : Consistent s)
    (hold : ∀ o, old = some o → s.parent o = some n)
    (h : insertBefore s n c old = some s') : Consistent s' := by
  obtain ⟨hdet, rfl⟩ := insertBefore_eq h
  rw [consistent_iff] at *
  exact link_links s n c _ old hc hdet (gap_before s n old hc hold)

/-- On a consistent store `n.AppendChild(c)` is `n.InsertBefore(c, nil)`: the latter also
stores `c.NextSibling = nil`, which a detached `c` has already. -/
theorem appendChild_eq_insertBefore (s : Store) (n c : Nat) (hc : Consistent s) :
    appendChild s n c = insertBefore s n c none := by
  unfold appendChild insertBefore
  split
  · rfl
  · rename_i hdet
    simp only [ne_eq, not_or, Decidable.not_not] at hdet
    have e : upd (updAt s.next (s.last n) (some c)) c none = updAt s.next (s.last n) (some c) := by
      funext x
      simp only [upd, updAt_apply]
      split
      · rename_i hx
        subst hx
        rw [if_neg, hdet.2.2]
        intro hl
        have := (((consistent_iff s).1 hc).last_iff n x).1 hl
        rw [hdet.1] at this
        cases this.1
      · rfl
    show _ = some (Store.mk _ _ _ _ (upd (updAt s.next (s.last n) (some c)) c none))
    rw [e]
    rfl

theorem appendChild_consistent (s s' : Store) (n c : Nat) (hc : Consistent s)
    (h : appendChild s n c = some s') : Consistent s' :=
  insertBefore_consistent s s' n c none hc nofun (appendChild_eq_insertBefore s n c hc ▸ h)

theorem removeChild_consistent (s s' : Store) (n c : Nat) (hc : Consistent s)
    (h : removeChild s n c = some s') : Consistent s' := by
  obtain ⟨hpar, rfl⟩ := removeChild_eq h
  rw [consistent_iff] at *
  exact unlink_links s n c hc hpar

theorem consistent_empty : Consistent Store.empty := by
  intro x; simp [localOK, Store.empty]

/-- The precondition `oldChild.Parent == n` is necessary and unchecked: from a
consistent store, `n.InsertBefore(c, o)` with a detached `o` does not panic and
yields inconsistent links (this is the `table.Parent == nil` branch of
`fosterParent`, which passes `table` as oldChild of `p.oe[i-1]`). -/
theorem insertBefore_needs_oldChild_parent :
    ∃ s', insertBefore Store.empty 0 1 (some 2) = some s' ∧ ¬ Consistent s' := by
  exact ⟨_, rfl, fun h => absurd (h 1) (by decide)⟩

/-- every `f`-chain ends in nil: a Go loop following the link terminates; in particular no cycle (`no_cycle`) -/
def Term (f : Nat → Ptr) : Prop := ∀ x, ∃ k, iter f k x = none

/-- `y` is on the `f`-chain from `x`, `x` itself included (`k = 0`) -/
def Reaches (f : Nat → Ptr) (x y : Nat) : Prop := ∃ k, iter f k x = some y

theorem iter_succ_some (f : Nat → Ptr) (x y : Nat) (k : Nat) (h : f x = some y) :
    iter f (k + 1) x = iter f k y := by simp [iter, h]

theorem iter_add (f : Nat → Ptr) (a b x : Nat) :
    iter f (a + b) x = (iter f a x).bind (iter f b) := by
  induction a generalizing x with
  | zero => simp [iter]
  | succ a ih =>
    rw [show a + 1 + b = (a + b) + 1 by omega]
    simp only [iter]
    cases f x with
    | none => rfl
    | some y => exact ih y

theorem iter_succ_last (f : Nat → Ptr) (k x : Nat) : iter f (k + 1) x = (iter f k x).bind f := by
  have : iter f 1 = f := by
    funext y
    simp only [iter]
    cases f y <;> rfl
  rw [iter_add, this]

theorem reaches_fresh {f : Nat → Ptr} {c x : Nat} (hfresh : ∀ y, f y ≠ some c) (h : Reaches f x c) :
    x = c := by
  obtain ⟨k, hk⟩ := h
  cases k with
  | zero => exact Option.some.inj hk
  | succ k =>
    -- the last step of a longer path is a link to `c`
    rw [iter_succ_last, Option.bind_eq_some_iff] at hk
    obtain ⟨y, -, hy⟩ := hk
    exact absurd hy (hfresh y)

theorem reaches_step {f : Nat → Ptr} {x y z : Nat} (h : f x = some y) (hr : Reaches f y z) :
    Reaches f x z :=
  let ⟨k, hk⟩ := hr
  ⟨k + 1, (iter_succ_some f x y k h).trans hk⟩

/-- Acyclic in the usual sense: no node is its own proper ancestor / later sibling. -/
theorem term_irreflexive (f : Nat → Ptr) (hT : Term f) (x : Nat) (k : Nat) :
    iter f (k + 1) x ≠ some x := by
  obtain ⟨K, hK⟩ := hT x
  induction K generalizing x with
  | zero => cases hK
  | succ K ih =>
    intro h
    cases hfx : f x with
    | none => simp [iter, hfx] at h
    | some y =>
      rw [iter_succ_some f x y _ hfx] at h hK
      -- a loop through `x` is a loop through its successor `y`, whose chain is shorter
      apply ih y hK
      rw [iter_succ_last, h]
      exact hfx

theorem no_cycle (f : Nat → Ptr) (hT : Term f) (x y : Nat) (hxy : f x = some y) : ¬ Reaches f y x :=
  fun ⟨k, hk⟩ => term_irreflexive f hT x k (by rw [iter_succ_some f x y k hxy]; exact hk)

theorem iter_upd_of_not_reaches (f : Nat → Ptr) (i : Nat) (v : Ptr) (k y : Nat)
    (h : ¬ Reaches f y i) : iter (upd f i v) k y = iter f k y := by
  induction k generalizing y with
  | zero => rfl
  | succ k ih =>
    have hy : upd f i v y = f y := if_neg fun e => h ⟨0, congrArg some e⟩
    cases hfy : f y with
    | none => simp only [iter, hy, hfy]
    | some z =>
      rw [iter_succ_some _ y z k (hy.trans hfy), iter_succ_some f y z k hfy]
      exact ih z fun hr => h (reaches_step hfy hr)

theorem ends_of_step {g : Nat → Ptr} {x : Nat} (h : ∀ y, g x = some y → ∃ k, iter g k y = none) :
    ∃ k, iter g k x = none := by
  cases hg : g x with
  | none => exact ⟨1, by simp only [iter, hg]⟩
  | some y =>
    obtain ⟨k, hk⟩ := h y hg
    exact ⟨k + 1, (iter_succ_some g x y k hg).trans hk⟩

theorem term_upd (f : Nat → Ptr) (i : Nat) (v : Ptr) (hT : Term f)
    (hv : ∀ j, v = some j → ¬ Reaches f j i) : Term (upd f i v) := by
  intro x
  obtain ⟨K, hK⟩ := hT x
  induction K generalizing x with
  | zero => cases hK
  | succ K ih =>
    apply ends_of_step
    intro y hy
    by_cases hx : x = i
    · -- from `i` on, the chain is the old chain of `v`, which avoids `i`
      simp only [upd, hx, if_true] at hy
      obtain ⟨m, hm⟩ := hT y
      exact ⟨m, (iter_upd_of_not_reaches f i v m y (hv y hy)).trans hm⟩
    · simp only [upd, hx, if_false] at hy
      rw [iter_succ_some f x y K hy] at hK
      exact ih y hK

theorem term_upd_none {f : Nat → Ptr} (i : Nat) (hT : Term f) : Term (upd f i none) :=
  term_upd f i _ hT fun _ e => nomatch e

theorem term_upd_some {f : Nat → Ptr} {i j : Nat} (hT : Term f) (h : ¬ Reaches f j i) :
    Term (upd f i (some j)) :=
  term_upd f i _ hT fun _ e => Option.some.inj e ▸ h

def AcyclicParent (s : Store) : Prop := Term s.parent
def AcyclicNext (s : Store) : Prop := Term s.next
/-- A field of `WFTree` only: `prev` chains are tested by the checker, no mutator theorem speaks of them. -/
def AcyclicPrev (s : Store) : Prop := Term s.prev

/-- `a` is `n` itself or an ancestor of `n`. -/
def AncestorOrSelf (s : Store) (a n : Nat) : Prop := Reaches s.parent n a

theorem appendChild_parent (s s' : Store) (n c : Nat) (h : appendChild s n c = some s') :
    s'.parent = upd s.parent c (some n) := by
  unfold appendChild at h
  split at h
  · cases h
  · cases h
    rfl

/-- `hnc` is not checked by the Go code; witness `appendChild_self_cyclic`. -/
theorem appendChild_acyclic (s s' : Store) (n c : Nat) (ha : AcyclicParent s)
    (hnc : ¬ AncestorOrSelf s c n) (h : appendChild s n c = some s') : AcyclicParent s' := by
  unfold AcyclicParent
  rw [appendChild_parent s s' n c h]
  exact term_upd_some ha hnc

theorem insertBefore_acyclic (s s' : Store) (n c : Nat) (old : Ptr) (ha : AcyclicParent s)
    (hnc : ¬ AncestorOrSelf s c n) (h : insertBefore s n c old = some s') : AcyclicParent s' := by
  obtain ⟨_, rfl⟩ := insertBefore_eq h
  exact term_upd_some ha hnc

theorem removeChild_acyclic (s s' : Store) (n c : Nat) (ha : AcyclicParent s)
    (h : removeChild s n c = some s') : AcyclicParent s' := by
  obtain ⟨_, rfl⟩ := removeChild_eq h
  exact term_upd_none c ha

/-- The extra precondition is necessary: `n.AppendChild(n)` on a fresh node does
not panic, keeps the links mutually consistent, and creates a parent cycle. -/
theorem appendChild_self_cyclic :
    ∃ s', appendChild Store.empty 0 0 = some s' ∧ Consistent s' ∧ ¬ AcyclicParent s' := by
  refine ⟨_, rfl, ?_, ?_⟩
  · exact appendChild_consistent _ _ 0 0 consistent_empty rfl
  · exact fun h => term_irreflexive _ h 0 0 (by decide)

theorem link_acyclicNext (s : Store) (n c : Nat) (p o : Ptr) (hc : Links s) (ha : Term s.next)
    (hdet : s.parent c = none ∧ s.prev c = none ∧ s.next c = none) (hg : Gap s n p o) :
    Term (link s n c p o).next := by
  have ne_c : ∀ i, s.parent i = some n → i ≠ c := by
    intro i hi e
    rw [e, hdet.1] at hi
    cases hi
  have fresh : ∀ y, s.next y ≠ some c := fun y e => by
    rw [hc.next_prev, hdet.2.1] at e
    cases e
  apply term_upd
  · cases p with
    | none => exact ha
    | some i =>
      -- from `c`, whose `next` is nil, only `c` is reached
      refine term_upd_some ha fun ⟨k, hk⟩ => ne_c i (hg.left i rfl).1 ?_
      cases k with
      | zero => exact (Option.some.inj hk).symm
      | succ k => simp [iter, hdet.2.2] at hk
  · intro j hj ⟨k, hk⟩
    have hjc := ne_c j (hg.right j hj).1
    cases p with
    | none => exact hjc (reaches_fresh fresh ⟨k, hk⟩)
    | some i =>
      -- the redirected link `i → j` is not on the chain from `j`, or `i → j →* i` would be a cycle
      have hij : s.next i = some j := (hg.left i rfl).2.trans hj
      rw [updAt, iter_upd_of_not_reaches s.next i (some c) k j (no_cycle s.next ha i j hij)] at hk
      exact hjc (reaches_fresh fresh ⟨k, hk⟩)

theorem insertBefore_acyclicNext (s s' : Store) (n c : Nat) (old : Ptr) (hc : Consistent s)
    (ha : AcyclicNext s) (hold : ∀ o, old = some o → s.parent o = some n)
    (h : insertBefore s n c old = some s') : AcyclicNext s' := by
  obtain ⟨hdet, rfl⟩ := insertBefore_eq h
  rw [consistent_iff] at hc
  exact link_acyclicNext s n c _ old hc ha hdet (gap_before s n old hc hold)

theorem appendChild_acyclicNext (s s' : Store) (n c : Nat) (hc : Consistent s) (ha : AcyclicNext s)
    (h : appendChild s n c = some s') : AcyclicNext s' :=
  insertBefore_acyclicNext s s' n c none hc ha nofun (appendChild_eq_insertBefore s n c hc ▸ h)

theorem removeChild_acyclicNext (s s' : Store) (n c : Nat) (hc : Consistent s) (ha : AcyclicNext s)
    (h : removeChild s n c = some s') : AcyclicNext s' := by
  obtain ⟨_, rfl⟩ := removeChild_eq h
  apply term_upd_none
  -- Go reads `c.PrevSibling` after `c.NextSibling.PrevSibling = c.PrevSibling`, which cannot change it
  have e : updAt s.prev (s.next c) (s.prev c) c = s.prev c := by rw [updAt_apply, ite_self]
  simp only [e]
  cases hp : s.prev c with
  | none => exact ha
  | some p =>
    apply term_upd _ _ _ ha
    intro j hj ⟨k, hk⟩
    -- p.next = c (consistency) and c.next = j →* p would be a cycle p → c → j →* p
    have hpc : s.next p = some c := (((consistent_iff s).1 hc).next_prev p c).2 hp
    exact no_cycle s.next ha p c hpc (reaches_step hj ⟨k, hk⟩)

inductive Op
  | append (n c : Nat)
  | insert (n c : Nat) (old : Ptr)
  | remove (n c : Nat)

def Op.apply (s : Store) : Op → Option Store
  | .append n c => appendChild s n c
  | .insert n c old => insertBefore s n c old
  | .remove n c => removeChild s n c

/-- What the callers must guarantee beyond what the Go mutators check themselves. -/
def Op.pre (s : Store) : Op → Prop
  | .append n c => ¬ AncestorOrSelf s c n
  | .insert n c old => ¬ AncestorOrSelf s c n ∧ ∀ o, old = some o → s.parent o = some n
  | .remove _ _ => True

def runOps (s : Store) : List Op → Option Store
  | [] => some s
  | op :: ops => match op.apply s with
    | some s1 => runOps s1 ops
    | none => none

def PreAll : Store → List Op → Prop
  | _, [] => True
  | s, op :: ops => op.pre s ∧ (∀ s1, op.apply s = some s1 → PreAll s1 ops)

/-- Well-formedness as an invariant of mutator histories. -/
structure WF (s : Store) : Prop where
  consistent : Consistent s
  acyclicParent : AcyclicParent s
  acyclicNext : AcyclicNext s

theorem wf_empty : WF Store.empty :=
  ⟨consistent_empty, fun _ => ⟨1, rfl⟩, fun _ => ⟨1, rfl⟩⟩

theorem op_preserves_wf (s s' : Store) (op : Op) (hw : WF s) (hp : op.pre s)
    (h : op.apply s = some s') : WF s' := by
  obtain ⟨h1, h2, h3⟩ := hw
  cases op with
  | append n c =>
    exact ⟨appendChild_consistent s s' n c h1 h, appendChild_acyclic s s' n c h2 hp h,
           appendChild_acyclicNext s s' n c h1 h3 h⟩
  | insert n c old =>
    exact ⟨insertBefore_consistent s s' n c old h1 hp.2 h, insertBefore_acyclic s s' n c old h2 hp.1 h,
           insertBefore_acyclicNext s s' n c old h1 h3 hp.2 h⟩
  | remove n c =>
    exact ⟨removeChild_consistent s s' n c h1 h, removeChild_acyclic s s' n c h2 h,
           removeChild_acyclicNext s s' n c h1 h3 h⟩

/-- By the T-fact `no_link_writes_outside_node_go` nothing else in package html writes link fields, so
every tree the parser builds comes from such a history; that the parser's calls respect `Op.pre` is not
proved (`nonfresh_child_sites_pinned` names the call sites where it rests on the parser's own invariants). -/
theorem history_wf (s s' : Store) (ops : List Op) (hw : WF s) (hp : PreAll s ops)
    (h : runOps s ops = some s') : WF s' := by
  induction ops generalizing s with
  | nil => cases h; exact hw
  | cons op ops ih =>
    simp only [runOps] at h
    split at h
    · rename_i s1 h1
      exact ih s1 (op_preserves_wf s s1 op hw hp.1 h1) (hp.2 s1 h1) h
    · cases h

/-- Consistency alone needs only the `oldChild.Parent == n` side condition. -/
theorem history_consistent (s s' : Store) (ops : List Op) (hc : Consistent s)
    (hp : ∀ (pre : List Op) (n c : Nat) (old : Ptr) (post : List Op) (s1 : Store),
      ops = pre ++ .insert n c old :: post → runOps s pre = some s1 → ∀ o, old = some o → s1.parent o = some n)
    (h : runOps s ops = some s') : Consistent s' := by
  induction ops generalizing s with
  | nil => cases h; exact hc
  | cons op ops ih =>
    simp only [runOps] at h
    split at h
    · rename_i s1 h1
      have hc1 : Consistent s1 := by
        cases op with
        | append n c => exact appendChild_consistent s s1 n c hc h1
        | insert n c old => exact insertBefore_consistent s s1 n c old hc (hp [] n c old ops s rfl rfl) h1
        | remove n c => exact removeChild_consistent s s1 n c hc h1
      refine ih s1 hc1 ?_ h
      intro pre n c old post s2 he hr
      refine hp (op :: pre) n c old post s2 (by simp [he]) ?_
      simp only [runOps, h1]; exact hr
    · cases h

theorem chainEnds_sound (f : Nat → Ptr) (k x : Nat) (h : chainEnds f k x = true) : iter f k x = none := by
  induction k generalizing x with
  | zero => simp [chainEnds] at h
  | succ k ih =>
    simp only [chainEnds] at h
    simp only [iter]
    cases hfx : f x with
    | none => rfl
    | some y => simp only [hfx] at h; exact ih y h

theorem ofList_out_of_range (l : List Rec) (x : Nat) (hx : l.length ≤ x) :
    (ofList l).parent x = none ∧ (ofList l).first x = none ∧ (ofList l).last x = none ∧
    (ofList l).prev x = none ∧ (ofList l).next x = none := by
  have e : l.toArray.getD x Rec.nil = Rec.nil := by
    rw [Array.getD_eq_getD_getElem?, List.getElem?_toArray, List.getElem?_eq_none hx]
    rfl
  simp only [ofList, e]
  exact ⟨rfl, rfl, rfl, rfl, rfl⟩

/-- What a tree accepted by the checker satisfies. -/
structure WFTree (s : Store) : Prop where
  consistent : Consistent s
  acyclicParent : AcyclicParent s
  acyclicNext : AcyclicNext s
  acyclicPrev : AcyclicPrev s

theorem wfTree_sound (l : List Rec) (h : wfTree l = true) :
    WFTree (ofList l) ∧ ∀ r ∈ l, validType r.ty = true := by
  unfold wfTree at h
  simp only [Bool.and_eq_true, List.all_eq_true, List.mem_range] at h
  obtain ⟨⟨⟨⟨h1, h2⟩, h3⟩, h4⟩, h5⟩ := h
  have term : ∀ (f : Nat → Ptr), (∀ x, x < l.length → chainEnds f l.length x = true) →
      (∀ x, l.length ≤ x → f x = none) → Term f := by
    intro f hin hout x
    by_cases hx : x < l.length
    · exact ⟨l.length, chainEnds_sound f _ x (hin x hx)⟩
    · exact ⟨1, by simp [iter, hout x (by omega)]⟩
  refine ⟨⟨?_, ?_, ?_, ?_⟩, ?_⟩
  · intro x
    by_cases hx : x < l.length
    · exact h1 x hx
    · obtain ⟨a, b, c, d, e⟩ := ofList_out_of_range l x (by omega)
      simp [localOK, a, b, c, d, e]
  · exact term _ h2 (fun x hx => (ofList_out_of_range l x hx).1)
  · exact term _ h3 (fun x hx => (ofList_out_of_range l x hx).2.2.2.2)
  · exact term _ h4 (fun x hx => (ofList_out_of_range l x hx).2.2.2.1)
  · intro r hr
    have := h5 r hr
    simp only [shapeOK, Bool.and_eq_true] at this
    exact this.1.1

theorem wfTree_no_cycles (l : List Rec) (h : wfTree l = true) (x k : Nat) :
    iter (ofList l).parent (k + 1) x ≠ some x ∧ iter (ofList l).next (k + 1) x ≠ some x ∧
    iter (ofList l).prev (k + 1) x ≠ some x := by
  obtain ⟨⟨_, h2, h3, h4⟩, _⟩ := wfTree_sound l h
  exact ⟨term_irreflexive _ h2 x k, term_irreflexive _ h3 x k, term_irreflexive _ h4 x k⟩

/-- Outside node.go no non-test file of package html assigns, increments,
takes the address of, or initialises (in a `Node{…}` literal) any of
`.Parent .FirstChild .LastChild .PrevSibling .NextSibling`. -/
theorem no_link_writes_outside_node_go : Gen.C41.linkWritesOutsideNodeGo = [] := rfl

/-- Inside node.go the link fields are written by the three mutators only. -/
theorem link_writers_are_the_three_mutators :
    Gen.C41.nodeGoLinkWriters = ["AppendChild", "InsertBefore", "RemoveChild"] := rfl

/-- `InsertBefore` (the only mutator with an unchecked consistency precondition) has a
single call site, `parser.fosterParent`. -/
theorem insertBefore_single_call_site :
    Gen.C41.insertBeforeCallers = ["parse.go:fosterParent"] := rfl

/-- The source text of the three mutators the model was transcribed from. -/
def insertBeforeSrcExpected : String :=
  "{ if newChild.Parent != nil || newChild.PrevSibling != nil || newChild.NextSibling != nil { panic(\"html: InsertBefore called for an attached child Node\") } var prev, next *Node if oldChild != nil { prev, next = oldChild.PrevSibling, oldChild } else { prev = n.LastChild } if prev != nil { prev.NextSibling = newChild } else { n.FirstChild = newChild } if next != nil { next.PrevSibling = newChild } else { n.LastChild = newChild } newChild.Parent = n newChild.PrevSibling = prev newChild.NextSibling = next }"
def appendChildSrcExpected : String :=
  "{ if c.Parent != nil || c.PrevSibling != nil || c.NextSibling != nil { panic(\"html: AppendChild called for an attached child Node\") } last := n.LastChild if last != nil { last.NextSibling = c } else { n.FirstChild = c } n.LastChild = c c.Parent = n c.PrevSibling = last }"
def removeChildSrcExpected : String :=
  "{ if c.Parent != n { panic(\"html: RemoveChild called for a non-child Node\") } if n.FirstChild == c { n.FirstChild = c.NextSibling } if c.NextSibling != nil { c.NextSibling.PrevSibling = c.PrevSibling } if n.LastChild == c { n.LastChild = c.PrevSibling } if c.PrevSibling != nil { c.PrevSibling.NextSibling = c.NextSibling } c.Parent = nil c.PrevSibling = nil c.NextSibling = nil }"

theorem mutator_sources_pinned :
    Gen.C41.insertBeforeSrc = insertBeforeSrcExpected ∧
    Gen.C41.appendChildSrc = appendChildSrcExpected ∧
    Gen.C41.removeChildSrc = removeChildSrcExpected := ⟨rfl, rfl, rfl⟩

/-- A node just created by `&Node{…}` / `clone()` (no node has it as its parent) and other than `n` meets
the acyclicity precondition of `AppendChild` / `InsertBefore`. -/
theorem fresh_not_ancestor (s : Store) (n c : Nat) (hne : n ≠ c) (hfresh : ∀ x, s.parent x ≠ some c) :
    ¬ AncestorOrSelf s c n :=
  fun h => hne (reaches_fresh hfresh h)

/-- Regenerated from parse.go on every run: of the 30 places where package html hands a node
to `AppendChild` / `InsertBefore` (directly or through `addChild` / `fosterParent` /
`reparentChildren`), all but these four pass a node created on the spot (`&Node{…}` or
`x.clone()`), for which `fresh_not_ancestor` applies. The four are `parseDoctype`'s new node in
`initialIM` and the three re-attachments of `lastNode` in the adoption agency algorithm
(`inBodyEndTagFormatting`); together with `furthestBlock.AppendChild(clone)` (a fresh node that
has just been given children) these are the only places where acyclicity depends on the parser's
own invariants — they are not syntactically checkable and are validated on every returned tree. -/
theorem nonfresh_child_sites_pinned :
    Gen.C41.nonFreshChildSites =
      ["parse.go:initialIM AppendChild other:n",
       "parse.go:inBodyEndTagFormatting AppendChild other:lastNode",
       "parse.go:inBodyEndTagFormatting fosterParent other:lastNode",
       "parse.go:inBodyEndTagFormatting AppendChild other:lastNode"] ∧
    Gen.C41.paramForwarders =
      ["parse.go:addChild fosterParent param:n", "parse.go:addChild AppendChild param:n",
       "parse.go:fosterParent AppendChild param:n", "parse.go:fosterParent InsertBefore param:n"] ∧
    Gen.C41.childArgSites.length = 30 := ⟨rfl, rfl, rfl⟩

/-- document(0) → html(1) → [head(2), body(3)] -/
def sampleTree : List Rec :=
  [⟨2, none, some 1, some 1, none, none⟩, ⟨3, some 0, some 2, some 3, none, none⟩,
   ⟨3, some 1, none, none, none, some 3⟩, ⟨3, some 1, none, none, some 2, none⟩]

example : wfTree sampleTree = true := by decide
/-- a parent cycle 0 ↔ 1 with locally consistent links is rejected -/
example : wfTree [⟨3, some 1, some 1, some 1, none, none⟩, ⟨3, some 0, some 0, some 0, none, none⟩] = false := by decide
/-- a sibling ring under node 0 with locally consistent links is rejected -/
example : wfTree [⟨3, none, none, none, none, none⟩, ⟨3, some 0, none, none, some 2, some 2⟩,
                  ⟨3, some 0, none, none, some 1, some 1⟩] = false := by decide
example : wfTree [⟨2, none, some 1, some 1, none, none⟩, ⟨7, some 0, none, none, none, none⟩] = false := by decide

example : ∃ s1 s2 s3, runOps Store.empty [.append 0 1, .append 0 2, .insert 0 3 (some 2), .remove 0 1] = some s3 ∧
    appendChild Store.empty 0 1 = some s1 ∧ appendChild s1 0 2 = some s2 ∧ s3.first 0 = some 3 ∧ s3.next 3 = some 2 :=
  ⟨_, _, _, rfl, rfl, rfl, by decide, by decide⟩

example : PreAll Store.empty [.append 0 1, .insert 0 2 (some 1)] := by
  refine ⟨fresh_not_ancestor _ 0 1 (by decide) (fun _ => nofun), fun s1 h1 => ?_⟩
  have hp : s1.parent = upd Store.empty.parent 1 (some 0) := appendChild_parent _ _ 0 1 h1
  refine ⟨⟨fresh_not_ancestor _ 0 2 (by decide) fun x => ?_, fun o ho => ?_⟩, fun _ _ => trivial⟩
  · rw [hp]
    simp only [upd, Store.empty]
    split <;> nofun
  · cases ho
    rw [hp]
    rfl

end NetVerif.Proofs.C41
