import NetVerif.Proofs.C43Refine
/-!
C43 — the implementation model `MemLS` (byName refcount tree, byToken, heap flags) refines the specification
machine `Spec`, by the representation relation `R`.  `byName` is read only through `findNode`; `NodeOK` says what
the entry under a name is, given how many locks sit at or below the name and which lock sits at it, so that a
step of `walkToRoot` is one move of that count.  The lock list changes in three ways, with one `R` lemma each:
a lock appended, the lock at a root erased, the locks rewritten keeping token, root and depth (refresh, hold, unhold).
-/
namespace NetVerif.Proofs.C43
open NetVerif.Model.DavPath NetVerif.Model.DavLock

/-- number of locks at or below `a` -/
def cnt (ls : List Lock) (a : Name) : Nat := (ls.filter (fun l => a.isPrefixOf l.root)).length

def lockAt (ls : List Lock) (a : Name) : Option Lock := ls.find? (fun l => l.root == a)

/-- A `byName` node against the lock rooted at its name (`none`: it only counts locks below it).
`inHeap` mirrors `memLS.hold`/`unhold`/`create`: in `byExpiry` exactly while unheld with a finite duration.
The expiry is compared for a finite duration only: otherwise nothing reads it, and `create` on a node
that is already there keeps that node's expiry where the specification writes 0. -/
def NodeMatches (n : Node) : Option Lock → Prop
  | none => n.token = none ∧ n.held = false ∧ n.inHeap = false
  | some l => n.token = some l.token ∧ n.zeroDepth = l.zeroDepth ∧ n.duration = l.duration ∧
      n.held = l.held ∧ (0 ≤ l.duration → n.expiry = l.expiry) ∧
      n.inHeap = (!l.held && decide (0 ≤ l.duration))

/-- The `byName` entry under `a` when `c` locks are at or below `a` and `ol` is the lock rooted at `a`:
a node exactly when `c` is positive, and then its refcount is `c`. -/
def NodeOK (c : Nat) (ol : Option Lock) (a : Name) : Option Node → Prop
  | none => c = 0
  | some n => n.name = a ∧ n.refCount = c ∧ 0 < c ∧ NodeMatches n ol

structure R (m : MemLS) (s : Spec) : Prop where
  gen : m.gen = s.gen
  holds : m.holds = s.holds.map (Option.map (List.map Prod.snd))
  byTok : m.byToken = s.locks.map (fun l => (l.token, l.root))
  nodup : (m.byName.map (·.name)).Nodup
  nodes : ∀ a, NodeOK (cnt s.locks a) (lockAt s.locks a) a (findNode m.byName a)

theorem R_init : R MemLS.init Spec.init := by
  constructor <;> simp [MemLS.init, Spec.init, findNode, NodeOK, cnt]

theorem root_inj (s : Spec) (h : Inv s) {a b : Lock} (ha : a ∈ s.locks) (hb : b ∈ s.locks)
    (hr : a.root = b.root) : a = b :=
  mutual_exclusion s h a b ha hb a.root (by simp [Lock.covers]) (by simp [Lock.covers, hr])

theorem token_eq_iff_root_eq {s : Spec} (h : Inv s) {a b : Lock} (ha : a ∈ s.locks) (hb : b ∈ s.locks) :
    a.token = b.token ↔ a.root = b.root :=
  ⟨fun e => by rw [key_inj h.tok_nodup ha hb e], fun e => by rw [root_inj s h ha hb e]⟩

theorem lockAt_some (s : Spec) (h : Inv s) (l : Lock) (hl : l ∈ s.locks) :
    lockAt s.locks l.root = some l :=
  find?_key Lock.root (fun _ hx => root_inj s h hx hl) hl

theorem lockAt_mem (ls : List Lock) (a : Name) (l : Lock) (h : lockAt ls a = some l) :
    l ∈ ls ∧ l.root = a := by
  unfold lockAt at h
  have hx := List.mem_of_find?_eq_some h
  have ht := List.find?_some h
  simp at ht
  exact ⟨hx, ht⟩

theorem lockAt_none (ls : List Lock) (a : Name) (h : lockAt ls a = none) :
    ∀ l ∈ ls, l.root ≠ a := by
  unfold lockAt at h
  rw [List.find?_eq_none] at h
  intro l hl
  have := h l hl
  simpa using this

theorem lockAt_none_of_no_conflict {ls : List Lock} {name : Name} {zd : Bool}
    (h : ∀ l ∈ ls, l.conflicts name zd = false) : lockAt ls name = none := by
  cases hla : lockAt ls name with
  | none => rfl
  | some l =>
    obtain ⟨hl, hr⟩ := lockAt_mem _ _ _ hla
    exact absurd ((conflicts_iff l name zd).mpr (Or.inl hr)) (Bool.eq_false_iff.1 (h l hl))

theorem cnt_pos_iff (ls : List Lock) (a : Name) : 0 < cnt ls a ↔ ∃ l ∈ ls, a <+: l.root := by
  unfold cnt
  rw [List.length_pos_iff_exists_mem]
  simp [List.mem_filter]

theorem cnt_zero_iff (ls : List Lock) (a : Name) : cnt ls a = 0 ↔ ∀ l ∈ ls, ¬ a <+: l.root := by
  have := cnt_pos_iff ls a
  constructor
  · intro h0 l hl hp
    have : 0 < cnt ls a := this.mpr ⟨l, hl, hp⟩
    omega
  · intro hall
    rcases Nat.eq_zero_or_pos (cnt ls a) with h0 | h0
    · exact h0
    · obtain ⟨l, hl, hp⟩ := this.mp h0
      exact absurd hp (hall l hl)

theorem findNode_name (bn : List Node) (a : Name) (n : Node) (h : findNode bn a = some n) :
    n.name = a ∧ n ∈ bn := by
  unfold findNode at h
  have := List.find?_some h
  simp at this
  exact ⟨this, List.mem_of_find?_eq_some h⟩

theorem findNode_of_mem (bn : List Node) (hn : (bn.map (·.name)).Nodup) (n : Node) (h : n ∈ bn) :
    findNode bn n.name = some n :=
  find?_key Node.name (fun _ hx => key_inj hn hx h) h

theorem mem_walk (name a : Name) : a ∈ walk name ↔ a <+: name := by
  unfold walk
  simp only [List.mem_map, List.mem_reverse, List.mem_range]
  constructor
  · rintro ⟨k, _, rfl⟩
    exact List.take_prefix k name
  · intro hp
    refine ⟨a.length, ?_, ?_⟩
    · have := hp.length_le; omega
    · exact (List.prefix_iff_eq_take.mp hp).symm

theorem nodup_of_map {α β : Type} (f : α → β) {l : List α} (h : (l.map f).Nodup) : l.Nodup :=
  List.Pairwise.of_map (S := fun x y => x ≠ y) f (fun a b (hab : f a ≠ f b) e => hab (by rw [e])) h

theorem walk_nodup (name : Name) : (walk name).Nodup := by
  apply nodup_of_map List.length
  unfold walk
  rw [List.map_map]
  have : List.map (List.length ∘ fun k => List.take k name) (List.range (name.length + 1)).reverse
      = (List.range (name.length + 1)).reverse := by
    conv => rhs; rw [← List.map_id (List.range (name.length + 1)).reverse]
    apply List.map_congr_left
    intro k hk
    simp only [List.mem_reverse, List.mem_range] at hk
    simp only [Function.comp, List.length_take, id]
    omega
  rw [this]
  exact List.pairwise_reverse.mpr (List.nodup_range.imp (fun h => Ne.symm h))

theorem mem_walk_tail (name a : Name) : a ∈ (walk name).tail ↔ a <+: name ∧ a ≠ name := by
  have hw : walk name = name :: (walk name).tail := by
    unfold walk
    rw [List.range_succ]
    simp
  have hnd := walk_nodup name
  rw [hw] at hnd
  have hnot : name ∉ (walk name).tail := (List.nodup_cons.mp hnd).1
  constructor
  · intro ha
    refine ⟨(mem_walk name a).mp (List.mem_of_mem_tail ha), ?_⟩
    intro e; subst e; exact hnot ha
  · rintro ⟨hp, hne⟩
    have := (mem_walk name a).mpr hp
    rw [hw] at this
    simp at this
    rcases this with e | ht
    · exact absurd e hne
    · exact ht

theorem node_of_lock (m : MemLS) (s : Spec) (hR : R m s) (h : Inv s) (l : Lock) (hl : l ∈ s.locks) :
    ∃ n, findNode m.byName l.root = some n ∧ n.name = l.root ∧ NodeMatches n (some l) := by
  have hn := hR.nodes l.root
  cases hf : findNode m.byName l.root with
  | none =>
    rw [hf] at hn
    exact absurd (List.prefix_refl _) ((cnt_zero_iff s.locks l.root).mp hn l hl)
  | some n =>
    rw [hf] at hn
    obtain ⟨h1, _, _, hm⟩ := hn
    rw [lockAt_some s h l hl] at hm
    exact ⟨n, rfl, h1, hm⟩

/-- `canCreate` looks at the node of `name` and at those of its strict ancestors; through `R.nodes` what it tests
there are the three disjuncts of `conflicts_iff`. -/
theorem canCreate_eq (m : MemLS) (s : Spec) (hR : R m s) (h : Inv s) (name : Name) (zd : Bool) :
    m.canCreate name zd = !(s.locks.any (fun l => l.conflicts name zd)) := by
  rw [Bool.eq_iff_iff]
  simp only [Bool.not_eq_true', List.any_eq_false, Bool.not_eq_true]
  unfold MemLS.canCreate
  simp only [Bool.and_eq_true, List.all_eq_true]
  constructor
  · rintro ⟨h1, h2⟩ l hl
    cases hc : l.conflicts name zd with
    | false => rfl
    | true =>
      exfalso
      rw [conflicts_iff] at hc
      have hn := hR.nodes name
      obtain ⟨n, hfn, _, hm⟩ := node_of_lock m s hR h l hl
      rcases hc with hc | ⟨hz, hp⟩ | ⟨hz, hp⟩
      · -- same root
        rw [hc] at hfn
        rw [hfn] at h1
        simp [hm.1] at h1
      · -- infinite request over a locked descendant
        cases hf : findNode m.byName name with
        | none =>
          rw [hf] at hn
          exact (cnt_zero_iff s.locks name).mp hn l hl hp
        | some n =>
          rw [hf] at h1
          simp [hz] at h1
      · -- an infinite lock at an ancestor (or at the name itself)
        by_cases he : l.root = name
        · rw [he] at hfn
          rw [hfn] at h1
          simp [hm.1] at h1
        · have h2' := h2 l.root ((mem_walk_tail name l.root).mpr ⟨hp, he⟩)
          rw [hfn] at h2'
          simp [hm.1, hm.2.1, hz] at h2'
  · intro hall
    constructor
    · cases hf : findNode m.byName name with
      | none => rfl
      | some n =>
        have hn := hR.nodes name
        rw [hf] at hn
        obtain ⟨_, _, hpos, hm⟩ := hn
        obtain ⟨l, hl, hp⟩ := (cnt_pos_iff s.locks name).mp hpos
        have hnc := hall l hl
        have hnc' : ¬ (l.conflicts name zd = true) := by rw [hnc]; simp
        rw [conflicts_iff] at hnc'
        simp only [not_or, not_and] at hnc'
        -- zd must be true, and no lock sits exactly at name
        have hzd : zd = true := by
          cases zd with
          | true => rfl
          | false => exact absurd hp (hnc'.2.1 rfl)
        rw [lockAt_none_of_no_conflict hall] at hm
        simp [hm.1, hzd]
    · intro a ha
      obtain ⟨hp, hne⟩ := (mem_walk_tail name a).mp ha
      cases hf : findNode m.byName a with
      | none => rfl
      | some n =>
        have hn := hR.nodes a
        rw [hf] at hn
        obtain ⟨_, _, _, hm⟩ := hn
        cases hla : lockAt s.locks a with
        | none =>
          rw [hla] at hm
          simp [hm.1]
        | some l' =>
          rw [hla] at hm
          obtain ⟨hl', hr'⟩ := lockAt_mem _ _ _ hla
          have hx := hall l' hl'
          have this : ¬ (l'.conflicts name zd = true) := by rw [hx]; simp
          rw [conflicts_iff] at this
          simp only [not_or, not_and] at this
          have h3 := this.2.2
          rw [hr'] at h3
          cases hz : l'.zeroDepth with
          | true => simp [hm.2.1, hz]
          | false => exact absurd hp (h3 hz)

/-- node / lock correspondence for the results of token and name lookups -/
def NL : Option Node → Option Lock → Prop
  | none, none => True
  | some n, some l => n.name = l.root ∧ NodeMatches n (some l)
  | _, _ => False

theorem NL_cases {x : Option Node} {l : Option Lock} (h : NL x l) :
    (x = none ∧ l = none) ∨
      ∃ n l', x = some n ∧ l = some l' ∧ n.name = l'.root ∧ NodeMatches n (some l') := by
  cases x <;> cases l <;> simp_all [NL]

theorem nodeOfToken_rel (m : MemLS) (s : Spec) (hR : R m s) (h : Inv s) (t : Option Nat) :
    NL (m.nodeOfToken t) (s.findTok t) := by
  cases t with
  | none => simp [MemLS.nodeOfToken, Spec.findTok, NL]
  | some t =>
    unfold MemLS.nodeOfToken Spec.findTok
    simp only
    rw [hR.byTok, List.find?_map]
    have : ((fun p : Nat × Name => p.1 == t) ∘ fun l : Lock => (l.token, l.root)) =
        fun l : Lock => l.token == t := rfl
    rw [this]
    cases hf : s.locks.find? (fun l => l.token == t) with
    | none => simp [NL]
    | some l =>
      have hl := List.mem_of_find?_eq_some hf
      obtain ⟨n, hfn, hname, hm⟩ := node_of_lock m s hR h l hl
      simp only [Option.map_some]
      rw [hfn]
      exact ⟨hname, hm⟩

theorem lookup_rel (m : MemLS) (s : Spec) (hR : R m s) (h : Inv s) (name : Name)
    (toks : List (Option Nat)) : NL (m.lookup name toks) (s.lookup name toks) := by
  induction toks with
  | nil => simp [MemLS.lookup, Spec.lookup, NL]
  | cons t ts ih =>
    unfold MemLS.lookup Spec.lookup
    rcases NL_cases (nodeOfToken_rel m s hR h t) with ⟨hn, hl⟩ | ⟨n, l, hn, hl, hname, hm⟩
    · rw [hn, hl]; simpa using ih
    rw [hn, hl]
    obtain ⟨_, hzd, _, hheld, _, _⟩ := id hm
    simp only
    unfold Lock.covers
    rw [hheld, hzd, hname]
    cases l.held with
    | true => simpa using ih
    | false =>
      by_cases he : name = l.root
      · subst he
        simp [NL, hname, hm]
      · have he' : (name == l.root) = false := by simpa using he
        have he'' : (l.root == name) = false := by simpa using (fun e => he e.symm)
        simp only [he', he'', Bool.false_eq_true, if_false, Bool.false_or, Bool.not_false,
          Bool.true_and]
        cases l.zeroDepth with
        | true => simpa using ih
        | false =>
          cases hp : l.root.isPrefixOf name with
          | true => simp [NL, hname, hm]
          | false => simpa using ih

theorem findNode_map (bn : List Node) (g : Node → Node) (hg : ∀ n, (g n).name = n.name) (a : Name) :
    findNode (bn.map g) a = (findNode bn a).map g := by
  unfold findNode
  rw [List.find?_map]
  have : ((fun n : Node => n.name == a) ∘ g) = fun n : Node => n.name == a := by
    funext n; simp [Function.comp, hg n]
  rw [this]

theorem names_map (bn : List Node) (g : Node → Node) (hg : ∀ n, (g n).name = n.name) :
    (bn.map g).map (·.name) = bn.map (·.name) := by
  simp [List.map_map, Function.comp_def, hg]

theorem findNode_updNode (bn : List Node) (a a' : Name) (f : Node → Node)
    (hf : ∀ n, (f n).name = n.name) :
    findNode (updNode bn a f) a' = if a' = a then (findNode bn a').map f else findNode bn a' := by
  unfold updNode
  rw [findNode_map _ _ (by intro n; split <;> simp [hf])]
  cases hfn : findNode bn a' with
  | none => simp
  | some n =>
    obtain ⟨hname, _⟩ := findNode_name _ _ _ hfn
    by_cases he : a' = a
    · subst he; simp [hname]
    · simp [he]
      intro e; exact absurd (hname.symm.trans e) he

theorem names_updNode (bn : List Node) (a : Name) (f : Node → Node) (hf : ∀ n, (f n).name = n.name) :
    (updNode bn a f).map (·.name) = bn.map (·.name) := by
  unfold updNode
  exact names_map _ _ (by intro n; split <;> simp [hf])

theorem findNode_none_of_not_mem (bn : List Node) (a : Name) (h : a ∉ bn.map (·.name)) :
    findNode bn a = none := by
  unfold findNode
  rw [List.find?_eq_none]
  intro n hn hnn
  simp at hnn
  exact h (List.mem_map.mpr ⟨n, hn, hnn⟩)

theorem findNode_filter_map (bn : List Node) (hn : (bn.map (·.name)).Nodup) (g : Node → Node)
    (hg : ∀ n, (g n).name = n.name) (p : Node → Bool) (a : Name) :
    findNode ((bn.map g).filter p) a = ((findNode bn a).map g).filter p := by
  induction bn with
  | nil => rfl
  | cons n rest ih =>
    simp only [List.map_cons, List.nodup_cons] at hn
    have ih := ih hn.2
    unfold findNode at ih ⊢
    simp only [List.map_cons, List.filter_cons]
    by_cases hna : n.name = a
    · rw [List.find?_cons_of_pos (l := rest) (by simpa using hna), Option.map_some, Option.filter_some]
      split
      · exact List.find?_cons_of_pos (by simpa [hg] using hna)
      · -- the node named `a` is filtered out, and no later node has its name
        rw [ih, show List.find? _ rest = none from findNode_none_of_not_mem rest a (hna ▸ hn.1)]; rfl
    · rw [List.find?_cons_of_neg (l := rest) (by simpa using hna), ← ih]
      split
      · exact List.find?_cons_of_neg (by simpa [hg] using hna)
      · rfl

/-- `bn'` is the table `bn` with, for each `a ∈ as`, the entry under `a` replaced by `F a` of the old one
(`none`: no node). -/
def Alter (as : List Name) (F : Name → Option Node → Option Node) (bn bn' : List Node) : Prop :=
  (bn'.map (·.name)).Nodup ∧ ∀ a, findNode bn' a = if a ∈ as then F a (findNode bn a) else findNode bn a

/-- A walk (`walkToRoot`) whose step rewrites the entry of the name it visits rewrites the entries of
all visited names. -/
theorem Alter.foldl {step : List Node → Name → List Node} {F : Name → Option Node → Option Node}
    (hstep : ∀ bn x, (bn.map (·.name)).Nodup → ((step bn x).map (·.name)).Nodup ∧
      ∀ a, findNode (step bn x) a = if a = x then F x (findNode bn x) else findNode bn a)
    {as : List Name} (hnd : as.Nodup) {bn : List Node} (hn : (bn.map (·.name)).Nodup) :
    Alter as F bn (as.foldl step bn) := by
  induction as generalizing bn with
  | nil => exact ⟨hn, by simp⟩
  | cons x xs ih =>
    rw [List.nodup_cons] at hnd
    obtain ⟨h1, h2⟩ := hstep bn x hn
    obtain ⟨h3, h4⟩ := ih hnd.2 h1
    refine ⟨h3, fun a => ?_⟩
    rw [List.foldl_cons, h4, h2]
    by_cases he : a = x
    · subst he; simp [hnd.1]
    · simp [he]

/-- result of one `refCount++` step -/
def bump (a : Name) : Option Node → Node
  | none => { freshNode a with refCount := 1 }
  | some n => { n with refCount := n.refCount + 1 }

theorem incRef_spec (bn : List Node) (x : Name) (hn : (bn.map (·.name)).Nodup) :
    ((incRef bn x).map (·.name)).Nodup ∧
      ∀ a, findNode (incRef bn x) a = if a = x then some (bump x (findNode bn x)) else findNode bn a := by
  unfold incRef
  cases hfx : findNode bn x with
  | none =>
    have hno : ∀ n ∈ bn, ¬ n.name = x := fun n hm => by simpa using List.find?_eq_none.1 hfx n hm
    rw [if_neg fun h => by obtain ⟨n, hm, e⟩ := List.any_eq_true.1 h; exact hno n hm (by simpa using e)]
    refine ⟨?_, fun a => ?_⟩
    · rw [List.map_append, List.nodup_append]
      exact ⟨hn, by simp, fun a ha b hb => by
        obtain ⟨n, hm, rfl⟩ := List.mem_map.1 ha
        rw [List.mem_singleton.1 hb]; exact hno n hm⟩
    · unfold findNode at hfx ⊢
      rw [List.find?_append]
      by_cases he : a = x
      · subst he; simp [hfx, bump, freshNode]
      · have : ¬ x = a := fun e => he e.symm
        simp [he, this, freshNode]
  | some n =>
    obtain ⟨hname, hm⟩ := findNode_name _ _ _ hfx
    rw [if_pos (List.any_eq_true.2 ⟨n, hm, by simpa using hname⟩)]
    refine ⟨by rw [names_map _ _ (by intro n; split <;> rfl)]; exact hn, fun a => ?_⟩
    rw [findNode_map _ _ (by intro n; split <;> rfl)]
    by_cases he : a = x
    · subst he; simp [hfx, hname, bump]
    · cases hfa : findNode bn a with
      | none => simp [he]
      | some n' =>
        have : ¬ n'.name = x := fun e => he ((findNode_name _ _ _ hfa).1.symm.trans e)
        simp [he, this]

theorem cnt_append_one (ls : List Lock) (x : Lock) (a : Name) :
    cnt (ls ++ [x]) a = cnt ls a + (if a <+: x.root then 1 else 0) := by
  unfold cnt
  rw [List.filter_append, List.length_append]
  by_cases hp : a <+: x.root
  · simp [hp]
  · simp [hp]

theorem lockAt_append_one (ls : List Lock) (x : Lock) (a : Name) :
    lockAt (ls ++ [x]) a = (lockAt ls a).or (if a = x.root then some x else none) := by
  unfold lockAt
  rw [List.find?_append]
  congr 1
  by_cases he : a = x.root
  · simp [he]
  · simpa [he] using fun e : x.root = a => he e.symm

theorem lockAt_none_of_cnt_zero (ls : List Lock) (a : Name) (h : cnt ls a = 0) : lockAt ls a = none := by
  unfold lockAt
  rw [List.find?_eq_none]
  intro l hl hr
  simp at hr
  exact (cnt_zero_iff ls a).mp h l hl (by rw [hr]; exact List.prefix_refl _)

theorem nodeMatches_refCount (n : Node) (k : Nat) (ol : Option Lock) :
    NodeMatches { n with refCount := k } ol ↔ NodeMatches n ol := by
  cases ol <;> exact Iff.rfl

theorem NodeOK_bump {c : Nat} {ol : Option Lock} {a : Name} {o : Option Node} (h : NodeOK c ol a o)
    (h0 : c = 0 → ol = none) : NodeOK (c + 1) ol a (some (bump a o)) := by
  cases o with
  | none => cases h0 h; exact ⟨rfl, congrArg (· + 1) h.symm, c.succ_pos, rfl, rfl, rfl⟩
  | some n => exact ⟨h.1, congrArg (· + 1) h.2.1, c.succ_pos, (nodeMatches_refCount n _ ol).2 h.2.2.2⟩

/-- A lock appended at `name`.  By `Alter.foldl` over `incRef_spec` the walk bumps the node of every
prefix of `name`, and by `cnt_append_one` those are the names where `cnt` goes up by one (`NodeOK_bump`);
the node of `name` itself then takes the new lock. -/
theorem R_createCore (m : MemLS) (s : Spec) (hR : R m s) (h : Inv s) (now : Int) (name : Name)
    (zd : Bool) (dur : Int) :
    R (m.createCore now name zd dur).1 (s.createCore now name zd dur).1 ∧
    (m.createCore now name zd dur).2 = (s.createCore now name zd dur).2 := by
  unfold MemLS.createCore Spec.createCore
  rw [canCreate_eq m s hR h name zd]
  by_cases hany : (s.locks.any fun l => l.conflicts name zd) = true
  · simp [hany, hR]
  · simp only [hany, Bool.not_not]
    have hany' : (s.locks.any fun l => l.conflicts name zd) = false := by simpa using hany
    simp only [Bool.false_eq_true, if_false]
    refine ⟨?_, by rw [hR.gen]⟩
    have hlockAt_name : lockAt s.locks name = none :=
      lockAt_none_of_no_conflict (by simpa [List.any_eq_false] using hany')
    obtain ⟨hnd, hfind⟩ := Alter.foldl (F := fun x o => some (bump x o)) incRef_spec (walk_nodup name) hR.nodup
    constructor
    · simp [hR.gen]
    · exact hR.holds
    · simp [hR.byTok, hR.gen]
    · simp only
      rw [names_updNode _ _ _ (by intro n; rfl)]
      exact hnd
    · intro a
      simp only
      rw [findNode_updNode _ _ _ _ (by intro n; rfl), hfind, cnt_append_one, lockAt_append_one]
      simp only [mem_walk]
      have hold := hR.nodes a
      by_cases hpa : a <+: name
      · have hb := NodeOK_bump hold (lockAt_none_of_cnt_zero _ _)
        simp only [hpa, if_true, Option.map_some]
        by_cases hea : a = name
        · subst hea
          rw [hlockAt_name] at hb ⊢
          obtain ⟨h1, h2, h3, _, h5, _⟩ := hb
          simp only [if_true, Option.none_or]
          exact ⟨h1, h2, h3, by rw [hR.gen], rfl, rfl, h5, fun hd => by simp [newExpiry, hd], by simp⟩
        · simp only [hea, if_false, Option.or_none]
          exact hb
      · have hea : ¬ a = name := by intro e; subst e; exact hpa (List.prefix_refl _)
        simp only [hpa, hea, if_false, Nat.add_zero, Option.or_none]
        exact hold

/-- result of one `refCount--` step (`none` = node deleted) -/
def unbump (n : Node) : Option Node :=
  if n.refCount - 1 = 0 then none else some { n with refCount := n.refCount - 1 }

theorem NodeOK_unbump {c : Nat} {ol : Option Lock} {a : Name} {o : Option Node} (h : NodeOK (c + 1) ol a o) :
    NodeOK c ol a (o.bind unbump) := by
  cases o with
  | none => cases h
  | some n =>
    obtain ⟨h1, h2, _, h4⟩ := h
    simp only [Option.bind_some, unbump]
    split
    · show c = 0; omega
    · exact ⟨h1, by simp only; omega, by omega, (nodeMatches_refCount n _ ol).2 h4⟩

theorem decRef_spec (bn : List Node) (x : Name) (hn : (bn.map (·.name)).Nodup) :
    ((decRef bn x).map (·.name)).Nodup ∧
      ∀ a, findNode (decRef bn x) a = if a = x then (findNode bn x).bind unbump else findNode bn a := by
  unfold decRef
  have hg : ∀ n : Node, (if n.name == x then { n with refCount := n.refCount - 1 } else n).name = n.name := by
    intro n; split <;> rfl
  refine ⟨(names_map bn _ hg ▸ hn).sublist (List.filter_sublist.map _), fun a => ?_⟩
  rw [findNode_filter_map _ hn _ hg]
  cases hf : findNode bn a with
  | none =>
    split
    · rename_i he; rw [← he, hf]; rfl
    · rfl
  | some n =>
    obtain ⟨hname, _⟩ := findNode_name _ _ _ hf
    by_cases he : a = x
    · subst he; simp [hf, hname, unbump, Option.filter]
    · have : ¬ n.name = x := hname ▸ he
      simp [he, this, Option.filter]

theorem cnt_erase_root (ls : List Lock) (l : Lock) (hl : l ∈ ls)
    (huniq : ∀ x ∈ ls, x.root = l.root → x = l) (hnd : ls.Nodup) (a : Name) :
    cnt ls a = cnt (ls.filter (fun x => !(x.root == l.root))) a + (if a <+: l.root then 1 else 0) := by
  -- the locks with another root are all but `l`, and `ls` is `l` followed by those, in some order
  have e : ls.filter (fun x => !(x.root == l.root)) = ls.erase l := by
    rw [hnd.erase_eq_filter]
    refine List.filter_congr fun x hx => ?_
    by_cases hx' : x = l
    · simp [hx']
    · have : ¬ x.root = l.root := fun e => hx' (huniq x hx e)
      rw [beq_false_of_ne this, show (x != l) = true from bne_iff_ne.2 hx']; rfl
  have := ((List.perm_cons_erase hl).filter (fun l => a.isPrefixOf l.root)).length_eq
  unfold cnt
  rw [e, this, List.filter_cons]
  by_cases hp : a <+: l.root <;> simp [hp]

theorem lockAt_erase_root (ls : List Lock) (r a : Name) :
    lockAt (ls.filter (fun x => !(x.root == r))) a = if a = r then none else lockAt ls a := by
  unfold lockAt
  rw [List.find?_filter]
  by_cases he : a = r
  · subst he
    simp only [if_true]
    rw [List.find?_eq_none]
    intro x _
    by_cases hx : x.root = a <;> simp [hx]
  · simp only [he, if_false]
    congr 1
    funext x
    by_cases hx : x.root = a
    · have : ¬ x.root = r := fun e => he (hx.symm.trans e)
      simp [hx]
      intro e; exact absurd (hx ▸ e) he
    · simp [hx]

def eraseRoot (s : Spec) (r : Name) : Spec :=
  { s with locks := s.locks.filter (fun x => !(x.root == r)) }

theorem filter_token_eq_eraseRoot (s : Spec) (h : Inv s) (l : Lock) (hl : l ∈ s.locks) :
    s.locks.filter (fun x => !(x.token == l.token)) = s.locks.filter (fun x => !(x.root == l.root)) :=
  List.filter_congr fun x hx => by
    rw [Bool.eq_iff_iff]; simp [token_eq_iff_root_eq h hx hl]

/-- The unheld lock `l` erased.  By `Alter.foldl` over `decRef_spec` the walk lowers the node of every
prefix of `l.root`, deleting it at zero, and by `cnt_erase_root` those are the names where `cnt` goes down
by one (`NodeOK_unbump`); the node of `l.root` itself has given up its lock before. -/
theorem R_remove (m : MemLS) (s : Spec) (hR : R m s) (h : Inv s) (l : Lock) (hl : l ∈ s.locks)
    (hun : l.held = false) : R (m.remove l.root) (eraseRoot s l.root) := by
  obtain ⟨n, hfn, hname, hm⟩ := node_of_lock m s hR h l hl
  have huniq : ∀ x ∈ s.locks, x.root = l.root → x = l := fun x hx hr => root_inj s h hx hl hr
  unfold MemLS.remove eraseRoot
  rw [hfn]
  simp only [hm.1]
  obtain ⟨hnd, hfind⟩ := Alter.foldl (F := fun _ o => o.bind unbump) decRef_spec (walk_nodup l.root)
    (bn := updNode m.byName l.root fun n => { n with token := none, inHeap := false })
    (by rw [names_updNode _ _ _ (by intro n; rfl)]; exact hR.nodup)
  constructor
  · exact hR.gen
  · exact hR.holds
  · simp only
    rw [hR.byTok, List.filter_map]
    congr 1
    exact filter_token_eq_eraseRoot s h l hl
  · exact hnd
  · intro a
    simp only
    rw [hfind, findNode_updNode _ _ _ _ (by intro n; rfl), lockAt_erase_root]
    simp only [mem_walk]
    have hold := hR.nodes a
    rw [cnt_erase_root s.locks l hl huniq (nodup_of_map _ h.tok_nodup) a] at hold
    by_cases hpa : a <+: l.root
    · simp only [hpa, if_true] at hold ⊢
      by_cases hea : a = l.root
      · subst hea
        rw [hfn] at hold ⊢
        obtain ⟨h1, h2, h3, _⟩ := hold
        simp only [if_true, Option.map_some]
        exact NodeOK_unbump ⟨h1, h2, h3, rfl, hm.2.2.2.1.trans hun, rfl⟩
      · simp only [hea, if_false]
        exact NodeOK_unbump hold
    · have hea : ¬ a = l.root := by intro e; subst e; exact hpa (List.prefix_refl _)
      simp only [hpa, hea, if_false, Nat.add_zero] at hold ⊢
      exact hold

theorem inv_eraseRoot (s : Spec) (r : Name) (h : Inv s) : Inv (eraseRoot s r) :=
  inv_sublist s _ _ h List.filter_sublist

/-- `R_remove` once per name; `names` are roots of distinct unheld locks, so each removal finds its lock still there. -/
theorem R_foldl_remove (names : List Name) (hnd : names.Nodup) (m : MemLS) (s : Spec) (hR : R m s)
    (h : Inv s) (hP : ∀ a ∈ names, ∃ l ∈ s.locks, l.root = a ∧ l.held = false) :
    R (names.foldl MemLS.remove m)
      ⟨s.locks.filter (fun x => !(names.contains x.root)), s.gen, s.holds⟩ := by
  induction names generalizing m s with
  | nil =>
    simp only [List.foldl_nil, List.contains_nil, Bool.not_false]
    rw [List.filter_eq_self.mpr (by intros; rfl)]
    exact hR
  | cons a rest ih =>
    rw [List.nodup_cons] at hnd
    obtain ⟨l, hl, hra, hun⟩ := hP a (by simp)
    have hR1 := R_remove m s hR h l hl hun
    rw [hra] at hR1
    have hP1 : ∀ a' ∈ rest, ∃ l' ∈ (eraseRoot s a).locks, l'.root = a' ∧ l'.held = false := by
      intro a' ha'
      obtain ⟨l', hl', hr', hu'⟩ := hP a' (by simp [ha'])
      refine ⟨l', ?_, hr', hu'⟩
      simp only [eraseRoot, List.mem_filter, hl', true_and]
      have : ¬ l'.root = a := by rw [hr']; intro e; subst e; exact hnd.1 ha'
      simpa using this
    have := ih hnd.2 (m.remove a) (eraseRoot s a) hR1 (inv_eraseRoot s a h) hP1
    simp only [List.foldl_cons]
    have heq : List.filter (fun x => !(rest.contains x.root)) (eraseRoot s a).locks =
        List.filter (fun x => !((a :: rest).contains x.root)) s.locks := by
      simp only [eraseRoot, List.filter_filter]
      apply List.filter_congr
      intro x _
      by_cases hx : x.root = a <;> simp [hx]
    rw [heq] at this
    exact this

theorem nodeMatches_due {n : Node} {ol : Option Lock} (hm : NodeMatches n ol) (now : Int) :
    (n.inHeap && decide (n.expiry ≤ now)) = (ol.map (·.expired now)).getD false := by
  cases ol with
  | none => simp [hm.2.2]
  | some l =>
    obtain ⟨_, _, _, _, hexp, hheap⟩ := hm
    by_cases hd : 0 ≤ l.duration
    · simp [Lock.expired, hheap, hexp hd, hd]
    · simp [Lock.expired, hheap, hd]

/-- A node is due at `now` exactly when the lock rooted at it is expired (`nodeMatches_due`), so the names `collect`
removes are the roots of the expired locks (`hP`, `heq`), which are unheld, and the rest is `R_foldl_remove`. -/
theorem R_collect (m : MemLS) (s : Spec) (hR : R m s) (h : Inv s) (now : Int) :
    R (m.collect now) (s.collect now) := by
  unfold MemLS.collect Spec.collect
  have hP : ∀ a ∈ (m.byName.filter (fun n => n.inHeap && decide (n.expiry ≤ now))).map (·.name),
      ∃ l ∈ s.locks, l.root = a ∧ l.expired now = true := by
    intro a ha
    obtain ⟨n, hn, rfl⟩ := List.mem_map.1 ha
    obtain ⟨hn, hdue⟩ := List.mem_filter.1 hn
    have hok := hR.nodes n.name
    rw [findNode_of_mem _ hR.nodup n hn] at hok
    rw [nodeMatches_due hok.2.2.2] at hdue
    cases hla : lockAt s.locks n.name with
    | none => simp [hla] at hdue
    | some l => exact ⟨l, (lockAt_mem _ _ _ hla).1, (lockAt_mem _ _ _ hla).2, by simpa [hla] using hdue⟩
  have := R_foldl_remove _ (hR.nodup.sublist (List.Sublist.map _ List.filter_sublist)) m s hR h
    fun a ha => by
      obtain ⟨l, hl, hr, he⟩ := hP a ha
      refine ⟨l, hl, hr, ?_⟩
      cases hh : l.held with
      | false => rfl
      | true => rw [held_not_expired l now hh] at he; cases he
  have heq : ∀ x ∈ s.locks, (!((m.byName.filter (fun n => n.inHeap && decide (n.expiry ≤ now))).map
      (·.name)).contains x.root) = !x.expired now := by
    intro x hx
    congr 1
    rw [Bool.eq_iff_iff, List.contains_iff_mem]
    constructor
    · intro hc
      obtain ⟨l, hl, hr, he⟩ := hP _ hc
      rwa [← root_inj s h hl hx hr]
    · intro he
      obtain ⟨n, hfn, hname, hm⟩ := node_of_lock m s hR h x hx
      refine List.mem_map.2 ⟨n, List.mem_filter.2 ⟨(findNode_name _ _ _ hfn).2, ?_⟩, hname⟩
      rw [nodeMatches_due hm]; exact he
  rw [List.filter_congr heq] at this
  exact this

theorem cnt_map (ls : List Lock) (f : Lock → Lock) (hf : ∀ x, (f x).root = x.root) (a : Name) :
    cnt (ls.map f) a = cnt ls a := by
  unfold cnt
  rw [List.filter_map, List.length_map]
  congr 1
  apply List.filter_congr
  intro x _
  simp [Function.comp, hf]

theorem lockAt_map (ls : List Lock) (f : Lock → Lock) (hf : ∀ x, (f x).root = x.root) (a : Name) :
    lockAt (ls.map f) a = (lockAt ls a).map f := by
  unfold lockAt
  rw [List.find?_map]
  congr 2
  funext x
  simp [Function.comp, hf]

/-- `R` when the locks are rewritten keeping token, root and depth, and the nodes follow one by one:
the node of a lock goes with its lock, the other nodes stay. -/
theorem R_map {m : MemLS} {s : Spec} (hR : R m s) {f : Lock → Lock} {G : Node → Node}
    (hf : SameShape f) (hG : ∀ n, (G n).name = n.name ∧ (G n).refCount = n.refCount)
    (hGl : ∀ l ∈ s.locks, ∀ n, n.name = l.root → NodeMatches n (some l) → NodeMatches (G n) (some (f l)))
    (hG0 : ∀ n, (∀ l ∈ s.locks, l.root ≠ n.name) → G n = n)
    {Hm : List (Option (List Name))} {Hs : List (Option (List (Nat × Name)))}
    (hH : Hm = Hs.map (Option.map (List.map Prod.snd))) :
    R ⟨m.byName.map G, m.byToken, m.gen, Hm⟩ ⟨s.locks.map f, s.gen, Hs⟩ := by
  refine ⟨hR.gen, hH, ?_, ?_, fun a => ?_⟩
  · simp only [hR.byTok, List.map_map]
    exact List.map_congr_left fun x _ => by simp only [Function.comp, (hf x).1, (hf x).2.1]
  · simp only [names_map _ _ fun n => (hG n).1]; exact hR.nodup
  · have hold := hR.nodes a
    simp only [findNode_map _ _ fun n => (hG n).1, cnt_map s.locks f fun x => (hf x).2.1,
      lockAt_map s.locks f fun x => (hf x).2.1]
    cases hfn : findNode m.byName a with
    | none => rw [hfn] at hold; exact hold
    | some n =>
      rw [hfn] at hold
      obtain ⟨h1, h2, h3, h4⟩ := hold
      refine ⟨(hG n).1.trans h1, (hG n).2.trans h2, h3, ?_⟩
      cases hla : lockAt s.locks a with
      | none => rw [hla] at h4; rw [hG0 n (h1 ▸ lockAt_none _ _ hla)]; exact h4
      | some l =>
        obtain ⟨hl, hr⟩ := lockAt_mem _ _ _ hla
        exact hGl l hl n (h1.trans hr.symm) (hla ▸ h4)

theorem R_refreshCore (m : MemLS) (s : Spec) (hR : R m s) (h : Inv s) (now : Int)
    (tok : Option Nat) (dur : Int) :
    R (m.refreshCore now tok dur).1 (s.refreshCore now tok dur).1 ∧
    (m.refreshCore now tok dur).2 = (s.refreshCore now tok dur).2 := by
  unfold MemLS.refreshCore Spec.refreshCore
  rcases NL_cases (nodeOfToken_rel m s hR h tok) with ⟨hn, hl⟩ | ⟨n, l, hn, hl, hname, hm⟩
  · rw [hn, hl]; exact ⟨hR, rfl⟩
  rw [hn, hl]
  obtain ⟨hlm, _⟩ := findTok_mem _ _ _ hl
  simp only [hm.2.2.2.1]
  split
  · exact ⟨hR, rfl⟩
  rename_i hh
  refine ⟨?_, by rw [hname, hm.2.1]⟩
  refine R_map hR (fun x => by split <;> simp) (fun x => by split <;> simp) ?_ ?_ hR.holds
  · intro l' hl' n' hn' hm'
    dsimp only
    rw [hn', hname]
    by_cases e : l'.token = l.token
    · cases key_inj h.tok_nodup hl' hlm e
      simp only [beq_self_eq_true, if_true]
      obtain ⟨t1, t2, _, t4, _, _⟩ := hm'
      refine ⟨t1, t2, rfl, t4, fun hd => by simp [newExpiry, hd], ?_⟩
      simp [Bool.eq_false_iff.2 hh]
    · have : ¬ l'.root = l.root := fun e' => e ((token_eq_iff_root_eq h hl' hlm).2 e')
      simpa [e, this] using hm'
  · intro n' hno
    have : ¬ n'.name = n.name := fun e => hno l hlm (hname.symm.trans e.symm)
    simp [this]

theorem R_unlockCore (m : MemLS) (s : Spec) (hR : R m s) (h : Inv s) (tok : Option Nat) :
    R (m.unlockCore tok).1 (s.unlockCore tok).1 ∧ (m.unlockCore tok).2 = (s.unlockCore tok).2 := by
  unfold MemLS.unlockCore Spec.unlockCore
  rcases NL_cases (nodeOfToken_rel m s hR h tok) with ⟨hn, hl⟩ | ⟨n, l, hn, hl, hname, hm⟩
  · rw [hn, hl]; exact ⟨hR, by simp⟩
  rw [hn, hl]
  obtain ⟨hlm, _⟩ := findTok_mem _ _ _ hl
  simp only
  rw [hm.2.2.2.1]
  by_cases hh : l.held = true
  · simp only [hh, if_true]; exact ⟨hR, by simp⟩
  · simp only [hh, Bool.false_eq_true, if_false]
    refine ⟨?_, by simp⟩
    have := R_remove m s hR h l hlm (by simpa using hh)
    rw [hname, filter_token_eq_eraseRoot s h l hlm]
    exact this

/-- `hold` (v = true) and `unhold` (v = false) on a node -/
def gHeld (v : Bool) (n : Node) : Node :=
  { n with held := v, inHeap := !v && decide (0 ≤ n.duration) }

theorem foldl_updNode (g : Node → Node) (hidem : ∀ n, g (g n) = g n) (hg : ∀ n, (g n).name = n.name)
    (as : List Name) (bn : List Node) :
    as.foldl (fun bn a => updNode bn a g) bn = bn.map (fun n => if n.name ∈ as then g n else n) := by
  induction as generalizing bn with
  | nil => simp
  | cons x xs ih =>
    rw [List.foldl_cons, ih, updNode, List.map_map]
    apply List.map_congr_left
    intro n _
    -- a name that is `x` and comes again in `xs` gets `g` twice, which is `g` once
    by_cases hx : n.name = x <;> by_cases hxs : n.name ∈ xs <;> simp [hx, hxs, hg, hidem]

theorem R_setHeld (m : MemLS) (s : Spec) (hR : R m s) (h : Inv s) (v : Bool)
    (ps : List (Nat × Name)) (ns : List Name)
    (hps : ∀ p ∈ ps, ∃ l ∈ s.locks, l.token = p.1 ∧ l.root = p.2)
    (hns : ∀ a, a ∈ ns ↔ a ∈ ps.map (·.2))
    (Hm : List (Option (List Name))) (Hs : List (Option (List (Nat × Name))))
    (hH : Hm = Hs.map (Option.map (List.map Prod.snd))) :
    R ⟨ns.foldl (fun bn a => updNode bn a (gHeld v)) m.byName, m.byToken, m.gen, Hm⟩
      ⟨setHeld s.locks (ps.map (·.1)) v, s.gen, Hs⟩ := by
  have key : ∀ x ∈ s.locks, ((ps.map (·.1)).contains x.token = true ↔ x.root ∈ ns) := by
    intro x hx
    simp only [hns, List.contains_iff_mem, List.mem_map]
    constructor <;> rintro ⟨p, hp, hpx⟩ <;> obtain ⟨l, hl, h1, h2⟩ := hps p hp
    · exact ⟨p, hp, by rw [← h2, (token_eq_iff_root_eq h hl hx).1 (h1.trans hpx)]⟩
    · exact ⟨p, hp, by rw [← h1, (token_eq_iff_root_eq h hl hx).2 (h2.trans hpx)]⟩
  rw [foldl_updNode (gHeld v) (fun _ => rfl) (fun _ => rfl)]
  refine R_map hR (sameShape_setHeld _ v) (fun n => by split <;> exact ⟨rfl, rfl⟩) ?_ ?_ hH
  · intro l hl n hn hm
    rw [hn]
    by_cases e : l.root ∈ ns
    · rw [if_pos e, if_pos ((key l hl).2 e)]
      obtain ⟨t1, t2, t3, _, t5, _⟩ := hm
      exact ⟨t1, t2, t3, rfl, t5, by simp [gHeld, t3]⟩
    · rw [if_neg e, if_neg fun e' => e ((key l hl).1 e')]; exact hm
  · intro n hno
    rw [if_neg]
    intro e
    obtain ⟨p, hp, hpa⟩ := List.mem_map.1 ((hns _).1 e)
    obtain ⟨l, hl, _, h2⟩ := hps p hp
    exact hno l hl (h2.trans hpa)

theorem R_release (m : MemLS) (s : Spec) (hR : R m s) (hI : HInv s) (k : Nat) :
    R (m.release k).1 (s.release k).1 ∧ (m.release k).2 = (s.release k).2 := by
  unfold MemLS.release Spec.release
  have hk : m.holds[k]? = (s.holds[k]?).map (Option.map (List.map Prod.snd)) := by
    rw [hR.holds, List.getElem?_map]
  rw [hk]
  cases hs : s.holds[k]? with
  | none => exact ⟨hR, by simp⟩
  | some o =>
    cases o with
    | none => exact ⟨hR, by simp⟩
    | some ps =>
      simp only [Option.map_some]
      refine ⟨?_, by simp⟩
      have hps : ∀ p ∈ ps, ∃ l ∈ s.locks, l.token = p.1 ∧ l.root = p.2 := by
        intro p hp
        obtain ⟨l, hl, h1, h2, _⟩ := hI.hh k ps hs p hp
        exact ⟨l, hl, h1, h2⟩
      have := R_setHeld m s hR hI.inv false ps (ps.map Prod.snd) hps (fun a => Iff.rfl)
        (m.holds.set k none) (s.holds.set k none) (by rw [hR.holds, List.map_set]; rfl)
      exact this

/-- correspondence of the results of `lookupName` -/
def NLo : Option (Option Node) → Option (Option Lock) → Prop
  | none, none => True
  | some x, some y => NL x y
  | _, _ => False

theorem lookupName_rel (m : MemLS) (s : Spec) (hR : R m s) (h : Inv s) (raw : Bytes)
    (toks : List (Option Nat)) : NLo (m.lookupName raw toks) (s.lookupName raw toks) := by
  unfold MemLS.lookupName Spec.lookupName
  by_cases hr : raw = []
  · simp [hr, NLo, NL]
  · simp only [hr, if_false]
    rcases NL_cases (lookup_rel m s hR h (slashCleanComps raw) toks) with ⟨hm, hs⟩ | ⟨n, l, hm, hs, hnl⟩
    · rw [hm, hs]; trivial
    · rw [hm, hs]; exact hnl

theorem NLo_cases {X : Option (Option Node)} {L : Option (Option Lock)} (h : NLo X L) :
    (X = none ∧ L = none) ∨ ∃ x l, X = some x ∧ L = some l ∧ NL x l := by
  cases X <;> cases L <;> simp_all [NLo]

theorem NL_name {x : Option Node} {l : Option Lock} (h : NL x l) : x.map (·.name) = l.map (·.root) := by
  cases x <;> cases l <;> simp_all [NL]

theorem NL_names {x : Option Node} {l : Option Lock} (h : NL x l) :
    x.toList.map (·.name) = (l.toList.map fun l => (l.token, l.root)).map (·.2) := by
  rw [List.map_map, ← Option.toList_map, ← Option.toList_map, NL_name h]; rfl

theorem R_confirmCore (m : MemLS) (s : Spec) (hR : R m s) (h : Inv s) (n0 n1 : Bytes)
    (toks : List (Option Nat)) :
    R (m.confirmCore n0 n1 toks).1 (s.confirmCore n0 n1 toks).1 ∧
    (m.confirmCore n0 n1 toks).2 = (s.confirmCore n0 n1 toks).2 := by
  unfold MemLS.confirmCore Spec.confirmCore
  rcases NLo_cases (lookupName_rel m s hR h n0 toks) with ⟨hm0, hs0⟩ | ⟨x0, l0, hm0, hs0, hr0⟩
  · rw [hm0, hs0]; exact ⟨hR, rfl⟩
  rcases NLo_cases (lookupName_rel m s hR h n1 toks) with ⟨hm1, hs1⟩ | ⟨x1, l1, hm1, hs1, hr1⟩
  · rw [hm0, hs0, hm1, hs1]; exact ⟨hR, rfl⟩
  rw [hm0, hs0, hm1, hs1]
  refine ⟨?_, by simp only [hR.holds, List.length_map]⟩
  -- `memLS.Confirm` compares the two nodes, the specification the two tokens
  have hcond : (x1.map (·.name) = x0.map (·.name)) ↔ (l1.map (·.token) = l0.map (·.token)) := by
    rw [NL_name hr0, NL_name hr1]
    cases l0 <;> cases l1 <;> simp
    exact (token_eq_iff_root_eq h (lookupName_sound hs1).1 (lookupName_sound hs0).1).symm
  have hr1' : NL (if x1.map (·.name) = x0.map (·.name) then none else x1)
      (if l1.map (·.token) = l0.map (·.token) then none else l1) := by
    by_cases hc : x1.map (·.name) = x0.map (·.name)
    · rw [if_pos hc, if_pos (hcond.1 hc)]; trivial
    · rw [if_neg hc, if_neg fun e => hc (hcond.2 e)]; exact hr1
  have hfold : ∀ (ns : List Node) (bn : List Node),
      ns.foldl (fun bn n => holdNode bn n.name) bn =
        (ns.map (·.name)).foldl (fun bn a => updNode bn a (gHeld true)) bn := by
    intro ns bn
    rw [List.foldl_map]
    rfl
  simp only
  rw [hfold]
  refine R_setHeld m s hR h true _ _ ?_ ?_ _ _ ?_
  · intro p hp
    obtain ⟨l, hl, rfl⟩ := List.mem_map.1 hp
    rcases heldPair_mem (fun x : Lock => x.token) l0 l1 l hl with rfl | rfl
    · exact ⟨l, (lookupName_sound hs0).1, rfl, rfl⟩
    · exact ⟨l, (lookupName_sound hs1).1, rfl, rfl⟩
  · intro a
    simp only [List.map_append, List.mem_append, NL_names hr0, NL_names hr1']
    exact Or.comm
  · simp only [hR.holds, List.map_append, NL_names hr0, NL_names hr1', List.map_cons, List.map_nil,
      Option.map_some]

/-- What a step preserves: `R_release` needs `HoldHeld`, to find the locks that the entries of a hold name. -/
structure RI (m : MemLS) (s : Spec) : Prop where
  r : R m s
  hi : HInv s

theorem RI_step (m : MemLS) (s : Spec) (hRI : RI m s) (op : Op) :
    RI (m.step op).1 (s.step op).1 ∧ (m.step op).2 = (s.step op).2 := by
  obtain ⟨hR, hI⟩ := hRI
  have hc := fun now => R_collect m s hR hI.inv now
  have hic := fun now => inv_collect s now hI.inv
  suffices h : R (m.step op).1 (s.step op).1 ∧ (m.step op).2 = (s.step op).2 from
    ⟨⟨h.1, hinv_step s op hI⟩, h.2⟩
  cases op with
  | create now root zd dur => exact R_createCore _ _ (hc now) (hic now) now _ zd dur
  | refresh now tok dur => exact R_refreshCore _ _ (hc now) (hic now) now tok dur
  | unlock now tok => exact R_unlockCore _ _ (hc now) (hic now) tok
  | confirm now n0 n1 toks => exact R_confirmCore _ _ (hc now) (hic now) n0 n1 toks
  | release k => exact R_release m s hR hI k

theorem RI_run (m : MemLS) (s : Spec) (hRI : RI m s) (ops : List Op) :
    RI (m.run ops).1 (s.run ops).1 ∧ (m.run ops).2 = (s.run ops).2 := by
  induction ops generalizing m s with
  | nil => exact ⟨hRI, rfl⟩
  | cons op ops ih =>
    simp only [MemLS.run, Spec.run]
    obtain ⟨h1, h2⟩ := RI_step m s hRI op
    obtain ⟨h3, h4⟩ := ih _ _ h1
    exact ⟨h3, by rw [h2, h4]⟩

/-- The refinement clause of C43: on every history (any ops, any clock values) the implementation model answers
as `Spec` does, so every clause proved for `Spec` holds of its results. -/
theorem memLS_refines_spec (ops : List Op) :
    (MemLS.init.run ops).2 = (Spec.init.run ops).2 :=
  (RI_run _ _ ⟨R_init, hinv_init⟩ ops).2

theorem reachable_RI (ops : List Op) : RI (MemLS.init.run ops).1 (Spec.init.run ops).1 :=
  (RI_run _ _ ⟨R_init, hinv_init⟩ ops).1

theorem impl_tokens_unique (ops : List Op) : (createdToks (MemLS.init.run ops).2).Nodup := by
  rw [memLS_refines_spec]; exact tokens_unique ops

/-- Clause 2 on the implementation model; the locks are those of the specification state after the same history. -/
theorem impl_create_succeeds_iff (ops : List Op) (now : Int) (raw : Bytes) (zd : Bool) (dur : Int) :
    ((MemLS.init.run ops).1.create now raw zd dur).2 = .created (Spec.init.run ops).1.gen ↔
      ∀ l ∈ (Spec.init.run ops).1.locks, l.expired now = false →
        l.conflicts (slashCleanComps raw) zd = false := by
  have := (RI_step _ _ (reachable_RI ops) (.create now raw zd dur)).2
  simp only [MemLS.step, Spec.step] at this
  rw [this]
  exact create_succeeds_iff _ now raw zd dur

/-- Clauses 4 and 3 on the implementation model, for Refresh and Unlock (Confirm is not stated here); `l` is a
lock of the specification state after the same history. -/
theorem impl_held_and_expired (ops : List Op) (l : Lock) (hl : l ∈ (Spec.init.run ops).1.locks)
    (now dur : Int) :
    (l.held = true →
      ((MemLS.init.run ops).1.refresh now (some l.token) dur).2 = .errLocked ∧
      ((MemLS.init.run ops).1.unlock now (some l.token)).2 = .errLocked) ∧
    (l.expired now = true →
      ((MemLS.init.run ops).1.refresh now (some l.token) dur).2 = .errNoSuchLock ∧
      ((MemLS.init.run ops).1.unlock now (some l.token)).2 = .errNoSuchLock) := by
  have hri := reachable_RI ops
  have h1 := (RI_step _ _ hri (.refresh now (some l.token) dur)).2
  have h2 := (RI_step _ _ hri (.unlock now (some l.token))).2
  simp only [MemLS.step, Spec.step] at h1 h2
  rw [h1, h2]
  constructor
  · intro hh
    rw [held_refresh _ hri.hi.inv l hl hh, held_unlock _ hri.hi.inv l hl hh]
    exact ⟨rfl, rfl⟩
  · intro he
    exact ⟨expired_refresh _ hri.hi.inv l hl now dur he, expired_unlock _ hri.hi.inv l hl now he⟩

/-- "/a" infinite for 10 s; "/a/b" conflicts at t=1 and is free again at t=10 (expiry reached). -/
example : (Spec.init.run [.create 0 [47,97] false 10, .create 1 [47,97,47,98] true (-1),
    .create 10 [47,97,47,98] true (-1)]).2 = [.created 0, .errLocked, .created 1] := by decide +kernel
example : (MemLS.init.run [.create 0 [47,97] false 10, .create 1 [47,97,47,98] true (-1),
    .create 10 [47,97,47,98] true (-1)]).2 = [.created 0, .errLocked, .created 1] := by decide +kernel
/-- a confirmed lock rejects Refresh/Unlock/Confirm, survives its expiry while held, and is
collected after release. -/
example : (MemLS.init.run [.create 0 [47,97] true 5, .confirm 1 [47,97] [] [some 0],
    .refresh 2 (some 0) 9, .unlock 2 (some 0), .confirm 2 [47,97] [] [some 0],
    .create 7 [47,97] true 5, .release 0, .create 7 [47,97] true 5]).2 =
    [.created 0, .confirmed 0, .errLocked, .errLocked, .errConfirmationFailed, .errLocked, .ok,
     .created 1] := by decide +kernel

end NetVerif.Proofs.C43
