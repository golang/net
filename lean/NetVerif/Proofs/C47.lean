import NetVerif.Model.DavProps
import NetVerif.Gen.C47
/-!
C47 — WebDAV dead properties round-trip through PROPPATCH and PROPFIND.
Theorems on the model of memFSNode.Patch/DeadProps and prop.go's patch/props logic.
The XML layer is tied by the HTTP-level differential run, not proved.
-/
namespace NetVerif.Proofs.C47
open NetVerif.Model.DavProps

theorem lookup_append (n : PName) (a b : Dead) :
    lookup n (a ++ b) = match lookup n a with | some v => some v | none => lookup n b := by
  induction a with
  | nil => simp [lookup]
  | cons e a ih =>
    obtain ⟨m, v⟩ := e
    by_cases h : m = n <;> simp [lookup, h, ih]

theorem lookup_erase (n m : PName) (d : Dead) :
    lookup m (erase n d) = if n = m then none else lookup m d := by
  induction d with
  | nil => simp [erase, lookup]
  | cons e d ih =>
    obtain ⟨k, v⟩ := e
    by_cases hk : k = n
    · subst hk
      rw [erase, if_pos rfl, ih]
      by_cases hm : k = m <;> simp [lookup, hm]
    · by_cases hm : k = m
      · subst hm; simp [erase, hk, lookup, Ne.symm hk]
      · simp [erase, hk, lookup, hm, ih]

theorem lookup_erase_self (n : PName) (d : Dead) : lookup n (erase n d) = none := by
  rw [lookup_erase, if_pos rfl]

theorem lookup_erase_ne (n m : PName) (d : Dead) (h : m ≠ n) : lookup m (erase n d) = lookup m d := by
  rw [lookup_erase, if_neg (Ne.symm h)]

theorem lookup_put (n m : PName) (v : String) (d : Dead) :
    lookup m (put n v d) = if n = m then some v else lookup m d := by
  simp only [put, lookup_append, lookup_erase, lookup]
  by_cases h : n = m
  · simp [h]
  · simp only [h, if_false]
    cases lookup m d <;> rfl

theorem lookup_put_self (n : PName) (v : String) (d : Dead) : lookup n (put n v d) = some v := by
  rw [lookup_put, if_pos rfl]

theorem lookup_put_ne (n m : PName) (v : String) (d : Dead) (h : m ≠ n) :
    lookup m (put n v d) = lookup m d := by
  rw [lookup_put, if_neg (Ne.symm h)]

theorem lookup_applyOp (n : PName) (d : Dead) (op : POp) :
    lookup n (applyOp d op) =
      if op.2.1 = n then (if op.1 then none else some op.2.2) else lookup n d := by
  obtain ⟨rm, m, v⟩ := op
  cases rm <;> simp [applyOp, lookup_erase, lookup_put]

/-- What the sequence of patch properties leaves for `n`: decided by the LAST property naming `n`. -/
def lastWrite (n : PName) : List POp → Option (Option String)
  | [] => none
  | op :: ops =>
    match lastWrite n ops with
    | some r => some r
    | none => if op.2.1 = n then some (if op.1 then none else some op.2.2) else none

/-- C47, last write wins, over any number of PROPPATCH requests in any grouping. -/
theorem lookup_foldl_applyOp (n : PName) (ops : List POp) (d : Dead) :
    lookup n (ops.foldl applyOp d) =
      match lastWrite n ops with
      | some r => r
      | none => lookup n d := by
  induction ops generalizing d with
  | nil => simp [lastWrite]
  | cons op ops ih =>
    simp only [List.foldl_cons, ih, lastWrite]
    cases hlw : lastWrite n ops with
    | some r => simp
    | none =>
      simp only [lookup_applyOp]
      by_cases h : op.2.1 = n <;> simp [h]

theorem flatten_single (rm : Bool) (n : PName) (v : String) :
    flatten [{ remove := rm, props := [(n, v)] }] = [(rm, n, v)] := by
  simp [flatten]

/-- C47, set then find: the PROPPATCH answers one 200 propstat; the PROPFIND is `props_after_set`. -/
theorem patch_set_then_lookup (live : List LiveRow) (d : Dead) (n : PName) (v : String)
    (hn : isLive live n = false) :
    patch live d [{ remove := false, props := [(n, v)] }] = ([(200, [n])], put n v d) ∧
    lookup n (put n v d) = some v := by
  refine ⟨?_, lookup_put_self n v d⟩
  simp [patch, flatten_single, hn, patchNode, applyOp]

theorem props_after_set (live : List LiveRow) (d : Dead) (isDir : Bool) (n : PName) (v : String) :
    props live (put n v d) isDir [n] = [(200, [(n, some v)])] := by
  simp [props, lookup_put_self, makePropstats]

/-- C47, remove deletes: PROPFIND then reports 404 for the name. -/
theorem patch_remove_then_props (live : List LiveRow) (d : Dead) (isDir : Bool) (n : PName) (v : String)
    (hn : isLive live n = false) :
    patch live d [{ remove := true, props := [(n, v)] }] = ([(200, [n])], erase n d) ∧
    props live (erase n d) isDir [n] = [(404, [(n, none)])] := by
  have hf : liveFindable live isDir n = false := by
    rw [← Bool.not_eq_true, liveFindable, List.any_eq_true]
    intro ⟨r, hr, h⟩
    rw [isLive, List.any_eq_false] at hn
    simp only [decide_eq_true_eq] at h hn
    exact hn r hr ⟨h.1, h.2.1⟩
  constructor
  · simp [patch, flatten_single, hn, patchNode, applyOp]
  · simp [props, lookup_erase_self, hf, makePropstats]

theorem mem_makePropstats {α : Type} (x y : Nat × List α) (hx : x.2 ≠ []) :
    ∀ s ∈ makePropstats x y, s = x ∨ s = y := by
  intro s hs
  have hx' : x.2.isEmpty = false := by
    cases h : x.2 with
    | nil => exact absurd h hx
    | cons _ _ => rfl
  unfold makePropstats at hs
  by_cases hy : y.2.isEmpty <;> simp [hx', hy] at hs
  · exact Or.inl hs
  · exact hs

/-- C47, live names are refused: one live name in the request and nothing is modified, and no propstat says 200. -/
theorem patch_live_refused (live : List LiveRow) (d : Dead) (ps : List Patch)
    (h : ((flatten ps).map (fun o => o.2.1)).any (isLive live) = true) :
    (patch live d ps).2 = d ∧ ∀ s ∈ (patch live d ps).1, s.1 ≠ 200 := by
  simp only [patch, h, ↓reduceIte, true_and]
  intro s hs
  have hne : ((flatten ps).map (fun o => o.2.1)).filter (isLive live) ≠ [] := by
    intro he
    obtain ⟨x, hx, hl⟩ := List.any_eq_true.1 h
    exact List.filter_eq_nil_iff.1 he x hx hl
  rcases mem_makePropstats _ _ hne s hs with rfl | rfl <;> exact fun e => nomatch e

/-- With `lookup_foldl_applyOp`: the value of every name after any request without protected names. -/
theorem patch_applies (live : List LiveRow) (d : Dead) (ps : List Patch)
    (h : ((flatten ps).map (fun o => o.2.1)).any (isLive live) = false) :
    patch live d ps = ([(200, (flatten ps).map (fun o => o.2.1))], (flatten ps).foldl applyOp d) := by
  simp [patch, h, patchNode]

theorem patch_frame (live : List LiveRow) (d : Dead) (ps : List Patch) (n : PName)
    (hn : ∀ o ∈ flatten ps, o.2.1 ≠ n) : lookup n (patch live d ps).2 = lookup n d := by
  unfold patch
  simp only
  split
  · rfl
  · simp only [patchNode, lookup_foldl_applyOp]
    have : lastWrite n (flatten ps) = none := by
      generalize flatten ps = ops at hn
      induction ops with
      | nil => rfl
      | cons o ops ih =>
        have h1 := hn o (by simp)
        have h2 := ih (fun o' ho' => hn o' (by simp [ho']))
        simp [lastWrite, h2, h1]
    rw [this]

/-! Tie to the source: the regenerated whitelist is the RFC 4918 §15 list the proofs are about. -/

theorem gen_liveProps_names :
    Gen.C47.liveProps.map (fun r => (r.1, r.2.1)) =
      [("DAV:", "creationdate"), ("DAV:", "displayname"), ("DAV:", "getcontentlanguage"),
       ("DAV:", "getcontentlength"), ("DAV:", "getcontenttype"), ("DAV:", "getetag"),
       ("DAV:", "getlastmodified"), ("DAV:", "lockdiscovery"), ("DAV:", "resourcetype"),
       ("DAV:", "supportedlock")] ∧ Gen.C47.statusFailedDependency = 424 := ⟨rfl, rfl⟩

/-- every live row is in the `DAV:` namespace, so no property of another namespace is ever refused -/
theorem gen_live_only_dav (n : PName) (h : n.1 ≠ "DAV:") : isLive Gen.C47.liveProps n = false := by
  rw [isLive, List.any_eq_false]
  intro r hr
  have : r.1 = "DAV:" := (show ∀ r ∈ Gen.C47.liveProps, r.1 = "DAV:" by decide) r hr
  simp only [this, decide_eq_true_eq, not_and]
  exact fun e => absurd e.symm h

example : isLive Gen.C47.liveProps ("urn:x", "author") = false := by decide +kernel
example : isLive Gen.C47.liveProps ("DAV:", "getetag") = true := by decide +kernel
example : (patch Gen.C47.liveProps [] [{ remove := false, props := [(("urn:x", "a"), "t61")] },
    { remove := true, props := [(("urn:x", "b"), "-")] }]).2 = [(("urn:x", "a"), "t61")] := by decide +kernel

end NetVerif.Proofs.C47
