import NetVerif.Model.H2Norm
import NetVerif.Proofs.Lemmas.IfCases
/-!
C14 — the documented normalisations of `Model/H2Norm.lean`, request direction.
N1 case mapping of names: `lower_idem`, `canonKey_idem`, `canonKey_lower`, `lower_canonKey_any`;
N2 `clientNorm_keeps_field` and N3 `clientNorm_no_connection_specific`: what the Transport puts on
the wire; N4 `serverView_header_get`, `serverView_keeps_field`: what the server hands to the handler;
N5 `normalize_keeps_field`: the two composed; N6 `normalize_method`, `_uri`, `_host`, `_body`.
String literals (`str "…"`) are evaluated by the kernel (`decide +kernel`), no native code.
-/
namespace NetVerif.Proofs.C14Norm
open NetVerif NetVerif.Model.H2Frame NetVerif.Model.H2Msg NetVerif.Model.H2Norm

def ValidName (k : Str) : Prop := k ≠ [] ∧ ∀ b ∈ k, b < 128 ∧ isTokenByte b = true

def specialReqNames : List Str :=
  connSpecific ++ replacedNames ++ [str "user-agent", str "cookie", str "trailer", str "expect"]

/- The byte lemmas below are each the case split b ∈ 65–90 (upper case), b ∈ 97–122 (lower case),
other; after unfolding, `grind` only does the arithmetic of ± 32. -/
theorem lowerByte_idem (b : Nat) : lowerByte (lowerByte b) = lowerByte b := by
  unfold lowerByte; grind

theorem upperByte_idem (b : Nat) : upperByte (upperByte b) = upperByte b := by
  unfold upperByte; grind

theorem upperByte_lowerByte (b : Nat) : upperByte (lowerByte b) = upperByte b := by
  unfold upperByte lowerByte; grind

theorem lowerByte_upperByte (b : Nat) : lowerByte (upperByte b) = lowerByte b := by
  unfold upperByte lowerByte; grind

/-- '-' (45) is not a letter, so case mapping does not disturb the "after a hyphen" flag. -/
theorem lowerByte_eq_45 (b : Nat) : (lowerByte b == 45) = (b == 45) := by
  unfold lowerByte; grind

theorem upperByte_eq_45 (b : Nat) : (upperByte b == 45) = (b == 45) := by
  unfold upperByte; grind

theorem isTokenByte_letter {b : Nat} (h : 65 ≤ b ∧ b ≤ 90 ∨ 97 ≤ b ∧ b ≤ 122) : isTokenByte b = true := by
  rcases h with h | h <;> simp [isTokenByte, h.1, h.2]

/-- for every natural number, not only b < 128: case mapping only moves a letter to the letter of the
other case. -/
theorem tok_lowerByte (b : Nat) :
    (decide (lowerByte b < 128) && isTokenByte (lowerByte b)) = (decide (b < 128) && isTokenByte b) := by
  unfold lowerByte
  split
  · rename_i h
    rw [isTokenByte_letter (.inl h), isTokenByte_letter (.inr (by omega)), decide_eq_true (by omega : b + 32 < 128),
      decide_eq_true (by omega : b < 128)]
  · rfl

theorem tok_upperByte (b : Nat) :
    (decide (upperByte b < 128) && isTokenByte (upperByte b)) = (decide (b < 128) && isTokenByte b) := by
  unfold upperByte
  split
  · rename_i h
    rw [isTokenByte_letter (.inr h), isTokenByte_letter (.inl (by omega)), decide_eq_true (by omega : b - 32 < 128),
      decide_eq_true (by omega : b < 128)]
  · rfl

theorem lower_idem (s : Str) : lower (lower s) = lower s := by
  unfold lower; simp [List.map_map, Function.comp_def, lowerByte_idem]

theorem canonLoop_idem (up : Bool) (s : Str) : canonLoop up (canonLoop up s) = canonLoop up s := by
  induction s generalizing up with
  | nil => simp [canonLoop]
  | cons c cs ih =>
    cases up <;> simp [canonLoop, lowerByte_idem, upperByte_idem, ih]

theorem canonLoop_lower (up : Bool) (s : Str) : canonLoop up (lower s) = canonLoop up s := by
  induction s generalizing up with
  | nil => simp [lower, canonLoop]
  | cons c cs ih =>
    unfold lower at ih ⊢
    cases up <;> simp [canonLoop, lowerByte_idem, upperByte_lowerByte, ih]

theorem lower_canonLoop (up : Bool) (s : Str) : lower (canonLoop up s) = lower s := by
  induction s generalizing up with
  | nil => simp [lower, canonLoop]
  | cons c cs ih =>
    unfold lower at ih ⊢
    cases up <;> simp [canonLoop, lowerByte_idem, lowerByte_upperByte, ih]

theorem all_tok_canonLoop (up : Bool) (s : Str) :
    (canonLoop up s).all (fun b => decide (b < 128) && isTokenByte b)
      = s.all (fun b => decide (b < 128) && isTokenByte b) := by
  induction s generalizing up with
  | nil => simp [canonLoop]
  | cons c cs ih =>
    cases up
    · simp only [canonLoop, List.all_cons, ih, Bool.false_eq_true, if_false, tok_lowerByte]
    · simp only [canonLoop, List.all_cons, ih, if_true, tok_upperByte]

theorem all_tok_lower (s : Str) :
    (lower s).all (fun b => decide (b < 128) && isTokenByte b)
      = s.all (fun b => decide (b < 128) && isTokenByte b) := by
  unfold lower
  rw [List.all_map]
  exact congrArg s.all (funext tok_lowerByte)

theorem canonKey_idem (s : Str) : canonKey (canonKey s) = canonKey s := by
  by_cases h : s.all (fun b => decide (b < 128) && isTokenByte b) = true
  · simp only [canonKey, h, ↓reduceIte, all_tok_canonLoop, canonLoop_idem]
  · simp only [canonKey, h, Bool.false_eq_true, if_false]

/-- the server-side canonicalisation undoes the client-side lower-casing, for names made of token
bytes. NOT true for other strings: `canonKey` leaves "A B" alone, so
`canonKey (lower "A B") = "a b" ≠ "A B"`, see `canonKey_lower_needs_valid`. -/
theorem canonKey_lower {k : Str} (h : ValidName k) : canonKey (lower k) = canonKey k := by
  have h : k.all (fun b => decide (b < 128) && isTokenByte b) = true :=
    List.all_eq_true.mpr fun b hb => by simp [(h.2 b hb).1, (h.2 b hb).2]
  unfold canonKey
  rw [all_tok_lower, if_pos h, if_pos h, canonLoop_lower]

theorem canonKey_lower_needs_valid : ∃ k : Str, canonKey (lower k) ≠ canonKey k :=
  ⟨[65, 32, 66], by decide +kernel⟩

/-- holds for every byte string (an invalid name is left alone by `canonKey`). -/
theorem lower_canonKey_any (k : Str) : lower (canonKey k) = lower k := by
  unfold canonKey
  split
  · exact lower_canonLoop _ _
  · rfl

theorem lower_canonKey {k : Str} (_h : ValidName k) : lower (canonKey k) = lower k :=
  lower_canonKey_any k

theorem not_special {k : Str} (h : lower k ∉ specialReqNames) :
    lower k ∉ connSpecific ∧ lower k ∉ replacedNames ∧ lower k ≠ str "user-agent" ∧
      lower k ≠ str "cookie" ∧ lower k ≠ str "trailer" ∧ lower k ≠ str "expect" := by
  simp only [specialReqNames, List.mem_append, List.mem_cons, List.not_mem_nil, or_false,
    not_or] at h
  exact ⟨h.1.1, h.1.2, h.2.1, h.2.2.1, h.2.2.2.1, h.2.2.2.2⟩

/-- `enumerateHeaders` on an ordinary key. -/
theorem reqHeaderFields_plain (k : Str) (vv : List Str) (h : lower k ∉ specialReqNames)
    (hp : k ≠ str ":protocol") :
    reqHeaderFields k vv = vv.map (fun v => (⟨lower k, v⟩ : Field)) := by
  obtain ⟨h1, h2, h3, h4, _, _⟩ := not_special h
  unfold reqHeaderFields
  simp [h1, h2, h3, h4, hp]

/-- N2: a submitted header field whose name is not special is on the wire. -/
theorem clientNorm_keeps_field (r : Req) (k : Str) (vv : List Str) (hm : (k, vv) ∈ r.header)
    (h : lower k ∉ specialReqNames) (hp : k ≠ str ":protocol") :
    ∀ v ∈ vv, (⟨lower k, v⟩ : Field) ∈ (clientNorm r).headers := by
  intro v hv
  have hf : (⟨lower k, v⟩ : Field) ∈ reqHeaderFields k vv := by
    rw [reqHeaderFields_plain k vv h hp]
    exact List.mem_map.mpr ⟨v, hv, rfl⟩
  show _ ∈ reqFields r
  unfold reqFields
  simp only [List.mem_append, List.mem_flatMap]
  exact Or.inl (Or.inl (Or.inl (Or.inr ⟨(k, vv), hm, hf⟩)))

/-- the names `reqFields` puts on the wire of its own accord (a finite table, evaluated). -/
theorem ownNames_not_connSpecific :
    ∀ n ∈ [str ":authority", str ":method", str ":path", str ":scheme", str "trailer", str "cookie",
      str "content-length", str "accept-encoding", str "user-agent"], n ∉ connSpecific := by
  decide +kernel

/-- the fields of a submitted key are named `lower k`, which has passed the `connSpecific` test,
or `cookie`. -/
theorem reqHeaderFields_no_connSpecific (k : Str) (vv : List Str) :
    ∀ f ∈ reqHeaderFields k vv, f.name ∉ connSpecific := by
  unfold reqHeaderFields
  dsimp only
  have ite := @Lemmas.ite_ind _ (fun l : List Field => ∀ f ∈ l, f.name ∉ connSpecific)
  refine ite (fun _ => List.forall_mem_nil _) fun _ => ite (fun _ => List.forall_mem_nil _) fun hc => ?_
  have hc : lower k ∉ connSpecific := by simpa using hc
  refine ite (fun _ => ?_) fun _ => ite (fun _ => ?_) fun _ =>
    ite (fun _ => List.forall_mem_nil _) fun _ => List.forall_mem_map.mpr fun _ _ => hc
  · cases vv with
    | nil => exact List.forall_mem_nil _
    | cons v _ => exact ite (fun _ => List.forall_mem_nil _) fun _ => List.forall_mem_singleton.mpr hc
  · exact List.forall_mem_map.mpr fun _ _ => ownNames_not_connSpecific _ (by simp)

/-- N3: no field of the request header block has a connection-specific name (`connection`,
`proxy-connection`, `transfer-encoding`, `upgrade`, `keep-alive`). -/
theorem clientNorm_no_connection_specific (r : Req) :
    ∀ f ∈ (clientNorm r).headers, f.name ∉ connSpecific := by
  intro f hf
  change f ∈ reqFields r at hf
  unfold reqFields at hf
  simp only [List.mem_append, List.mem_cons, List.not_mem_nil, or_false, List.mem_flatMap,
    List.mem_ite_nil_left, List.mem_ite_nil_right] at hf
  rcases hf with ((((hf | ⟨_, rfl⟩) | ⟨e, _, he⟩) | ⟨_, rfl⟩) | ⟨_, rfl⟩) | ⟨_, rfl⟩
  · rcases hf with rfl | rfl | rfl | rfl <;> exact ownNames_not_connSpecific _ (by simp)
  · exact ownNames_not_connSpecific _ (by simp)
  · exact reqHeaderFields_no_connSpecific e.1 e.2 f he
  · exact ownNames_not_connSpecific _ (by simp)
  · exact ownNames_not_connSpecific _ (by simp)
  · exact ownNames_not_connSpecific _ (by simp)

theorem has_eq_find (h : HMap) (k : Str) : h.has k = (h.find? (fun e => e.1 == k)).isSome :=
  Bool.eq_iff_iff.mpr (List.any_eq_true.trans List.find?_isSome.symm)

theorem find_key_map (h : HMap) (k : Str) (g : Str × List Str → Str × List Str)
    (hg : ∀ e, (g e).1 = e.1) :
    (h.map g).find? (fun e => e.1 == k) = (h.find? (fun e => e.1 == k)).map g := by
  induction h with
  | nil => rfl
  | cons e es ih =>
    simp only [List.map_cons, List.find?_cons, hg]
    split
    · rfl
    · exact ih

/-- `Header.Add` and `Header.Set` have one shape: rewrite the values of `k` in place by `g`, or
append the entry `(k, g [])`. Under `key` one then finds `g` of the old values if `key = k`, and
the old values otherwise. -/
theorem get_upsert (h : HMap) (k key : Str) (g : List Str → List Str) :
    HMap.get (if h.has k then h.map (fun e => if e.1 == k then (e.1, g e.2) else e)
      else h ++ [(k, g [])]) key = if k = key then g (h.get key) else h.get key := by
  unfold HMap.get
  rw [has_eq_find]
  cases hf : h.find? (fun e => e.1 == k) with
  | none =>
    rw [Option.isSome_none, if_neg Bool.false_ne_true, List.find?_append]
    by_cases hk : k = key
    · subst hk; simp [hf]
    · cases h.find? (fun e => e.1 == key) <;> simp [hk]
  | some e =>
    have he : e.1 = k := by simpa using List.find?_some hf
    rw [Option.isSome_some, if_pos rfl, find_key_map h key _ (fun e => by split <;> rfl)]
    by_cases hk : k = key
    · subst hk; simp [hf, he]
    · cases hf' : h.find? (fun e => e.1 == key) with
      | none => simp [hk]
      | some e' =>
        have he' : e'.1 = key := by simpa using List.find?_some hf'
        simp [hk, he', Ne.symm hk]

theorem get_add (h : HMap) (k v key : Str) :
    (h.add k v).get key = if k = key then h.get key ++ [v] else h.get key :=
  get_upsert h k key (· ++ [v])

theorem get_set (h : HMap) (k key : Str) (vv : List Str) :
    (h.set k vv).get key = if k = key then vv else h.get key :=
  get_upsert h k key (fun _ => vv)

theorem get_del (h : HMap) (k key : Str) : (h.del k).get key = if k = key then [] else h.get key := by
  unfold HMap.del HMap.get
  rw [List.find?_filter]
  by_cases hk : k = key
  · subst hk
    rw [if_pos rfl, List.find?_eq_none.mpr fun a _ => by cases a.1 == k <;> decide]
  · have : ∀ a : Str × List Str,
        decide ((!(a.1 == k)) = true ∧ (a.1 == key) = true) = (a.1 == key) := fun a => by
      by_cases h : a.1 = key <;> simp [h, Ne.symm hk]
    simp only [if_neg hk, this]

theorem foldl_add_get (fs : List Field) (h : HMap) (key : Str) :
    (fs.foldl (fun h f => h.add (canonKey f.name) f.value) h).get key
      = h.get key ++ (fs.filter (fun f => canonKey f.name == key)).map (·.value) := by
  induction fs generalizing h with
  | nil => simp
  | cons f fs ih =>
    rw [List.foldl_cons, ih, get_add, List.filter_cons]
    by_cases hk : canonKey f.name = key <;> simp [hk]

theorem fieldsToMap_get (fs : List Field) (key : Str) :
    (fieldsToMap fs).get key = (fs.filter (fun f => canonKey f.name == key)).map (·.value) :=
  foldl_add_get fs [] key

/-- N4 (with order): the values the handler sees under `key` are exactly the values of the regular
wire fields whose canonicalised name is `key`, in wire order — for every key other than `Cookie`
(crumbs are re-joined) and `Trailer` (removed). -/
theorem serverView_header_get (m : Msg) (e : Bool) (key : Str)
    (hc : key ≠ str "Cookie") (ht : key ≠ str "Trailer") :
    (serverView m e).header.get key
      = ((regularFields m.headers).filter (fun f => canonKey f.name == key)).map (·.value) := by
  unfold serverView
  simp only
  rw [get_del, if_neg (Ne.symm ht)]
  split
  · rw [get_set, if_neg (Ne.symm hc), fieldsToMap_get]
  · rw [fieldsToMap_get]

/-- N4: every regular (non-pseudo-prefix) field other than the `Cookie` and `Trailer` ones reaches the
handler under its canonical key. -/
theorem serverView_keeps_field (m : Msg) (e : Bool) (f : Field)
    (hf : f ∈ regularFields m.headers)
    (hc : canonKey f.name ≠ str "Cookie") (ht : canonKey f.name ≠ str "Trailer") :
    f.value ∈ (serverView m e).header.get (canonKey f.name) := by
  rw [serverView_header_get m e _ hc ht]
  exact List.mem_map.mpr ⟨f, List.mem_filter.mpr ⟨hf, by simp⟩, rfl⟩

theorem serverView_no_trailer_header (m : Msg) (e : Bool) :
    (serverView m e).header.get (str "Trailer") = [] := by
  unfold serverView
  simp only
  rw [get_del, if_pos rfl]

theorem mem_dropWhile_of_not {α : Type} (p : α → Bool) (l : List α) (x : α) (hx : x ∈ l)
    (hp : p x = false) : x ∈ l.dropWhile p := by
  induction l with
  | nil => cases hx
  | cons a as ih =>
    rw [List.dropWhile_cons]
    split
    · rcases List.mem_cons.mp hx with rfl | h
      · simp_all
      · exact ih h
    · exact hx

theorem valid_no_colon {k : Str} (hv : ValidName k) : 58 ∉ k :=
  fun h => absurd (hv.2 58 h).2 (by decide)

/-- ':' (58) is not a token byte, so a valid name (lower-cased or not) is not a pseudo-header name. -/
theorem not_pseudo_of_valid {k : Str} (hv : ValidName k) (v : Str) :
    Field.isPseudo ⟨lower k, v⟩ = false := by
  have hc := valid_no_colon hv
  cases k with
  | nil => exact absurd rfl hv.1
  | cons b bs =>
    have h58 : lowerByte b ≠ 58 := by
      intro h
      apply hc
      unfold lowerByte at h
      split at h
      · omega
      · exact h ▸ List.mem_cons_self ..
    unfold Field.isPseudo lower
    simp only [List.map_cons]
    split
    · rename_i heq
      injection heq with h1 _
      exact absurd h1 h58
    · rfl

theorem valid_ne_protocol {k : Str} (hv : ValidName k) : k ≠ str ":protocol" :=
  fun h => valid_no_colon hv (by rw [h]; decide +kernel)

theorem canonKey_ne_of_lower_ne (k lit Lit : Str) (hl : lower Lit = lit) (h : lower k ≠ lit) :
    canonKey k ≠ Lit := by
  intro he
  apply h
  rw [← lower_canonKey_any k, he, hl]

/-- N5 (headline): a submitted header field with a valid name that is not specially treated reaches the
handler, under the canonical key, with every one of its values. `ValidName k`: the Transport refuses
other names (`validateHeaders`; the model does not model that refusal). `k ≠ ":protocol"` follows from
`ValidName k`. -/
theorem normalize_keeps_field (r : Req) (k : Str) (vv : List Str) (hm : (k, vv) ∈ r.header)
    (hv : ValidName k) (h : lower k ∉ specialReqNames) (_hp : k ≠ str ":protocol") :
    ∀ v ∈ vv, v ∈ (normalize r).header.get (canonKey k) := by
  intro v hvv
  obtain ⟨_, _, _, h4, h5, _⟩ := not_special h
  rw [normalize, serverView_header_get _ _ _
    (canonKey_ne_of_lower_ne k _ _ (by decide +kernel) h4)
    (canonKey_ne_of_lower_ne k _ _ (by decide +kernel) h5)]
  refine List.mem_map.mpr ⟨⟨lower k, v⟩, List.mem_filter.mpr ⟨mem_dropWhile_of_not _ _ _
    (clientNorm_keeps_field r k vv hm h (valid_ne_protocol hv) v hvv) (not_pseudo_of_valid hv v), ?_⟩, rfl⟩
  rw [canonKey_lower hv]
  exact beq_self_eq_true _

theorem pseudoValue_cons_eq (n v : Str) (t : List Field) : pseudoValue (⟨58 :: n, v⟩ :: t) n = v := by
  simp [pseudoValue, pseudoFields, Field.isPseudo]

theorem pseudoValue_cons_ne {n n' : Str} (h : n' ≠ n) (v : Str) (t : List Field) :
    pseudoValue (⟨58 :: n', v⟩ :: t) n = pseudoValue t n := by
  simp [pseudoValue, pseudoFields, Field.isPseudo, h]

theorem pseudoNames :
    (str ":authority" = 58 :: str "authority" ∧ str ":method" = 58 :: str "method" ∧
      str ":path" = 58 :: str "path") ∧
    str "authority" ≠ str "method" ∧ str "authority" ≠ str "path" ∧ str "method" ≠ str "path" := by
  decide +kernel

/-- `reqFields` starts with `:authority`, `:method`, `:path`, which is where `PseudoValue` finds
them. -/
theorem pseudoValue_reqFields (r : Req) :
    pseudoValue (reqFields r) (str "authority") = r.authority ∧
    pseudoValue (reqFields r) (str "method") = r.methodOrGet ∧
    pseudoValue (reqFields r) (str "path") = r.path := by
  obtain ⟨⟨ea, em, ep⟩, nam, nap, nmp⟩ := pseudoNames
  unfold reqFields
  simp only [List.append_assoc, List.cons_append, List.nil_append, ea, em, ep]
  exact ⟨pseudoValue_cons_eq .., by rw [pseudoValue_cons_ne nam, pseudoValue_cons_eq],
    by rw [pseudoValue_cons_ne nap, pseudoValue_cons_ne nmp, pseudoValue_cons_eq]⟩

theorem normalize_method (r : Req) : (normalize r).method = r.methodOrGet := by
  simp only [normalize, serverView, clientNorm]
  exact (pseudoValue_reqFields r).2.1

theorem normalize_uri (r : Req) : (normalize r).uri = r.path := by
  simp only [normalize, serverView, clientNorm]
  exact (pseudoValue_reqFields r).2.2

theorem normalize_host (r : Req) (h : r.authority ≠ []) : (normalize r).host = r.authority := by
  simp only [normalize, serverView, clientNorm, (pseudoValue_reqFields r).1]
  rw [if_neg (by simpa using h)]

/-- a request without a body (`actualContentLength(req) == 0`) delivers the empty body. -/
theorem normalize_body (r : Req) : (normalize r).body = if r.hasBody then r.body else [] := rfl

instance (k : Str) : Decidable (ValidName k) := by unfold ValidName; infer_instance

/-- a concrete request: POST with a body, two ordinary keys (one with two values), a `Connection`
header (dropped), a cookie and a declared trailer. -/
def exReq : Req :=
  { method := str "POST", scheme := str "https", host := [], uhost := str "example.com",
    path := str "/a?b=c", contentLength := 3, nilBody := false, body := str "xyz",
    header := [(str "X-Foo-bar", [str "1", str "2"]), (str "Connection", [str "close"]),
               (str "Cookie", [str "a=b; c=d"]), (str "accept", [str "*/*"])],
    trailer := [(str "X-Sum", [str "9"])], gzip := true }

/-- the hypotheses of N1 (`ValidName`), N2 and N5 hold for the key `X-Foo-bar` of `exReq`. -/
theorem exReq_hyps : (str "X-Foo-bar", [str "1", str "2"]) ∈ exReq.header ∧ ValidName (str "X-Foo-bar") ∧
    lower (str "X-Foo-bar") ∉ specialReqNames ∧ str "X-Foo-bar" ≠ str ":protocol" := by
  decide +kernel

example : (str "X-Foo-bar", [str "1", str "2"]) ∈ exReq.header ∧ ValidName (str "X-Foo-bar") ∧
    lower (str "X-Foo-bar") ∉ specialReqNames ∧ str "X-Foo-bar" ≠ str ":protocol" :=
  exReq_hyps

/-- … and the conclusions, instantiated (the key is re-canonicalised to `X-Foo-Bar`). -/
example : canonKey (str "X-Foo-bar") = str "X-Foo-Bar" ∧
    (normalize exReq).header.get (str "X-Foo-Bar") = [str "1", str "2"] ∧
    (normalize exReq).header.get (str "Connection") = [] ∧
    (normalize exReq).header.get (str "Cookie") = [str "a=b; c=d"] ∧
    (normalize exReq).host = str "example.com" ∧ (normalize exReq).method = str "POST" := by
  decide +kernel

example : str "1" ∈ (normalize exReq).header.get (canonKey (str "X-Foo-bar")) :=
  normalize_keeps_field exReq _ _ exReq_hyps.1 exReq_hyps.2.1 exReq_hyps.2.2.1 exReq_hyps.2.2.2 _
    (List.mem_cons_self ..)

/-- the hypotheses of N4 hold for a regular field of the wire message of `exReq`. -/
example : (⟨str "accept", str "*/*"⟩ : Field) ∈ regularFields (clientNorm exReq).headers ∧
    canonKey (str "accept") ≠ str "Cookie" ∧ canonKey (str "accept") ≠ str "Trailer" := by
  decide +kernel

example : exReq.authority ≠ [] := by decide +kernel

/-- `ValidName` cannot be dropped from N5 *in the model*: with an empty `Trailer` map a first
header key starting with ':' (which Go's `validateHeaders` refuses before `EncodeHeaders`; the model
does not model the refusal) lands in the pseudo-header prefix and `regularFields` skips it. -/
theorem normalize_keeps_field_needs_valid :
    ∃ (r : Req) (k : Str) (vv : List Str) (v : Str), (k, vv) ∈ r.header ∧
      lower k ∉ specialReqNames ∧ k ≠ str ":protocol" ∧ v ∈ vv ∧
      v ∉ (normalize r).header.get (canonKey k) :=
  ⟨{ exReq with header := [(str ":foo", [str "1"])], trailer := [] }, str ":foo", [str "1"], str "1",
    by decide +kernel⟩

/-- the exclusion of `Cookie` in N4 is necessary: two crumbs are re-joined into one value. -/
theorem serverView_cookie_joined :
    (serverView ⟨[⟨str "cookie", str "a=b"⟩, ⟨str "cookie", str "c=d"⟩], [], []⟩ true).header.get
      (str "Cookie") = [str "a=b; c=d"] := by
  decide +kernel

end NetVerif.Proofs.C14Norm
