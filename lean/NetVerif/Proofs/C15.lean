import NetVerif.Model.H2Server
import NetVerif.Gen.C15
import NetVerif.Proofs.Lemmas.IfCases
import NetVerif.Proofs.Lemmas.Fold
/-!
C15: the HTTP/2 server obeys stream-state and connection-control rules.
The statement as predicates over event traces and soundness of the trace monitor `Mon`, one
component at a time; then the mechanism models (`Sched`, `Srv`, request classification) respect
the monitor's bounds for all histories.
-/
namespace NetVerif.Proofs.C15
open NetVerif.Model.H2Server
open NetVerif.Model.H2Frame (Field)

def runWith {σ : Type} (step : σ → Ev → Option σ) : σ → List Ev → Option σ
  | s, [] => some s
  | s, e :: rest => match step s e with
    | none => none
    | some s' => runWith step s' rest

theorem runWith_cons {σ : Type} {step : σ → Ev → Option σ} {s s' : σ} {e : Ev} {rest : List Ev}
    (h : runWith step s (e :: rest) = some s') :
    ∃ s1, step s e = some s1 ∧ runWith step s1 rest = some s' := by
  unfold runWith at h
  split at h
  · cases h
  · rename_i s1 hs
    exact ⟨s1, hs, h⟩

theorem runWith_append {σ : Type} (step : σ → Ev → Option σ) (s : σ) (a b : List Ev) :
    runWith step s (a ++ b) = (runWith step s a).bind fun s1 => runWith step s1 b := by
  induction a generalizing s with
  | nil => rfl
  | cons e r ih =>
    simp only [List.cons_append, runWith]
    cases step s e with
    | none => rfl
    | some s1 => exact ih s1

theorem runWith_at {σ : Type} {step : σ → Ev → Option σ} {s s' : σ} {pre post : List Ev} {e : Ev}
    (h : runWith step s (pre ++ e :: post) = some s') :
    ∃ s1 s2, runWith step s pre = some s1 ∧ step s1 e = some s2 ∧ runWith step s2 post = some s' := by
  rw [runWith_append] at h
  cases h1 : runWith step s pre with
  | none => rw [h1] at h; cases h
  | some s1 =>
    rw [h1] at h
    obtain ⟨s2, h2, h3⟩ := runWith_cons (s := s1) h
    exact ⟨s1, s2, rfl, h2, h3⟩

theorem run_components {m m' : Mon} {tr : List Ev} (h : Mon.run m tr = some m') :
    runWith stepA m.a tr = some m'.a ∧ runWith stepB m.b tr = some m'.b ∧
    runWith stepC m.c tr = some m'.c ∧ runWith stepD m.d tr = some m'.d ∧
    runWith stepE m.e tr = some m'.e := by
  induction tr generalizing m with
  | nil =>
    cases h
    exact ⟨rfl, rfl, rfl, rfl, rfl⟩
  | cons ev rest ih =>
    unfold Mon.run at h
    split at h
    · cases h
    · rename_i m1 hm1
      simp only [Mon.step, bind, Option.bind_eq_some_iff, pure, Option.some.injEq] at hm1
      obtain ⟨a, ha, b, hb, c, hc, d, hd, e, he, rfl⟩ := hm1
      simp only [runWith, ha, hb, hc, hd, he]
      exact ih h

/-- Clause 1 of the statement: a HEADERS or DATA frame from the server on stream `sid` is never
preceded by END_STREAM or RST_STREAM from the server, or RST_STREAM from the client, on `sid`. -/
def NoSendAfterClose (tr : List Ev) : Prop :=
  ∀ pre e post sid, tr = pre ++ e :: post → e.srvStreamFrame sid = true →
    ∀ e' ∈ pre, e'.closes sid = false

/-- The state of monitor A is the set of streams closed so far. -/
theorem stepA_mem {cl cl' : List Nat} {e : Ev} (h : stepA cl e = some cl') (x : Nat) :
    x ∈ cl' ↔ x ∈ cl ∨ e.closes x = true := by
  have cons : ∀ s, x ∈ s :: cl ↔ x ∈ cl ∨ (s == x) = true := fun s => by
    rw [List.mem_cons, or_comm, beq_iff_eq, eq_comm]
  cases e with
  | sRst s c => cases h; exact cons s
  | cRst s => cases h; exact cons s
  | sHeaders s es | sData s es =>
    simp only [stepA] at h
    split at h <;> cases h
    cases es
    · simp [Ev.closes]
    · exact cons s
  | _ => cases h; simp [Ev.closes]

theorem stepA_rejects {cl : List Nat} {e : Ev} {sid : Nat}
    (hf : e.srvStreamFrame sid = true) (hm : sid ∈ cl) : stepA cl e = none := by
  cases e <;> simp [Ev.srvStreamFrame] at hf
  all_goals
    subst hf
    simp [stepA, hm]

theorem runA_prefix {cl cl1 : List Nat} {pre : List Ev} (h : runWith stepA cl pre = some cl1) (sid : Nat) :
    sid ∈ cl1 ↔ sid ∈ cl ∨ ∃ e' ∈ pre, e'.closes sid = true := by
  induction pre generalizing cl with
  | nil => cases h; simp
  | cons ev rest ih =>
    obtain ⟨cl2, h1, h2⟩ := runWith_cons h
    simp only [ih h2, stepA_mem h1, List.mem_cons, or_and_right, exists_or, exists_eq_left, or_assoc]

theorem accepted_noSendAfterClose {tr : List Ev} {m : Mon} (h : Mon.run {} tr = some m) :
    NoSendAfterClose tr := by
  intro pre e post sid hs hf e' he'
  subst hs
  obtain ⟨cl1, _, hp, he, _⟩ := runWith_at (run_components h).1
  cases hc : e'.closes sid with
  | false => rfl
  | true =>
    rw [stepA_rejects hf ((runA_prefix hp sid).mpr (.inr ⟨e', he', hc⟩))] at he
    cases he

def nStarts : List Ev → Nat
  | [] => 0
  | .hStart _ :: r => nStarts r + 1
  | _ :: r => nStarts r

def nFinishes : List Ev → Nat
  | [] => 0
  | .hFinish _ :: r => nFinishes r + 1
  | _ :: r => nFinishes r

/-- the SETTINGS_MAX_CONCURRENT_STREAMS value most recently advertised by the server (`a0` before any) -/
def advFrom (a0 : Nat) : List Ev → Nat
  | [] => a0
  | .sSettings (some n) :: r => advFrom n r
  | _ :: r => advFrom a0 r

/-- Clause 2: whenever a handler starts, the handlers already running (started − finished) are
fewer than the advertised limit, and up to that point no more handlers have finished than started
(nothing is said of the stretch after the last start). -/
def HandlerBound (tr : List Ev) : Prop :=
  ∀ pre sid post, tr = pre ++ Ev.hStart sid :: post →
    nStarts pre < advFrom 0 pre + nFinishes pre ∧ nFinishes pre ≤ nStarts pre

theorem runB_prefix {m m1 : MonB} {pre : List Ev} (h : runWith stepB m pre = some m1) :
    m1.running + nFinishes pre = m.running + nStarts pre ∧ m1.adv = advFrom m.adv pre := by
  induction pre generalizing m with
  | nil =>
    cases h
    exact ⟨rfl, rfl⟩
  | cons ev rest ih =>
    obtain ⟨m2, h1, h2⟩ := runWith_cons h
    obtain ⟨i1, i2⟩ := ih h2
    unfold stepB at h1
    split at h1
    · cases h1
      exact ⟨i1, i2⟩
    · split at h1 <;> cases h1
      simp only [nStarts, nFinishes, advFrom] at i1 ⊢
      exact ⟨by omega, i2⟩
    · split at h1 <;> cases h1
      simp only [nStarts, nFinishes, advFrom] at i1 ⊢
      exact ⟨by omega, i2⟩
    · cases h1
      rw [show nFinishes (ev :: rest) = nFinishes rest by simp [nFinishes],
        show nStarts (ev :: rest) = nStarts rest by simp [nStarts],
        show advFrom m.adv (ev :: rest) = advFrom m.adv rest by simp [advFrom]]
      exact ⟨i1, i2⟩

theorem accepted_handlerBound {tr : List Ev} {m : Mon} (h : Mon.run {} tr = some m) :
    HandlerBound tr := by
  intro pre sid post hs
  subst hs
  obtain ⟨m1, _, hp, he, _⟩ := runWith_at (run_components h).2.1
  obtain ⟨k1, k2⟩ := runB_prefix hp
  simp [stepB] at he
  change m1.running + nFinishes pre = 0 + nStarts pre at k1
  change m1.adv = advFrom 0 pre at k2
  omega

def liveFrom (l : Live) (pre : List Ev) : Live := pre.foldl Live.step l

/-- At this point of the trace the server has sent no GOAWAY, has not closed the connection and
the client is reading: the point at which "answered" / "acknowledged" obligations are due. -/
def liveAt (pre : List Ev) : Prop := (liveFrom {} pre).due = true

@[simp] theorem liveFrom_cons (l : Live) (e : Ev) (pre : List Ev) :
    liveFrom l (e :: pre) = liveFrom (l.step e) pre := rfl

theorem live_prefix {σ : Type} {step : σ → Ev → Option σ} (live : σ → Live)
    (hl : ∀ {m m1 : σ} {e : Ev}, step m e = some m1 → live m1 = (live m).step e)
    {m m1 : σ} {pre : List Ev} (h : runWith step m pre = some m1) : live m1 = liveFrom (live m) pre := by
  induction pre generalizing m with
  | nil => cases h; rfl
  | cons ev rest ih =>
    obtain ⟨m2, h1, h2⟩ := runWith_cons h
    rw [ih h2, hl h1, liveFrom_cons]

def pingsOf (d : Nat) : List Ev → Nat
  | [] => 0
  | .cPing x :: r => pingsOf d r + (if x = d then 1 else 0)
  | _ :: r => pingsOf d r

def acksOf (d : Nat) : List Ev → Nat
  | [] => 0
  | .sPingAck x :: r => acksOf d r + (if x = d then 1 else 0)
  | _ :: r => acksOf d r

/-- Clause 3: a PING ACK always answers a not yet answered PING with the same data, and at
every quiescent point of a live connection all PINGs have been answered (so: exactly once). -/
def PingSpec (tr : List Ev) : Prop :=
  (∀ pre post d, tr = pre ++ Ev.sPingAck d :: post → acksOf d pre < pingsOf d pre) ∧
  (∀ pre post, tr = pre ++ Ev.quiesce :: post → liveAt pre → ∀ d, acksOf d pre = pingsOf d pre)

theorem stepC_live {m m1 : MonC} {e : Ev} (h : stepC m e = some m1) : m1.live = m.live.step e := by
  unfold stepC at h
  dsimp only at h
  split at h
  · cases h; rfl
  · split at h <;> cases h
    rfl
  · split at h <;> cases h
    rfl
  · cases h; rfl

theorem count_erase_add (l : List Nat) (d0 d : Nat) (h : d0 ∈ l) :
    List.count d (l.erase d0) + (if d0 = d then 1 else 0) = List.count d l := by
  by_cases hd : d0 = d
  · subst hd
    have hpos : 0 < List.count d0 l := List.count_pos_iff.mpr h
    simp [List.count_erase_self]
    omega
  · simp [hd, List.count_erase_of_ne (Ne.symm hd)]

theorem runC_prefix {m m1 : MonC} {pre : List Ev} (h : runWith stepC m pre = some m1) (d : Nat) :
    m1.outstanding.count d + acksOf d pre = m.outstanding.count d + pingsOf d pre := by
  induction pre generalizing m with
  | nil => cases h; rfl
  | cons ev rest ih =>
    obtain ⟨m2, h1, h2⟩ := runWith_cons h
    have := ih h2
    unfold stepC at h1
    dsimp only at h1
    split at h1
    · cases h1
      simp [acksOf, pingsOf, List.count_append, List.count_singleton] at this ⊢
      rename_i x
      by_cases hxd : x = d <;> simp [hxd] at this ⊢ <;> omega
    · rename_i x
      split at h1 <;> cases h1
      rename_i hx
      simp only [acksOf, pingsOf] at this ⊢
      have := count_erase_add m.outstanding x d (by simpa using hx)
      omega
    · split at h1 <;> cases h1
      exact this
    · cases h1
      rw [show acksOf d (ev :: rest) = acksOf d rest by simp [acksOf],
        show pingsOf d (ev :: rest) = pingsOf d rest by simp [pingsOf]]
      exact this

theorem accepted_pingSpec {tr : List Ev} {m : Mon} (h : Mon.run {} tr = some m) : PingSpec tr := by
  have hc := (run_components h).2.2.1
  constructor
  · intro pre post d hs
    subst hs
    obtain ⟨m1, _, hp, he, _⟩ := runWith_at hc
    have hcount : m1.outstanding.count d + acksOf d pre = 0 + pingsOf d pre := runC_prefix hp d
    simp [stepC] at he
    have : 0 < m1.outstanding.count d := List.count_pos_iff.mpr he.1
    omega
  · intro pre post hs hl d
    subst hs
    obtain ⟨m1, _, hp, he, _⟩ := runWith_at hc
    have hcount : m1.outstanding.count d + acksOf d pre = 0 + pingsOf d pre := runC_prefix hp d
    have hlive : m1.live = liveFrom {} pre := live_prefix MonC.live stepC_live hp
    simp [stepC] at he
    have hdue : (m1.live.step Ev.quiesce).due = true := by rw [hlive]; exact hl
    simp [he.1 hdue] at hcount
    omega

def nSet : List Ev → Nat
  | [] => 0
  | .cSettings 0 :: r => nSet r + 1
  | _ :: r => nSet r

def nAck : List Ev → Nat
  | [] => 0
  | .sSettingsAck :: r => nAck r + 1
  | _ :: r => nAck r

/-- Clause 4: a SETTINGS ACK always acknowledges an earlier, not yet acknowledged SETTINGS frame,
and at every quiescent point of a live connection there are as many SETTINGS ACKs as valid
SETTINGS frames: every SETTINGS frame is acknowledged, one ACK each (RFC 9113 6.5.3). -/
def SettingsFull (tr : List Ev) : Prop :=
  (∀ pre post, tr = pre ++ Ev.sSettingsAck :: post → nAck pre < nSet pre) ∧
  (∀ pre post, tr = pre ++ Ev.quiesce :: post → liveAt pre → nAck pre = nSet pre)

theorem stepD_live {m m1 : MonD} {e : Ev} (h : stepD m e = some m1) : m1.live = m.live.step e := by
  unfold stepD at h
  dsimp only at h
  split at h
  · cases h; rfl
  · split at h <;> cases h
    rfl
  · split at h <;> cases h
    rfl
  · cases h; rfl

theorem runD_prefix {m m1 : MonD} {pre : List Ev} (h : runWith stepD m pre = some m1) :
    m1.nack = m.nack + nAck pre ∧ m1.nset = m.nset + nSet pre := by
  induction pre generalizing m with
  | nil => cases h; exact ⟨rfl, rfl⟩
  | cons ev rest ih =>
    obtain ⟨m2, h1, h2⟩ := runWith_cons h
    have := ih h2
    unfold stepD at h1
    dsimp only at h1
    split at h1
    · cases h1
      simp only [nAck, nSet] at this ⊢
      omega
    · split at h1 <;> cases h1
      simp only [nAck, nSet] at this ⊢
      omega
    · split at h1 <;> cases h1
      exact this
    · cases h1
      rw [show nAck (ev :: rest) = nAck rest by simp [nAck],
        show nSet (ev :: rest) = nSet rest by simp [nSet]]
      exact this

theorem settings_holds {tr : List Ev} {m : Mon} (h : Mon.run {} tr = some m) : SettingsFull tr := by
  have hd := (run_components h).2.2.2.1
  constructor
  · intro pre post hs
    subst hs
    obtain ⟨m1, _, hp, he, _⟩ := runWith_at hd
    have hcount : m1.nack = 0 + nAck pre ∧ m1.nset = 0 + nSet pre := runD_prefix hp
    simp [stepD] at he
    omega
  · intro pre post hs hl
    subst hs
    obtain ⟨m1, _, hp, he, _⟩ := runWith_at hd
    have hcount : m1.nack = 0 + nAck pre ∧ m1.nset = 0 + nSet pre := runD_prefix hp
    have hlive : m1.live = liveFrom {} pre := live_prefix MonD.live stepD_live hp
    simp [stepD] at he
    have hdue : (m1.live.step Ev.quiesce).due = true := by rw [hlive]; exact hl
    have := he.1 hdue
    omega

/-- the trace of the repaired defect `settings-ack-coalesced`: two SETTINGS frames arrive while a
write is blocked and ONE ACK follows (corpus/C15/coalesced.ops is the regression input). -/
def witnessCoalesced : List Ev :=
  [.sSettings (some 1), .blk, .cSettings 0, .cSettings 0, .quiesce, .unblk, .sSettingsAck, .quiesce]

theorem witnessCoalesced_rejected : (Mon.run {} witnessCoalesced).isSome = false := by decide

/-- what the repaired server does on the same input: one ACK per SETTINGS frame -/
def witnessRepaired : List Ev :=
  [.sSettings (some 1), .blk, .cSettings 0, .cSettings 0, .quiesce, .unblk, .sSettingsAck, .sSettingsAck, .quiesce]

theorem witnessRepaired_accepted : (Mon.run {} witnessRepaired).isSome = true := by decide

/-- class of the request on stream `sid`: the first HEADERS the client sent on it -/
def firstReq (sid : Nat) : List Ev → Option ReqClass
  | [] => none
  | .cHeaders s _ cls _ :: r => if s = sid then some cls else firstReq sid r
  | _ :: r => firstReq sid r

/-- Clause 5a: the user handler is only ever started for a stream whose request was received and
is neither malformed nor carries connection-specific fields. -/
def OnlyGoodRequestsReachHandler (tr : List Ev) : Prop :=
  ∀ pre post sid, tr = pre ++ Ev.hStart sid :: post → firstReq sid pre = some ReqClass.ok

theorem firstReq_cons (x : Nat) (e : Ev) (r : List Ev) :
    firstReq x (e :: r) = (firstReq x [e]).or (firstReq x r) := by
  cases e with
  | cHeaders s es c hp => by_cases h : s = x <;> simp [firstReq, h]
  | _ => rfl

theorem stepE_mem {m m2 : MonE} {e : Ev} (h : stepE m e = some m2) (x : Nat) :
    (x ∈ m2.seen ↔ x ∈ m.seen ∨ firstReq x [e] ≠ none) ∧
    (x ∈ m2.noHandler ↔ x ∈ m.noHandler ∨ x ∉ m.seen ∧ ∃ c, firstReq x [e] = some c ∧ c ≠ .ok) := by
  cases e with
  | cHeaders s es c hp =>
    simp only [stepE] at h
    by_cases hs : s ∈ m.seen
    · rw [if_pos (by simpa using hs)] at h
      cases h
      by_cases hx : s = x
      · subst hx
        simp [firstReq, hs]
      · simp [firstReq, hx]
    · rw [if_neg (by simpa using hs)] at h
      by_cases hx : s = x
      · subst hx
        cases c <;> cases h <;> simp [firstReq, hs]
      · have : x ≠ s := fun e => hx e.symm
        cases c <;> cases h <;> simp [firstReq, hx, this]
  | hStart | quiesce =>
    simp only [stepE] at h
    split at h <;> cases h
    simp [firstReq]
  | sRst s c =>
    cases h
    simp only [firstReq]
    split <;> simp
  | _ => cases h; simp [firstReq]

theorem runE_mem {m m1 : MonE} {pre : List Ev} (h : runWith stepE m pre = some m1) (x : Nat) :
    (x ∈ m1.seen ↔ x ∈ m.seen ∨ firstReq x pre ≠ none) ∧
    (x ∈ m1.noHandler ↔ x ∈ m.noHandler ∨ x ∉ m.seen ∧ ∃ c, firstReq x pre = some c ∧ c ≠ .ok) := by
  induction pre generalizing m with
  | nil => cases h; simp [firstReq]
  | cons ev rest ih =>
    obtain ⟨m2, h1, h2⟩ := runWith_cons h
    rw [(ih h2).1, (ih h2).2, (stepE_mem h1 x).1, (stepE_mem h1 x).2, firstReq_cons x ev rest]
    cases firstReq x [ev] <;> simp

theorem accepted_onlyGoodRequestsReachHandler {tr : List Ev} {m : Mon} (h : Mon.run {} tr = some m) :
    OnlyGoodRequestsReachHandler tr := by
  intro pre post sid hs
  subst hs
  obtain ⟨m1, _, hp, he, _⟩ := runWith_at (run_components h).2.2.2.2
  simp [stepE] at he
  have hseen := (runE_mem hp sid).1.mp he.1.1.2
  have hno := mt (runE_mem hp sid).2.mpr he.1.1.1
  cases hf : firstReq sid pre with
  | none => simp [hf] at hseen
  | some c =>
    by_cases hc : c = .ok
    · rw [hc]
    · exact absurd (.inr ⟨List.not_mem_nil, c, hf, hc⟩) hno

/-- Clause 5b: a malformed request (first HEADERS on its stream) is answered with
RST_STREAM(PROTOCOL_ERROR | REFUSED_STREAM) on that stream by every later quiescent point at
which the connection is live. -/
def MalformedGetStreamError (tr : List Ev) : Prop :=
  ∀ p1 sid es cls hp p2 post,
    tr = (p1 ++ Ev.cHeaders sid es cls hp :: p2) ++ Ev.quiesce :: post →
    (cls = ReqClass.mw ∨ cls = ReqClass.mp) → firstReq sid p1 = none →
    liveAt (p1 ++ Ev.cHeaders sid es cls hp :: p2) →
    ∃ code, Ev.sRst sid code ∈ p2 ∧ (code = 1 ∨ code = 7)

theorem liveFrom_quiet (l : Live) (pre : List Ev) (h : l.quiet = true) : (liveFrom l pre).quiet = true := by
  induction pre generalizing l with
  | nil => simpa [liveFrom] using h
  | cons e r ih =>
    rw [liveFrom_cons]
    apply ih
    cases e <;> simp [Live.step, h]

theorem due_not_quiet (l : Live) (pre : List Ev) (h : (liveFrom l pre).due = true) : l.quiet = false := by
  cases hq : l.quiet with
  | false => rfl
  | true =>
    have := liveFrom_quiet l pre hq
    simp [Live.due, this] at h

theorem stepE_owed {m m2 : MonE} {s : Nat} {es hp : Bool} {c : ReqClass}
    (h : stepE m (.cHeaders s es c hp) = some m2) (hs : s ∉ m.seen) (hc : c = .mw ∨ c = .mp)
    (hq : m2.live.quiet = false) : s ∈ m2.due := by
  simp only [stepE] at h
  rw [if_neg (by simpa using hs)] at h
  -- both classes take the branch in which `due` gains `s` unless the connection is quiet
  rcases hc with rfl | rfl <;> cases h <;> exact (if_neg (Bool.eq_false_iff.mp hq) ▸ List.mem_cons_self)

theorem stepE_live {m m2 : MonE} {e : Ev} (h : stepE m e = some m2) : m2.live = m.live.step e := by
  cases e with
  | cHeaders s es c hp =>
    simp only [stepE] at h
    split at h
    · cases h; rfl
    · cases c <;> cases h <;> rfl
  | sRst s c => cases h; split <;> rfl
  | hStart | quiesce =>
    simp only [stepE] at h
    split at h <;> cases h
    rfl
  | _ => cases h; rfl

theorem stepE_due {m m2 : MonE} {e : Ev} (h : stepE m e = some m2) :
    ∀ x ∈ m.due, x ∈ m2.due ∨ (∃ code, e = .sRst x code ∧ (code = 1 ∨ code = 7)) ∨ m2.live.quiet = true := by
  cases e with
  | cHeaders s es c hp =>
    have mono (q : Bool) (x) (hx : x ∈ m.due) : x ∈ if q then m.due else s :: m.due := by split <;> simp [hx]
    simp only [stepE] at h
    split at h
    · cases h
      exact fun x hx => .inl hx
    · cases c with
      | ok | cs => cases h; exact fun x hx => .inl hx
      | mw | mp => cases h; exact fun x hx => .inl (mono _ x hx)
  | sRst s c =>
    cases h
    intro x hx
    by_cases hk : (c = 1 ∨ c = 7) ∧ x = s
    · exact .inr (.inl ⟨c, by rw [hk.2], hk.1⟩)
    · left
      split
      · simp only [List.mem_filter, hx, true_and, bne_iff_ne, ne_eq]
        exact fun e => hk ⟨‹_›, e⟩
      · exact hx
  | sGoaway c => cases h; exact fun x _ => .inr (.inr rfl)
  | sClosed => cases h; exact fun x _ => .inr (.inr rfl)
  | hStart | quiesce =>
    simp only [stepE] at h
    split at h <;> cases h
    exact fun x hx => .inl hx
  | _ => cases h; exact fun x hx => .inl hx

theorem runE_due {m m1 : MonE} {pre : List Ev} (h : runWith stepE m pre = some m1) {x : Nat} (hx : x ∈ m.due) :
    x ∈ m1.due ∨ (∃ code, .sRst x code ∈ pre ∧ (code = 1 ∨ code = 7)) ∨ m1.live.quiet = true := by
  induction pre generalizing m with
  | nil => cases h; exact .inl hx
  | cons ev rest ih =>
    obtain ⟨m2, h1, h2⟩ := runWith_cons h
    rcases stepE_due h1 x hx with hd | ⟨code, rfl, hk⟩ | hq
    · rcases ih h2 hd with hd | ⟨code, hm, hk⟩ | hq
      · exact .inl hd
      · exact .inr (.inl ⟨code, List.mem_cons_of_mem _ hm, hk⟩)
      · exact .inr (.inr hq)
    · exact .inr (.inl ⟨code, List.mem_cons_self, hk⟩)
    · refine .inr (.inr ?_)
      rw [live_prefix MonE.live stepE_live h2]
      exact liveFrom_quiet _ _ hq

theorem accepted_malformedGetStreamError {tr : List Ev} {m : Mon} (h : Mon.run {} tr = some m) :
    MalformedGetStreamError tr := by
  intro p1 sid es cls hp p2 post hs hcls hfr hl
  subst hs
  have live {a b : MonE} {l : List Ev} := @live_prefix _ _ MonE.live stepE_live a b l
  -- `m3` at the quiescent point: live, so nothing is owed
  obtain ⟨m3, _, h3, he, _⟩ := runWith_at (run_components h).2.2.2.2
  have hl3 : m3.live.due = true := by rw [live h3]; exact hl
  simp [stepE, Live.step, hl3] at he
  -- `ma` before the request, `mb` after it
  obtain ⟨ma, mb, h1, hb, h2⟩ := runWith_at h3
  have hq : mb.live.quiet = false := due_not_quiet _ p2 (by rw [← live h2]; exact hl3)
  have hns : sid ∉ ma.seen := fun hm => by simpa [hfr] using (runE_mem h1 sid).1.mp hm
  rcases runE_due h2 (stepE_owed hb hns hcls hq) with hd | hr | hq3
  · simp [he] at hd
  · exact hr
  · simp [Live.due, hq3] at hl3

/-- The literal clause 5 also wants a stream error for requests with connection-specific
fields. -/
def RejectFull (tr : List Ev) : Prop :=
  ∀ p1 sid es cls hp p2 post,
    tr = (p1 ++ Ev.cHeaders sid es cls hp :: p2) ++ Ev.quiesce :: post →
    cls ≠ ReqClass.ok → firstReq sid p1 = none →
    liveAt (p1 ++ Ev.cHeaders sid es cls hp :: p2) →
    ∃ code, Ev.sRst sid code ∈ p2

/-- a request with `connection: close` and END_STREAM, answered 400 by the server itself
(reproduced on the real server: oracle signature `connspecific-answered-400`). -/
def witness400 : List Ev :=
  [.sSettings (some 1), .cHeaders 1 true .cs true, .sHeaders 1 false, .sData 1 true, .quiesce]

theorem witness400_accepted : (Mon.run {} witness400).isSome = true := by decide

theorem reject_full_false : ¬ (∀ tr m, Mon.run {} tr = some m → RejectFull tr) := by
  intro hall
  cases hrun : Mon.run {} witness400 with
  | none => have := witness400_accepted; simp [hrun] at this
  | some m =>
    obtain ⟨c, hc⟩ := hall _ m hrun [.sSettings (some 1)] 1 true .cs true [.sHeaders 1 false, .sData 1 true] [] rfl
      (by decide) (by simp [firstReq]) (by simp [liveAt, liveFrom, List.foldl, Live.step, Live.due])
    simp at hc

/-- Clause 5 as it holds: no handler start for any non-ok request, and a stream error for the
malformed ones; connection-specific requests are excluded from the stream error claim (they are
answered by the server's own 400 handler). -/
theorem reject_partial {tr : List Ev} {m : Mon} (h : Mon.run {} tr = some m) :
    OnlyGoodRequestsReachHandler tr ∧ MalformedGetStreamError tr :=
  ⟨accepted_onlyGoodRequestsReachHandler h, accepted_malformedGetStreamError h⟩

/-- C15, soundness of the monitor: clauses 1–4 in full, 5 in the form the code implements (`reject_partial`). -/
theorem monitor_sound {tr : List Ev} {m : Mon} (h : Mon.run {} tr = some m) :
    NoSendAfterClose tr ∧ HandlerBound tr ∧ PingSpec tr ∧ SettingsFull tr ∧
    OnlyGoodRequestsReachHandler tr ∧ MalformedGetStreamError tr :=
  ⟨accepted_noSendAfterClose h, accepted_handlerBound h, accepted_pingSpec h, settings_holds h,
   accepted_onlyGoodRequestsReachHandler h, accepted_malformedGetStreamError h⟩

theorem doneLoop_spec (adv : Nat) (live : Nat → Bool) :
    ∀ (q : List QEntry) (cur c : Nat) (st left : List QEntry),
      doneLoop adv live cur q = (c, st, left) → cur ≤ adv →
      c ≤ adv ∧ c = cur + st.length ∧ left.length ≤ q.length ∧ (left ≠ [] → c = adv) ∧
      (∀ e ∈ st, live e.sid = true) := by
  intro q
  induction q with
  | nil =>
    intro cur c st left h hle
    simp [doneLoop] at h
    obtain ⟨rfl, rfl, rfl⟩ := h
    simp [hle]
  | cons e rest ih =>
    intro cur c st left h hle
    unfold doneLoop at h
    by_cases hl : live e.sid = true
    · simp [hl] at h
      by_cases hc : cur ≥ adv
      · simp [hc] at h
        obtain ⟨rfl, rfl, rfl⟩ := h
        simp
        omega
      · simp [hc] at h
        cases hr : doneLoop adv live (cur + 1) rest with
        | mk c' r2 =>
          obtain ⟨st', left'⟩ := r2
          simp [hr] at h
          obtain ⟨rfl, rfl, rfl⟩ := h
          obtain ⟨k1, k2, k3, k4, k5⟩ := ih (cur + 1) c' st' left' hr (by omega)
          refine ⟨k1, by simp; omega, by simp; omega, k4, ?_⟩
          intro x hx
          cases hx with
          | head => exact hl
          | tail _ hm => exact k5 x hm
    · simp [hl] at h
      obtain ⟨k1, k2, k3, k4, k5⟩ := ih cur c st left h hle
      exact ⟨k1, k2, by simp; omega, k4, k5⟩

/-- operations on the scheduler: a request is scheduled, or a handler goroutine has returned
(`live` = which streams still exist at that moment; arbitrary). -/
inductive SOp where
  | schedule (e : QEntry)
  | done (live : Nat → Bool)

/-- `handlerDone` runs only when a handler goroutine existed (`curHandlers > 0`). -/
def schedApply (s : Sched) : SOp → Sched
  | .schedule e => (s.schedule e).1
  | .done live => if s.cur = 0 then s else (s.done live).1

/-- The queue bound is `4*adv + 1`, not `4*adv`: `scheduleHandler` tests `len > 4*advMaxStreams`
before it appends. -/
def SchedInv (s : Sched) : Prop :=
  s.cur ≤ s.adv ∧ s.queue.length ≤ unstartedFactor * s.adv + 1 ∧ (s.queue ≠ [] → s.cur = s.adv)

/-- The id in `.hFinish 0` is a placeholder: `Sched.done` is not told which handler returned, and `stepB` ignores it. -/
def schedEvents (s : Sched) : SOp → List Ev
  | .schedule e => match (s.schedule e).2 with
    | .started => [.hStart e.sid]
    | _ => []
  | .done live => if s.cur = 0 then [] else
      .hFinish 0 :: (s.done live).2.map (fun e => Ev.hStart e.sid)

def schedTrace : Sched → List SOp → List Ev
  | _, [] => []
  | s, op :: r => schedEvents s op ++ schedTrace (schedApply s op) r

theorem runB_starts (r adv : Nat) (l : List QEntry) (h : r + l.length ≤ adv) :
    runWith stepB ⟨r, adv⟩ (l.map (fun e => Ev.hStart e.sid)) = some ⟨r + l.length, adv⟩ := by
  induction l generalizing r with
  | nil => simp [runWith]
  | cons e t ih =>
    simp at h
    have hlt : r < adv := by omega
    simp [runWith, stepB, hlt]
    rw [ih (r + 1) (by omega)]
    simp
    omega

theorem sched_step (s : Sched) (op : SOp) (h : SchedInv s) :
    SchedInv (schedApply s op) ∧ (schedApply s op).adv = s.adv ∧
    runWith stepB ⟨s.cur, s.adv⟩ (schedEvents s op) = some ⟨(schedApply s op).cur, s.adv⟩ := by
  obtain ⟨h1, h2, h3⟩ := h
  cases op with
  | schedule e =>
    simp only [schedApply, schedEvents, Sched.schedule]
    by_cases hc : s.cur < s.adv
    · rw [if_pos hc]
      exact ⟨⟨hc, h2, fun hq => by have := h3 hq; omega⟩, rfl, by simp [runWith, stepB, hc]⟩
    · rw [if_neg hc]
      by_cases hq : s.queue.length > unstartedFactor * s.adv
      · rw [if_pos hq]
        exact ⟨⟨h1, h2, h3⟩, rfl, rfl⟩
      · rw [if_neg hq]
        refine ⟨⟨h1, ?_, fun _ => Nat.le_antisymm h1 (Nat.le_of_not_lt hc)⟩, rfl, rfl⟩
        show (s.queue ++ [e]).length ≤ unstartedFactor * s.adv + 1
        rw [List.length_append, List.length_singleton]
        omega
  | done live =>
    simp only [schedApply, schedEvents]
    by_cases hz : s.cur = 0
    · rw [if_pos hz, if_pos hz]
      exact ⟨⟨h1, h2, h3⟩, rfl, rfl⟩
    · rw [if_neg hz, if_neg hz]
      simp only [Sched.done]
      cases hr : doneLoop s.adv live (s.cur - 1) s.queue with
      | mk c r2 =>
        obtain ⟨st, left⟩ := r2
        obtain ⟨k1, k2, k3, k4, _⟩ := doneLoop_spec s.adv live s.queue (s.cur - 1) c st left hr (by omega)
        refine ⟨⟨k1, by show left.length ≤ unstartedFactor * s.adv + 1; omega, k4⟩, trivial, ?_⟩
        -- the events are `hFinish` followed by one `hStart` per entry taken from the queue
        simp only [runWith, stepB, if_neg hz]
        rw [runB_starts (s.cur - 1) s.adv st (by omega), k2]

/-- C15, the mechanism of `scheduleHandler` / `handlerDone`, for every history of calls. -/
theorem sched_invariant (adv : Nat) (ops : List SOp) :
    SchedInv (ops.foldl schedApply { adv := adv }) :=
  Lemmas.foldl_inv schedApply SchedInv (fun s op h => (sched_step s op h).1) ops _ ⟨by simp, by simp, by simp⟩

theorem sched_refines_monitorB (ops : List SOp) (s : Sched) (h : SchedInv s) :
    ∃ m', runWith stepB ⟨s.cur, s.adv⟩ (schedTrace s ops) = some m' := by
  induction ops generalizing s with
  | nil => exact ⟨_, rfl⟩
  | cons op r ih =>
    obtain ⟨hinv, hadv, hrun⟩ := sched_step s op h
    obtain ⟨m', hm'⟩ := ih (schedApply s op) hinv
    exact ⟨m', by rw [schedTrace, runWith_append, hrun, ← hadv]; exact hm'⟩

/-- Handler accounting of the serve loop. `k` is the number of handler goroutines counted in `curHandlers`
that are not recorded as running user handlers: 0 between steps, 1 while a goroutine that has finished (or
runs the server's own 400 handler) still holds its slot. -/
def SrvInv (adv k : Nat) (s : Srv) : Prop :=
  s.sched.adv = adv ∧ s.sched.cur ≤ adv ∧ s.running.length + k ≤ s.sched.cur ∧ s.streams.length ≤ adv

theorem inv_ite {adv : Nat} {c : Prop} [Decidable c] {a b : Srv × List Out} (ha : SrvInv adv 0 a.1)
    (hb : ¬ c → SrvInv adv 0 b.1) : SrvInv adv 0 (if c then a else b).1 :=
  Lemmas.ite_ind (fun x : Srv × List Out => SrvInv adv 0 x.1) (fun _ => ha) hb

theorem inv_close {adv k : Nat} {s : Srv} (h : SrvInv adv k s) (sid : Nat) : SrvInv adv k (s.closeStream sid) := by
  obtain ⟨h0, h1, h2, h3⟩ := h
  have : (s.streams.filter (fun t => t.sid != sid)).length ≤ s.streams.length := List.length_filter_le _ _
  exact ⟨h0, h1, h2, by show (s.streams.filter _).length ≤ adv; omega⟩

theorem inv_conn {adv : Nat} {s : Srv} (h : SrvInv adv 0 s) (c : Nat) : SrvInv adv 0 (s.connError c).1 := h

theorem inv_map {adv : Nat} {s : Srv} (h : SrvInv adv 0 s) (f : Strm → Strm) :
    SrvInv adv 0 { s with streams := s.streams.map f } := by
  obtain ⟨h0, h1, h2, h3⟩ := h
  exact ⟨h0, h1, h2, by simpa using h3⟩

theorem inv_drain {adv : Nat} (fuel : Nat) : ∀ (s : Srv), SrvInv adv 0 s → SrvInv adv 0 (Srv.drain fuel s).1 := by
  induction fuel with
  | zero => intro s h; exact h
  | succ n ih =>
    intro s h
    unfold Srv.drain
    cases hq : s.sched.queue with
    | nil => exact h
    | cons e rest =>
      obtain ⟨h0, h1, h2, h3⟩ := h
      have hdrop : SrvInv adv 0 { s with sched := { s.sched with queue := rest } } := ⟨h0, h1, h2, h3⟩
      simp only
      by_cases hs : s.hasStream e.sid = true
      · simp only [hs, Bool.not_true, Bool.false_eq_true, if_false]
        by_cases hc : s.sched.cur ≥ s.sched.adv
        · simp only [hc, if_true]
          exact ⟨h0, h1, h2, h3⟩
        · simp only [hc, if_false]
          cases hk : e.kind with
          | user =>
            exact ih { s with sched := { s.sched with queue := rest, cur := s.sched.cur + 1 }, running := s.running ++ [e.sid] }
              ⟨h0, by show s.sched.cur + 1 ≤ adv; omega,
                by show (s.running ++ [e.sid]).length + 0 ≤ s.sched.cur + 1; simp; omega, h3⟩
          | internal =>
            exact ih _ (inv_close hdrop e.sid)
      · simp only [hs, Bool.not_false, if_true]
        exact ih _ hdrop

/-- `handlerDone` gives back the slot of a goroutine that runs no user handler (any more). -/
theorem inv_handlerDone {adv : Nat} {s : Srv} (h : SrvInv adv 1 s) : SrvInv adv 0 s.handlerDone.1 := by
  obtain ⟨h0, h1, h2, h3⟩ := h
  exact inv_drain _ { s with sched := { s.sched with cur := s.sched.cur - 1 } }
    ⟨h0, by show s.sched.cur - 1 ≤ adv; omega, by show s.running.length + 0 ≤ s.sched.cur - 1; omega, h3⟩

theorem inv_schedule {adv : Nat} {s : Srv} (h : SrvInv adv 0 s) (sid : Nat) (k : HKind) :
    SrvInv adv 0 (s.schedule sid k).1 := by
  obtain ⟨h0, h1, h2, h3⟩ := h
  unfold Srv.schedule Sched.schedule
  by_cases hc : s.sched.cur < s.sched.adv
  · simp only [hc, if_true]
    cases k with
    | user =>
      exact ⟨h0, by show s.sched.cur + 1 ≤ adv; omega,
        by show (s.running ++ [sid]).length + 0 ≤ s.sched.cur + 1; simp; omega, h3⟩
    | internal =>
      refine inv_handlerDone (inv_close (s := { s with sched := { s.sched with cur := s.sched.cur + 1 } }) ?_ sid)
      exact ⟨h0, by show s.sched.cur + 1 ≤ adv; omega, by show s.running.length + 1 ≤ s.sched.cur + 1; omega, h3⟩
  · simp only [hc, if_false]
    by_cases hq : s.sched.queue.length > unstartedFactor * s.sched.adv
    · simp only [hq, if_true]
      exact ⟨h0, h1, h2, h3⟩
    · simp only [hq, if_false]
      exact ⟨h0, h1, h2, h3⟩

theorem inv_onHeaders {adv : Nat} {s : Srv} (h : SrvInv adv 0 s) (sid : Nat) (es : Bool) (cls : ReqClass)
    (hp hd early : Bool) : SrvInv adv 0 (s.onHeaders sid es cls hp hd early).1 := by
  unfold Srv.onHeaders
  refine inv_ite (inv_conn h 1) fun _ => inv_ite (inv_close h sid) fun _ =>
    inv_ite h fun _ => inv_ite (inv_conn h 1) fun _ => ?_
  cases s.findStream sid with
  | some st =>
    exact inv_ite (inv_close h sid) fun _ => inv_ite (inv_close h sid) fun _ => inv_map h _
  | none =>
    refine inv_ite (inv_conn h 1) fun _ => inv_ite h fun hlim =>
      inv_ite h fun _ => ?_
    apply inv_schedule
    obtain ⟨h0, h1, h2, h3⟩ := h
    refine ⟨h0, h1, h2, ?_⟩
    show (s.streams ++ [(⟨sid, es, hd⟩ : Strm)]).length ≤ adv
    have : ¬ (s.streams.length + 1 > s.sched.adv) := hlim
    rw [List.length_append, List.length_singleton]
    omega

theorem inv_onHandlerExit {adv : Nat} {s : Srv} (h : SrvInv adv 0 s) (sid : Nat) (p : Bool) :
    SrvInv adv 0 (s.onHandlerExit sid p).1 := by
  unfold Srv.onHandlerExit
  refine inv_ite h fun hr => ?_
  obtain ⟨h0, h1, h2, h3⟩ := h
  have hmem : sid ∈ s.running := by simpa using hr
  -- the goroutine of `sid` still holds its slot
  have h' : SrvInv adv 1 { s with running := s.running.erase sid } := by
    refine ⟨h0, h1, ?_, h3⟩
    show (s.running.erase sid).length + 1 ≤ s.sched.cur
    have := List.length_pos_of_mem hmem
    rw [List.length_erase_of_mem hmem]
    omega
  dsimp only
  split
  · exact inv_handlerDone h'
  · exact inv_handlerDone (inv_close h' sid)

theorem inv_step {adv : Nat} {s : Srv} (h : SrvInv adv 0 s) (i : In) : SrvInv adv 0 (s.step i).1 := by
  have conn : ∀ c, SrvInv adv 0 (s.connError c).1 := inv_conn h
  have close : ∀ sid, SrvInv adv 0 (s.closeStream sid) := inv_close h
  have core : SrvInv adv 0 (s.stepCore i).1 := by
    cases i <;> simp only [Srv.stepCore]
    case headers sid es cls hp hd early =>
      exact inv_ite h fun _ => inv_onHeaders h sid es cls hp hd early
    case handlerWrite sid =>
      unfold Srv.onHandlerWrite
      cases s.findStream sid with
      | some st => exact inv_ite (close sid) fun _ => h
      | none => exact h
    case data sid es =>
      unfold Srv.onData
      refine inv_ite h fun _ => inv_ite h fun _ => inv_ite (conn 1) fun _ => ?_
      cases s.findStream sid with
      | none => exact h
      | some st =>
        exact inv_ite (close sid) fun _ => inv_ite (inv_map h _) fun _ => h
    case rst sid =>
      unfold Srv.onRst
      exact inv_ite h fun _ => inv_ite (conn 1) fun _ => inv_ite h fun _ =>
        inv_ite (conn 1) fun _ => close sid
    case ping d => exact inv_ite h fun _ => h
    case pingAck => exact h
    case settings v => exact inv_ite h fun _ => inv_ite h fun _ => conn v
    case settingsAck => exact inv_ite h fun _ => inv_ite (conn 1) fun _ => h
    case windowUpdate sid inc =>
      unfold Srv.onWindowUpdate
      exact inv_ite h fun _ => inv_ite (inv_ite (conn 1) fun _ => h) fun _ =>
        inv_ite (close sid) fun _ => inv_ite h fun _ => inv_ite (conn 1) fun _ => h
    case priority sid dep =>
      unfold Srv.onPriority
      exact inv_ite h fun _ => inv_ite (conn 1) fun _ => inv_ite h fun _ =>
        inv_ite (close sid) fun _ => h
    case goaway => exact inv_ite h fun _ => inv_ite h fun _ => h
    case handlerExit sid p => exact inv_onHandlerExit h sid p
    case sleep ms =>
      cases s.shutdownIn with
      | none => exact h
      | some r => exact inv_ite (⟨h.1, h.2.1, h.2.2.1, Nat.zero_le _⟩) fun _ => h
  unfold Srv.step
  refine inv_ite h fun _ => ?_
  show SrvInv adv 0 (s.stepCore i).1.armTimer
  unfold Srv.armTimer
  split <;> exact core

def srvRun (s : Srv) (ins : List In) : Srv := ins.foldl (fun s i => (s.step i).1) s

/-- C15, the serve loop, for every history of client frames and handler completions. -/
theorem srv_bounds (adv : Nat) (ins : List In) :
    (srvRun (Srv.init adv) ins).running.length ≤ adv ∧
    (srvRun (Srv.init adv) ins).sched.cur ≤ adv ∧
    (srvRun (Srv.init adv) ins).streams.length ≤ adv := by
  obtain ⟨_, k1, k2, k3⟩ : SrvInv adv 0 (srvRun (Srv.init adv) ins) :=
    Lemmas.foldl_inv _ (SrvInv adv 0) (fun s i h => inv_step h i) ins _
      ⟨rfl, by simp [Srv.init], by simp [Srv.init], by simp [Srv.init]⟩
  exact ⟨by omega, k1, k3⟩

theorem malformed_never_scheduled (s : Srv) (sid : Nat) (es : Bool) (cls : ReqClass) (hp hd early : Bool)
    (hc : cls = ReqClass.mw ∨ cls = ReqClass.mp) :
    (s.onHeaders sid es cls hp hd early).1.sched = s.sched ∧
    (s.onHeaders sid es cls hp hd early).1.running = s.running := by
  -- every branch but the last (a request that is scheduled, excluded by `hc`) leaves both fields alone
  have ite := @Lemmas.ite_ind _ (fun x : Srv × List Out => x.1.sched = s.sched ∧ x.1.running = s.running)
  unfold Srv.onHeaders
  refine ite (fun _ => ⟨rfl, rfl⟩) fun _ => ite (fun _ => ⟨rfl, rfl⟩) fun hmw =>
    ite (fun _ => ⟨rfl, rfl⟩) fun _ => ite (fun _ => ⟨rfl, rfl⟩) fun _ => ?_
  cases s.findStream sid with
  | some st =>
    exact ite (fun _ => ⟨rfl, rfl⟩) fun _ => ite (fun _ => ⟨rfl, rfl⟩) fun _ => ⟨rfl, rfl⟩
  | none =>
    exact ite (fun _ => ⟨rfl, rfl⟩) fun _ => ite (fun _ => ⟨rfl, rfl⟩) fun _ =>
      ite (fun _ => ⟨rfl, rfl⟩) fun hmp => absurd hc (not_or.mpr ⟨hmw, hmp⟩)

theorem classify_ok_iff (fs : List Field) :
    classify fs = ReqClass.ok ↔ (wireInvalid fs = false ∧ pseudoInvalid fs = false ∧ connSpecific fs = false) := by
  unfold classify
  cases wireInvalid fs <;> cases pseudoInvalid fs <;> cases connSpecific fs <;> simp

theorem classify_ok_no_connection_header (fs : List Field) (h : classify fs = ReqClass.ok) :
    ∀ f ∈ regularFields fs, connHeadersLower.contains f.name = false := by
  have := ((classify_ok_iff fs).mp h).2.2
  unfold connSpecific at this
  simp at this
  intro f hf
  have := this.1 f hf
  simpa using this

/-! Malformed requests as RFC 9113 8.1.1 defines them, against what the server rejects. -/

/-- malformed as far as modelled: invalid on the wire, invalid pseudo-header set, or a malformed
content-length -/
def Malformed (fs : List Field) (endStream : Bool) : Bool :=
  wireInvalid fs || pseudoInvalid fs || clBad fs endStream

/-- Clause 5 for the whole of `Malformed`: every malformed request is classified for rejection with a
stream error (and therefore, by `monitor_sound`, never reaches the handler). -/
def MalformedRejectedStatement : Prop :=
  ∀ fs es, Malformed fs es = true → classify fs = ReqClass.mw ∨ classify fs = ReqClass.mp

private def fGet : List Field :=
  [⟨58 :: sMethod, [71, 69, 84]⟩, ⟨58 :: sScheme, sHttps⟩, ⟨58 :: sPath, [47]⟩, ⟨[120, 45, 115, 105, 100], [49]⟩]

private def fGetCL : List Field := fGet ++ [⟨sContentLength, [97, 98, 99]⟩]    -- content-length: abc

/-- FALSE of the unchanged code: `content-length: abc` is malformed and classified `ok` — the request
reaches the handler (reproduced on the real server: oracle signature
`bad-content-length-reaches-handler`). -/
theorem malformed_full_false : ¬ MalformedRejectedStatement := by
  intro h
  have := h fGetCL false (by decide)
  revert this
  decide

/-- the excluded region: malformed ONLY through its content-length -/
def clOnly (fs : List Field) (endStream : Bool) : Bool :=
  !wireInvalid fs && !pseudoInvalid fs && clBad fs endStream

theorem malformed_holds_partial (fs : List Field) (es : Bool) (hm : Malformed fs es = true)
    (hx : clOnly fs es = false) : classify fs = ReqClass.mw ∨ classify fs = ReqClass.mp := by
  unfold Malformed at hm
  unfold clOnly at hx
  unfold classify
  cases hw : wireInvalid fs
  · cases hp : pseudoInvalid fs
    · simp [hw, hp] at hm hx
      simp [hm] at hx
    · simp
  · simp

/-- non-vacuity: a well-formed content-length is not in the region; the three reported shapes are -/
example : clBad (fGetCL.dropLast ++ [⟨sContentLength, [48]⟩]) true = false := by decide
example : clBad (fGetCL.dropLast ++ [⟨sContentLength, [53]⟩]) true = true := by decide            -- 5 with END_STREAM
example : clBad (fGetCL.dropLast ++ [⟨sContentLength, [51]⟩, ⟨sContentLength, [52]⟩]) false = true := by decide  -- 3, 4
example : clOnly fGetCL false = true := by decide

/-! T-tie: constants, comparison operators and tables regenerated from server.go. -/

theorem gen_limits_eq :
    NetVerif.Gen.C15.maxQueuedControlFrames = maxQueuedControlFrames ∧
    NetVerif.Gen.C15.defaultMaxStreams = defaultMaxStreams ∧
    NetVerif.Gen.C15.unstartedFactor = unstartedFactor := ⟨rfl, rfl, rfl⟩

/-- the comparisons the models hard-wire: `curHandlers < maxHandlers` (schedule),
`len(unstartedHandlers) > 4*advMaxStreams`, `curHandlers >= maxHandlers` (handlerDone break),
`queuedControlFrames > maxQueuedControlFrames`, `curClientStreams+1 > advMaxStreams`. -/
theorem gen_ops_eq :
    NetVerif.Gen.C15.slotOp = "<" ∧ NetVerif.Gen.C15.queueOp = ">" ∧ NetVerif.Gen.C15.ctlOp = ">" ∧
    NetVerif.Gen.C15.doneOp = ">=" ∧
    NetVerif.Gen.C15.streamLimitCheck = "sc.curClientStreams + 1 > sc.advMaxStreams" :=
  ⟨rfl, rfl, rfl, rfl, rfl⟩

theorem gen_connHeaders_eq : NetVerif.Gen.C15.connHeadersLower = connHeadersLower := by decide

theorem gen_te_eq :
    NetVerif.Gen.C15.teKeyLower = sTe ∧ NetVerif.Gen.C15.teAccepted = [sTrailers, []] := by decide

example : classify fGet = ReqClass.ok := by decide
example : classify (fGet ++ [⟨[88, 45, 85, 112], [49]⟩]) = ReqClass.mw := by decide          -- "X-Up"
example : classify (fGet.drop 1) = ReqClass.mp := by decide                                   -- no :method
example : classify (fGet ++ [⟨sTe, [103, 122, 105, 112]⟩]) = ReqClass.cs := by decide         -- te: gzip
example : classify (fGet ++ [⟨sTe, sTrailers⟩]) = ReqClass.ok := by decide
example : classify (fGet ++ [⟨[117, 112, 103, 114, 97, 100, 101], [104, 50, 99]⟩]) = ReqClass.cs := by decide  -- upgrade

/-- an accepted trace with two handlers under limit 2, a reset stream, PING and SETTINGS -/
example : (Mon.run {} [.sSettings (some 2), .cHeaders 1 false .ok true, .hStart 1, .cHeaders 3 true .ok true,
    .hStart 3, .cRst 1, .cPing 7, .sPingAck 7, .cSettings 0, .sSettingsAck, .quiesce, .hFinish 1,
    .sHeaders 3 false, .sData 3 true, .hFinish 3, .quiesce]).isSome = true := by decide
/-- rejected: a third handler under limit 2 -/
example : (Mon.run {} [.sSettings (some 2), .hStart 1, .hStart 3, .hStart 5]).isSome = false := by decide
/-- rejected: DATA after the client reset the stream -/
example : (Mon.run {} [.sSettings (some 2), .cHeaders 1 false .ok true, .hStart 1, .cRst 1, .sData 1 false]).isSome = false := by decide
/-- rejected: an unanswered PING at a live quiescent point; a handler start for a malformed request -/
example : (Mon.run {} [.sSettings (some 2), .cPing 7, .quiesce]).isSome = false := by decide
example : (Mon.run {} [.sSettings (some 2), .cHeaders 1 true .mp true, .hStart 1]).isSome = false := by decide
/-- the scheduler model queues the second request under limit 1 and starts it on `handlerDone` -/
example : (schedTrace { adv := 1 } [.schedule ⟨1, .user⟩, .schedule ⟨3, .user⟩, .done (fun _ => true)]) =
    [.hStart 1, .hFinish 0, .hStart 3] := by decide

end NetVerif.Proofs.C15
