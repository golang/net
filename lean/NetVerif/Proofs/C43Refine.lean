import NetVerif.Proofs.C43
/-!
C43 — the hold bookkeeping invariant of the specification machine `Spec` ("a held lock belongs to
the hold that confirmed it until that hold is released"), used by the refinement in `C43Impl.lean`.
It is preserved because the locks of a hold stay held (`hold_entries_stay_held`) and `step_holds` says which
holds a step leaves unreleased.
-/
namespace NetVerif.Proofs.C43
open NetVerif.Model.DavPath NetVerif.Model.DavLock

/-- every entry of an unreleased hold names a lock of the state that is held -/
@[reducible] def HoldHeld (s : Spec) : Prop :=
  ∀ (k : Nat) (hs : List (Nat × Name)), s.holds[k]? = some (some hs) → ∀ p ∈ hs,
    ∃ l ∈ s.locks, l.token = p.1 ∧ l.root = p.2 ∧ l.held = true

/-- two different unreleased holds never share a lock -/
@[reducible] def HoldDisj (s : Spec) : Prop :=
  ∀ (k1 k2 : Nat) (hs1 hs2 : List (Nat × Name)), k1 ≠ k2 → s.holds[k1]? = some (some hs1) → s.holds[k2]? = some (some hs2) →
    ∀ p1 ∈ hs1, ∀ p2 ∈ hs2, p1.1 ≠ p2.1

structure HInv (s : Spec) : Prop where
  inv : Inv s
  hh : HoldHeld s
  hd : HoldDisj s

theorem hinv_init : HInv Spec.init := by
  refine ⟨inv_init, ?_, ?_⟩
  · intro k hs hk; simp [Spec.init] at hk
  · intro k1 k2 hs1 hs2 _ hk; simp [Spec.init] at hk

theorem lookupName_sound {s : Spec} {raw : Bytes} {toks : List (Option Nat)} {l : Lock}
    (h : s.lookupName raw toks = some (some l)) : l ∈ s.locks ∧ l.held = false := by
  have hne : raw ≠ [] := by rintro rfl; simp [Spec.lookupName] at h
  obtain ⟨_, e, hlk⟩ := lookupName_nonempty hne h
  cases e
  exact ⟨(lookup_sound _ _ _ _ hlk).1, (lookup_sound _ _ _ _ hlk).2.1⟩

theorem getElem?_append_hold {α : Type} (xs : List (Option α)) (y v : α) (k : Nat)
    (hk : (xs ++ [some y])[k]? = some (some v)) :
    (k < xs.length ∧ xs[k]? = some (some v)) ∨ (k = xs.length ∧ v = y) := by
  rcases Nat.lt_or_ge k xs.length with hlt | hge
  · rw [List.getElem?_append_left hlt] at hk
    exact .inl ⟨hlt, hk⟩
  · rw [List.getElem?_append_right hge] at hk
    rcases Nat.eq_zero_or_pos (k - xs.length) with h0 | h0
    · rw [h0] at hk
      simp only [List.getElem?_cons_zero, Option.some.injEq] at hk
      exact .inr ⟨by omega, hk.symm⟩
    · rw [List.getElem?_eq_none (by simp; omega)] at hk
      cases hk

/-- An unreleased hold after a step was there before and the step is not its release, or it is the new
last one, made of locks that were unheld and are held now. -/
theorem step_holds (s : Spec) (op : Op) {k : Nat} {hs : List (Nat × Name)}
    (hk : (s.step op).1.holds[k]? = some (some hs)) :
    (s.holds[k]? = some (some hs) ∧ op ≠ .release k) ∨
    (k = s.holds.length ∧ ∀ p ∈ hs, ∃ l ∈ s.locks, l.held = false ∧ p = (l.token, l.root) ∧
      { l with held := true } ∈ (s.step op).1.locks) := by
  cases op with
  | create now raw zd dur =>
    refine .inl ⟨?_, nofun⟩
    simp only [Spec.step, Spec.create, Spec.createCore] at hk
    split at hk <;> exact hk
  | refresh now tok dur =>
    refine .inl ⟨?_, nofun⟩
    simp only [Spec.step, Spec.refresh, Spec.refreshCore] at hk
    split at hk
    · exact hk
    · split at hk <;> exact hk
  | unlock now tok =>
    refine .inl ⟨?_, nofun⟩
    simp only [Spec.step, Spec.unlock, Spec.unlockCore] at hk
    split at hk
    · exact hk
    · split at hk <;> exact hk
  | release k' =>
    left
    simp only [Spec.step, Spec.release] at hk
    split at hk
    · rename_i hs' hk'
      have hlt : k' < s.holds.length := (List.getElem?_eq_some_iff.1 hk').1
      have hne : k' ≠ k := by
        intro e; subst e
        rw [List.getElem?_set_self hlt] at hk; simp at hk
      rw [List.getElem?_set_ne hne] at hk
      exact ⟨hk, fun e => hne (by cases e; rfl)⟩
    · rename_i hno
      refine ⟨hk, fun e => ?_⟩
      cases e
      exact hno hs hk
  | confirm now n0 n1 toks =>
    revert hk
    simp only [Spec.step, Spec.confirm, Spec.confirmCore]
    cases hx0 : (s.collect now).lookupName n0 toks with
    | none => exact fun hk => .inl ⟨hk, nofun⟩
    | some x0 =>
      cases hx1 : (s.collect now).lookupName n1 toks with
      | none => exact fun hk => .inl ⟨hk, nofun⟩
      | some x1 =>
        dsimp only
        intro hk
        rcases getElem?_append_hold _ _ _ _ hk with ⟨_, hk⟩ | ⟨he, rfl⟩
        · exact .inl ⟨hk, nofun⟩
        · refine .inr ⟨he, fun p hp => ?_⟩
          obtain ⟨l, hl, rfl⟩ := List.mem_map.1 hp
          have hlm : l ∈ (s.collect now).locks ∧ l.held = false := by
            rcases heldPair_mem (fun x : Lock => x.token) x0 x1 l hl with rfl | rfl
            · exact lookupName_sound hx0
            · exact lookupName_sound hx1
          refine ⟨l, (List.mem_filter.1 hlm.1).1, hlm.2, rfl, ?_⟩
          simp only [setHeld, List.mem_map]
          refine ⟨l, hlm.1, ?_⟩
          rw [if_pos]
          simp only [List.contains_iff_mem, List.map_map, List.mem_map, Function.comp]
          exact ⟨l, hl, rfl⟩

/-- `held_persists`, where a release of another hold does not touch the locks of this one by `HoldDisj`. -/
theorem hold_entries_stay_held (s : Spec) (op : Op) (h : HInv s) {k : Nat} {hs : List (Nat × Name)}
    (hk : s.holds[k]? = some (some hs)) (hne : op ≠ .release k) {p : Nat × Name} (hp : p ∈ hs) :
    ∃ l ∈ (s.step op).1.locks, l.token = p.1 ∧ l.root = p.2 ∧ l.held = true := by
  obtain ⟨l, hl, h1, h2, h3⟩ := h.hh k hs hk p hp
  obtain ⟨l', hl', g1, g2, _, g3⟩ := held_persists s h.inv l hl h3 op (by
    rintro k' hs' rfl hk' hm
    obtain ⟨q, hq, hqt⟩ := List.mem_map.1 hm
    exact h.hd k k' hs hs' (fun e => hne (e ▸ rfl)) hk hk' p hp q hq (by rw [← h1, hqt]))
  exact ⟨l', hl', g1.trans h1, g2.trans h2, g3⟩

/-- The locks of an old hold stay held (`hold_entries_stay_held`); the locks of a new hold were unheld, so they
are in no old hold. -/
theorem hinv_step (s : Spec) (op : Op) (h : HInv s) : HInv (s.step op).1 := by
  refine ⟨inv_step s op h.inv, ?_, ?_⟩
  · intro k hs hk p hp
    rcases step_holds s op hk with ⟨hk0, hne⟩ | ⟨_, hnew⟩
    · exact hold_entries_stay_held s op h hk0 hne hp
    · obtain ⟨l, _, _, rfl, hl'⟩ := hnew p hp
      exact ⟨_, hl', rfl, rfl, rfl⟩
  · have old_new : ∀ (k1 : Nat) (hs1 hs2 : List (Nat × Name)), s.holds[k1]? = some (some hs1) →
        (∀ p ∈ hs2, ∃ l ∈ s.locks, l.held = false ∧ p = (l.token, l.root) ∧
          { l with held := true } ∈ (s.step op).1.locks) → ∀ p1 ∈ hs1, ∀ p2 ∈ hs2, p1.1 ≠ p2.1 := by
      intro k1 hs1 hs2 hk1 hnew p1 hp1 p2 hp2 heq
      obtain ⟨l1, hl1, ht1, _, hheld⟩ := h.hh k1 hs1 hk1 p1 hp1
      obtain ⟨l2, hl2, hun, rfl, _⟩ := hnew p2 hp2
      rw [key_inj h.inv.tok_nodup hl1 hl2 (ht1.trans heq), hun] at hheld
      cases hheld
    intro k1 k2 hs1 hs2 hne hk1 hk2 p1 hp1 p2 hp2
    rcases step_holds s op hk1 with ⟨h1, _⟩ | ⟨e1, n1⟩ <;> rcases step_holds s op hk2 with ⟨h2, _⟩ | ⟨e2, n2⟩
    · exact h.hd k1 k2 hs1 hs2 hne h1 h2 p1 hp1 p2 hp2
    · exact old_new k1 hs1 hs2 h1 n2 p1 hp1 p2 hp2
    · exact fun e => old_new k2 hs2 hs1 h2 n1 p2 hp2 p1 hp1 e.symm
    · exact absurd (e1.trans e2.symm) hne

theorem hinv_release (s : Spec) (k : Nat) (h : HInv s) : HInv (s.release k).1 :=
  hinv_step s (.release k) h

theorem hinv_run (s : Spec) (ops : List Op) (h : HInv s) : HInv (s.run ops).1 := by
  induction ops generalizing s with
  | nil => exact h
  | cons op ops ih =>
    simp only [Spec.run]
    exact ih _ (hinv_step s op h)

/-- Clause 4, the holds discipline: with this, `hold_entries_stay_held` and `release_unholds` say that a confirmed lock
stays confirmed until exactly its own release func (the one `Confirm` returned) is called. -/
theorem hinv_reachable (ops : List Op) : HInv (Spec.init.run ops).1 :=
  hinv_run _ _ hinv_init

end NetVerif.Proofs.C43
